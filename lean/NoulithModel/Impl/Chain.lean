/-
Impl model for C03: the runtime-precedence chain evaluator of /repo.

Mirrors (same case splits, same order of checks):
  * `Precedence`, `Assoc`, `Precedence::tighter_than_when_before`            core.rs ~524-549
  * `ChainEvaluator::{new, run_top_popped, run_top, give, finish}`           eval.rs ~117-211
  * `LvalueChainEvaluator` (the same algorithm over lvalues)                 eval.rs ~213-288
  * the `Expr::Chain` arm of `evaluate`: section path, one-operator fast path, general path
                                                                              eval.rs ~696-788
  * `Func::ChainSection` in `Func::run`                                      eval.rs ~3029
  * `default_precedence`                                                     core.rs ~4670

Operators are ABSTRACT: a function value is any `F`, what it does when applied is a parameter
`run : F → List V → Out V`, whether two functions chain is a parameter
`tryChain : F → F → Option F`.  A precedence is `Prec = nan | fin r`: of the `f64` only its place
in the order matters (`partial_cmp`), NaN being the incomparable element.  Core Lean only.
-/
import NoulithModel.Common

namespace Noulith.Chain

/-! ### Precedence (core.rs ~524) -/

/-- the `f64` of a `Precedence`, up to order isomorphism: `fin r` are the comparable values
(`-0.0 == 0.0`, infinities are ordinary extreme elements), `nan` is incomparable to everything -/
inductive Prec where
  | nan
  | fin (r : Int)
  deriving DecidableEq, Repr, Inhabited

inductive Assoc where
  | left
  | right
  deriving DecidableEq, Repr, Inhabited

/-- `pub struct Precedence(pub f64, pub Assoc)` -/
structure Precedence where
  p : Prec
  a : Assoc
  deriving DecidableEq, Repr, Inhabited

/-- `Precedence::zero()` -/
def Precedence.zero : Precedence := ⟨.fin 0, .left⟩

/-- `f64::partial_cmp` -/
def Prec.partialCmp : Prec → Prec → Option Ordering
  | .fin a, .fin b => some (compare a b)
  | _, _ => none

/-- `Precedence::tighter_than_when_before`: `self` is the pending (left) operator, `other` the
arriving one; on a tie or an incomparable pair the LEFT operator's associativity decides. -/
def tighter (self other : Precedence) : Bool :=
  match self.p.partialCmp other.p with
  | some .gt => true
  | some .lt => false
  | some .eq | none =>
    match self.a with
    | .left => true
    | .right => false

/-! ### ChainEvaluator (eval.rs ~117) -/

/-- one element of `pending`: `(Vec<Obj>, Func, Precedence, CodeLoc, CodeLoc)` without the
locations -/
structure Entry (F V : Type) where
  operands : List V
  op : F
  prec : Precedence

/-- `ChainEvaluator { pending, rightmost }`; `pending` is kept with the TOP of the Rust `Vec`
(its last element) at the head of the list -/
structure CE (F V : Type) where
  pending : List (Entry F V)
  rightmost : V

section evaluator
variable {F V : Type}
variable (run : F → List V → Out V) (tryChain : F → F → Option F)

/-- `ChainEvaluator::new` -/
def CE.new (operand : V) : CE F V := ⟨[], operand⟩

/-- `run_top_popped`: push `rightmost` after the popped operands, run the operator; the result
becomes the new `rightmost` (a failure is propagated by `?`) -/
def runTopPopped (operands : List V) (op : F) (rightmost : V) : Out V :=
  run op (operands ++ [rightmost])

/-- the `while` loop of `give` followed by the final push, as a recursion on `pending` -/
def giveLoop (operator : F) (precedence : Precedence) (operand : V) :
    List (Entry F V) → V → Out (CE F V)
  | [], rm => .ok ⟨[⟨[rm], operator, precedence⟩], operand⟩
  | t :: rest, rm =>
    if tighter t.prec precedence then
      -- pending.last() is tighter: pop it
      match tryChain t.op operator with
      | some newOp =>
        -- it chains with the new operator: merge, keep the OLD precedence, return
        .ok ⟨⟨t.operands ++ [rm], newOp, t.prec⟩ :: rest, operand⟩
      | none =>
        (runTopPopped run t.operands t.op rm).bind
          (fun v => giveLoop operator precedence operand rest v)
    else
      .ok ⟨⟨[rm], operator, precedence⟩ :: t :: rest, operand⟩

/-- `ChainEvaluator::give` -/
def CE.give (s : CE F V) (operator : F) (precedence : Precedence) (operand : V) : Out (CE F V) :=
  giveLoop run tryChain operator precedence operand s.pending s.rightmost

/-- the loop of `finish` -/
def finishLoop : List (Entry F V) → V → Out V
  | [], rm => .ok rm
  | t :: rest, rm => (runTopPopped run t.operands t.op rm).bind (fun v => finishLoop rest v)

/-- `ChainEvaluator::finish` -/
def CE.finish (s : CE F V) : Out V := finishLoop run s.pending s.rightmost

/-- give every `(operator, precedence, operand)` in turn -/
def giveAll : List (F × Precedence × V) → CE F V → Out (CE F V)
  | [], s => .ok s
  | (f, p, v) :: rest, s => (s.give run tryChain f p v).bind (fun s' => giveAll rest s')

/-- the whole evaluator on already evaluated operands: `new`, `give`…, `finish` -/
def evalChain (first : V) (ops : List (F × Precedence × V)) : Out V :=
  (giveAll run tryChain ops (CE.new first)).bind (fun s => s.finish run)

end evaluator

/-! ### LvalueChainEvaluator (eval.rs ~213): the same algorithm, instantiated

Operands are evaluated lvalues; running a *builtin* operator builds a `Destructure` lvalue,
any other function value is a type error. -/

inductive LFunc (B : Type) where
  | builtin (b : B)
  | other
  deriving Repr

inductive ELvalue (B A : Type) where
  | atom (a : A)
  | destructure (b : B) (args : List (ELvalue B A))

def lvalueRun {B A : Type} : LFunc B → List (ELvalue B A) → Out (ELvalue B A)
  | .builtin b, operands => .ok (.destructure b operands)
  | .other, _ => .throw

/-- `eval_lvalue`'s `Lvalue::ChainDestructure` arm once operators and operands are evaluated -/
def evalLvalueChain {B A : Type} (tryChain : LFunc B → LFunc B → Option (LFunc B))
    (first : ELvalue B A) (ops : List (LFunc B × Precedence × ELvalue B A)) : Out (ELvalue B A) :=
  evalChain lvalueRun tryChain first ops

/-! ### The `Expr::Chain` arm of `evaluate` (eval.rs ~696-788) and `Func::ChainSection` (~3029)

Sub-expressions are abstract (`E`); evaluating one is the parameter `evaluate`.  The arm is
written in a tiny trace monad that records which sub-expressions were handed to `evaluate`, in
order, so that "each operand and operator expression is evaluated exactly once, left to right"
is a statement about this transcription. -/

/-- what the arm needs from the rest of the interpreter -/
structure Lang (E F V : Type) where
  /-- `evaluate(env, e)` -/
  evaluate : E → Out V
  /-- `matches!(e.expr, Expr::Underscore)` -/
  isUnderscore : E → Bool
  /-- `if let Obj::Func(b, prec) = v` -/
  asFunc : V → Option (F × Precedence)
  /-- `Obj::Func(Func::ChainSection(v1, acc), Precedence::zero())` -/
  mkSection : Option V → List (F × Precedence × Option V) → V
  /-- `Func::run` -/
  run : F → List V → Out V
  /-- `Func::run2` -/
  run2 : F → V → V → Out V
  /-- `Func::try_chain` -/
  tryChain : F → F → Option F

/-- (sub-expressions evaluated so far, outcome) -/
abbrev Tr (E α : Type) := List E × Out α

namespace Tr
variable {E α β : Type}
def pure (a : α) : Tr E α := ([], .ok a)
def fail : Tr E α := ([], .throw)
def lift (o : Out α) : Tr E α := ([], o)
def bind (x : Tr E α) (f : α → Tr E β) : Tr E β :=
  match x with
  | (l, .ok a) => (l ++ (f a).1, (f a).2)
  | (l, .throw) => (l, .throw)
  | (l, .panic) => (l, .panic)
end Tr

section arm
variable {E F V : Type} (I : Lang E F V)

/-- one call of `evaluate`, recorded -/
def evalT (e : E) : Tr E V := ([e], I.evaluate e)

/-- accumulate the section's operators (~709-738) -/
def sectionOps : List (E × E) → Tr E (List (F × Precedence × Option V))
  | [] => Tr.pure []
  | (oper, opd) :: rest =>
    Tr.bind (evalT I oper) fun oprr =>
    match I.asFunc oprr with
    | some (b, prec) =>
      if I.isUnderscore opd then
        Tr.bind (sectionOps rest) fun acc => Tr.pure ((b, prec, none) :: acc)
      else
        Tr.bind (evalT I opd) fun oprd =>
        Tr.bind (sectionOps rest) fun acc => Tr.pure ((b, prec, some oprd) :: acc)
    | none => Tr.fail   -- "Chain section cannot use nonblock in operator position"

/-- the section path (~704-742) -/
def sectionPath (op1 : E) (ops : List (E × E)) : Tr E V :=
  Tr.bind (if I.isUnderscore op1 then Tr.pure none
           else Tr.bind (evalT I op1) fun v => Tr.pure (some v)) fun v1 =>
  Tr.bind (sectionOps I ops) fun acc =>
  Tr.pure (I.mkSection v1 acc)

/-- the one-operator fast path (~743-766): `run2`, the precedence is not looked at -/
def fastPath (op1 oper opd : E) : Tr E V :=
  Tr.bind (evalT I op1) fun lhs =>
  Tr.bind (evalT I oper) fun oprr =>
  match I.asFunc oprr with
  | some (b, _prec) => Tr.bind (evalT I opd) fun oprd => Tr.lift (I.run2 b lhs oprd)
  | none => Tr.fail   -- "Chain cannot use nonblock in operator position"

/-- the loop of the general path (~769-785) -/
def generalLoop : List (E × E) → CE F V → Tr E V
  | [], ev => Tr.lift (ev.finish I.run)
  | (oper, opd) :: rest, ev =>
    Tr.bind (evalT I oper) fun oprr =>
    match I.asFunc oprr with
    | some (b, prec) =>
      Tr.bind (evalT I opd) fun oprd =>
      Tr.bind (Tr.lift (ev.give I.run I.tryChain b prec oprd)) fun ev' =>
      generalLoop rest ev'
    | none => Tr.fail

/-- the general path (~768-786) -/
def generalPath (op1 : E) (ops : List (E × E)) : Tr E V :=
  Tr.bind (evalT I op1) fun v1 => generalLoop I ops (CE.new v1)

/-- the `Expr::Chain(op1, ops)` arm of `evaluate` -/
def chainArm (op1 : E) (ops : List (E × E)) : Tr E V :=
  if I.isUnderscore op1 || ops.any (fun p => I.isUnderscore p.2) then
    sectionPath I op1 ops
  else
    match ops with
    | [(oper, opd)] => fastPath I op1 oper opd
    | _ => generalPath I op1 ops

/-- `Func::ChainSection(seed, ops)` applied to `args` (eval.rs ~3029): holes are filled from
`args` in order; too few is noticed when the hole is reached (operators given before may already
have run), too many only after the last `give` -/
def sectionGives : List (F × Precedence × Option V) → List V → CE F V → Out (CE F V × List V)
  | [], it, ce => .ok (ce, it)
  | (op, prec, opd) :: rest, it, ce =>
    match opd, it with
    | some x, it => (ce.give I.run I.tryChain op prec x).bind (fun ce' => sectionGives rest it ce')
    | none, e :: it' => (ce.give I.run I.tryChain op prec e).bind (fun ce' => sectionGives rest it' ce')
    | none, [] => .throw   -- "chain section: too few arguments"

def runChainSection (seed : Option V) (ops : List (F × Precedence × Option V)) (args : List V) :
    Out V :=
  match seed, args with
  | none, [] => .throw     -- "chain section: too few arguments"
  | none, e :: it =>
    (sectionGives I ops it (CE.new e)).bind fun (ce, left) =>
      match left with
      | [] => ce.finish I.run
      | _ :: _ => .throw   -- "chain section: too many arguments"
  | some x, it =>
    (sectionGives I ops it (CE.new x)).bind fun (ce, left) =>
      match left with
      | [] => ce.finish I.run
      | _ :: _ => .throw

end arm

/-! ### The same arm with an interpreter STATE

`evaluate(env, e)` reads and writes the environment: an operand may reassign an operator variable
of the very chain it stands in, or its `::precedence`.  What the arm does about that is fixed by the
ORDER in which it calls `evaluate`: in every path the operator expression of position `i` is
evaluated (looked up) after operand `i-1` and before operand `i`, afresh at every position — the
value found there, function and precedence, is what `give` receives.  `evaluate` therefore threads
a state `σ` here; the state survives a failure (what was assigned stays assigned).  Applying an
operator is still a function of its arguments (`run`). The stateless `Lang` versions above are the
special case in which `evaluate` ignores the state (`C03.stateless_arm_is_special_case`). -/

structure LangS (σ E F V : Type) where
  /-- `evaluate(env, e)` with its effect on the environment -/
  evaluate : E → σ → Out V × σ
  isUnderscore : E → Bool
  asFunc : V → Option (F × Precedence)
  mkSection : Option V → List (F × Precedence × Option V) → V
  run : F → List V → Out V
  run2 : F → V → V → Out V
  tryChain : F → F → Option F

/-- state + failure; the state is kept when a step fails -/
abbrev SM (σ α : Type) := σ → Out α × σ

namespace SM
variable {σ α β : Type}
def pure (a : α) : SM σ α := fun s => (.ok a, s)
def fail : SM σ α := fun s => (.throw, s)
def lift (o : Out α) : SM σ α := fun s => (o, s)
def bind (x : SM σ α) (f : α → SM σ β) : SM σ β := fun s =>
  match x s with
  | (.ok a, s') => f a s'
  | (.throw, s') => (.throw, s')
  | (.panic, s') => (.panic, s')
end SM

section armS
variable {σ E F V : Type} (J : LangS σ E F V)

/-- section path, operators (~709-738): operator looked up, then its operand unless it is `_` -/
def sectionOpsS : List (E × E) → SM σ (List (F × Precedence × Option V))
  | [] => SM.pure []
  | (oper, opd) :: rest =>
    SM.bind (J.evaluate oper) fun oprr =>
    match J.asFunc oprr with
    | some (b, prec) =>
      if J.isUnderscore opd then
        SM.bind (sectionOpsS rest) fun acc => SM.pure ((b, prec, none) :: acc)
      else
        SM.bind (J.evaluate opd) fun oprd =>
        SM.bind (sectionOpsS rest) fun acc => SM.pure ((b, prec, some oprd) :: acc)
    | none => SM.fail

def sectionPathS (op1 : E) (ops : List (E × E)) : SM σ V :=
  SM.bind (if J.isUnderscore op1 then SM.pure none
           else SM.bind (J.evaluate op1) fun v => SM.pure (some v)) fun v1 =>
  SM.bind (sectionOpsS J ops) fun acc =>
  SM.pure (J.mkSection v1 acc)

def fastPathS (op1 oper opd : E) : SM σ V :=
  SM.bind (J.evaluate op1) fun lhs =>
  SM.bind (J.evaluate oper) fun oprr =>
  match J.asFunc oprr with
  | some (b, _prec) => SM.bind (J.evaluate opd) fun oprd => SM.lift (J.run2 b lhs oprd)
  | none => SM.fail

/-- the loop of the general path (~796): at EVERY position the operator expression is evaluated
in the current state (no value is carried over from an earlier position), then the operand, then
`give` -/
def generalLoopS : List (E × E) → CE F V → SM σ V
  | [], ev => SM.lift (ev.finish J.run)
  | (oper, opd) :: rest, ev =>
    SM.bind (J.evaluate oper) fun oprr =>
    match J.asFunc oprr with
    | some (b, prec) =>
      SM.bind (J.evaluate opd) fun oprd =>
      SM.bind (SM.lift (ev.give J.run J.tryChain b prec oprd)) fun ev' =>
      generalLoopS rest ev'
    | none => SM.fail

def generalPathS (op1 : E) (ops : List (E × E)) : SM σ V :=
  SM.bind (J.evaluate op1) fun v1 => generalLoopS J ops (CE.new v1)

def chainArmS (op1 : E) (ops : List (E × E)) : SM σ V :=
  if J.isUnderscore op1 || ops.any (fun p => J.isUnderscore p.2) then
    sectionPathS J op1 ops
  else
    match ops with
    | [(oper, opd)] => fastPathS J op1 oper opd
    | _ => generalPathS J op1 ops

/-- a stateless language as a stateful one -/
def Lang.toS (I : Lang E F V) : LangS σ E F V where
  evaluate := fun e s => (I.evaluate e, s)
  isUnderscore := I.isUnderscore
  asFunc := I.asFunc
  mkSection := I.mkSection
  run := I.run
  run2 := I.run2
  tryChain := I.tryChain

/-- the same language, additionally recording every call of `evaluate` in the state -/
def LangS.traced : LangS (σ × List E) E F V where
  evaluate := fun e s => ((J.evaluate e s.1).1, ((J.evaluate e s.1).2, s.2 ++ [e]))
  isUnderscore := J.isUnderscore
  asFunc := J.asFunc
  mkSection := J.mkSection
  run := J.run
  run2 := J.run2
  tryChain := J.tryChain

end armS

/-! ### assigning a precedence (eval.rs `set_index`, 'precedence' arm; `Expr::OpAssign`) -/

/-- the 'precedence' arm of `set_index` on `Obj::Func(_, Precedence(p, _))`: `Some(number)` stores
the number (the associativity stays); `None` — the LHS-DROPPING step of an op-assignment — is
`Ok(())`: a precedence is a plain `f64`, there is nothing to drop, the slot keeps its value -/
def setPrecedence (pr : Precedence) : Option Prec → Precedence
  | some p => ⟨p, pr.a⟩
  | none => pr

/-- `f::precedence op= rhs` (the non-`every` hot path of `Expr::OpAssign`): read the old value,
drop the slot, run the operator function, store its result.  `combine old during` stands for
`op.run2(old, rhs)` followed by the number check of the store — `ok (some p)`: a number, `ok none`:
not a number (the store raises a type error), `throw`/`panic`: the operator function failed;
`during` is the precedence the slot holds WHILE the operator function runs (a chain it evaluates
groups by that).  Returns the outcome and the precedence afterwards. -/
def precedenceOpAssign (pr : Precedence) (combine : Prec → Precedence → Out (Option Prec)) :
    Out Unit × Precedence :=
  let old := pr.p
  let dropped := setPrecedence pr none
  match combine old dropped with
  | .ok (some p) => (.ok (), setPrecedence dropped (some p))
  | .ok none => (.throw, dropped)
  | .throw => (.throw, dropped)
  | .panic => (.panic, dropped)

/-! ### `default_precedence` (core.rs ~4670) -/

def DEFAULT_PRECEDENCE : Int := 0
def COMPARISON_PRECEDENCE : Int := 1
def STRING_PRECEDENCE : Int := 2
def OR_PRECEDENCE : Int := 3
def PLUS_PRECEDENCE : Int := 4
def MULTIPLY_PRECEDENCE : Int := 5
def EXPONENT_PRECEDENCE : Int := 6
def INDEX_PRECEDENCE : Int := 7
def DOT_PRECEDENCE : Int := 8

/-- the closure inside `default_precedence`.  `table` is the `match c` arm list (regenerated from
the source into `Generated/C03Tables.lean`), `dflt` its `_ =>` arm.  `char::is_alphanumeric` is
modelled on ASCII; the extractor refuses names with non-ASCII alphanumerics. -/
def charPrecedence (table : List (Char × Int)) (dflt : Int) (c : Char) : Int :=
  if c.isAlphanum || c == '_' then DEFAULT_PRECEDENCE
  else match table.lookup c with
    | some p => p
    | none => dflt

/-- `.reduce(f64::min).unwrap_or(0.0)` -/
def reduceMin : List Int → Int
  | [] => 0
  | x :: xs => xs.foldl min x

def defaultPrecedence (table : List (Char × Int)) (dflt : Int) (name : String) : Int :=
  reduceMin (name.toList.map (charPrecedence table dflt))

end Noulith.Chain
