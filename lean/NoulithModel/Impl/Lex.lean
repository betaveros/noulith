/-
Impl model of the Noulith lexer: `/repo/src/lex.rs` (`Lexer::lex`, `lex_simple_string_after_start`,
`lex_base_and_emit`, `lex_base_64_and_emit`, `try_emit_float`, `try_emit_imaginary_float`), over
`List Char`.  It mirrors the Rust: the same dispatch on the first character, the same inner loops
(`while let Some(cc) = self.peek().filter(p)` is `takeWhile p` / `dropWhile p`), the same order of
checks, the same tokens emitted in the error cases (`Invalid` *followed by* the partial literal) and
the same number of characters consumed after an error (`break` then `self.next()`).

Conventions
* a token stream is a `List Token`; source locations (`CodeLoc`) are not modelled (they are not
  observable through `parse`/`evaluate` results);
* places where the Rust could panic (`unwrap`, `to_digit` with a radix > 36, unchecked `u32`
  arithmetic) are explicit: the model emits the pseudo-token `Token.panic site` and stops.  Theorem
  `lex_no_panic` (Lemmas/C15Basic.lean, from `lexStep_ok` below) shows none is ever emitted;
* external functions are modelled, not verified: `str::parse::<BigInt>` of a digit string as
  positional decimal, `str::parse::<u32>` as the same with the range check, `str::parse::<f64>`
  only by *which texts it accepts* (`f64TextValid`) — the float value itself stays the text handed
  to the parser (`Token.floatLit text`), `char::is_alphabetic/is_numeric/is_uppercase/is_whitespace`
  by the tables of Impl/UnicodeTables.lean, `String::into_bytes` / `char::encode_utf8` as UTF-8 encoding.
Core Lean only.
-/
import NoulithModel.Common
import NoulithModel.Impl.UnicodeTables

namespace Noulith.Lex
open Noulith.Unicode

/-- the message classes of `Token::Invalid(String)` -/
inductive InvalidKind where
  | badHexEscape      -- "lexing: string literal: bad hex escape"
  | badUEnd           -- "lexing: string literal: bad u escape end: {}"
  | uTooBig           -- "lexing: string literal: u result too big: {}"
  | unknownEscape     -- "lexing: string literal: unknown escape {}"
  | escapeEof         -- "lexing: string literal: escape eof"
  | stringEof         -- "lexing: string literal hit eof"
  | runawayComment    -- "lexing: runaway range comment"
  | fmtNoQuote        -- "lexing: format string: no quote"
  | rawNoQuote        -- "lexing: raw string literal: no quote"
  | unrecognized      -- "lexing: unrecognized char: {}"
  | invalidFloat      -- "lexing: invalid float: {}"
  | invalidImag       -- "lexing: invalid imaginary float: {}"
  deriving Repr, DecidableEq, Inhabited

/-- `lex.rs` `enum Token`.  Integer payloads are `Nat` (the lexer never produces a negative
`BigInt`), a rational literal `Nq` is its numerator (denominator 1), float payloads are the text
handed to `str::parse::<f64>`. -/
inductive Token where
  | invalid (k : InvalidKind)
  | intLit (n : Nat)
  | ratLit (n : Nat)
  | floatLit (text : List Char)
  | imagLit (text : List Char)
  | stringLit (s : List Char)
  | bytesLit (bs : List Nat)
  | formatString (s : List Char)
  | ident (s : List Char)
  | leftParen | rightParen | leftBracket | bLeftBracket | rightBracket | leftBrace | rightBrace
  | backtick | null | and | or | coalesce | while | for | yield | into | if | else | switch | case
  | try | catch | break | continue | return | throw | bang | questionMark | colon | leftArrow
  | rightArrow | doubleLeftArrow | doubleColon | semicolon | ellipsis | lambda | lambdaEnd | comma
  | assign | consume | pop | remove | swap | every | struct | freeze | import | literally
  | underscore
  | internalFrame | internalPush | internalPop | internalPeek | internalPeekN (n : Nat)
  | internalWhile | internalFor | internalCall | internalLambda
  | comment (s : List Char)
  /-- not a token of the Rust: marks a place where the Rust would panic -/
  | panic (site : String)
  deriving Repr, DecidableEq, Inhabited

def Token.isPanic : Token → Bool
  | .panic _ => true
  | _ => false

/-! ### character helpers -/

/-- Rust `char::to_digit(radix)` for `2 ≤ radix ≤ 36` (it panics for a larger radix; the callers
guard, see `lexBaseTok`): ASCII digits, then ASCII letters of either case from 10. -/
def toDigit (c : Char) (radix : Nat) : Option Nat :=
  let n := c.toNat
  if 48 ≤ n ∧ n ≤ 57 then (if n - 48 < radix then some (n - 48) else none)
  else if radix > 10 then
    if 97 ≤ n ∧ n ≤ 122 then (if n - 87 < radix then some (n - 87) else none)
    else if 65 ≤ n ∧ n ≤ 90 then (if n - 55 < radix then some (n - 55) else none)
    else none
  else none

/-- `c.is_digit(10)` -/
def isDigit10 (c : Char) : Bool := (toDigit c 10).isSome
/-- `c.to_digit(16).is_some()` -/
def isHexDigit (c : Char) : Bool := (toDigit c 16).isSome

/-- positional value of a digit string that `toDigit · radix` accepts (most significant first),
continuing from `x`: the loop `x = base * x + cc` -/
def foldDigits (radix : Nat) (x : Nat) : List Char → Nat
  | [] => x
  | c :: cs => foldDigits radix (radix * x + (toDigit c radix).getD 0) cs

/-- `acc.parse::<BigInt>()` on a string of ASCII decimal digits (external: num-bigint `FromStr`,
modelled as positional decimal); `none` = `Err` (empty or non-digit), which the Rust `unwrap`s. -/
def parseBigInt (acc : List Char) : Option Nat :=
  if acc ≠ [] ∧ acc.all isDigit10 then some (foldDigits 10 0 acc) else none

/-- `acc.parse::<u32>()` on a string of ASCII decimal digits (`Err` on overflow) -/
def parseU32 (acc : List Char) : Option Nat :=
  match parseBigInt acc with
  | some v => if v ≤ 4294967295 then some v else none
  | none => none

/-- `char::from_u32`: the value is a Unicode scalar value -/
def validScalar (x : Nat) : Bool := x < 0xD800 || (0xE000 ≤ x && x ≤ 0x10FFFF)

/-- UTF-8 encoding of one scalar value (`String::into_bytes`), bytes as `Nat < 256` -/
def utf8Encode (c : Char) : List Nat :=
  let n := c.toNat
  if n < 0x80 then [n]
  else if n < 0x800 then [0xC0 + n / 64, 0x80 + n % 64]
  else if n < 0x10000 then [0xE0 + n / 4096, 0x80 + n / 64 % 64, 0x80 + n % 64]
  else [0xF0 + n / 262144, 0x80 + n / 4096 % 64, 0x80 + n / 64 % 64, 0x80 + n % 64]

def utf8Len (c : Char) : Nat := (utf8Encode c).length

/-- the bytes of a bytes literal: a character written as `\\xHH` is the single byte `HH`
(`c as u32 as u8`), every other character its UTF-8 encoding.  `hex` flags the `\\xHH` characters. -/
def bytesOf : List Char → List Bool → List Nat
  | c :: cs, h :: hs => (if h then [c.toNat % 256] else utf8Encode c) ++ bytesOf cs hs
  | c :: cs, [] => utf8Encode c ++ bytesOf cs []
  | [], _ => []

/-! ### `str::parse::<f64>` acceptance

Grammar of Rust's `dec2flt` for the texts the lexer can hand over (no sign, no `inf`/`nan`):
`Digit* [ '.' Digit* ] [ ('e'|'E') ['+'|'-'] Digit+ ]` with at least one digit before the exponent. -/
def f64TextValid (s : List Char) : Bool :=
  let ip := s.takeWhile isDigit10
  let r1 := s.dropWhile isDigit10
  let (fp, r2) := match r1 with
    | '.' :: r => (r.takeWhile isDigit10, r.dropWhile isDigit10)
    | _ => ([], r1)
  if ip.isEmpty && fp.isEmpty then false
  else match r2 with
    | [] => true
    | e :: r3 =>
      if e = 'e' ∨ e = 'E' then
        let r4 := match r3 with
          | '-' :: r => r
          | '+' :: r => r
          | _ => r3
        !r4.isEmpty && r4.all isDigit10
      else false

/-- `try_emit_float` -/
def emitFloat (acc : List Char) : Token :=
  if f64TextValid acc then .floatLit acc else .invalid .invalidFloat
/-- `try_emit_imaginary_float` -/
def emitImag (acc : List Char) : Token :=
  if f64TextValid acc then .imagLit acc else .invalid .invalidImag

/-! ### string literals: `lex_simple_string_after_start` -/

/-- what `lex_simple_string_after_start(end)` did: tokens emitted from inside it (`Invalid …`, at
most one), the accumulated string it returns, the input left after its final `self.next()` -/
structure StrRes where
  pre : List Token
  acc : List Char
  rest : List Char
  deriving Repr, DecidableEq, Inhabited

/-- `acc.push(c)` before the rest of the loop runs -/
def StrRes.push (c : Char) (r : StrRes) : StrRes := { r with acc := c :: r.acc }

/-- an error inside the literal: `self.emit(Token::Invalid(..)); break;` and then the
`self.next()` after the loop, which consumes one more character of `remaining` -/
def strFail (k : InvalidKind) (remaining : List Char) : StrRes :=
  ⟨[.invalid k], [], remaining.tail⟩

/-- the `\u` accumulator `x = 16 * x + cc` on a `u32`.  After the fix of F17 the Rust uses
`x.saturating_mul(16).saturating_add(cc)`; modelled literally. -/
def U32_MAX : Nat := 4294967295
def satStep (x d : Nat) : Nat := min (min (x * 16) U32_MAX + d) U32_MAX
def hexAccSat (x : Nat) : List Char → Nat
  | [] => x
  | c :: cs => hexAccSat (satStep x ((toDigit c 16).getD 0)) cs

/-- the optional opening bracket of a `\u` escape and the closing one it requires -/
def uBracket : List Char → Option Char × List Char
  | '{' :: r => (some '}', r)
  | '(' :: r => (some ')', r)
  | '[' :: r => (some ']', r)
  | '<' :: r => (some '>', r)
  | cs => (none, cs)

theorem length_dropWhile_le (p : Char → Bool) (l : List Char) : (l.dropWhile p).length ≤ l.length :=
  (List.dropWhile_suffix p).length_le

theorem uBracket_suffix (cs : List Char) : (uBracket cs).2 <:+ cs := by
  unfold uBracket; split <;> simp [List.suffix_cons]

/-- after `\u`: the closing bracket required (if an opening one follows), the value of the hex
digit run accumulated in the saturating `u32`, and the input after the digit run -/
def uExpected (cs : List Char) : Option Char := (uBracket cs).1
def uValue (cs : List Char) : Nat := hexAccSat 0 ((uBracket cs).2.takeWhile isHexDigit)
def uAfter (cs : List Char) : List Char := (uBracket cs).2.dropWhile isHexDigit

theorem uAfter_suffix (cs : List Char) : uAfter cs <:+ cs :=
  (List.dropWhile_suffix _).trans (uBracket_suffix cs)

theorem uAfter_length (cs : List Char) : (uAfter cs).length ≤ cs.length :=
  (uAfter_suffix cs).length_le

/-- `lex_simple_string_after_start(end)` on the input after the opening quote -/
def lexStr (e : Char) : List Char → StrRes
  | [] => ⟨[.invalid .stringEof], [], []⟩
  | c :: cs =>
    if c = e then ⟨[], [], cs⟩
    else if c = '\\' then
      match cs with
      | [] => ⟨[.invalid .escapeEof], [], []⟩
      | c1 :: cs1 =>
        if c1 = 'n' then (lexStr e cs1).push '\n'
        else if c1 = 'r' then (lexStr e cs1).push '\r'
        else if c1 = 't' then (lexStr e cs1).push '\t'
        else if c1 = '0' then (lexStr e cs1).push (Char.ofNat 0)
        else if c1 = '\\' ∨ c1 = '\'' ∨ c1 = '"' then (lexStr e cs1).push c1
        else if c1 = 'x' then
          match cs1 with
          | [] => strFail .badHexEscape []
          | h1 :: cs2 =>
            match toDigit h1 16 with
            | none => strFail .badHexEscape cs2
            | some d1 =>
              match cs2 with
              | [] => strFail .badHexEscape []
              | h2 :: cs3 =>
                match toDigit h2 16 with
                | none => strFail .badHexEscape cs3
                | some d2 =>
                  -- `char::from_u32(d1 * 16 + d2).unwrap()`
                  if validScalar (d1 * 16 + d2) then (lexStr e cs3).push (Char.ofNat (d1 * 16 + d2))
                  else ⟨[.panic "from_u32.unwrap"], [], []⟩
        else if c1 = 'u' then
          match uExpected cs1 with
          | some close =>
            match _hafter : uAfter cs1 with
            | [] => strFail .badUEnd []
            | c2 :: cs3 =>
              if c2 = close then
                if validScalar (uValue cs1) then (lexStr e cs3).push (Char.ofNat (uValue cs1))
                else strFail .uTooBig cs3
              else strFail .badUEnd (c2 :: cs3)
          | none =>
            if validScalar (uValue cs1) then (lexStr e (uAfter cs1)).push (Char.ofNat (uValue cs1))
            else strFail .uTooBig (uAfter cs1)
        else strFail .unknownEscape cs1
    else (lexStr e cs).push c
termination_by cs => cs.length
decreasing_by
  all_goals simp_wf
  all_goals (try omega)
  · have h3 := uAfter_length cs1
    rw [_hafter] at h3; simp at h3; omega
  · have h3 := uAfter_length cs1
    omega

/-- the second result of `lex_simple_string_after_start_hex`: for every character of the returned
string, was it written as a `\xHH` escape?  (The Rust records the byte offsets of those characters
in `hex_at` in the same loop; a flag per character is the same information.  Same recursion as
`lexStr`, so the flags line up with `(lexStr e cs).acc`.) -/
def lexStrHex (e : Char) : List Char → List Bool
  | [] => []
  | c :: cs =>
    if c = e then []
    else if c = '\\' then
      match cs with
      | [] => []
      | c1 :: cs1 =>
        if c1 = 'n' then false :: lexStrHex e cs1
        else if c1 = 'r' then false :: lexStrHex e cs1
        else if c1 = 't' then false :: lexStrHex e cs1
        else if c1 = '0' then false :: lexStrHex e cs1
        else if c1 = '\\' ∨ c1 = '\'' ∨ c1 = '"' then false :: lexStrHex e cs1
        else if c1 = 'x' then
          match cs1 with
          | [] => []
          | h1 :: cs2 =>
            match toDigit h1 16 with
            | none => []
            | some d1 =>
              match cs2 with
              | [] => []
              | h2 :: cs3 =>
                match toDigit h2 16 with
                | none => []
                | some d2 =>
                  if validScalar (d1 * 16 + d2) then true :: lexStrHex e cs3 else []
        else if c1 = 'u' then
          match uExpected cs1 with
          | some close =>
            match _hafter : uAfter cs1 with
            | [] => []
            | c2 :: cs3 =>
              if c2 = close then
                if validScalar (uValue cs1) then false :: lexStrHex e cs3 else []
              else []
          | none =>
            if validScalar (uValue cs1) then false :: lexStrHex e (uAfter cs1) else []
        else []
    else false :: lexStrHex e cs
termination_by cs => cs.length
decreasing_by
  all_goals simp_wf
  all_goals (try omega)
  · have h3 := uAfter_length cs1
    rw [_hafter] at h3; simp at h3; omega
  · have h3 := uAfter_length cs1
    omega

/-! ### integer literals with a radix -/

/-- `lex_base_and_emit(base)`: value and the input left -/
def lexBase (base : Nat) (cs : List Char) : Nat × List Char :=
  (foldDigits base 0 (cs.takeWhile fun c => (toDigit c base).isSome),
   cs.dropWhile fun c => (toDigit c base).isSome)

/-- digit value in the base-64 alphabet of `lex_base_64_and_emit` -/
def b64Digit (c : Char) : Option Nat :=
  let n := c.toNat
  if 65 ≤ n ∧ n ≤ 90 then some (n - 65)
  else if 97 ≤ n ∧ n ≤ 122 then some (n - 97 + 26)
  else if 48 ≤ n ∧ n ≤ 57 then some (n - 48 + 52)
  else if c = '+' ∨ c = '-' then some 62
  else if c = '/' ∨ c = '_' then some 63
  else none

def foldB64 (x : Nat) : List Char → Nat
  | [] => x
  | c :: cs => foldB64 (64 * x + (b64Digit c).getD 0) cs

/-- `lex_base_64_and_emit` -/
def lexBase64 (cs : List Char) : Nat × List Char :=
  (foldB64 0 (cs.takeWhile fun c => (b64Digit c).isSome), cs.dropWhile fun c => (b64Digit c).isSome)

/-- result of lexing one token group: tokens emitted, input left, and whether `lex` returned
early (runaway range comment) or the Rust would have panicked -/
structure Step where
  toks : List Token
  rest : List Char
  stop : Bool := false
  deriving Repr, DecidableEq, Inhabited

/-- `lex_base_and_emit(radix)` with the `to_digit` radix assertion made explicit -/
def lexBaseTok (radix : Nat) (cs : List Char) : Step :=
  if 2 ≤ radix ∧ radix ≤ 36 then ⟨[.intLit (lexBase radix cs).1], (lexBase radix cs).2, false⟩
  else ⟨[.panic "to_digit: radix too large"], cs, true⟩

/-- `Token::IntLit(acc.parse::<BigInt>().unwrap())` -/
def intLitTok (acc : List Char) : Token :=
  match parseBigInt acc with
  | some n => .intLit n
  | none => .panic "parse::<BigInt>().unwrap()"

def ratLitTok (acc : List Char) : Token :=
  match parseBigInt acc with
  | some n => .ratLit n
  | none => .panic "parse::<BigInt>().unwrap()"

/-- the exponent part after `e`/`E` has been seen: `acc.push('e')`, optional `-`, digits -/
def lexExponent (acc : List Char) (cs : List Char) : Step :=
  match cs with
  | '-' :: r => ⟨[emitFloat (acc ++ 'e' :: '-' :: r.takeWhile isDigit10)], r.dropWhile isDigit10, false⟩
  | _ => ⟨[emitFloat (acc ++ 'e' :: cs.takeWhile isDigit10)], cs.dropWhile isDigit10, false⟩

/-- after `digits '.' digits` (= `acc2`): suffix or exponent; `cs3` is the input left -/
def lexAfterFraction (acc2 : List Char) (cs3 : List Char) : Step :=
  match cs3 with
  | [] => ⟨[emitFloat acc2], [], false⟩
  | d :: cs4 =>
    if d = 'i' ∨ d = 'I' ∨ d = 'j' ∨ d = 'J' then ⟨[emitImag acc2], cs4, false⟩
    else if d = 'e' ∨ d = 'E' then lexExponent acc2 cs4
    else if d = 'f' ∨ d = 'F' then ⟨[emitFloat acc2], cs4, false⟩
    else ⟨[emitFloat acc2], cs3, false⟩

/-- after the integer digits `acc` when no `.` follows; `d :: cs2` is the input left -/
def lexAfterInt (acc : List Char) (d : Char) (cs2 : List Char) : Step :=
  if acc = ['0'] ∧ (d = 'x' ∨ d = 'X') then lexBaseTok 16 cs2
  else if acc = ['0'] ∧ (d = 'b' ∨ d = 'B') then lexBaseTok 2 cs2
  else if acc = ['0'] ∧ (d = 'o' ∨ d = 'O') then lexBaseTok 8 cs2
  else if d = 'r' ∨ d = 'R' then
    match parseU32 acc with
    | some radix =>
      if 2 ≤ radix ∧ radix ≤ 36 then lexBaseTok radix cs2
      else if radix = 64 then ⟨[.intLit (lexBase64 cs2).1], (lexBase64 cs2).2, false⟩
      else ⟨[intLitTok acc], d :: cs2, false⟩
    | none => ⟨[intLitTok acc], d :: cs2, false⟩
  else if d = 'i' ∨ d = 'I' ∨ d = 'j' ∨ d = 'J' then ⟨[emitImag acc], cs2, false⟩
  else if d = 'q' ∨ d = 'Q' then ⟨[ratLitTok acc], cs2, false⟩
  else if d = 'f' ∨ d = 'F' then ⟨[emitFloat acc], cs2, false⟩
  else if d = 'e' ∨ d = 'E' then lexExponent acc cs2
  else ⟨[intLitTok acc], d :: cs2, false⟩

/-- the arm `c.is_digit(10)` of `lex`: `c` is the digit just consumed -/
def lexNumber (c : Char) (cs : List Char) : Step :=
  match cs.dropWhile isDigit10 with
  | '.' :: cs2 =>
    lexAfterFraction (c :: cs.takeWhile isDigit10 ++ '.' :: cs2.takeWhile isDigit10) (cs2.dropWhile isDigit10)
  | [] => ⟨[intLitTok (c :: cs.takeWhile isDigit10)], [], false⟩
  | d :: cs2 => lexAfterInt (c :: cs.takeWhile isDigit10) d cs2

/-! ### identifiers, keywords, prefixed strings -/

def keyword (acc : String) : Option Token :=
  match acc with
  | "if" => some .if | "else" => some .else | "while" => some .while | "for" => some .for
  | "yield" => some .yield | "into" => some .into | "switch" => some .switch | "case" => some .case
  | "null" => some .null | "and" => some .and | "or" => some .or | "coalesce" => some .coalesce
  | "break" => some .break | "try" => some .try | "catch" => some .catch | "throw" => some .throw
  | "continue" => some .continue | "return" => some .return | "consume" => some .consume
  | "pop" => some .pop | "remove" => some .remove | "swap" => some .swap | "every" => some .every
  | "struct" => some .struct | "freeze" => some .freeze | "import" => some .import
  | "literally" => some .literally | "_" => some .underscore
  | "__internal_frame" => some .internalFrame | "__internal_push" => some .internalPush
  | "__internal_pop" => some .internalPop | "__internal_peek" => some .internalPeek
  | "__internal_0" => some (.internalPeekN 0) | "__internal_1" => some (.internalPeekN 1)
  | "__internal_2" => some (.internalPeekN 2) | "__internal_3" => some (.internalPeekN 3)
  | "__internal_4" => some (.internalPeekN 4) | "__internal_5" => some (.internalPeekN 5)
  | "__internal_6" => some (.internalPeekN 6) | "__internal_7" => some (.internalPeekN 7)
  | "__internal_8" => some (.internalPeekN 8) | "__internal_9" => some (.internalPeekN 9)
  | "__internal_while" => some .internalWhile | "__internal_for" => some .internalFor
  | "__internal_call" => some .internalCall | "__internal_lambda" => some .internalLambda
  | _ => none

/-- continuation characters of an identifier -/
def isIdentCont (c : Char) : Bool := isAlphanumeric c || c = '_' || c = '\'' || c = '?'

def DRAGON : Char := Char.ofNat 0x1F409

/-- raw string body: everything up to the delimiter, no escapes.  `none` = hit end of input -/
def lexRaw (delim : Char) : List Char → Option (List Char × List Char)
  | [] => none
  | c :: cs =>
    if c = delim then some ([], cs)
    else match lexRaw delim cs with
      | some (acc, rest) => some (c :: acc, rest)
      | none => none

/-- the identifier loop: the accumulated name and the input left.
`c.is_uppercase() && acc.len() == 1 && *cc == '\''` can only hold on the first iteration
(`acc.len()` is the byte length): F' R' B' start strings -/
def identStopEarly (c : Char) (cs : List Char) : Bool :=
  match cs with
  | cc :: _ => cc = '\'' && isUppercase c && (if c = DRAGON then false else utf8Len c == 1)
  | [] => false

def identSplit (c : Char) (cs : List Char) : List Char × List Char :=
  let acc0 : List Char := if c = DRAGON then "__internal_".toList else [c]
  if identStopEarly c cs then (acc0, cs)
  else (acc0 ++ cs.takeWhile isIdentCont, cs.dropWhile isIdentCont)

/-- what is done with the accumulated name `acc`, `cs1` being the input after it -/
def lexIdentTail (acc : List Char) (cs1 : List Char) : Step :=
  if acc = ['B'] then
    match cs1 with
    | d :: cs2 =>
      if d = '\'' ∨ d = '"' then
        ⟨(lexStr d cs2).pre ++ [.bytesLit (bytesOf (lexStr d cs2).acc (lexStrHex d cs2))], (lexStr d cs2).rest, false⟩
      else if d = '[' then ⟨[.bLeftBracket], cs2, false⟩
      else ⟨[.ident acc], cs1, false⟩
    | [] => ⟨[.ident acc], cs1, false⟩
  else if acc = ['F'] then
    match cs1 with
    | d :: cs2 =>
      if d = '\'' ∨ d = '"' then
        ⟨(lexStr d cs2).pre ++ [.formatString (lexStr d cs2).acc], (lexStr d cs2).rest, false⟩
      else ⟨[.invalid .fmtNoQuote], cs2, false⟩
    | [] => ⟨[.invalid .fmtNoQuote], [], false⟩
  else if acc = ['R'] then
    match cs1 with
    | d :: cs2 =>
      if d = '\'' ∨ d = '"' then
        match lexRaw d cs2 with
        | some (s, rest) => ⟨[.stringLit s], rest, false⟩
        | none => ⟨[.invalid .stringEof, .stringLit cs2], [], false⟩
      else ⟨[.invalid .rawNoQuote], cs2, false⟩
    | [] => ⟨[.invalid .rawNoQuote], [], false⟩
  else
    match keyword (String.ofList acc) with
    | some t => ⟨[t], cs1, false⟩
    | none => ⟨[.ident acc], cs1, false⟩

/-- the arm `c.is_alphabetic() || c == '_' || c == '🐉'` -/
def lexIdent (c : Char) (cs : List Char) : Step :=
  lexIdentTail (identSplit c cs).1 (identSplit c cs).2

/-! ### operators -/

def OPERATOR_SYMBOLS : List Char := "!$%&*+-./<=>?@^|~×∈∉∋∌∘∧∨≠≤≥⊕⧺".toList
def isOpSym (c : Char) : Bool := OPERATOR_SYMBOLS.contains c

/-- the arm `OPERATOR_SYMBOLS.contains(&c) && c != '?'`: `run` = the whole maximal run of operator
symbols starting with `c`; `acc` = all but its last character, `last` = the last one -/
def lexOp (c : Char) (cs : List Char) : Step :=
  let run := c :: cs.takeWhile isOpSym
  let rest := cs.dropWhile isOpSym
  let acc := run.dropLast
  let last := run.getLast?.getD c
  if last = '=' then
    if acc = ['!'] ∨ acc = ['<'] ∨ acc = ['>'] ∨ acc = ['='] then ⟨[.ident run], rest, false⟩
    else if acc = [] then ⟨[.assign], rest, false⟩
    else ⟨[.ident acc, .assign], rest, false⟩
  else if run = ['!'] then ⟨[.bang], rest, false⟩
  else if run = ['.', '.', '.'] then ⟨[.ellipsis], rest, false⟩
  else if run = ['<', '-'] then ⟨[.leftArrow], rest, false⟩
  else if run = ['-', '>'] then ⟨[.rightArrow], rest, false⟩
  else if run = ['<', '<', '-'] then ⟨[.doubleLeftArrow], rest, false⟩
  else ⟨[.ident run], rest, false⟩

/-! ### comments -/

/-- `#( … )` with nesting; `none` = runaway.  `depth ≥ 1` is the number of open parentheses -/
def lexRangeComment : Nat → List Char → Option (List Char × List Char)
  | _, [] => none
  | depth, c :: cs =>
    if c = ')' ∧ depth ≤ 1 then some ([], cs)
    else
      let depth' := if c = '(' then depth + 1 else if c = ')' then depth - 1 else depth
      match lexRangeComment depth' cs with
      | some (acc, rest) => some (c :: acc, rest)
      | none => none

/-- the arm `'#'` -/
def lexComment (cs : List Char) : Step :=
  match cs with
  | [] => ⟨[.comment []], [], false⟩
  | c :: cs1 =>
    if c = '\n' then ⟨[.comment []], cs1, false⟩
    else if c = '(' then
      match lexRangeComment 1 cs1 with
      | some (acc, rest) => ⟨[.comment acc], rest, false⟩
      | none => ⟨[.invalid .runawayComment], [], true⟩
    else
      -- line comment: up to and including the newline (which is consumed)
      ⟨[.comment (c :: cs1.takeWhile (· ≠ '\n'))], (cs1.dropWhile (· ≠ '\n')).tail, false⟩

/-! ### the main loop -/

/-- the catch-all arm `c => { if c.is_whitespace() … }` of the `match c` in `Lexer::lex` -/
def lexOther (c : Char) (cs : List Char) : Step :=
  if isWhitespace c then ⟨[], cs, false⟩
  else if isDigit10 c then lexNumber c cs
  else if isAlphabetic c || c = '_' || c = DRAGON then lexIdent c cs
  else if isOpSym c && c ≠ '?' then lexOp c cs
  else ⟨[.invalid .unrecognized], cs, false⟩

/-- one iteration of `while let Some(c) = self.next()` in `Lexer::lex` -/
def lexStep (c : Char) (cs : List Char) : Step :=
  match c with
  | '(' => ⟨[.leftParen], cs, false⟩
  | ')' => ⟨[.rightParen], cs, false⟩
  | '[' => ⟨[.leftBracket], cs, false⟩
  | ']' => ⟨[.rightBracket], cs, false⟩
  | '{' => ⟨[.leftBrace], cs, false⟩
  | '}' => ⟨[.rightBrace], cs, false⟩
  | '`' => ⟨[.backtick], cs, false⟩
  | '\\' =>
    match cs with
    | '\\' :: cs1 => ⟨[.lambdaEnd], cs1, false⟩
    | _ => ⟨[.lambda], cs, false⟩
  | ',' => ⟨[.comma], cs, false⟩
  | ';' => ⟨[.semicolon], cs, false⟩
  | ':' =>
    match cs with
    | ':' :: cs1 => ⟨[.doubleColon], cs1, false⟩
    | _ => ⟨[.colon], cs, false⟩
  | ' ' => ⟨[], cs, false⟩
  | '\n' => ⟨[], cs, false⟩
  | '#' => lexComment cs
  | '\'' => ⟨(lexStr '\'' cs).pre ++ [.stringLit (lexStr '\'' cs).acc], (lexStr '\'' cs).rest, false⟩
  | '"' => ⟨(lexStr '"' cs).pre ++ [.stringLit (lexStr '"' cs).acc], (lexStr '"' cs).rest, false⟩
  | '∧' => ⟨[.and], cs, false⟩
  | '∨' => ⟨[.or], cs, false⟩
  | '?' => ⟨[.questionMark], cs, false⟩
  | c => lexOther c cs

/-! ### what one iteration can produce

Every sub-lexer only moves forward (it returns a suffix of its input: this is what makes `lex`
terminate), emits at most two tokens, and never the panic marker.  A format string comes out of the
`F"…"` arm only.  The lemmas `…_ok` below establish this arm by arm, once; termination, the absence of
panics and the bounds on the token stream are read off `Step.OK`.  (`fun_cases f` / `fun_induction f`
number the arms of `f` in the order in which its definition lists them.) -/

/-- neither the panic marker nor a format string (the one token whose payload is lexed again) -/
def Token.plain : Token → Bool
  | .panic _ | .formatString _ => false
  | _ => true

theorem Token.not_panic_of_plain {t : Token} (h : t.plain = true) : t.isPanic = false := by
  unfold Token.isPanic
  split
  · cases h
  · rfl

theorem emitFloat_plain (a : List Char) : (emitFloat a).plain = true := by
  unfold emitFloat; split <;> rfl

theorem emitImag_plain (a : List Char) : (emitImag a).plain = true := by
  unfold emitImag; split <;> rfl

theorem intLitTok_plain {acc : List Char} (h : (parseBigInt acc).isSome) : (intLitTok acc).plain = true := by
  unfold intLitTok; split
  · rfl
  · rename_i hn; rw [hn] at h; cases h

theorem ratLitTok_plain {acc : List Char} (h : (parseBigInt acc).isSome) : (ratLitTok acc).plain = true := by
  unfold ratLitTok; split
  · rfl
  · rename_i hn; rw [hn] at h; cases h

theorem keyword_plain {s : String} {t : Token} (h : keyword s = some t) : t.plain = true := by
  revert h
  fun_cases keyword s
  all_goals intro h; cases h
  all_goals rfl

theorem suffix_cons_of_suffix {a b : List Char} (c : Char) (h : a <:+ b) : a <:+ c :: b :=
  h.trans (List.suffix_cons c b)

@[simp] theorem push_rest (c : Char) (r : StrRes) : (r.push c).rest = r.rest := rfl
@[simp] theorem push_pre (c : Char) (r : StrRes) : (r.push c).pre = r.pre := rfl
@[simp] theorem push_acc (c : Char) (r : StrRes) : (r.push c).acc = c :: r.acc := rfl

/-- what `lexStr` returns on `cs`: it reported at most one error, moved forward, and every decoded
character and every character left comes from a distinct input character -/
structure StrRes.OK (cs : List Char) (r : StrRes) : Prop where
  pre : r.pre = [] ∨ ∃ k, r.pre = [.invalid k]
  rest : r.rest <:+ cs
  length : r.acc.length + r.rest.length ≤ cs.length

theorem StrRes.OK.push {cs l : List Char} {r : StrRes} (a c : Char) (h : r.OK cs) (hs : cs <:+ l) :
    (r.push c).OK (a :: l) :=
  ⟨h.pre, suffix_cons_of_suffix a (h.rest.trans hs), by
    have := h.length; have := hs.length_le
    simp only [push_acc, push_rest, List.length_cons]; omega⟩

theorem StrRes.OK.fail (k : InvalidKind) {rem cs : List Char} (hs : rem <:+ cs) : (strFail k rem).OK cs :=
  ⟨Or.inr ⟨k, rfl⟩, (List.tail_suffix rem).trans hs, by
    have := hs.length_le
    simp only [strFail, List.length_nil, List.length_tail]; omega⟩

theorem toDigit_lt {c : Char} {r d : Nat} (h : toDigit c r = some d) : d < r := by
  revert h
  fun_cases toDigit c r
  case case1 | case3 | case5 => intro h; cases h; assumption
  all_goals exact nofun

theorem validScalar_of_lt {x : Nat} (h : x < 0xD800) : validScalar x = true := by
  simp [validScalar, h]

/-- `char::from_u32(d1 * 16 + d2).unwrap()` in the `\\xHH` arm cannot fail: two hex digits stay below 256 -/
theorem validScalar_hex2 {c1 c2 : Char} {d1 d2 : Nat} (h1 : toDigit c1 16 = some d1)
    (h2 : toDigit c2 16 = some d2) : validScalar (d1 * 16 + d2) = true := by
  have := toDigit_lt h1
  have := toDigit_lt h2
  exact validScalar_of_lt (by omega)

theorem suffix_of_uAfter {cs l : List Char} (h : uAfter cs = l) : l <:+ cs := h ▸ uAfter_suffix cs

theorem lexStr_ok (e : Char) (cs : List Char) : (lexStr e cs).OK cs := by
  fun_induction lexStr e cs
  -- end of input, closing quote, `\` at the end of input
  case case1 => exact ⟨Or.inr ⟨_, rfl⟩, List.nil_suffix, Nat.le_refl _⟩
  case case2 => exact ⟨Or.inl rfl, List.suffix_cons _ _, by simp⟩
  case case3 => exact ⟨Or.inr ⟨_, rfl⟩, List.nil_suffix, Nat.zero_le _⟩
  -- `\n \r \t \0 \\ \' \"`
  case case4 ih | case5 ih | case6 ih | case7 ih | case8 ih => exact ih.push _ _ (List.suffix_cons _ _)
  -- `\xHH`
  case case9 => exact .fail _ List.nil_suffix
  case case10 => exact .fail _ (List.suffix_append [_, _, _] _)
  case case11 => exact .fail _ List.nil_suffix
  case case12 => exact .fail _ (List.suffix_append [_, _, _, _] _)
  case case13 ih => exact ih.push _ _ (List.suffix_append [_, _, _] _)
  case case14 =>
    rename_i hv _ _ _ _ _ _
    exact absurd (validScalar_hex2 (by assumption) (by assumption)) hv
  -- `\u`, with a closing bracket expected (15–18) or not
  case case15 => exact .fail _ List.nil_suffix
  case case16 ih =>
    have h := suffix_of_uAfter ‹uAfter _ = _›
    exact ih.push _ _ (suffix_cons_of_suffix _ ((List.suffix_cons _ _).trans h))
  case case17 =>
    have h := suffix_of_uAfter ‹uAfter _ = _›
    exact .fail _ (suffix_cons_of_suffix _ (suffix_cons_of_suffix _ ((List.suffix_cons _ _).trans h)))
  case case18 =>
    exact .fail _ (suffix_cons_of_suffix _ (suffix_cons_of_suffix _ (suffix_of_uAfter ‹uAfter _ = _›)))
  case case19 ih => exact ih.push _ _ (suffix_cons_of_suffix _ (uAfter_suffix _))
  case case20 => exact .fail _ (suffix_cons_of_suffix _ (suffix_cons_of_suffix _ (uAfter_suffix _)))
  -- unknown escape, ordinary character
  case case21 => exact .fail _ (List.suffix_append [_, _] _)
  case case22 ih => exact ih.push _ _ (List.suffix_refl _)

/-- outcome of a sub-lexer started on `cs`, for every arm but `F"…"` -/
structure Step.Plain (cs : List Char) (s : Step) : Prop where
  rest : s.rest <:+ cs
  count : s.toks.length ≤ 2
  plain : ∀ t ∈ s.toks, t.plain = true

theorem Step.Plain.nil {cs rest : List Char} (h : rest <:+ cs) : Step.Plain cs ⟨[], rest, false⟩ :=
  ⟨h, Nat.zero_le _, by simp⟩

theorem Step.Plain.one {cs rest : List Char} {t : Token} {stop : Bool} (ht : t.plain = true)
    (h : rest <:+ cs) : Step.Plain cs ⟨[t], rest, stop⟩ :=
  ⟨h, by simp, by simp [ht]⟩

theorem Step.Plain.two {cs rest : List Char} {t u : Token} (ht : t.plain = true) (hu : u.plain = true)
    (h : rest <:+ cs) : Step.Plain cs ⟨[t, u], rest, false⟩ :=
  ⟨h, by simp, by simp [ht, hu]⟩

theorem Step.Plain.quoted {cs body : List Char} {r : StrRes} {t : Token} (h : r.OK body)
    (hb : body <:+ cs) (ht : t.plain = true) : Step.Plain cs ⟨r.pre ++ [t], r.rest, false⟩ := by
  rcases h.pre with h0 | ⟨k, hk⟩
  · rw [h0]; exact .one ht (h.rest.trans hb)
  · rw [hk]; exact .two rfl ht (h.rest.trans hb)

theorem Step.Plain.mono {cs cs' : List Char} {s : Step} (h : Step.Plain cs s) (hs : cs <:+ cs') :
    Step.Plain cs' s :=
  ⟨h.rest.trans hs, h.count, h.plain⟩

/-- outcome of one iteration on `c :: cs`: plain, or the arm `F"…"`, whose token holds what `lexStr`
decoded between the quotes -/
inductive Step.OK (cs : List Char) : Step → Prop
  | plain {s : Step} : Step.Plain cs s → Step.OK cs s
  | fmt (q : Char) (body : List Char) : q :: body <:+ cs →
      Step.OK cs ⟨(lexStr q body).pre ++ [.formatString (lexStr q body).acc], (lexStr q body).rest, false⟩

theorem Step.OK.mono {cs cs' : List Char} {s : Step} (h : Step.OK cs s) (hs : cs <:+ cs') : Step.OK cs' s := by
  cases h with
  | plain h => exact .plain (h.mono hs)
  | fmt q body hb => exact .fmt q body (hb.trans hs)

theorem Step.OK.suffix {cs : List Char} {s : Step} (h : Step.OK cs s) : s.rest <:+ cs := by
  cases h with
  | plain h => exact h.rest
  | fmt q body hb => exact (lexStr_ok q body).rest.trans ((List.suffix_cons _ _).trans hb)

theorem Step.OK.count {cs : List Char} {s : Step} (h : Step.OK cs s) : s.toks.length ≤ 2 := by
  cases h with
  | plain h => exact h.count
  | fmt q body hb =>
    rcases (lexStr_ok q body).pre with h0 | ⟨k, hk⟩
    · simp [h0]
    · simp [hk]

theorem Step.OK.noPanic {cs : List Char} {s : Step} (h : Step.OK cs s) : ∀ t ∈ s.toks, t.isPanic = false := by
  cases h with
  | plain h => exact fun t ht => Token.not_panic_of_plain (h.plain t ht)
  | fmt q body hb =>
    rcases (lexStr_ok q body).pre with h0 | ⟨k, hk⟩
    · simp [h0, Token.isPanic]
    · simp [hk, Token.isPanic]

theorem lexBaseTok_ok (r : Nat) (cs : List Char) (h : 2 ≤ r ∧ r ≤ 36) : Step.Plain cs (lexBaseTok r cs) := by
  unfold lexBaseTok
  rw [if_pos h]
  exact .one rfl (List.dropWhile_suffix _)

theorem lexExponent_ok (acc cs : List Char) : Step.Plain cs (lexExponent acc cs) := by
  fun_cases lexExponent acc cs
  · exact .one (emitFloat_plain _) (suffix_cons_of_suffix _ (List.dropWhile_suffix _))
  · exact .one (emitFloat_plain _) (List.dropWhile_suffix _)

theorem lexAfterFraction_ok (acc2 cs3 : List Char) : Step.Plain cs3 (lexAfterFraction acc2 cs3) := by
  fun_cases lexAfterFraction acc2 cs3
  case case1 => exact .one (emitFloat_plain _) List.nil_suffix
  case case2 => exact .one (emitImag_plain _) (List.suffix_cons _ _)
  case case3 => exact (lexExponent_ok _ _).mono (List.suffix_cons _ _)
  case case4 => exact .one (emitFloat_plain _) (List.suffix_cons _ _)
  case case5 => exact .one (emitFloat_plain _) (List.suffix_refl _)

/-- `acc` is what the digit loop collected, so `acc.parse::<BigInt>().unwrap()` succeeds -/
theorem lexAfterInt_ok (acc : List Char) (d : Char) (cs2 : List Char) (h : (parseBigInt acc).isSome) :
    Step.Plain (d :: cs2) (lexAfterInt acc d cs2) := by
  fun_cases lexAfterInt acc d cs2
  -- `0x 0b 0o`, then `NNr` with a radix in range, `64r`, any other `NNr`
  case case1 | case2 | case3 => exact (lexBaseTok_ok _ _ (by decide)).mono (List.suffix_cons _ _)
  case case4 hr => exact (lexBaseTok_ok _ _ hr).mono (List.suffix_cons _ _)
  case case5 => exact .one rfl (suffix_cons_of_suffix _ (List.dropWhile_suffix _))
  case case6 | case7 | case12 => exact .one (intLitTok_plain h) (List.suffix_refl _)
  -- the suffixes `i j`, `q`, `f`, the exponent
  case case8 => exact .one (emitImag_plain _) (List.suffix_cons _ _)
  case case9 => exact .one (ratLitTok_plain h) (List.suffix_cons _ _)
  case case10 => exact .one (emitFloat_plain _) (List.suffix_cons _ _)
  case case11 => exact (lexExponent_ok _ _).mono (List.suffix_cons _ _)

theorem parseBigInt_run (c : Char) (cs : List Char) (hc : isDigit10 c = true) :
    parseBigInt (c :: cs.takeWhile isDigit10) = some (foldDigits 10 0 (c :: cs.takeWhile isDigit10)) := by
  simp [parseBigInt, hc]

theorem lexNumber_ok (c : Char) (cs : List Char) (hc : isDigit10 c = true) : Step.Plain cs (lexNumber c cs) := by
  have hacc : (parseBigInt (c :: cs.takeWhile isDigit10)).isSome := by rw [parseBigInt_run c cs hc]; rfl
  have hd := List.dropWhile_suffix (l := cs) isDigit10
  fun_cases lexNumber c cs
  case case1 h =>
    rw [h] at hd
    exact (lexAfterFraction_ok _ _).mono ((List.dropWhile_suffix _).trans ((List.suffix_cons _ _).trans hd))
  case case2 => exact .one (intLitTok_plain hacc) List.nil_suffix
  case case3 h =>
    rw [h] at hd
    exact (lexAfterInt_ok _ _ _ hacc).mono hd

theorem lexRaw_suffix (d : Char) (cs s rest : List Char) (h : lexRaw d cs = some (s, rest)) :
    rest <:+ cs := by
  fun_induction lexRaw d cs generalizing s rest
  case case1 | case4 => cases h
  case case2 =>
    cases h
    exact List.suffix_cons _ _
  case case3 ih =>
    cases h
    exact suffix_cons_of_suffix _ (ih _ _ ‹_›)

theorem lexRangeComment_suffix (depth : Nat) (cs s rest : List Char)
    (h : lexRangeComment depth cs = some (s, rest)) : rest <:+ cs := by
  fun_induction lexRangeComment depth cs generalizing s rest
  case case1 | case4 => cases h
  case case2 =>
    cases h
    exact List.suffix_cons _ _
  case case3 ih =>
    cases h
    exact suffix_cons_of_suffix _ (ih _ _ ‹_›)

theorem lexComment_ok (cs : List Char) : Step.Plain cs (lexComment cs) := by
  fun_cases lexComment cs
  case case1 => exact .one rfl List.nil_suffix
  case case2 => exact .one rfl (List.suffix_cons _ _)
  case case3 => exact .one rfl (suffix_cons_of_suffix _ (lexRangeComment_suffix _ _ _ _ ‹_ = some _›))
  case case4 => exact .one rfl List.nil_suffix
  case case5 =>
    exact .one rfl (suffix_cons_of_suffix _ ((List.tail_suffix _).trans (List.dropWhile_suffix _)))

theorem lexOp_ok (c : Char) (cs : List Char) : Step.Plain cs (lexOp c cs) := by
  fun_cases lexOp c cs
  case case3 => exact .two rfl rfl (List.dropWhile_suffix _)
  all_goals exact .one rfl (List.dropWhile_suffix _)

theorem identSplit_suffix (c : Char) (cs : List Char) : (identSplit c cs).2 <:+ cs := by
  unfold identSplit
  simp only
  split
  · exact List.suffix_refl _
  · exact List.dropWhile_suffix _

theorem lexIdentTail_ok (acc cs1 : List Char) : Step.OK cs1 (lexIdentTail acc cs1) := by
  fun_cases lexIdentTail acc cs1
  -- `B"…"`, `F"…"`, `R"…"` closed and runaway, a keyword
  case case1 => exact .plain (.quoted (lexStr_ok _ _) (List.suffix_cons _ _) rfl)
  case case5 => exact .fmt _ _ (List.suffix_refl _)
  case case8 h => exact .plain (.one rfl (suffix_cons_of_suffix _ (lexRaw_suffix _ _ _ _ h)))
  case case9 => exact .plain (.two rfl rfl List.nil_suffix)
  case case12 h => exact .plain (.one (keyword_plain h) (List.suffix_refl _))
  case case2 | case6 | case10 => exact .plain (.one rfl (List.suffix_cons _ _))
  case case3 | case4 | case7 | case11 | case13 => exact .plain (.one rfl (List.suffix_refl _))

theorem lexOther_ok (c : Char) (cs : List Char) : Step.OK cs (lexOther c cs) := by
  fun_cases lexOther c cs
  case case1 => exact .plain (.nil (List.suffix_refl _))
  case case2 hc => exact .plain (lexNumber_ok c cs hc)
  case case3 => exact (lexIdentTail_ok _ _).mono (identSplit_suffix c cs)
  case case4 => exact .plain (lexOp_ok c cs)
  case case5 => exact .plain (.one rfl (List.suffix_refl _))

theorem lexStep_ok (c : Char) (cs : List Char) : Step.OK cs (lexStep c cs) := by
  fun_cases lexStep c cs
  -- `\\` and `::`, blanks, `#`, the two quotes, the catch-all arm; every other arm is one
  -- punctuation token
  case case8 | case12 => exact .plain (.one rfl (List.suffix_cons _ _))
  case case14 | case15 => exact .plain (.nil (List.suffix_refl _))
  case case16 => exact .plain (lexComment_ok cs)
  case case17 | case18 => exact .plain (.quoted (lexStr_ok _ _) (List.suffix_refl _) rfl)
  case case22 => exact lexOther_ok c cs
  all_goals exact .plain (.one rfl (List.suffix_refl _))

theorem lexStep_suffix (c : Char) (cs : List Char) : (lexStep c cs).rest <:+ cs :=
  (lexStep_ok c cs).suffix

/-- `Lexer::lex`: the token stream of a source text.  Total: every iteration consumes the
character `c` and continues on a suffix of what followed it (`lexStep_suffix`). -/
def lex : List Char → List Token
  | [] => []
  | c :: cs =>
    if (lexStep c cs).stop then (lexStep c cs).toks
    else (lexStep c cs).toks ++ lex (lexStep c cs).rest
termination_by cs => cs.length
decreasing_by
  simp_wf
  have := (lexStep_suffix c cs).length_le
  omega

/-- `strip_comments` (core.rs): the tokens the parser sees, and the comment texts -/
def stripComments (ts : List Token) : List Token × List (List Char) :=
  (ts.filter (fun t => match t with | .comment _ => false | _ => true),
   ts.filterMap (fun t => match t with | .comment s => some s | _ => none))

/-! ### format strings: `parse_format_string` (core.rs) — the brace scanner and the flag parser -/

inductive FmtBase where
  | decimal | binary | octal | lowerHex | upperHex
  deriving Repr, DecidableEq, Inhabited

inductive FmtAlign where
  | left | right | center
  deriving Repr, DecidableEq, Inhabited

/-- the fields of `MyFmtFlags` a format string can set (`MyFmtFlags::new()` is the default) -/
structure FmtFlags where
  base : FmtBase := .decimal
  pad : Char := ' '
  padLength : Nat := 0
  padAlign : FmtAlign := .right
  deriving Repr, DecidableEq, Inhabited

inductive FmtErr where
  | unmatchedRight   -- "format string: unmatched right brace"
  | unmatchedLeft    -- "format string: unmatched left brace"
  | emptyExpr        -- "format string: empty format expr"
  | padLength        -- "format string: pad length couldn't parse: {}"
  | lexPanic         -- (the nested lexer would have panicked)
  deriving Repr, DecidableEq, Inhabited

/-- one element of `Expr::FormatString`: a literal character, or an expression (here: its tokens,
comments stripped — the parser runs on them next) with its flags -/
inductive FmtPart where
  | lit (c : Char)
  | expr (toks : List Token) (flags : FmtFlags)
  deriving Repr, DecidableEq, Inhabited

/-- the flag characters of one comment: the `while let Some(c) = it.next()` loop -/
def fmtFlagsOfComment (fl : FmtFlags) : List Char → Except FmtErr FmtFlags
  | [] => .ok fl
  | c :: cs =>
    if c = 'x' then fmtFlagsOfComment { fl with base := .lowerHex } cs
    else if c = 'X' then fmtFlagsOfComment { fl with base := .upperHex } cs
    else if c = 'b' ∨ c = 'B' then fmtFlagsOfComment { fl with base := .binary } cs
    else if c = 'o' ∨ c = 'O' then fmtFlagsOfComment { fl with base := .octal } cs
    else if c = 'd' ∨ c = 'D' then fmtFlagsOfComment { fl with base := .decimal } cs
    else if c = '<' then fmtFlagsOfComment { fl with padAlign := .left } cs
    else if c = '>' then fmtFlagsOfComment { fl with padAlign := .right } cs
    else if c = '^' then fmtFlagsOfComment { fl with padAlign := .center } cs
    else if c = '0' then fmtFlagsOfComment { fl with pad := '0' } cs
    else if isDigit10 c then
      -- `acc.parse::<usize>()` of the digit run starting here
      let v := foldDigits 10 0 (c :: cs.takeWhile isDigit10)
      if v ≤ 18446744073709551615 then
        fmtFlagsOfComment { fl with padLength := v } (cs.dropWhile isDigit10)
      else .error .padLength
    else fmtFlagsOfComment fl cs
termination_by cs => cs.length
decreasing_by
  all_goals simp_wf
  all_goals (try omega)
  have := length_dropWhile_le isDigit10 cs
  omega

def fmtFlagsOfComments (fl : FmtFlags) : List (List Char) → Except FmtErr FmtFlags
  | [] => .ok fl
  | com :: rest =>
    match fmtFlagsOfComment fl com with
    | .ok fl' => fmtFlagsOfComments fl' rest
    | .error e => .error e

/-- what happens to the accumulated expression text at the closing brace (before the parser):
lex it, strip comments, refuse an empty token list, read the flags from the comments -/
def fmtExpr (exprAcc : List Char) : Except FmtErr FmtPart :=
  let ts := lex exprAcc
  if ts.any Token.isPanic then .error .lexPanic
  else
    let (tokens, comments) := stripComments ts
    if tokens.isEmpty then .error .emptyExpr
    else match fmtFlagsOfComments {} comments with
      | .ok fl => .ok (.expr tokens fl)
      | .error e => .error e

/-- the mutable state of the scanner loop -/
structure FmtState where
  level : Int := 0          -- `nesting_level` (an `i32` in the Rust)
  exprAcc : List Char := []
  ret : List FmtPart := []
  deriving Repr, DecidableEq, Inhabited

/-- `while let Some(c) = p.next() { match (nesting_level, c) { … } }` -/
def fmtLoop (st : FmtState) : List Char → Except FmtErr FmtState
  | [] => .ok st
  | c :: cs =>
    if st.level = 0 then
      if c = '{' then
        if cs.head? = some '{' then fmtLoop { st with ret := st.ret ++ [.lit '{'] } cs.tail
        else fmtLoop { st with level := st.level + 1 } cs
      else if c = '}' then
        if cs.head? = some '}' then fmtLoop { st with ret := st.ret ++ [.lit '}'] } cs.tail
        else .error .unmatchedRight
      else fmtLoop { st with ret := st.ret ++ [.lit c] } cs
    else if c = '{' then fmtLoop { st with level := st.level + 1, exprAcc := st.exprAcc ++ ['{'] } cs
    else if c = '}' then
      if st.level = 1 then
        match fmtExpr st.exprAcc with
        | .ok part => fmtLoop { level := st.level - 1, exprAcc := [], ret := st.ret ++ [part] } cs
        | .error e => .error e
      else fmtLoop { st with level := st.level - 1, exprAcc := st.exprAcc ++ ['}'] } cs
    else fmtLoop { st with exprAcc := st.exprAcc ++ [c] } cs
termination_by cs => cs.length
decreasing_by all_goals (simp_wf; try omega)

/-- `parse_format_string` up to (not including) the parsing of the embedded expressions -/
def fmtScan (s : List Char) : Except FmtErr (List FmtPart) :=
  match fmtLoop {} s with
  | .ok st => if st.level ≠ 0 then .error .unmatchedLeft else .ok st.ret
  | .error e => .error e

/-- the characters of a format string without embedded expressions -/
def fmtLiteralOnly : List FmtPart → Option (List Char)
  | [] => some []
  | .lit c :: ps => (fmtLiteralOnly ps).map (c :: ·)
  | .expr _ _ :: _ => none

/-! ### the literal arms of `Parser::atom` (core.rs) and of `evaluate` (eval.rs) -/

/-- the literal forms of `Expr` -/
inductive LitExpr where
  | intLit64 (n : Nat)     -- `Expr::IntLit64(i64)`: the token's value fits an `i64`
  | intLit (n : Nat)       -- `Expr::IntLit(BigInt)`
  | ratLit (n : Nat)
  | floatLit (text : List Char)
  | imagLit (text : List Char)
  | stringLit (s : List Char)
  | bytesLit (bs : List Nat)
  | formatLit (s : List Char)   -- `Expr::FormatString` all of whose parts are characters
  deriving Repr, DecidableEq

/-- `Parser::atom` on a literal token: `match n.to_i64() { Some(n) => IntLit64(n), None => IntLit(n) }` -/
def atomLit : Token → Option LitExpr
  | .intLit n => some (if n ≤ 9223372036854775807 then .intLit64 n else .intLit n)
  | .ratLit n => some (.ratLit n)
  | .floatLit t => some (.floatLit t)
  | .imagLit t => some (.imagLit t)
  | .stringLit s => some (.stringLit s)
  | .bytesLit b => some (.bytesLit b)
  | .formatString body =>
    match fmtScan body with
    | .ok parts => (fmtLiteralOnly parts).map .formatLit   -- (embedded expressions: not a literal)
    | .error _ => none
  | _ => none

/-- literal values: an integer with its representation (`NInt::Small` / `NInt::Big`), a rational
`n/1`, a float / imaginary number given by the decimal text converted, a string, bytes -/
inductive LitVal where
  | int (n : Nat) (small : Bool)
  | rat (n : Nat)
  | float (text : List Char)
  | imag (text : List Char)
  | str (s : List Char)
  | bytes (bs : List Nat)
  deriving Repr, DecidableEq

/-- the literal arms of `evaluate` -/
def evalLit : LitExpr → LitVal
  | .intLit64 n => .int n true
  | .intLit n => .int n false
  | .ratLit n => .rat n
  | .floatLit t => .float t
  | .imagLit t => .imag t
  | .stringLit s => .str s
  | .bytesLit b => .bytes b
  | .formatLit s => .str s

/-- `parse` followed by `evaluate` on a source text that consists of one literal token (plus
comments / blanks).  `throw` = parse error (or not a single literal). -/
def parseEvalLit (cs : List Char) : Out LitVal :=
  let ts := lex cs
  if ts.any Token.isPanic then .panic
  else match (stripComments ts).1 with
    | [t] => match atomLit t with
      | some e => .ok (evalLit e)
      | none => .throw
    | _ => .throw

end Noulith.Lex
