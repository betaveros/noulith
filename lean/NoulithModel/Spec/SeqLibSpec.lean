/-
C13 — Spec of the sequence library: one line per function over `List`, no accumulators, no
counters, no iterator states.

Pure functions are ordinary `List` expressions (index formulas over `List.range`, or the textbook
structural recursion).  Functions that call a Noulith function argument come in two layers:
* the `…E` form takes the callback as `α → Out β` and is the textbook left-to-right recursion in
  the `ok | throw | panic` monad ("evaluate `f` on the elements in order, the first failure is the
  result") — this is what a straightforward reference implementation in a language with
  exceptions does;
* the pure one-liner (`List.filter`, `List.map`, `List.takeWhile`, …) it collapses to when the
  callback never fails (theorems `…_pure` in Theorems/C13Laws.lean).
Core Lean only.
-/
import NoulithModel.Common

namespace Noulith.SeqSpec
open Noulith

variable {α β γ κ : Type}

/-- sequencing in the outcome monad -/
@[inline] def bind (x : Out α) (k : α → Out β) : Out β :=
  match x with
  | .ok a => k a
  | .throw => .throw
  | .panic => .panic

@[simp] theorem bind_ok (a : α) (k : α → Out β) : bind (.ok a) k = k a := rfl
@[simp] theorem bind_throw (k : α → Out β) : bind (.throw : Out α) k = .throw := rfl
@[simp] theorem bind_panic (k : α → Out β) : bind (.panic : Out α) k = .panic := rfl

@[simp] theorem bind_map (x : Out α) (g : α → β) (k : β → Out γ) :
    bind (x.map g) k = bind x fun a => k (g a) := by cases x <;> rfl
@[simp] theorem bind_ok_eq_map (x : Out α) (g : α → β) : (bind x fun a => .ok (g a)) = x.map g := by
  cases x <;> rfl

/-! ## callbacks: the textbook monadic recursions -/

/-- `map f xs` -/
def mapE (f : α → Out β) : List α → Out (List β)
  | [] => .ok []
  | x :: xs => bind (f x) fun y => bind (mapE f xs) fun ys => .ok (y :: ys)

/-- `filter p xs` (`neg = true`: `reject`) -/
def filterE (p : α → Out Bool) (neg : Bool) : List α → Out (List α)
  | [] => .ok []
  | x :: xs => bind (p x) fun b => bind (filterE p neg xs) fun r => .ok (if b != neg then x :: r else r)

/-- `partition p xs = [filter p xs, reject p xs]`, the predicate evaluated once per element -/
def partitionE (p : α → Out Bool) (xs : List α) : Out (List α × List α) :=
  bind (mapE p xs) fun bs =>
    .ok (((xs.zip bs).filter (·.2)).map (·.1), ((xs.zip bs).filter (!·.2)).map (·.1))

/-- `flat_map f xs = flatten (map f xs)` -/
def flatMapE (f : α → Out (List β)) (xs : List α) : Out (List β) :=
  bind (mapE f xs) fun ys => .ok ys.flatten

/-- `each f xs`: call `f` on every element, result `null` -/
def eachE (f : α → Out β) (xs : List α) : Out Unit := bind (mapE f xs) fun _ => .ok ()

/-- `count p xs` -/
def countE (p : α → Out Bool) (xs : List α) : Out Nat :=
  bind (mapE p xs) fun bs => .ok (bs.count true)

/-- `any p xs`: left to right, stops at the first true -/
def anyE (p : α → Out Bool) : List α → Out Bool
  | [] => .ok false
  | x :: xs => bind (p x) fun b => if b then .ok true else anyE p xs

/-- `all p xs`: left to right, stops at the first false -/
def allE (p : α → Out Bool) : List α → Out Bool
  | [] => .ok true
  | x :: xs => bind (p x) fun b => if b then allE p xs else .ok false

/-- `find p xs`: the first element satisfying `p` -/
def findE (p : α → Out Bool) : List α → Out (Option α)
  | [] => .ok none
  | x :: xs => bind (p x) fun b => if b then .ok (some x) else findE p xs

/-- `locate p xs`: the index of the first element satisfying `p` -/
def locateE (p : α → Out Bool) : List α → Out (Option Nat)
  | [] => .ok none
  | x :: xs => bind (p x) fun b => if b then .ok (some 0) else bind (locateE p xs) fun r => .ok (r.map (· + 1))

/-- `take p xs`: the longest prefix satisfying `p` -/
def takeWhileE (p : α → Out Bool) : List α → Out (List α)
  | [] => .ok []
  | x :: xs => bind (p x) fun b => if b then bind (takeWhileE p xs) fun r => .ok (x :: r) else .ok []

/-- `drop p xs`: what is left after that prefix -/
def dropWhileE (p : α → Out Bool) : List α → Out (List α)
  | [] => .ok []
  | x :: xs => bind (p x) fun b => if b then dropWhileE p xs else .ok (x :: xs)

/-- left fold -/
def foldlE (f : β → α → Out β) : β → List α → Out β
  | s, [] => .ok s
  | s, x :: xs => bind (f s x) fun s' => foldlE f s' xs

/-- `fold f xs` without a seed: the first element is the seed, empty raises -/
def fold1E (f : α → α → Out α) : List α → Out α
  | [] => .throw
  | x :: xs => foldlE f x xs

/-- `scan f s xs`: all intermediate values of the fold, starting with the seed -/
def scanlE (f : β → α → Out β) : β → List α → Out (List β)
  | s, [] => .ok [s]
  | s, x :: xs => bind (f s x) fun s' => bind (scanlE f s' xs) fun r => .ok (s :: r)

def scan1E (f : α → α → Out α) : List α → Out (List α)
  | [] => .ok []
  | x :: xs => scanlE f x xs

/-- `sum f xs = fold (+) 0 (map f xs)`, evaluated interleaved -/
def sumE (zero : γ) (op : γ → γ → Out γ) (f : α → Out γ) (xs : List α) : Out γ :=
  foldlE (fun s x => bind (f x) fun y => op s y) zero xs

/-- `pairwise f xs = zipWith f xs (tail xs)` -/
def pairwiseE (f : α → α → Out β) (xs : List α) : Out (List β) :=
  mapE (fun p => f p.1 p.2) (xs.zip xs.tail)

/-- `min` / `max` with comparator `cmp`: fold keeping the current extremum, replaced only by a
strictly better element (`cmp b r = bias`) -/
def extremumE (cmp : α → α → Out Ordering) (bias : Ordering) (xs : List α) : Out α :=
  fold1E (fun r b => bind (cmp b r) fun o => .ok (if o == bias then b else r)) xs

/-- `group f xs`: split between adjacent elements where `f prev next` is false -/
def groupByE (f : α → α → Out Bool) : List α → Out (List (List α))
  | [] => .ok []
  | [x] => .ok [[x]]
  | x :: y :: xs =>
    bind (f x y) fun b => bind (groupByE f (y :: xs)) fun r =>
      .ok (match b, r with
           | true, g :: gs => (x :: g) :: gs
           | _, gs => [x] :: gs)

/-! ## pure one-liners -/

/-- `enumerate xs = [[0, x0], [1, x1], …]` -/
def enumerate (xs : List α) : List (Nat × α) := (List.range xs.length).zip xs

/-- `unique xs`: keep the first occurrence of every key class, in order (textbook `nub`) -/
def uniqueBy [BEq κ] (key : α → κ) : List α → List α
  | [] => []
  | x :: xs => x :: (uniqueBy key xs).filter (fun y => !(key y == key x))

/-- `group xs n`: consecutive chunks of length `n`, the last one possibly shorter -/
def chunks (xs : List α) (n : Nat) : List (List α) :=
  (List.range ((xs.length + n - 1) / n)).map fun i => (xs.drop (i * n)).take n

/-- `window xs n`: all contiguous slices of length `n` -/
def window (xs : List α) (n : Nat) : List (List α) :=
  (List.range (xs.length + 1 - n)).map fun i => (xs.drop i).take n

/-- `prefixes xs`: by increasing length -/
def prefixes (xs : List α) : List (List α) := (List.range (xs.length + 1)).map fun i => xs.take i

/-- `suffixes xs`: by increasing length -/
def suffixes (xs : List α) : List (List α) :=
  (List.range (xs.length + 1)).map fun i => xs.drop (xs.length - i)

/-- `group_all key xs`: one group per key class (classes in order of first appearance — the
real order is unspecified and observers sort), each group in input order -/
def groupAll [BEq κ] (key : α → κ) (xs : List α) : List (κ × List α) :=
  (uniqueBy id (xs.map key)).map fun k => (k, xs.filter fun x => key x == k)

/-- `frequencies xs` -/
def frequencies [BEq κ] (key : α → κ) (xs : List α) : List (κ × Nat) :=
  (uniqueBy id (xs.map key)).map fun k => (k, (xs.filter fun x => key x == k).length)

/-- the `i`-th column of a ragged matrix: the `i`-th elements of the rows long enough to have one -/
def column (rows : List (List α)) (i : Nat) : List α := rows.filterMap (·[i]?)

def minLen : List (List α) → Nat
  | [] => 0
  | [r] => r.length
  | r :: rs => min r.length (minLen rs)

def maxLen : List (List α) → Nat
  | [] => 0
  | r :: rs => max r.length (maxLen rs)

/-- `zip`: the transpose truncated to the shortest argument -/
def zip (rows : List (List α)) : List (List α) := (List.range (minLen rows)).map (column rows)

/-- `ziplongest` / `transpose`: the ragged transpose -/
def zipLongest (rows : List (List α)) : List (List α) := (List.range (maxLen rows)).map (column rows)

/-- `a ** b ** …`: all ways to pick one element from each argument, leftmost slowest -/
def product : List (List α) → List (List α)
  | [] => [[]]
  | a :: rest => a.flatMap fun x => (product rest).map (x :: ·)

/-- `xs ^^ n = xs ** … ** xs` (`n` factors); in particular `xs ^^ 0 = [[]]` for every `xs` -/
def power (xs : List α) (n : Nat) : List (List α) := product (List.replicate n xs)

/-- `xs ** n` with a number: `n` copies of `xs` concatenated -/
def repeatSeq (xs : List α) (n : Int) : List α := (List.replicate n.toNat xs).flatten

/-- `subsequences xs`: every sublist, in binary-counter order with the first element as the most
significant bit -/
def subsequences : List α → List (List α)
  | [] => [[]]
  | x :: xs => subsequences xs ++ (subsequences xs).map (x :: ·)

/-- `combinations xs k`: the `k`-element sublists in lexicographic index order -/
def combinations : List α → Nat → List (List α)
  | _, 0 => [[]]
  | [], _ + 1 => []
  | x :: xs, k + 1 => (combinations xs k).map (x :: ·) ++ combinations xs (k + 1)

/-- every way to pick one element out of a list: (the element, the others in order) -/
def picks : List α → List (α × List α)
  | [] => []
  | x :: xs => (x, xs) :: (picks xs).map fun p => (p.1, x :: p.2)

/-- `permutations xs`: all orderings in lexicographic index order: choose the first element
(positions left to right), then permute the others (`n` = length, for structural recursion) -/
def permsN : Nat → List α → List (List α)
  | 0, _ => [[]]
  | n + 1, xs => (picks xs).flatMap fun p => (permsN n p.2).map (p.1 :: ·)

def permutations (xs : List α) : List (List α) := permsN xs.length xs

/-- `sort`: the stable ordered permutation (core `List.mergeSort`; characterised by
`sort_stable_perm` in Theorems/C13Laws.lean) -/
def sort (le : α → α → Bool) (xs : List α) : List α := xs.mergeSort le

/-- `join sep xs` -/
def join (sep : List γ) (disp : α → List γ) (xs : List α) : List γ :=
  sep.intercalate (xs.map disp)

/-! ## sorting with a comparator that may fail, grouping by a key that may fail -/

/-- all pairs `(xs[i], xs[j])`, `i < j` -/
def pairs : List α → List (α × α)
  | [] => []
  | x :: r => r.map (fun y => (x, y)) ++ pairs r

def failureOf (o : Out β) : Option (Out Unit) :=
  match o with
  | .ok _ => none
  | .throw => some .throw
  | .panic => some .panic

/-- the order a comparator induces: `a` may stay in front of `b` unless `cmp a b = gt` -/
def leOfCmp (cmp : α → α → Out Ordering) (a b : α) : Bool :=
  match cmp a b with
  | .ok .gt => false
  | _ => true

/-- `sort` with comparator `cmp`: defined when every two elements compare (in both orders); then
it is the stable sort by "`a` may stay in front of `b` unless `cmp a b = gt`" -/
def sortE (cmp : α → α → Out Ordering) (xs : List α) : Out (List α) :=
  match (pairs xs).findSome? fun p => (failureOf (cmp p.1 p.2)).or (failureOf (cmp p.2 p.1)) with
  | some .throw => .throw
  | some _ => .panic
  | none => .ok (sort (leOfCmp cmp) xs)

/-- `sort_on key xs`: evaluate the keys once, left to right; sort the elements by their keys -/
def sortOnE (key : α → Out κ) (kcmp : κ → κ → Out Ordering) (xs : List α) : Out (List α) :=
  bind (mapE key xs) fun ks =>
  bind (sortE (fun p q => kcmp p.1 q.1) (ks.zip xs)) fun r => .ok (r.map (·.2))

/-- `group_all` / `classify` with a key that may fail -/
def groupAllE [BEq κ] (key : α → Out κ) (xs : List α) : Out (List (κ × List α)) :=
  bind (mapE key xs) fun ks =>
    .ok ((uniqueBy id ks).map fun k => (k, ((xs.zip ks).filter (·.2 == k)).map (·.1)))

/-- `group' xs n`: chunks, and an error when the length is not a multiple of `n` -/
def chunksE (xs : List α) (n : Nat) (strict : Bool) : Out (List (List α)) :=
  if strict && xs.length % n != 0 then .throw else .ok (chunks xs n)

/-! ## strings -/

/-- split at every element satisfying `p` (the separators are dropped) -/
def splitOnP (p : γ → Bool) : List γ → List (List γ)
  | [] => [[]]
  | c :: cs =>
    if p c then [] :: splitOnP p cs
    else match splitOnP p cs with
      | piece :: ps => (c :: piece) :: ps
      | [] => [[c]]

/-- `split s pat` for a non-empty pattern: leftmost, non-overlapping occurrences (`fuel` only
makes the recursion structural) -/
def splitPat [BEq γ] (pat : List γ) : Nat → List γ → List (List γ)
  | 0, _ => [[]]
  | _, [] => [[]]
  | fuel + 1, c :: cs =>
    if pat.isPrefixOf (c :: cs) then [] :: splitPat pat fuel ((c :: cs).drop pat.length)
    else match splitPat pat fuel cs with
      | piece :: ps => (c :: piece) :: ps
      | [] => [[c]]

def split [BEq γ] (s pat : List γ) : List (List γ) :=
  if pat.isEmpty then [[]] ++ s.map (fun c => [c]) ++ [[]] else splitPat pat (s.length + 1) s

/-- `words s`: the non-empty pieces between whitespace -/
def words (isWs : γ → Bool) (s : List γ) : List (List γ) := (splitOnP isWs s).filter (!·.isEmpty)

/-- `lines s`: split at newlines; a final newline does not start another (empty) line -/
def lines [BEq γ] (nl : γ) (s : List γ) : List (List γ) :=
  let parts := splitOnP (· == nl) s
  if parts.getLast? == some [] then parts.dropLast else parts

/-! ## more of the library -/

/-- `locate s pat` / `pat in s` on text: the first position at which `pat` is a prefix of the rest -/
def findSub [BEq γ] (pat s : List γ) : Option Nat :=
  (List.range (s.length + 1)).find? fun i => pat.isPrefixOf (s.drop i)

/-- `split s pat n`: at most `n` pieces; the last one is the unsplit remainder, i.e. the remaining
pieces joined by the separator again -/
def splitn [BEq γ] (s pat : List γ) (n : Nat) : List (List γ) :=
  let ps := split s pat
  if n = 0 then [] else if ps.length ≤ n then ps else ps.take (n - 1) ++ [pat.intercalate (ps.drop (n - 1))]

/-- `rsplit`: split from the right end (the pieces come out right to left) -/
def rsplit [BEq γ] (s pat : List γ) : List (List γ) := (split s.reverse pat.reverse).map List.reverse
def rsplitn [BEq γ] (s pat : List γ) (n : Nat) : List (List γ) :=
  (splitn s.reverse pat.reverse n).map List.reverse

/-- `merge d1 d2 …` with an optional combining function: the keys in order of first appearance;
under each key the values found for it, left to right, folded with `f` (without `f`: the last
one wins) -/
def mergeE [BEq κ] (f : Option (β → β → Out β)) (dicts : List (List (κ × β))) : Out (List (κ × β)) :=
  mapE (fun k =>
      match dicts.filterMap (fun d => d.lookup k) with
      | [] => .throw   -- cannot happen: `k` is one of the keys
      | v :: vs =>
        bind (match f with
              | none => .ok ((v :: vs).getLast?.getD v)
              | some f => foldlE f v vs) fun r => .ok (k, r))
    (uniqueBy id (dicts.flatMap fun d => d.map (·.1)))

/-- `join sep xs` when the pieces have to be converted first (bytes separator): convert all
pieces, left to right, then intercalate -/
def joinE (sep : List γ) (disp : α → Out (List γ)) (xs : List α) : Out (List γ) :=
  bind (mapE disp xs) fun ps => .ok (sep.intercalate ps)

end Noulith.SeqSpec
