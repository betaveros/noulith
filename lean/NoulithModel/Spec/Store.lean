/-
C01 Spec: the pure copy-on-assignment store.  A value is a tree (no sharing, no counts); the store is
one tree per variable; every statement is the obvious functional update of the addressed slot of the
named variable.  Nothing here mentions allocations, handles or reference counts.
Core Lean only.
-/
import NoulithModel.Impl.Heap

namespace Noulith.Store
open Noulith.RcHeap (Atom Rhs Stmt)

inductive Tree where
  | null
  | int (n : Int)
  | list (ts : List Tree)
  /-- a dict with integer keys: i-th key `ks[i]`, i-th value `vs[i]` (the order carries no meaning:
  every observation sorts by key) -/
  | dict (ks : List Int) (vs : List Tree)
  deriving Repr, Inhabited

/-- containers (lists and dicts) and their parts -/
def Tree.isCont : Tree → Bool
  | .list _ => true
  | .dict _ _ => true
  | _ => false
/-- the elements of a list / the values of a dict -/
def Tree.kids : Tree → List Tree
  | .list ts => ts
  | .dict _ vs => vs
  | _ => []
/-- `none` for a list, the key list for a dict -/
def Tree.keysT : Tree → Option (List Int)
  | .dict ks _ => some ks
  | _ => none
/-- the same container with other elements / values -/
def Tree.withKids : Tree → List Tree → Tree
  | .list _, ts => .list ts
  | .dict ks _, vs => .dict ks vs
  | t, _ => t

/-- a dict has as many keys as values (vacuous for the other trees) -/
def Tree.dictWF (t : Tree) : Prop := ∀ ks, t.keysT = some ks → ks.length = t.kids.length
theorem Tree.dictWF_list (ts : List Tree) : (Tree.list ts).dictWF := fun _ h => nomatch h
theorem Tree.dictWF_dict {ks : List Int} {vs : List Tree} (h : ks.length = vs.length) : (Tree.dict ks vs).dictWF := by
  intro ks' e; cases e; exact h
theorem Tree.dictWF_withKids {t : Tree} {vs : List Tree} (hw : t.dictWF) (hl : vs.length = t.kids.length) :
    (t.withKids vs).dictWF := by
  cases t with
  | null => exact fun _ h => nomatch h
  | int n => exact fun _ h => nomatch h
  | list ts => exact Tree.dictWF_list _
  | dict ks vs0 => exact Tree.dictWF_dict ((hw ks rfl).trans hl.symm)

@[simp] theorem Tree.isCont_list (ts : List Tree) : (Tree.list ts).isCont = true := rfl
@[simp] theorem Tree.isCont_dict (ks : List Int) (vs : List Tree) : (Tree.dict ks vs).isCont = true := rfl
@[simp] theorem Tree.isCont_null : Tree.null.isCont = false := rfl
@[simp] theorem Tree.isCont_int (n : Int) : (Tree.int n).isCont = false := rfl
@[simp] theorem Tree.kids_list (ts : List Tree) : (Tree.list ts).kids = ts := rfl
@[simp] theorem Tree.kids_dict (ks : List Int) (vs : List Tree) : (Tree.dict ks vs).kids = vs := rfl
@[simp] theorem Tree.keysT_list (ts : List Tree) : (Tree.list ts).keysT = none := rfl
@[simp] theorem Tree.keysT_dict (ks : List Int) (vs : List Tree) : (Tree.dict ks vs).keysT = some ks := rfl
@[simp] theorem Tree.withKids_list (ts ts' : List Tree) : (Tree.list ts).withKids ts' = .list ts' := rfl
@[simp] theorem Tree.withKids_dict (ks : List Int) (vs vs' : List Tree) : (Tree.dict ks vs).withKids vs' = .dict ks vs' := rfl
theorem Tree.withKids_isCont {t : Tree} (vs : List Tree) (h : t.isCont = true) : (t.withKids vs).isCont = true := by
  cases t with
  | list _ | dict _ _ => rfl
  | null | int _ => exact h
theorem Tree.withKids_kids {t : Tree} (vs : List Tree) (h : t.isCont = true) : (t.withKids vs).kids = vs := by
  cases t with
  | list _ | dict _ _ => rfl
  | null | int _ => exact Bool.noConfusion h
theorem Tree.withKids_keysT {t : Tree} (vs : List Tree) : (t.withKids vs).keysT = t.keysT := by
  cases t <;> rfl
theorem Tree.withKids_withKids (t : Tree) (vs ws : List Tree) : (t.withKids vs).withKids ws = t.withKids ws := by
  cases t <;> rfl
theorem Tree.withKids_self {t : Tree} : t.withKids t.kids = t := by
  cases t <;> rfl

/-- Python's index rule: `0 ≤ i < len` is itself, `-len ≤ i < 0` counts from the end -/
def pyIdx (len : Nat) (i : Int) : Option Nat :=
  if 0 ≤ i ∧ i < len then some i.toNat
  else if i < 0 ∧ 0 ≤ i + len then some (i + len).toNat
  else none

/-- position of a key in a dict's key list -/
def keyIdx : List Int → Int → Option Nat
  | [], _ => none
  | k :: ks, i => if k = i then some 0 else (keyIdx ks i).map (· + 1)

/-- position of key `i` among the entries of a dict -/
def dictSlot (ks : List Int) (n : Nat) (i : Int) : Option Nat :=
  match keyIdx ks i with
  | some j => if j < n then some j else none
  | none => none

/-- the sub-tree at an index path (list indices / dict keys) -/
def getPath : Tree → List Int → Option Tree
  | t, [] => some t
  | .list ts, i :: rest =>
    match pyIdx ts.length i with
    | none => none
    | some j => getPath (ts.getD j .null) rest
  | .dict ks vs, i :: rest =>
    match dictSlot ks vs.length i with
    | none => none
    | some j => getPath (vs.getD j .null) rest
  | _, _ :: _ => none

/-- a slot transformation `old ↦ (new, result)` (`none` = raises), together with the value an index
assignment stores under a dict key that is not present yet (`none` for pop / remove / consume) -/
structure LeafT where
  act : Tree → Option (Tree × Tree)
  ins : Option Tree

/-- transform the slot at an index path with `φ : old ↦ (new, result)`; `none` = the statement raises -/
def modPath (φ : LeafT) : Tree → List Int → Option (Tree × Tree)
  | t, [] => φ.act t
  | .list ts, i :: rest =>
    match pyIdx ts.length i with
    | none => none
    | some j =>
      match modPath φ (ts.getD j .null) rest with
      | none => none
      | some (t', r) => some (.list (ts.set j t'), r)
  | .dict ks vs, i :: rest =>
    match dictSlot ks vs.length i with
    | some j =>
      match modPath φ (vs.getD j .null) rest with
      | none => none
      | some (t', r) => some (.dict ks (vs.set j t'), r)
    | none =>
      -- an index assignment whose last index is a new key inserts it
      match rest, φ.ins with
      | [], some new => some (.dict (ks ++ [i]) (vs ++ [new]), .null)
      | _, _ => none
  | _, _ :: _ => none

def setφ (new : Tree) : LeafT := ⟨fun _old => some (new, .null), some new⟩
def takeφ : LeafT := ⟨fun old => some (.null, old), none⟩
def popAct : Tree → Option (Tree × Tree)
  | .list ts =>
    match ts.getLast? with
    | some x => some (.list ts.dropLast, x)
    | none => none
  | _ => none
def popφ : LeafT := ⟨popAct, none⟩
def removeAct (i : Int) : Tree → Option (Tree × Tree)
  | .list ts =>
    match pyIdx ts.length i with
    | some j => some (.list (ts.eraseIdx j), ts.getD j .null)
    | none => none
  | .dict ks vs =>
    match dictSlot ks vs.length i with
    | some j => some (.dict (ks.eraseIdx j) (vs.eraseIdx j), vs.getD j .null)
    | none => none
  | _ => none
def removeφ (i : Int) : LeafT := ⟨removeAct i, none⟩

def setPath (t : Tree) (path : List Int) (new : Tree) : Option Tree :=
  (modPath (setφ new) t path).map (·.1)

abbrev Store := List Tree

def Store.init (nvars : Nat) : Store := List.replicate nvars .null

def get (σ : Store) (x : Nat) : Tree := σ.getD x .null

def evalAtom (σ : Store) : Atom → Tree
  | .null => .null
  | .int n => .int n
  | .var x => get σ x

def evalRhs (σ : Store) : Rhs → Tree
  | .atom a => evalAtom σ a
  | .list as => .list (as.map (evalAtom σ))
  | .rep a n => .list (List.replicate n (evalAtom σ a))
  | .dict kvs => .dict (kvs.map (·.1)) ((kvs.map (·.2)).map (evalAtom σ))

def declared (σ : Store) (x : Nat) : Bool := x < σ.length

/-- `y = <op> x[path]` for pop / remove / consume -/
def extract (σ : Store) (φ : LeafT) (y x : Nat) (path : List Int) : Store × Bool :=
  if declared σ x ∧ declared σ y then
    match modPath φ (get σ x) path with
    | none => (σ, false)
    | some (t', r) => ((σ.set x t').set y r, true)
  else (σ, false)

/-- second half of `x[path] append= …` given the OLD value `tl` of the slot and the value `tv` of the
right-hand side: the slot becomes `tl ++ [tv]`; if `tl` is not a list the operator raises and the slot
is left null (documented); if the slot can no longer be addressed the statement raises -/
def appendFinish (σ : Store) (x : Nat) (path : List Int) (tl tv : Tree) : Store × Bool :=
  match tl with
  | .list ts =>
    match setPath (get σ x) path (.list (ts ++ [tv])) with
    | some t' => (σ.set x t', true)
    | none => (σ, false)
  | _ =>
    match setPath (get σ x) path .null with
    | some t' => (σ.set x t', false)
    | none => (σ, false)

/-- one statement; the flag is `false` when the statement raises.  A raising statement leaves the store
unchanged, with the one documented exception: an operator-assignment whose operator raises leaves the
addressed slot null (README: the left-hand side is null while the operator runs). -/
def step (σ : Store) : Stmt → Store × Bool
  | .assign x r => if declared σ x then (σ.set x (evalRhs σ r), true) else (σ, false)
  | .setIdx x path r =>
    if declared σ x then
      match setPath (get σ x) path (evalRhs σ r) with
      | some t' => (σ.set x t', true)
      | none => (σ, false)
    else (σ, false)
  | .append x path r =>
    if declared σ x then
      match getPath (get σ x) path with
      | none => (σ, false)
      | some tl => appendFinish σ x path tl (evalRhs σ r)
    else (σ, false)
  | .pop y x path => extract σ popφ y x path
  | .remove y x path i => extract σ (removeφ i) y x path
  | .consume y x path => extract σ takeφ y x path
  | .swap x px y py =>
    if declared σ x ∧ declared σ y then
      match getPath (get σ x) px, getPath (get σ y) py with
      | some a, some b =>
        match setPath (get σ x) px b with
        | none => (σ, false)
        | some tx =>
          let σ1 := σ.set x tx
          match setPath (get σ1 y) py a with
          | none => (σ1, false)
          | some ty => (σ1.set y ty, true)
      | _, _ => (σ, false)
    else (σ, false)
  | .update y x i a =>
    if declared σ x ∧ declared σ y then
      match setPath (get σ x) [i] (evalAtom σ a) with
      | some t' => (σ.set y t', true)
      | none => (σ, false)
    else (σ, false)
  | .callAppend y x a =>
    if declared σ x ∧ declared σ y then
      match get σ x with
      | .list ts => (σ.set y (.list (ts ++ [evalAtom σ a])), true)
      | _ => (σ, false)
    else (σ, false)
  | .appendPop x path y ypath =>
    if declared σ x ∧ declared σ y then
      -- the old value of the slot is read BEFORE the right-hand side pops
      match getPath (get σ x) path with
      | none => (σ, false)
      | some tl =>
        match modPath popφ (get σ y) ypath with
        | none => (σ, false)
        | some (ty, r) => appendFinish (σ.set y ty) x path tl r
    else (σ, false)

def run (σ : Store) : List Stmt → Store
  | [] => σ
  | st :: rest => run (step σ st).1 rest

end Noulith.Store
