/-
C15, parser termination: the notions and the calculus.  The budget `Bud n ts k` (fuel `n` pays 10 per
unit of weight of `ts` plus the grammar level `k`), the weight posts `Le`, `Lt`, progress `Adv` with the
two budget rules `Adv.below` and `Adv.any` in which all arithmetic of the argument sits, the judgement
`Fits` on parser programs with one rule per primitive of the parser monad, and the induction hypothesis
`AllOK n` (at fuel `n` every function of the parser's mutual block neither runs out of fuel within its
budget nor increases the weight of the token list), stated with `SpecR` of Lemmas/C15ParseRules.lean.

The level of a function (the `k` of `Bud n ts k` in its field of `AllOK`) is greater than the level
of every function it calls before it has consumed a token, since such a call has one unit of fuel
less and the same token list (`Adv.below`): `expression`, `forIterations` 10 > `assignment`,
`forIteration` 9 > `annotatedPattern`, `paramList` 8 > `acs`, `paramLoop`, `dictLoop`, `updateLoop` 7 >
`single` 6 > `logicAnd` 5 > `chain` 4 > `chainLoop` 3 > `operand`, `operator` 2 > `atom` 1; a loop
that calls the others only after a token has been consumed sits at 1.  A unit of weight is worth 10
units of fuel because 10 is the top level: once a token has been consumed, a callee of any level
fits (`Adv.any`).  A function of a level above 10 is proved like the others (all of them are below
it), but cannot itself be called through `Adv.any`, which asks for `j ≤ 10`.
-/
import NoulithModel.Lemmas.C15Weight
import NoulithModel.Lemmas.C15ParseRules
namespace Noulith.C15
open Noulith Noulith.Lex Noulith.Parse

def Bud (n : Nat) (ts : List Token) (k : Nat) : Prop := 10 * W ts + k ≤ n

def Le (ts : List Token) {α} : α → List Token → Prop := fun _ r => W r ≤ W ts
def Lt (ts : List Token) {α} : α → List Token → Prop := fun _ r => W r + 1 ≤ W ts

def Adv (d : Nat) (ts r : List Token) : Prop := W r + d ≤ W ts

namespace Adv
variable {d n k j : Nat} {ts r r' tl : List Token} {t : Token} {α : Type} {a : α}
theorem refl (ts : List Token) : Adv 0 ts ts := Nat.le_refl _
theorem tail (h : Adv d ts (t :: tl)) : Adv 1 ts tl := by
  have := tw_pos t; unfold Adv at *; rw [W_cons] at h; omega
theorem le (h : Adv d ts r) (h' : Le r a r') : Adv d ts r' := by unfold Adv Le at *; omega
theorem lt (h : Adv d ts r) (h' : Lt r a r') : Adv 1 ts r' := by unfold Adv Lt at *; omega
theorem toLe (h : Adv d ts r) : Le ts a r := by unfold Adv Le at *; omega
theorem toLt (h : Adv 1 ts r) : Lt ts a r := h
theorem weaken {d' : Nat} (h : Adv d ts r) (hd : d' ≤ d) : Adv d' ts r := by unfold Adv at *; omega
theorem drop (h : Adv d ts (t :: tl)) : Adv d ts tl := by unfold Adv at *; rw [W_cons] at h; omega
/-- before any token is consumed a callee must sit on a lower level -/
theorem below (h : Adv d ts r) (hb : Bud (n + 1) ts k) (hj : j < k := by decide) : Bud n r j := by
  unfold Adv Bud at *; omega
/-- once a token is consumed every level (they are at most 10) fits again -/
theorem any (h : Adv 1 ts r) (hb : Bud (n + 1) ts k) (hj : j ≤ 10 := by decide) (hk : 1 ≤ k := by decide) :
    Bud n r j := by
  unfold Adv Bud at *; omega
end Adv

/-- the body of a format-string token is parsed with the fuel its weight pays for -/
theorem Bud.formatString {n k : Nat} {s : List Char} {tl : List Token}
    (hb : Bud (n + 1) (.formatString s :: tl) k) : 20 * s.length + 12 ≤ n := by
  unfold Bud at hb; rw [W_cons] at hb; simp only [tw] at hb; omega

theorem W_skipBreaks (ts : List Token) : W (skipBreaks ts) ≤ W ts := by
  fun_induction skipBreaks ts with
  | case1 rest ih => exact Nat.le_trans ih (Nat.le_add_left _ _)
  | case2 ts => exact Nat.le_refl _

theorem Adv.skipBreaks {d : Nat} {ts r : List Token} (h : Adv d ts r) : Adv d ts (skipBreaks r) :=
  Nat.le_trans (Nat.add_le_add_right (W_skipBreaks r) d) h

/-! the two token-list functions outside the mutual block -/
namespace SpecR
theorem attach (e : PExpr) (ts : List Token) : SpecR (attachSymbolAccesses e ts) (Le ts) := by
  fun_induction attachSymbolAccesses e ts with
  | case1 e x rest ih => exact ih.mono fun _ _ h => ((Adv.refl _).tail.tail.le h).toLe
  | case2 => exact .err
  | case3 e ts => exact .ok (Adv.refl ts).toLe
theorem bytesTail (ts : List Token) : SpecR (Parse.bytesTail ts) (Le ts) := by
  fun_induction Parse.bytesTail ts with
  | case1 rest => exact .ok (Adv.refl _).tail.toLe
  | case2 i rest hle ih => exact ih.mono fun _ _ h => ((Adv.refl _).tail.tail.le h).toLe
  | case3 => exact .err
  | case4 => exact .err
  | case5 ts => exact .ok (Adv.refl ts).toLe

end SpecR

/-! ### fuel safety as a judgement on parser programs

What the termination argument tracks along a `do` block is one bit, has a token been consumed since the
function was entered, because that decides which budget rule a call may use.  `Fits` carries the bit in its
indices and its rules move it, so a proof about a function has the shape of the function's `do` block and
names no token list (`atom`, which is a `match` on the first token, enters its arms by `SpecR.run`). -/

/-- For a caller of grammar level `k` at fuel `n + 1`, on any input `ts0` within its budget: the program
`m`, started at least `d` units of weight into `ts0`, does not run out of fuel, and where it succeeds it
stops at least `d'` units into `ts0` (`d`, `d'` are 0 or 1).  With `seen`, only on token lists known to be
non-empty, as after a `peek` that saw a token: there, and only there, `advance` consumes. -/
def Fits (n k d : Nat) {α : Type} (m : P α) (d' : Nat) (seen : Bool := false) : Prop :=
  ∀ ts0 r, Bud (n + 1) ts0 k → Adv d ts0 r → (seen = true → r ≠ []) → SpecR (m r) (fun _ r' => Adv d' ts0 r')

namespace Fits
variable {n k d d1 d' j : Nat} {s : Bool} {α β : Type}

/-- `le`, `lt`: from a derivation for the whole body of a function to its field of `AllOK (n + 1)`; the proof of a field starts
with one of them -/
theorem le {m : P α} (h : Fits n k 0 m 0) (ts : List Token) (hb : Bud (n + 1) ts k) : SpecR (m ts) (Le ts) :=
  h ts ts hb (Adv.refl ts) nofun
theorem lt {m : P α} (h : Fits n k 0 m 1) (ts : List Token) (hb : Bud (n + 1) ts k) : SpecR (m ts) (Lt ts) :=
  h ts ts hb (Adv.refl ts) nofun

theorem seen {m : P α} (h : Fits n k d m d') : Fits n k d m d' true := fun ts0 r hb ha _ => h ts0 r hb ha nofun
/-- a loop that ends in a call of itself promises no progress of its own -/
theorem weak {m : P α} (h : Fits n k d m 1 s) : Fits n k d m 0 s :=
  fun ts0 _ hb ha hs => (h ts0 _ hb ha hs).mono fun _ _ h' => h'.weaken (Nat.zero_le 1)

theorem pure {a : α} (hd : d' ≤ d := by decide) : Fits n k d (Pure.pure a : P α) d' :=
  fun _ _ _ ha _ => .pure (ha.weaken hd)
theorem fail : Fits n k d (P.fail : P α) d' := fun _ _ _ _ _ => .fail
theorem failThen {f : α → P β} : Fits n k d (P.fail >>= f) d' := fun _ _ _ _ _ => .bind .fail
theorem bind {m : P α} {f : α → P β} (hm : Fits n k d m d1 s) (hf : ∀ a, Fits n k d1 (f a) d') :
    Fits n k d (m >>= f) d' s :=
  fun ts0 _ hb ha hs => .bind ((hm ts0 _ hb ha hs).mono fun a _ h => hf a ts0 _ hb h nofun)
theorem skip {p : P α} (h : Fits n k d p d') : Fits n k d (Parse.skip p) d' :=
  bind h fun _ => pure (Nat.le_refl _)
theorem ite {c : Prop} [Decidable c] {A B : P α} (hA : Fits n k d A d' s) (hB : Fits n k d B d' s) :
    Fits n k d (if c then A else B) d' s := by
  split
  · exact hA
  · exact hB

theorem below {g : P α} (h : ∀ ts, Bud n ts j → SpecR (g ts) (Lt ts)) (hj : j < k := by decide) :
    Fits n k 0 g 1 :=
  fun _ _ hb ha _ => (h _ (ha.below hb hj)).mono fun _ _ h' => ha.lt h'
theorem belowLe {g : P α} (h : ∀ ts, Bud n ts j → SpecR (g ts) (Le ts)) (hj : j < k := by decide) :
    Fits n k 0 g 0 :=
  fun _ _ hb ha _ => (h _ (ha.below hb hj)).mono fun _ _ h' => ha.le h'
/-- The error "could not synthesize default value for parameter 'hk' … Expected type must not contain metavariables" on `any`, `anyLe`
or `loop` says that the rule's indices `d`, `d'` are not the goal's, whose `k` is then not known when `decide` runs (before a token is
consumed the rule is `below`; for the tail call of a loop stated with `Le` it is `loop`), or that there is no expected type. -/
theorem any {g : P α} (h : ∀ ts, Bud n ts j → SpecR (g ts) (Lt ts))
    (hj : j ≤ 10 := by decide) (hk : 1 ≤ k := by decide) : Fits n k 1 g 1 :=
  fun _ _ hb ha _ => (h _ (ha.any hb hj hk)).mono fun _ _ h' => ha.lt h'
theorem anyLe {g : P α} (h : ∀ ts, Bud n ts j → SpecR (g ts) (Le ts))
    (hj : j ≤ 10 := by decide) (hk : 1 ≤ k := by decide) : Fits n k 1 g 1 :=
  fun _ _ hb ha _ => (h _ (ha.any hb hj hk)).mono fun _ _ h' => ha.le h'
/-- a loop called in tail position by a loop -/
theorem loop {g : P α} (h : ∀ ts, Bud n ts j → SpecR (g ts) (Le ts))
    (hj : j ≤ 10 := by decide) (hk : 1 ≤ k := by decide) : Fits n k 1 g 0 := (anyLe h hj hk).weak

theorem attach {e : PExpr} : Fits n k d (attachSymbolAccesses e) d :=
  fun _ _ _ ha _ => (SpecR.attach _ _).mono fun _ _ h => ha.le h
theorem bytesTail : Fits n k d (show P Unit from Parse.bytesTail) d :=
  fun _ _ _ ha _ => (SpecR.bytesTail _).mono fun _ _ h => ha.le h

/-! Stated for the primitive on its own: `require`, `tryConsume`, `advance`, `look` (which is `peek` on its own).  Stated for
`primitive >>= f`: `guardP` (in tail position it has no rule), `peek`, `peekIs`, and for an `if` on the result `ifTryConsume`,
`ifTryConsumeBounded`, `ifPeekIs`, `peekIf`. -/
theorem require {x : Token} : Fits n k d (Parse.require x) 1 := by
  intro ts0 r _ ha _
  unfold Parse.require
  split
  · split
    · exact .ok ha.tail
    · exact .err
  · exact .err
theorem guardP {b : Bool} {f : Unit → P β} (h : b = true → Fits n k d (f ()) d' s) :
    Fits n k d (Parse.guardP b >>= f) d' s :=
  fun ts0 r hb ha hs => .bind <| by
    cases b
    · exact .err
    · exact .ok (h rfl ts0 r hb ha hs)
theorem tryConsume {x : Token} : Fits n k d (Parse.tryConsume x) d := by
  intro ts0 r _ ha _
  unfold Parse.tryConsume
  split
  · split
    · exact .ok ha.drop
    · exact .ok ha
  · exact .ok ha
theorem ifTryConsume {x : Token} {A B : P β} (hA : Fits n k 1 A d') (hB : Fits n k d B d') :
    Fits n k d (do if (← Parse.tryConsume x) then A else B) d' :=
  fun ts0 r hb ha _ => .bind <| by
    unfold Parse.tryConsume
    split
    · split
      · exact .ok (hA ts0 _ hb ha.tail nofun)
      · exact .ok (hB ts0 _ hb ha nofun)
    · exact .ok (hB ts0 _ hb ha nofun)
theorem ifTryConsumeBounded {b : Nat} {A B : P β} (hA : Fits n k 1 A d') (hB : Fits n k d B d') :
    Fits n k d (do if (← Parse.tryConsumeBounded b) then A else B) d' :=
  fun ts0 r hb ha _ => .bind <| by
    unfold Parse.tryConsumeBounded
    split
    · split
      · exact .ok (hA ts0 _ hb ha.tail nofun)
      · exact .err
    · exact .ok (hB ts0 _ hb ha nofun)
/-- at `d = 1`, where one proof of `K` serves both ways; no rule moves the start index `d` (`weak` moves `d'`), so at the head of a
function it is `ifTryConsume` with `K` proved twice, at 1 after `A` and at 0 -/
theorem optional {x : Token} {A : P α} {K : P β} (hA : Fits n k 1 A 1) (hK : Fits n k 1 K d') :
    Fits n k 1 (do if (← Parse.tryConsume x) then Parse.skip A
                   K) d' :=
  ifTryConsume (bind hA.skip fun _ => hK) hK

theorem advance : Fits n k d Parse.advance 1 true := by
  intro ts0 r _ ha hs
  cases r with
  | nil => exact absurd rfl (hs rfl)
  | cons t tl => exact .ok ha.tail
theorem look : Fits n k d Parse.peek d := fun _ _ _ ha _ => .ok ha
/-- The branches do not learn that a token was seen, so `advance` does not fit in them: `if c (← peek) then advance; … else B` goes by
`.peek h0 fun o => .ite hA (.seen hB)` as in the `struct` arm of `atom`, `h0` being for the branch that `c none` reduces to. -/
theorem peekIf {c : Option Token → Bool} {A B : P α} (hA : Fits n k d A d') (hB : Fits n k d B d') :
    Fits n k d (Parse.peek >>= fun t => if c t = true then A else B) d' :=
  bind look fun _ => ite hA hB
/-- a `match` on the next token: at the end of input, and on a token (which one does not matter: `split`
can abstract the discriminant of the `match` only if it is a variable) -/
theorem peek {f : Option Token → P β} (h0 : Fits n k d (f none) d') (h1 : ∀ o, Fits n k d (f o) d' true) :
    Fits n k d (Parse.peek >>= f) d' :=
  fun ts0 r hb ha _ => .bind <| .ok <| by
    cases r with
    | nil => exact h0 ts0 _ hb ha nofun
    | cons t tl => exact h1 _ ts0 _ hb ha fun _ => List.cons_ne_nil _ _
theorem peekIs {x : Token} {f : Bool → P β} (h1 : Fits n k d (f true) d' true) (h0 : Fits n k d (f false) d') :
    Fits n k d (Parse.peekIs x >>= f) d' :=
  fun ts0 r hb ha _ => .bind <| .ok <| by
    cases r with
    | nil => exact h0 ts0 _ hb ha nofun
    | cons t tl =>
      generalize decide ((t :: tl).head? = some x) = b
      cases b
      · exact h0 ts0 _ hb ha nofun
      · exact h1 ts0 _ hb ha fun _ => List.cons_ne_nil _ _
theorem ifPeekIs {x : Token} {A B : P β} (hA : Fits n k d A d' true) (hB : Fits n k d B d') :
    Fits n k d (do if (← Parse.peekIs x) then A else B) d' := peekIs hA hB
end Fits

/-- in `atom`, after the match on the first token: a program run on the rest (stated for `m >>= f`: with a
variable for the whole program, unification against an arm of `atom` splits it in the wrong place; on an arm that is a
bare call `g r`, apply the derivation itself, `(h : Fits n k d g 1) _ _ hb ha nofun`) -/
theorem SpecR.run {n k d : Nat} {α β : Type} {m : P α} {f : α → P β} {ts0 r : List Token} (hb : Bud (n + 1) ts0 k)
    (ha : Adv d ts0 r) (h : Fits n k d (m >>= f) 1) : SpecR ((m >>= f) r) (Lt ts0) := h ts0 r hb ha nofun

/-- the fuel needed by `formatParts` -/
def pneed : List FmtPart → Nat
  | [] => 1
  | .lit _ :: r => pneed r + 1
  | .expr toks _ :: r => max (10 * W toks + 10) (pneed r) + 1

structure AllOK (n : Nat) : Prop where
  atom : ∀ ts, Bud n ts 1 → SpecR (atom n ts) (Lt ts)
  dictLoop : ∀ ts, Bud n ts 7 → SpecR (dictLoop n ts) (Le ts)
  switchCases : ∀ ts, Bud n ts 1 → SpecR (switchCases n ts) (Le ts)
  structFields : ∀ ts, Bud n ts 1 → SpecR (structFields n ts) (Le ts)
  forIterations : ∀ ts, Bud n ts 10 → SpecR (forIterations n ts) (Le ts)
  forIteration : ∀ ts, Bud n ts 9 → SpecR (forIteration n ts) (Le ts)
  operand : ∀ ts, Bud n ts 2 → SpecR (operand n ts) (Lt ts)
  operandLoop : ∀ cur ts, Bud n ts 1 → SpecR (operandLoop n cur ts) (Le ts)
  updateLoop : ∀ ts, Bud n ts 7 → SpecR (updateLoop n ts) (Le ts)
  operator : ∀ ab ts, Bud n ts 2 → SpecR (operator n ab ts) (Lt ts)
  chain : ∀ ab ts, Bud n ts 4 → SpecR (chain n ab ts) (Lt ts)
  chainLoop : ∀ ab ts, Bud n ts 3 → SpecR (chainLoop n ab ts) (Le ts)
  logicAnd : ∀ ts, Bud n ts 5 → SpecR (logicAnd n ts) (Lt ts)
  logicAndLoop : ∀ e ts, Bud n ts 1 → SpecR (logicAndLoop n e ts) (Le ts)
  single : ∀ ts, Bud n ts 6 → SpecR (single n ts) (Lt ts)
  singleLoop : ∀ e ts, Bud n ts 1 → SpecR (singleLoop n e ts) (Le ts)
  acs : ∀ a ts, Bud n ts 7 → SpecR (acs n a ts) (Lt ts)
  acsLoop : ∀ a x y c ts, Bud n ts 1 → SpecR (acsLoop n a x y c ts) (Le ts)
  annotatedPattern : ∀ a ts, Bud n ts 8 → SpecR (annotatedPattern n a ts) (Lt ts)
  assignment : ∀ ts, Bud n ts 9 → SpecR (assignment n ts) (Lt ts)
  paramList : ∀ ts, Bud n ts 8 → SpecR (paramList n ts) (Le ts)
  paramLoop : ∀ ts, Bud n ts 7 → SpecR (paramLoop n ts) (Le ts)
  expression : ∀ ts, Bud n ts 10 → SpecR (expression n ts) (Lt ts)
  exprLoop : ∀ ts, Bud n ts 1 → SpecR (exprLoop n ts) (Le ts)
  formatString : ∀ s, 20 * s.length + 12 ≤ n → formatString n s ≠ .oof
  formatParts : ∀ parts, pneed parts ≤ n → formatParts n parts ≠ .oof

end Noulith.C15
