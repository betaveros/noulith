/-
C12 — the arrangement of a sequence over an item list.

`assign_all` runs a pre-pass with counters over the items (`prePass`), then drains the right-hand
side around the splat (`arrange`).  `specArrange` says the same declaratively.  Both are computed
here for an item list in normal form: without a splat, or cut at its first splat
(`first_splat`); with one splat the filled-up values are distributed by `cutAt`.
`arrange_eq_spec` compares them.
-/
import NoulithModel.Spec.Match

namespace Noulith.C12

def optToOut {α} : Option α → Out α
  | some a => .ok a
  | none => .throw

theorem optToOut_eq_ok {α} (o : Option α) (a : α) : optToOut o = .ok a ↔ o = some a := by
  cases o <;> simp [optToOut]

theorem optToOut_eq_throw {α} (o : Option α) : optToOut o = .throw ↔ o = none := by
  cases o <;> simp [optToOut]

theorem optToOut_ne_panic {α} (o : Option α) : optToOut o ≠ .panic := by
  cases o <;> exact nofun

/-! ## the pre-pass -/

theorem prePass_splat (k : Nat) (p : Pat) (ps : List Pat) (i : Nat) (splat : Option Nat) (defs : List Val)
    (h : isSplatItem p = true) :
    prePass k (p :: ps) i splat defs =
      (match splat with
       | some _ => .throw
       | none => prePass k ps (i + 1) (some i) defs) := by
  cases p with
  | splat q => cases splat <;> rfl
  | anno q t =>
    cases q with
    | splat r => cases splat <;> rfl
    | _ => cases h
  | _ => cases h

/-- `prev_non_splat_args`, the index less the splat already seen, in usize arithmetic -/
theorem prev_nonSplat (s : Nat) (b : Bool) :
    (if b = true then ((s + (if b = true then 1 else 0) : Nat) : Int) - 1
      else ((s + (if b = true then 1 else 0) : Nat) : Int)) = (s : Int) := by
  cases b
  · rfl
  · exact Int.add_sub_cancel (s : Int) 1

theorem prePass_default (k : Nat) (p : Pat) (d : Val) (ps : List Pat) (s i : Nat) (splat : Option Nat)
    (defs : List Val) (hd : defaultOf p = some d) (hi : i = s + (if splat.isSome then 1 else 0)) :
    prePass k (p :: ps) i splat defs =
      (if k ≤ s then prePass k ps (i + 1) splat (defs ++ [d]) else prePass k ps (i + 1) splat defs) := by
  cases p with
  | withDefault q d' =>
    cases Option.some.inj hd
    subst hi
    simp only [prePass, prev_nonSplat, Int.ofNat_le, if_neg (Int.not_lt.mpr (Int.natCast_nonneg s))]
  | _ => cases hd

theorem prePass_other (k : Nat) (p : Pat) (ps : List Pat) (i : Nat) (splat : Option Nat) (defs : List Val)
    (h1 : isSplatItem p = false) (h2 : defaultOf p = none) :
    prePass k (p :: ps) i splat defs =
      (if !defs.isEmpty then .throw else prePass k ps (i + 1) splat defs) := by
  cases p with
  | splat q => cases h1
  | withDefault q d => cases h2
  | anno q t =>
    cases q with
    | splat r => cases h1
    | _ => rfl
  | _ => rfl

/-- a splat after splat-free items may as well have been seen first: the items before it are
counted alike either way -/
theorem prePass_skip (k : Nat) (pre rest : List Pat) (s : Pat) (hs : isSplatItem s = true) :
    NoSplat pre → ∀ (t : Nat) (defs : List Val),
    prePass k (pre ++ s :: rest) t none defs = prePass k (pre ++ rest) (t + 1) (some (t + pre.length)) defs := by
  induction pre with
  | nil => intro _ t defs; exact prePass_splat k s rest t none defs hs
  | cons p pre ih =>
    intro h t defs
    obtain ⟨hp, hpre⟩ := List.forall_mem_cons.mp h
    rw [List.cons_append, List.cons_append, List.length_cons, ← Nat.add_assoc, Nat.add_right_comm t pre.length 1]
    cases hd : defaultOf p with
    | some d =>
      rw [prePass_default k p d _ t t none defs hd rfl, prePass_default k p d _ t (t + 1) (some _) defs hd rfl,
        ih hpre, ih hpre]
    | none =>
      rw [prePass_other k p _ t none defs hp hd, prePass_other k p _ (t + 1) (some _) defs hp hd, ih hpre]

theorem prePass_second (k : Nat) (a post : List Pat) (s : Pat) (hs : isSplatItem s = true) (x : Nat) :
    NoSplat a → ∀ (t : Nat) (defs : List Val), prePass k (a ++ s :: post) (t + 1) (some x) defs = .throw := by
  induction a with
  | nil => intro _ t defs; exact prePass_splat k s post (t + 1) (some x) defs hs
  | cons p a ih =>
    intro h t defs
    obtain ⟨hp, ha⟩ := List.forall_mem_cons.mp h
    rw [List.cons_append]
    cases hd : defaultOf p with
    | some d => rw [prePass_default k p d _ t (t + 1) (some x) defs hd rfl, ih ha, ih ha, ite_self]
    | none => rw [prePass_other k p _ (t + 1) (some x) defs hp hd, ih ha, ite_self]

/-! ### what comes back, against `mapM defaultOf` -/

theorem idx_succ {i s c : Nat} (h : i = s + c) : i + 1 = s + 1 + c := by rw [h, Nat.add_right_comm]

theorem mapM_defaultOf_iff (qs : List Pat) : ∀ ds : List Val,
    qs.mapM defaultOf = some ds ↔ DefaultsOf qs ds := by
  unfold DefaultsOf
  induction qs with
  | nil => intro ds; cases ds <;> simp
  | cons q qs ih =>
    intro ds
    cases ds <;> simp [List.mapM_cons, Option.bind_eq_some_iff, ih]

theorem mapM_defaultOf_length (qs : List Pat) (ds : List Val) (h : qs.mapM defaultOf = some ds) :
    ds.length = qs.length := by
  have := congrArg List.length ((mapM_defaultOf_iff qs ds).mp h)
  rw [List.length_map, List.length_map] at this
  exact this.symm

/-- what the pre-pass returns on items without a splat, from non-splat index `s` on: an item below `k`
changes nothing (no default is in play yet); from `k` on every default is collected and an item without
default after a collected one is refused; one before any is let through, and then fewer defaults than
items come back: too few for the length checks of `arrange` -/
theorem prePass_from (k : Nat) (b : List Pat) (splat : Option Nat) : NoSplat b →
    ∀ (s i : Nat) (defs : List Val), (s < k → defs = []) → i = s + (if splat.isSome then 1 else 0) →
    (∀ ds, (b.drop (k - s)).mapM defaultOf = some ds → prePass k b i splat defs = .ok ⟨splat, defs ++ ds⟩) ∧
    ((b.drop (k - s)).mapM defaultOf = none → prePass k b i splat defs = .throw ∨
      ∃ ds', prePass k b i splat defs = .ok ⟨splat, defs ++ ds'⟩ ∧ k - s + ds'.length < b.length) := by
  induction b with
  | nil =>
    intro _ s i defs _ _
    rw [List.drop_nil]
    refine ⟨fun ds h => ?_, nofun⟩
    cases h
    show _ = Out.ok { splat := splat, defaults := defs ++ [] : PrePass }
    rw [List.append_nil]; rfl
  | cons q b ih =>
    intro h s i defs hdefs hi
    obtain ⟨hq, hb⟩ := List.forall_mem_cons.mp h
    by_cases hk : k ≤ s
    · have ih := fun defs' => ih hb (s + 1) (i + 1) defs'
        (fun h => absurd hk (Nat.not_le.mpr (Nat.lt_of_succ_lt h))) (idx_succ hi)
      simp only [Nat.sub_eq_zero_of_le hk, Nat.sub_eq_zero_of_le (Nat.le_succ_of_le hk), List.drop_zero,
        Nat.zero_add] at ih ⊢
      rw [List.mapM_cons]
      cases hd : defaultOf q with
      | some d =>
        obtain ⟨ih1, ih2⟩ := ih (defs ++ [d])
        rw [prePass_default k q d b s i splat defs hd hi, if_pos hk]
        cases hm : b.mapM defaultOf with
        | none =>
          refine ⟨nofun, fun _ => (ih2 hm).imp id fun ⟨ds', e, hlt⟩ => ⟨d :: ds', ?_, Nat.succ_lt_succ hlt⟩⟩
          rw [List.append_cons defs d ds']; exact e
        | some ds0 => exact ⟨fun ds h => by cases h; rw [List.append_cons defs d ds0]; exact ih1 ds0 hm, nofun⟩
      | none =>
        rw [prePass_other k q b i splat defs hq hd]
        refine ⟨nofun, fun _ => ?_⟩
        cases defs with
        | cons x xs => exact Or.inl rfl
        | nil =>
          -- let through: what follows collects at most one default per item
          obtain ⟨ih1, ih2⟩ := ih []
          cases hm : b.mapM defaultOf with
          | some ds =>
            exact Or.inr ⟨ds, ih1 ds hm, by rw [mapM_defaultOf_length b ds hm]; exact Nat.lt_succ_self _⟩
          | none => exact (ih2 hm).imp id fun ⟨ds', e, hlt⟩ => ⟨ds', e, Nat.lt_succ_of_lt hlt⟩
    · cases hdefs (Nat.lt_of_not_le hk)
      have e : prePass k (q :: b) i splat [] = prePass k b (i + 1) splat [] := by
        cases hd : defaultOf q with
        | some d => rw [prePass_default k q d _ s i splat [] hd hi, if_neg hk]
        | none => exact prePass_other k q _ i splat [] hq hd
      obtain ⟨ih1, ih2⟩ := ih hb (s + 1) (i + 1) [] (fun _ => rfl) (idx_succ hi)
      rw [e, ← Nat.sub_add_cancel (Nat.sub_pos_of_lt (Nat.lt_of_not_le hk)), ← Nat.sub_add_eq, List.drop_succ_cons]
      exact ⟨ih1, fun hm => (ih2 hm).imp id fun ⟨ds', e', hlt⟩ =>
        ⟨ds', e', by rw [List.length_cons, Nat.add_right_comm]; exact Nat.succ_lt_succ hlt⟩⟩

theorem prePass_fill (k : Nat) (qs : List Pat) (h : NoSplat qs) (i : Nat) (splat : Option Nat)
    (hi : i = 0 + (if splat.isSome then 1 else 0)) :
    (∀ ds, (qs.drop k).mapM defaultOf = some ds → prePass k qs i splat [] = .ok ⟨splat, ds⟩) ∧
    ((qs.drop k).mapM defaultOf = none → prePass k qs i splat [] = .throw ∨
      ∃ ds', prePass k qs i splat [] = .ok ⟨splat, ds'⟩ ∧ k + ds'.length < qs.length) :=
  prePass_from k qs splat h 0 i [] (fun _ => rfl) hi

/-! ## item lists in normal form: no splat, or cut at the first one -/

theorem first_splat (ps : List Pat) :
    NoSplat ps ∨ ∃ pre s rest, ps = pre ++ s :: rest ∧ isSplatItem s = true ∧ NoSplat pre := by
  induction ps with
  | nil => exact Or.inl (fun _ h => nomatch h)
  | cons p ps ih =>
    by_cases hp : isSplatItem p = true
    · exact Or.inr ⟨[], p, ps, rfl, hp, fun _ h => nomatch h⟩
    · have hp' : isSplatItem p = false := by simpa using hp
      rcases ih with h | ⟨pre, s, rest, rfl, hs, h⟩
      · exact Or.inl (List.forall_mem_cons.mpr ⟨hp', h⟩)
      · exact Or.inr ⟨p :: pre, s, rest, rfl, hs, List.forall_mem_cons.mpr ⟨hp', h⟩⟩

theorem splatIdxs_noSplat (ps : List Pat) : ∀ i, NoSplat ps → splatIdxs ps i = [] := by
  induction ps with
  | nil => intro i _; rfl
  | cons p ps ih =>
    intro i h
    obtain ⟨hp, hps⟩ := List.forall_mem_cons.mp h
    simp [splatIdxs, hp, ih (i + 1) hps]

theorem splatIdxs_cut (pre rest : List Pat) (s : Pat) (hs : isSplatItem s = true) : ∀ i, NoSplat pre →
    splatIdxs (pre ++ s :: rest) i = (i + pre.length) :: splatIdxs rest (i + pre.length + 1) := by
  induction pre with
  | nil => intro i _; simp [splatIdxs, hs]
  | cons p pre ih =>
    intro i h
    obtain ⟨hp, hpre⟩ := List.forall_mem_cons.mp h
    have e : i + 1 + pre.length = i + (pre.length + 1) := Nat.add_right_comm i 1 pre.length
    simp [splatIdxs, hp, ih (i + 1) hpre, e]

/-- `F` distributed around a splat with `m` items before it and `n` after it: the splat receives
the list in between -/
def cutAt (m n : Nat) (F : List Val) : Option (List Val) :=
  if F.length < m + n then none
  else some (F.take m ++ Val.list ((F.drop m).take (F.length - m - n)) :: F.drop (F.length - n))

theorem cutAt_iff (m n : Nat) (F arr : List Val) :
    cutAt m n F = some arr ↔
      ∃ a mid c, F = a ++ mid ++ c ∧ a.length = m ∧ c.length = n ∧ arr = a ++ Val.list mid :: c := by
  unfold cutAt
  constructor
  · intro h
    split at h
    · cases h
    · next hlt =>
      have hle : m + n ≤ F.length := Nat.le_of_not_lt hlt
      refine ⟨F.take m, (F.drop m).take (F.length - m - n), F.drop (F.length - n), ?_, ?_, ?_,
        (Option.some.inj h).symm⟩
      · have e : F.length - n = m + (F.length - m - n) := by
          rw [Nat.sub_right_comm, Nat.add_sub_of_le (Nat.le_sub_of_add_le hle)]
        rw [e, ← List.drop_drop, List.append_assoc, List.take_append_drop, List.take_append_drop]
      · exact List.length_take_of_le (Nat.le_trans (Nat.le_add_right m n) hle)
      · rw [List.length_drop]; exact Nat.sub_sub_self (Nat.le_trans (Nat.le_add_left n m) hle)
  · rintro ⟨a, mid, c, rfl, rfl, rfl, rfl⟩
    have hl : (a ++ mid ++ c).length = a.length + mid.length + c.length := by
      rw [List.length_append, List.length_append]
    have hge : ¬ (a ++ mid ++ c).length < a.length + c.length := by
      rw [hl]; exact Nat.not_lt.mpr (Nat.add_le_add_right (Nat.le_add_right _ _) _)
    have t1 : (a ++ mid ++ c).take a.length = a := by rw [List.append_assoc, List.take_left]
    have t2 : (a ++ mid ++ c).drop a.length = mid ++ c := by rw [List.append_assoc, List.drop_left]
    have t3 : (a ++ mid ++ c).length - a.length - c.length = mid.length := by
      rw [hl, Nat.sub_right_comm, Nat.add_sub_cancel, Nat.add_sub_cancel_left]
    have t4 : (a ++ mid ++ c).length - c.length = (a ++ mid).length := by
      rw [hl, Nat.add_sub_cancel, List.length_append]
    rw [if_neg hge, t1, t2, t3, List.take_left, t4, List.drop_left]

theorem cutAt_length (m n : Nat) (F arr : List Val) (h : cutAt m n F = some arr) : arr.length = m + 1 + n := by
  obtain ⟨a, mid, c, _, rfl, rfl, rfl⟩ := (cutAt_iff m n F arr).mp h
  rw [List.length_append, List.length_cons, ← Nat.add_assoc, Nat.add_right_comm]

/-! ### `specArrange` on a list in normal form -/

theorem length_after (pre post : List Pat) (s : Pat) :
    (pre ++ s :: post).length - (pre.length + 1) = post.length := by
  rw [List.length_append, List.length_cons, Nat.add_comm post.length 1, ← Nat.add_assoc, Nat.add_sub_cancel_left]

theorem specArrange_flat (ps : List Pat) (items : List Val) (h : NoSplat ps) :
    specArrange ps items =
      ((ps.drop items.length).mapM defaultOf).bind fun ds =>
        if (items ++ ds).length = ps.length then some (items ++ ds) else none := by
  unfold specArrange
  rw [splatIdxs_noSplat ps 0 h]
  cases (ps.drop items.length).mapM defaultOf <;> rfl

theorem specArrange_one (pre post : List Pat) (s : Pat) (items : List Val) (hs : isSplatItem s = true)
    (h1 : NoSplat pre) (h2 : NoSplat post) :
    specArrange (pre ++ s :: post) items =
      (((pre ++ post).drop items.length).mapM defaultOf).bind fun ds =>
        cutAt pre.length post.length (items ++ ds) := by
  have ht : (pre ++ s :: post).take pre.length = pre := List.take_left
  have hd : (pre ++ s :: post).drop (pre.length + 1) = post := by
    rw [show pre ++ s :: post = (pre ++ [s]) ++ post by simp,
      show pre.length + 1 = (pre ++ [s]).length by simp, List.drop_left]
  have hn := length_after pre post s
  unfold specArrange
  rw [splatIdxs_cut pre post s hs 0 h1, splatIdxs_noSplat post _ h2]
  simp only [Nat.zero_add, ht, hd, hn]
  cases ((pre ++ post).drop items.length).mapM defaultOf with
  | none => rfl
  | some ds => simp only [Option.bind_some, cutAt, List.length_append]

theorem specArrange_many (pre mid post : List Pat) (s s' : Pat) (items : List Val)
    (hs : isSplatItem s = true) (hs' : isSplatItem s' = true) (h1 : NoSplat pre) (h2 : NoSplat mid) :
    specArrange (pre ++ s :: (mid ++ s' :: post)) items = none := by
  unfold specArrange
  rw [splatIdxs_cut pre _ s hs 0 h1, splatIdxs_cut mid post s' hs' _ h2]

theorem specArrange_length (ps : List Pat) (items arr : List Val)
    (h : specArrange ps items = some arr) : arr.length = ps.length := by
  rcases first_splat ps with hns | ⟨pre, s, rest, rfl, hs, h1⟩
  · rw [specArrange_flat ps items hns] at h
    obtain ⟨ds, _, h⟩ := Option.bind_eq_some_iff.mp h
    split at h
    · next hl => rw [← Option.some.inj h]; exact hl
    · cases h
  · rcases first_splat rest with h2 | ⟨mid, s', post, rfl, hs', h2⟩
    · rw [specArrange_one pre rest s items hs h1 h2] at h
      obtain ⟨ds, _, h⟩ := Option.bind_eq_some_iff.mp h
      rw [cutAt_length _ _ _ _ h, List.length_append, List.length_cons, ← Nat.add_assoc, Nat.add_right_comm]
    · rw [specArrange_many pre mid post s s' items hs hs' h1 h2] at h; cases h

/-! ### `arrange` on a list in normal form -/

theorem arrange_throw (lhs : List Pat) (k : Nat) (rhs : List Val)
    (h : prePass k lhs 0 none [] = .throw) : arrange lhs k rhs = .throw := by
  unfold arrange; rw [h]

theorem prePass_many (k : Nat) (pre mid post : List Pat) (s s' : Pat)
    (hs : isSplatItem s = true) (hs' : isSplatItem s' = true) (h1 : NoSplat pre) (h2 : NoSplat mid) :
    prePass k (pre ++ s :: (mid ++ s' :: post)) 0 none [] = .throw := by
  rw [prePass_skip k pre _ s hs h1, ← List.append_assoc]
  exact prePass_second k _ post s' hs' _ (List.forall_mem_append.mpr ⟨h1, h2⟩) 0 []

/-- without a splat: the two length checks of `assign_all` and `assign_all_basic` -/
theorem arrange_none (lhs : List Pat) (rhs ds : List Val)
    (h : prePass rhs.length lhs 0 none [] = .ok { splat := none, defaults := ds }) :
    arrange lhs rhs.length rhs =
      optToOut (if (rhs ++ ds).length = lhs.length then some (rhs ++ ds) else none) := by
  unfold arrange; rw [h]
  simp only []
  rw [List.length_append]
  by_cases hl : lhs.length = rhs.length + ds.length
  · simp only [hl, beq_self_eq_true, if_true]; rfl
  · have hl' : ¬ rhs.length + ds.length = lhs.length := fun e => hl e.symm
    simp only [beq_eq_false_iff_ne.mpr hl, Bool.false_eq_true, if_false, if_neg hl']; rfl

/-- the start of the second drain, `n + si + 1 - lhs.len()` in usize arithmetic, is `n - np` when
`np` items follow the splat -/
theorem drain_start (n si np : Nat) (h : si + np ≤ n) :
    (n : Int) + (si : Int) + 1 - ((si + np + 1 : Nat) : Int) = ((n - np : Nat) : Int) := by
  omega

/-- the usize arithmetic and the two drains around the splat at `si`: never out of range, and what
they return is `cutAt` -/
theorem arrange_splat (lhs : List Pat) (k : Nat) (rhs ds : List Val) (si : Nat)
    (h : prePass k lhs 0 none [] = .ok { splat := some si, defaults := ds })
    (hsi : si < lhs.length) :
    arrange lhs k rhs = optToOut (cutAt si (lhs.length - (si + 1)) (rhs ++ ds)) := by
  unfold arrange cutAt; rw [h]
  simp only []
  generalize rhs ++ ds = F
  obtain ⟨np, hL⟩ : ∃ np, lhs.length = si + 1 + np := ⟨_, (Nat.add_sub_of_le hsi).symm⟩
  rw [hL, Nat.add_sub_cancel_left, Nat.add_right_comm si 1 np]
  by_cases h1 : F.length < si + np
  · rw [if_pos (Nat.succ_lt_succ h1), if_pos h1]; rfl
  · have hle : si + np ≤ F.length := Nat.le_of_not_lt h1
    have hs : si ≤ F.length - np := Nat.le_sub_of_add_le hle
    have c : ¬ (((F.length - np : Nat) : Int) < 0 ∨ ((F.length - np : Nat) : Int) > (F.length : Int)) :=
      fun h => h.elim (Int.not_lt.mpr (Int.natCast_nonneg _)) (Int.not_lt.mpr (Int.ofNat_le.mpr (Nat.sub_le _ _)))
    -- the first drain keeps `F.length - np` values, the second `si` of those
    have l1 : (F.take (F.length - np)).length = F.length - np := List.length_take_of_le (Nat.sub_le _ _)
    have t1 : (F.take (F.length - np)).take si = F.take si := by rw [List.take_take, Nat.min_eq_left hs]
    have l2 : (F.take si).length = si := List.length_take_of_le (Nat.le_trans hs (Nat.sub_le _ _))
    have l3 : (F.drop (F.length - np)).length = np := by
      rw [List.length_drop]; exact Nat.sub_sub_self (Nat.le_trans (Nat.le_add_left _ _) hle)
    have t2 : (F.take (F.length - np)).drop si = (F.drop si).take (F.length - si - np) := by
      rw [List.drop_take, Nat.sub_right_comm]
    rw [if_neg (fun h => h1 (Nat.lt_of_succ_lt_succ h)), drain_start _ _ _ hle, if_neg c, Int.toNat_natCast, l1,
      if_neg (Nat.not_lt.mpr hs), t1, l2, l3, t2, if_neg h1]
    simp only [bne_self_eq_false, Bool.false_eq_true, if_false, optToOut, List.append_assoc, List.singleton_append]

/-! ### `arrange` = `specArrange` -/

theorem arrange_eq_spec (ps : List Pat) (items : List Val) :
    arrange ps items.length items = optToOut (specArrange ps items) := by
  rcases first_splat ps with hns | ⟨pre, s, rest, rfl, hs, h1⟩
  · obtain ⟨f1, f2⟩ := prePass_fill items.length ps hns 0 none rfl
    rw [specArrange_flat ps items hns]
    cases hm : (ps.drop items.length).mapM defaultOf with
    | some ds => exact arrange_none ps items ds (f1 ds hm)
    | none =>
      rcases f2 hm with e | ⟨ds', e, hlt⟩
      · exact arrange_throw _ _ _ e
      · rw [arrange_none ps items ds' e, if_neg (by rw [List.length_append]; exact Nat.ne_of_lt hlt)]; rfl
  · rcases first_splat rest with h2 | ⟨mid, s', post, rfl, hs', h2⟩
    · obtain ⟨f1, f2⟩ := prePass_fill items.length (pre ++ rest) (List.forall_mem_append.mpr ⟨h1, h2⟩)
        (0 + 1) (some (0 + pre.length)) rfl
      rw [← prePass_skip _ pre rest s hs h1, Nat.zero_add] at f1 f2
      have hc := fun ds e => (arrange_splat (pre ++ s :: rest) items.length items ds pre.length e
        (by simp)).trans (by rw [length_after])
      rw [specArrange_one pre rest s items hs h1 h2]
      cases hm : ((pre ++ rest).drop items.length).mapM defaultOf with
      | some ds => exact hc ds (f1 ds hm)
      | none =>
        rcases f2 hm with e | ⟨ds', e, hlt⟩
        · exact arrange_throw _ _ _ e
        · rw [hc ds' e, cutAt, if_pos (by rw [List.length_append, ← List.length_append (as := pre)]; exact hlt)]; rfl
    · rw [specArrange_many pre mid post s s' items hs hs' h1 h2,
        arrange_throw _ _ _ (prePass_many _ pre mid post s s' hs hs' h1 h2)]
      rfl

theorem arrange_cases (ps : List Pat) (items : List Val) :
    (∃ arr, arrange ps items.length items = .ok arr ∧ specArrange ps items = some arr ∧ arr.length = ps.length)
    ∨ (arrange ps items.length items = .throw ∧ specArrange ps items = none) := by
  rw [arrange_eq_spec]
  cases hs : specArrange ps items with
  | none => right; simp [optToOut]
  | some a => left; exact ⟨a, by simp [optToOut], rfl, specArrange_length ps items a hs⟩

/-- the `panic` arms of `prePass` and `arrange` (the usize subtractions and drain bounds of
`assign_all`) are unreachable when the announced length is the number of items -/
theorem arrange_no_panic (ps : List Pat) (items : List Val) : arrange ps items.length items ≠ .panic := by
  rw [arrange_eq_spec]; exact optToOut_ne_panic _

end Noulith.C12
