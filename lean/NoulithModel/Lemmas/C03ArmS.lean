/-
C03: the `Expr::Chain` arm with an interpreter state (`chainArmS`): the
operator of every position is the value its expression has at that position of the left-to-right
evaluation order (`resolveOps`), the order of all `evaluate` calls is the source order, and the
stateless transcription (`chainArm`) is the special case of a state-independent `evaluate`.
-/
import NoulithModel.Lemmas.C03Arm
import NoulithModel.Spec.ChainTree

namespace Noulith.Chain

variable {σ E F V : Type}

theorem SM.bind_lift_lift {α β : Type} (o : Out α) (f : α → Out β) :
    SM.bind (SM.lift o : SM σ α) (fun a => SM.lift (f a)) = SM.lift (o.bind f) := by
  funext s; cases o <;> rfl

section armS
variable (J : LangS σ E F V)

/-- the general loop on a chain whose lookups and operands all evaluate: the evaluator is given,
position by position, exactly the triples `resolveOps` finds; and if it produces a value the state
is the one after the last operand -/
theorem generalLoopS_resolved (ops : List (E × E)) (s : σ) : ∀ (ev : CE F V)
    (ts : List (F × Precedence × V)) (s2 : σ), resolveOps J ops s = (some ts, s2) →
    (generalLoopS J ops ev s).1 = (giveAll J.run J.tryChain ts ev).bind (fun c => c.finish J.run) ∧
    (∀ r, (generalLoopS J ops ev s).1 = .ok r → (generalLoopS J ops ev s).2 = s2) := by
  fun_induction resolveOps J ops s with
  | case1 s => intro _ _ _ h; cases h; exact ⟨rfl, fun _ _ => rfl⟩
  | case2 oper opd rest s w s1 hw f p hf v s2 hv ts' s3 hr ih =>
    intro ev ts s4 h
    cases h
    simp only [generalLoopS, SM.bind, SM.lift, hw, hf, hv, giveAll]
    cases ev.give J.run J.tryChain f p v with
    | ok ev' => exact ih ev' ts' s3 hr
    | throw => exact ⟨rfl, nofun⟩
    | panic => exact ⟨rfl, nofun⟩
  | case3 | case4 | case5 | case6 => intro _ _ _ h; cases h

theorem traced_evaluate (e : E) (s : σ) (l : List E) :
    J.traced.evaluate e (s, l) = ((J.evaluate e s).1, (J.evaluate e s).2, l ++ [e]) := rfl

theorem resolve_traced (ops : List (E × E)) (s : σ) : ∀ (s2 : σ) (ts : List (F × Precedence × V))
    (l : List E), resolveOps J ops s = (some ts, s2) →
    resolveOps J.traced ops (s, l) =
      (some ts, (s2, l ++ ops.flatMap (fun p => [p.1, p.2]))) := by
  fun_induction resolveOps J ops s with
  | case1 s => intro _ _ l h; cases h; simp [resolveOps]
  | case2 oper opd rest s w s1 hw f p hf v s2 hv ts' s3 hr ih =>
    intro s4 ts l h
    cases h
    have hf' : J.traced.asFunc w = some (f, p) := hf
    simp only [resolveOps, traced_evaluate, hw, hf', hv, ih s3 ts' (l ++ [oper] ++ [opd]) hr]
    simp
  | case3 | case4 | case5 | case6 => intro _ _ _ h; cases h

end armS

/-! #### a state-independent `evaluate`: the stateless transcription -/

section pure
variable (I : Lang E F V)

@[simp] theorem toS_evaluate (e : E) (s : σ) : (I.toS (σ := σ)).evaluate e s = (I.evaluate e, s) := rfl
@[simp] theorem toS_isUnderscore : (I.toS (σ := σ)).isUnderscore = I.isUnderscore := rfl
@[simp] theorem toS_asFunc : (I.toS (σ := σ)).asFunc = I.asFunc := rfl
@[simp] theorem toS_mkSection : (I.toS (σ := σ)).mkSection = I.mkSection := rfl
@[simp] theorem toS_run : (I.toS (σ := σ)).run = I.run := rfl
@[simp] theorem toS_run2 : (I.toS (σ := σ)).run2 = I.run2 := rfl
@[simp] theorem toS_tryChain : (I.toS (σ := σ)).tryChain = I.tryChain := rfl

/-- the stateful computation `m` leaves the state alone and returns what the traced `x` returns -/
def Stateless {α : Type} (m : SM σ α) (x : Tr E α) : Prop := ∀ s, m s = (x.2, s)

theorem stateless_bind {α β : Type} {m : SM σ α} {x : Tr E α} {f : α → SM σ β} {g : α → Tr E β}
    (hm : Stateless m x) (hf : ∀ a, Stateless (f a) (g a)) :
    Stateless (SM.bind m f) (Tr.bind x g) := by
  intro s
  rw [Tr.bind_snd]
  unfold SM.bind
  rw [hm s]
  cases x.2 with
  | ok a => exact hf a s
  | throw => rfl
  | panic => rfl

theorem stateless_ite {α : Type} {c : Prop} [Decidable c] {m₁ m₂ : SM σ α} {x₁ x₂ : Tr E α}
    (h₁ : Stateless m₁ x₁) (h₂ : Stateless m₂ x₂) :
    Stateless (if c then m₁ else m₂) (if c then x₁ else x₂) := by
  split <;> assumption

theorem stateless_evalT (e : E) : Stateless ((I.toS (σ := σ)).evaluate e) (evalT I e) := fun _ => rfl

theorem sectionOpsS_of_pure (ops : List (E × E)) :
    Stateless (sectionOpsS (I.toS (σ := σ)) ops) (sectionOps I ops) := by
  induction ops with
  | nil => exact fun _ => rfl
  | cons o rest ih =>
    rw [sectionOpsS, sectionOps]
    refine stateless_bind (stateless_evalT I o.1) fun oprr => ?_
    simp only [toS_asFunc, toS_isUnderscore]
    cases I.asFunc oprr with
    | none => exact fun _ => rfl
    | some bp =>
      exact stateless_ite (stateless_bind ih fun _ _ => rfl)
        (stateless_bind (stateless_evalT I o.2) fun oprd => stateless_bind ih fun _ _ => rfl)

theorem generalLoopS_of_pure (ops : List (E × E)) : ∀ ev : CE F V,
    Stateless (generalLoopS (I.toS (σ := σ)) ops ev) (generalLoop I ops ev) := by
  induction ops with
  | nil => exact fun _ _ => rfl
  | cons o rest ih =>
    intro ev
    rw [generalLoopS, generalLoop]
    refine stateless_bind (stateless_evalT I o.1) fun oprr => ?_
    simp only [toS_asFunc]
    cases I.asFunc oprr with
    | none => exact fun _ => rfl
    | some bp =>
      exact stateless_bind (stateless_evalT I o.2) fun oprd => stateless_bind (fun _ => rfl) ih

end pure

end Noulith.Chain
