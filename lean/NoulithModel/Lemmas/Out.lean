/-
`Out.bind` on each outcome and its monad laws; what an `ok` or `panic` result of `bind` / `map`
says about the argument.
-/
import NoulithModel.Common

namespace Noulith.Out
variable {α β γ : Type}

@[simp] theorem bind_ok (a : α) (f : α → Out β) : (Out.ok a).bind f = f a := rfl
@[simp] theorem bind_throw (f : α → Out β) : (Out.throw : Out α).bind f = .throw := rfl
@[simp] theorem bind_panic (f : α → Out β) : (Out.panic : Out α).bind f = .panic := rfl
theorem bind_assoc (x : Out α) (f : α → Out β) (g : β → Out γ) :
    (x.bind f).bind g = x.bind (fun a => (f a).bind g) := by cases x <;> rfl
theorem bind_ok_right (x : Out α) : x.bind Out.ok = x := by cases x <;> rfl
theorem bind_eq_ok {x : Out α} {f : α → Out β} {b : β} :
    x.bind f = .ok b ↔ ∃ a, x = .ok a ∧ f a = .ok b := by
  cases x <;> simp [Out.bind]

theorem map_eq_ok {x : Out α} {f : α → β} {b : β} (h : x.map f = .ok b) : ∃ a, x = .ok a ∧ f a = b := by
  cases x with
  | ok a => exact ⟨a, rfl, Out.ok.inj h⟩
  | _ => cases h

theorem map_eq_panic {f : α → β} {x : Out α} : x.map f = .panic ↔ x = .panic := by
  cases x <;> simp [Out.map]

theorem map_ne_panic {f : α → β} {x : Out α} (h : x ≠ .panic) : x.map f ≠ .panic :=
  mt map_eq_panic.mp h

end Noulith.Out
