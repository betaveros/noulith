/-
C02: fully unshared NESTED values, and operator-assignment through an index path.
* `Uniq h v`: every allocation reachable from `v` has strong count 1.  It is preserved for owned values
  next to any drop, and by `walk` on the value itself: walking a fully unshared value is in place at
  every level and leaves it fully unshared.  (`UniqN`: the same by recursion on a depth index.)
* tree size ⇒ the value at the end of a non-empty path is never the container itself (acyclicity from
  the representation relation), so the clone that `eval_lvalue_as_obj` leaves (`readPath_dup`) does not
  disturb the count-1 levels above it (`dup_leaf`);
* what `set_index` does to the counts along / at the end of a count-1 path (`walk_set_inplace`).
-/
import NoulithModel.Lemmas.HeapCost

namespace Noulith.RcHeap
open Noulith.Store (Tree getPath)

def Uniq (h : Heap) (v : Val) : Prop := ∀ id, Reach h [v] (.ref id) → rcOf h id = 1

theorem Reach.cases_front {h : Heap} {v w : Val} (r : Reach h [v] w) :
    w = v ∨ ∃ id, v = .ref id ∧ ∃ c ∈ payloadOf h id, Reach h [c] w := by
  induction r with
  | root hm => exact .inl (List.mem_singleton.1 hm)
  | step _ hm ih =>
    rcases ih with rfl | ⟨id, e, c, hc, rc⟩
    · exact .inr ⟨_, rfl, _, hm, .self h _⟩
    · exact .inr ⟨id, e, c, hc, .step rc hm⟩

theorem Uniq_atom {h : Heap} {v : Val} (hv : ∀ j, v ≠ .ref j) : Uniq h v := by
  intro id r
  rcases r.cases_front with e | ⟨j, e, _⟩
  · exact absurd e.symm (hv id)
  · exact absurd e (hv j)

theorem Uniq_ref {h : Heap} {id : Nat} : Uniq h (.ref id) ↔ rcOf h id = 1 ∧ ∀ c ∈ payloadOf h id, Uniq h c := by
  constructor
  · exact fun u => ⟨u id (.self h _), fun c hc j r => u j (r.child hc)⟩
  · intro ⟨h1, hc⟩ j r
    rcases r.cases_front with e | ⟨i, e, c, hm, rc⟩
    · cases e; exact h1
    · cases e; exact hc c hm j rc

theorem Same.reach_rev {h h' : Heap} {v w : Val} (s : Same h h' v) (r : Reach h' [v] w) : Reach h [v] w := by
  induction r with
  | root hm => exact .root hm
  | step _ hm ih => exact .step ih (s.pay _ ih ▸ hm)

theorem Uniq.same {h h' : Heap} {v : Val} (s : Same h h' v) (u : Uniq h v) : Uniq h' v :=
  fun id r => (s.rc id (s.reach_rev r)).trans (u id (s.reach_rev r))

theorem Uniq_frame {h : Heap} {id : Nat} (a : Alloc) (hz : pocc id h = 0) {v : Val}
    (hne : v ≠ .ref id) (u : Uniq h v) : Uniq (setAlloc h id a) v :=
  u.same (.setAlloc a hz hne)

/-- changing the count of an allocation whose count is not 1 cannot be seen from a fully unshared value -/
theorem Uniq_setRc {h : Heap} {id n : Nat} (hr : rcOf h id ≠ 1) {v : Val} (u : Uniq h v) : Uniq (setRc h id n) v := by
  refine u.same ⟨fun i r => ?_, fun i _ => payloadOf_setRc h id i n, fun i _ => keysOf_setRc h id i n⟩
  rw [rcOf_setRc, if_neg (fun (c : i = id ∧ _) => hr (c.1 ▸ u i r))]

theorem Uniq_pathUniq : ∀ (path : List Int) {h : Heap} {v : Val}, Uniq h v → PathUniq h v path := by
  intro path
  induction path with
  | nil => intro h v _; cases v <;> trivial
  | cons i rest ih =>
    intro h v u
    cases v with
    | null => trivial
    | int n => trivial
    | ref id =>
      have u := Uniq_ref.1 u
      simp only [PathUniq]
      exact ⟨u.1, fun j hj => ih (u.2 _ (getD_mem _ (slotOf_lt hj)))⟩

theorem Uniq_endUniq : ∀ (path : List Int) {h : Heap} {v : Val}, Uniq h v → EndUniq h v path := by
  intro path
  induction path with
  | nil =>
    intro h v u
    cases v with
    | null => trivial
    | int n => trivial
    | ref id => exact (Uniq_ref.1 u).1
  | cons i rest ih =>
    intro h v u
    cases v with
    | null => trivial
    | int n => trivial
    | ref id =>
      simp only [EndUniq]
      exact fun j hj => ih ((Uniq_ref.1 u).2 _ (getD_mem _ (slotOf_lt hj)))

theorem dropList_uniq {f : Nat}
    (ih : ∀ (h : Heap) (v : Val) (F : List Val), Inv h (v :: F) →
      ∀ u ∈ F, Uniq h u → Uniq (dropVal f h v) u) :
    ∀ (p : List Val) (h : Heap) (F : List Val), Inv h (p ++ F) →
      ∀ u ∈ F, Uniq h u → Uniq (p.foldl (dropVal f) h) u := by
  intro p
  induction p with
  | nil => intro h F _ u _ uu; exact uu
  | cons v vs ihp =>
    intro h F i u hu uu
    have t1 := dropVal_tr f h v (vs ++ F) i
    simp only [List.foldl_cons]
    exact ihp (dropVal f h v) F t1.inv u hu
      (ih h v (vs ++ F) i u (by simp [hu]) uu)

theorem dropVal_uniq : ∀ (f : Nat) (h : Heap) (v : Val) (F : List Val), Inv h (v :: F) →
    ∀ u ∈ F, Uniq h u → Uniq (dropVal f h v) u := by
  intro f
  induction f with
  | zero => intro h v F _ u _ uu; exact uu
  | succ f ih =>
    intro h v F i u hu uu
    cases v with
    | null => exact uu
    | int n => exact uu
    | ref id =>
      simp only [dropVal]
      by_cases hrc : rcOf h id ≤ 1
      · simp only [hrc, if_true]
        obtain ⟨hpz, _, hfz, _⟩ := Inv.sole (o := []) i hrc
        have hne : u ≠ .ref id := ne_ref_of_occ_zero hfz hu
        exact dropList_uniq ih (payloadOf h id) _ F (free_inv i hrc) u hu (Uniq_frame _ hpz hne uu)
      · simp only [hrc, if_false]
        exact Uniq_setRc (by omega) uu

theorem drop_uniq {h : Heap} {v : Val} {F : List Val} (i : Inv h (v :: F)) {u : Val} (hu : u ∈ F)
    (uu : Uniq h u) : Uniq (drop h v) u :=
  dropVal_uniq _ h v F i u hu uu

def LeafU (leaf : Leaf) (cap : List Val) : Prop :=
  ∀ (h : Heap) (c : Val) (F : List Val), Inv h (c :: cap ++ F) → Uniq h c →
    Uniq (leaf.act h c).h (leaf.act h c).v ∧ Uniq (leaf.act h c).h (leaf.act h c).r ∧
    ∀ u ∈ F, Uniq h u → Uniq (leaf.act h c).h u

theorem popLeaf_leafU : LeafU popLeaf [] := by
  intro h c F i uc
  cases c with
  | null => exact ⟨uc, uc, fun u _ uu => uu⟩
  | int n => exact ⟨uc, Uniq_atom (v := .null) (by intro j; simp), fun u _ uu => uu⟩
  | ref id =>
    have uc' := Uniq_ref.1 uc
    obtain ⟨hz, _, hf, hl⟩ := Inv.sole (o := []) (T := F) i (Nat.le_of_eq uc'.1)
    simp only [popLeaf, popAct, makeMut_of_unique uc'.1]
    cases hkk : keysOf h id with
    | some ks => exact ⟨uc, Uniq_atom (by intro j; simp), fun u _ uu => uu⟩
    | none =>
    dsimp only
    cases hg : (payloadOf h id).getLast? with
    | none => exact ⟨uc, Uniq_atom (by intro j; simp), fun u _ uu => uu⟩
    | some xv =>
      dsimp only
      have hxm : xv ∈ payloadOf h id := List.mem_of_getLast? hg
      refine ⟨Uniq_ref.2 ?_, ?_, fun u hu uu => Uniq_frame _ hz (ne_ref_of_occ_zero hf hu) uu⟩
      · simp only [rcOf_setPayload, payloadOf_setPayload, hl, and_self, if_true]
        refine ⟨uc'.1, fun c hc => ?_⟩
        have hcm := List.dropLast_subset _ hc
        exact Uniq_frame _ hz (ne_ref_of_pocc_zero hz hcm) (uc'.2 c hcm)
      · exact Uniq_frame _ hz (ne_ref_of_pocc_zero hz hxm) (uc'.2 xv hxm)

theorem setLeaf_leafU (new : Val) (hn : ∀ j, new ≠ .ref j) : LeafU (setLeaf new) [new] := by
  intro h c F i _
  exact ⟨Uniq_atom hn, Uniq_atom (v := .null) (by intro j; simp), fun u hu uu => drop_uniq (F := [new] ++ F) i (by simp [hu]) uu⟩

/-- the value a leaf inserts under a new dict key is an atom -/
def InsAtom (leaf : Leaf) : Prop := ∀ new, leaf.ins = some new → ∀ j, new ≠ .ref j

theorem setLeaf_insAtom (new : Val) (hn : ∀ j, new ≠ .ref j) : InsAtom (setLeaf new) := by
  intro n e; simp [setLeaf] at e; subst e; exact hn
theorem popLeaf_insAtom : InsAtom popLeaf := by intro n e; simp [popLeaf] at e

theorem walk_uniq {leaf : Leaf} {cap : List Val} {capT : List Tree}
    {φ : Store.LeafT} (L : LeafSpec leaf.act cap capT φ.act) (LI : InsSpec leaf.ins φ.ins cap capT)
    (LU : LeafU leaf cap) (LA : InsAtom leaf) :
    ∀ (path : List Int) (h : Heap) (v : Val) (F : List Val) (t : Tree),
      Inv h (v :: cap ++ F) → Rep h v t → All2 (Rep h) cap capT → Uniq h v →
      Uniq (walk leaf h v path).h (walk leaf h v path).v ∧
      Uniq (walk leaf h v path).h (walk leaf h v path).r ∧
      ∀ u ∈ F, Uniq h u → Uniq (walk leaf h v path).h u := by
  intro path
  induction path with
  | nil => intro h v F t i _ _ uv; rw [walk_nil]; exact LU h v F i uv
  | cons ix rest ih =>
    intro h v F t i r rcap uv
    have unull : ∀ h, Uniq h .null := fun h => Uniq_atom (by intro j; simp)
    cases v with
    | null => exact ⟨uv, uv, fun u _ uu => uu⟩
    | int n => exact ⟨uv, unull _, fun u _ uu => uu⟩
    | ref id =>
      have uv' := Uniq_ref.1 uv
      obtain ⟨_, hl, _, _, a⟩ := Rep_ref_inv r
      have i0 : Inv h (.ref id :: (cap ++ F)) := i.congr (fun k => by simp [occ_cons, occ_append])
      obtain ⟨hz, _, hcf, _⟩ := Inv.sole (o := []) i0 (Nat.le_of_eq uv'.1)
      have hfz := (occ_append_eq_zero hcf).2
      rw [walk_ref_cons, makeMut_of_unique uv'.1]
      dsimp only
      cases hp : slotOf h id ix with
      | none =>
        dsimp only
        have fail : Uniq h (.ref id) ∧ Uniq h .null ∧ ∀ u ∈ F, Uniq h u → Uniq h u :=
          ⟨uv, unull _, fun u _ uu => uu⟩
        cases hk : keysOf h id with
        | none => simp only [walkMissing, hk]; exact fail
        | some ks =>
          cases rest with
          | cons i2 r2 => simp only [walkMissing, hk]; exact fail
          | nil =>
            cases hi : leaf.ins with
            | none => simp only [walkMissing, hk, hi]; exact fail
            | some new =>
              simp only [walkMissing, hk, hi]
              have hna := LA new hi
              refine ⟨Uniq_ref.2 ?_, unull _, fun u hu uu => ?_⟩
              · simp only [rcOf_setEntries, payloadOf_setEntries, hl, and_self, if_true]
                refine ⟨uv'.1, fun c hc => ?_⟩
                rcases List.mem_append.1 hc with hm | hm
                · exact Uniq_frame _ hz (ne_ref_of_pocc_zero hz hm) (uv'.2 c hm)
                · simp at hm; subst hm; exact Uniq_atom hna
              · exact Uniq_frame _ hz (ne_ref_of_occ_zero hfz hu) uu
      | some j =>
        dsimp only
        have hj := slotOf_lt hp
        obtain ⟨w, hw⟩ : ∃ w, walk leaf (setPayload h id ((payloadOf h id).set j .null))
            ((payloadOf h id).getD j .null) rest = w := ⟨_, rfl⟩
        obtain ⟨D, _⟩ := descent (walk_spec L LI rest) i0 uv'.1 hj a rcap hw
        -- the parent, with the slot nulled, is fully unshared in the intermediate heap
        have up1 : Uniq (setPayload h id ((payloadOf h id).set j .null)) (.ref id) := by
          rw [Uniq_ref, D.rc1, D.pay1]
          refine ⟨rfl, fun c hc => ?_⟩
          rcases List.mem_or_eq_of_mem_set hc with hm | rfl
          · exact (uv'.2 c hm).same (D.down (ne_ref_of_pocc_zero D.pz hm))
          · exact unull _
        have IH := ih _ _ (.ref id :: F) _ D.inv D.rep D.caps ((uv'.2 _ (getD_mem _ hj)).same (D.down D.ne))
        simp only [walkStep, hw] at IH ⊢
        obtain ⟨Uv, Ur, UF⟩ := IH
        have upw := UF (.ref id) (by simp) up1
        rw [Uniq_ref, D.payw] at upw
        refine ⟨?_, Ur.same (D.up D.rne), fun u hu uu => ?_⟩
        · rw [Uniq_ref, D.rc2, D.pay2, ← List.set_set (a := Val.null)]
          refine ⟨rfl, fun c hc => ?_⟩
          rcases List.mem_or_eq_of_mem_set hc with hm | rfl
          · exact (upw.2 c hm).same (D.up (ne_ref_of_pocc_zero D.pzw (by rw [D.payw]; exact hm)))
          · exact Uv.same (D.up D.vne)
        · have hune : u ≠ .ref id := ne_ref_of_occ_zero D.fz hu
          exact (UF u (by simp [hu]) (uu.same (D.down hune))).same (D.up hune)

/-! ### the same by structural recursion -/

/-- every allocation reachable from `v` has strong count 1 (derivation of depth ≤ k) -/
def UniqN : Nat → Heap → Val → Prop
  | _, _, .null => True
  | _, _, .int _ => True
  | 0, _, .ref _ => False
  | k + 1, h, .ref id => rcOf h id = 1 ∧ ∀ c ∈ payloadOf h id, UniqN k h c

@[simp] theorem UniqN_zero_ref (h : Heap) (id : Nat) : UniqN 0 h (.ref id) = False := rfl
@[simp] theorem UniqN_succ_ref (k : Nat) (h : Heap) (id : Nat) :
    UniqN (k + 1) h (.ref id) = (rcOf h id = 1 ∧ ∀ c ∈ payloadOf h id, UniqN k h c) := rfl

theorem UniqN_allocs_eq {h h' : Heap} (e : h'.allocs = h.allocs) : ∀ {k : Nat} {v : Val},
    UniqN k h v → UniqN k h' v := by
  intro k
  induction k with
  | zero => intro v u; cases v <;> first | trivial | exact u
  | succ k ih =>
    intro v u
    cases v with
    | null => trivial
    | int n => trivial
    | ref j => exact ⟨(rcOf_allocs_eq e j).trans u.1, fun c hc => ih (u.2 c (payloadOf_allocs_eq e j ▸ hc))⟩

/-! ### tree size -/

mutual
def treeSize : Tree → Nat
  | .null => 1
  | .int _ => 1
  | .list ts => 1 + treeSizeList ts
  | .dict _ vs => 1 + treeSizeList vs
def treeSizeList : List Tree → Nat
  | [] => 0
  | t :: ts => treeSize t + treeSizeList ts
end

theorem treeSize_list (ts : List Tree) : treeSize (.list ts) = 1 + treeSizeList ts := by
  rw [treeSize]
theorem treeSize_cont {t : Tree} (hc : t.isCont = true) : treeSize t = 1 + treeSizeList t.kids := by
  cases t with
  | null => simp at hc
  | int n => simp at hc
  | list ts => rw [treeSize]; rfl
  | dict ks vs => rw [treeSize]; rfl
theorem treeSizeList_cons (t : Tree) (ts : List Tree) : treeSizeList (t :: ts) = treeSize t + treeSizeList ts := by
  rw [treeSizeList]
theorem treeSize_pos (t : Tree) : 0 < treeSize t := by
  cases t <;> simp [treeSize] <;> omega

theorem getD_size_le : ∀ (ts : List Tree) (j : Nat), j < ts.length → treeSize (ts.getD j .null) ≤ treeSizeList ts
  | [], j, hj => by simp at hj
  | t :: ts, 0, _ => by simp [treeSizeList_cons]
  | t :: ts, j + 1, hj => by
    have := getD_size_le ts j (by simpa using hj)
    simp [treeSizeList_cons] at this ⊢; omega

theorem getPath_size : ∀ (path : List Int) (t t' : Tree), getPath t path = some t' →
    treeSize t' ≤ treeSize t ∧ (path ≠ [] → treeSize t' < treeSize t) := by
  intro path
  induction path with
  | nil => intro t t' h; rw [getPath_nil] at h; injection h with h; subst h; exact ⟨Nat.le_refl _, fun c => absurd rfl c⟩
  | cons i rest ih =>
    intro t t' h
    by_cases hc : t.isCont = true
    · rw [getPath_cont_cons hc] at h
      cases hp : treeSlot t i with
      | none => rw [hp] at h; simp at h
      | some j =>
        rw [hp] at h
        have hj := treeSlot_lt hp
        have := (ih _ _ h).1
        have := getD_size_le t.kids j hj
        rw [treeSize_cont hc]
        exact ⟨by omega, fun _ => by omega⟩
    · cases t with
      | null => simp [getPath] at h
      | int n => simp [getPath] at h
      | list ts => simp at hc
      | dict ks vs => simp at hc

/-! ### the value at the end of an index path -/

/-- acyclicity: the value at the end of a non-empty path below a represented list is not that list -/
theorem leaf_ne_self {h : Heap} {id : Nat} {t : Tree} {i : Int} {rest : List Int} {l : Val}
    (r : Rep h (.ref id) t) (hv : valAt h (.ref id) (i :: rest) = some l) : l ≠ .ref id := by
  intro e
  subst e
  obtain ⟨t', hg, r'⟩ := (valAt_getPath (i :: rest) r).1 _ hv
  have := rep_functional r r'
  subst this
  have := (getPath_size (i :: rest) _ _ hg).2 (by simp)
  omega

/-- `valAt` reads only payloads and keys, and only below `v` -/
theorem valAt_congr {h h' : Heap} : ∀ (path : List Int) {v : Val},
    (∀ id, Reach h [v] (.ref id) → payloadOf h' id = payloadOf h id) →
    (∀ id, Reach h [v] (.ref id) → keysOf h' id = keysOf h id) → valAt h' v path = valAt h v path := by
  intro path
  induction path with
  | nil => intro v _ _; rw [valAt_nil, valAt_nil]
  | cons i rest ih =>
    intro v e ek
    cases v with
    | null => rfl
    | int n => rfl
    | ref id =>
      rw [valAt_ref_cons, valAt_ref_cons, slotOf_congr (ek id (.self h _)) (by rw [e id (.self h _)]), e id (.self h _)]
      cases hp : slotOf h id i with
      | none => rfl
      | some j =>
        have hc := getD_mem Val.null (slotOf_lt hp)
        exact ih (fun m r => e m (r.child hc)) (fun m r => ek m (r.child hc))

/-! ### counts along the path after the read and after `drop_lhs` -/

/-- the heap after `eval_lvalue_as_obj` through count-1 levels, seen from the variable: the clone of the
value `l` at the end of the path does not disturb the levels above it (`l` is none of them: acyclicity),
the path still ends at `l`, and `l`'s allocation has count 2 -/
theorem dup_leaf : ∀ (path : List Int) {h : Heap} {v l : Val} {t : Tree}, Rep h v t → PathUniq h v path →
    EndUniq h v path → valAt h v path = some l →
    PathUniq (dup h l) v path ∧ valAt (dup h l) v path = some l ∧ ∀ m, l = .ref m → rcOf (dup h l) m = 2 := by
  intro path
  induction path with
  | nil =>
    intro h v l t r _ eu hv
    rw [valAt_nil] at hv ⊢; injection hv with hv; subst hv
    refine ⟨by cases v <;> trivial, rfl, fun m e => ?_⟩
    subst e
    rw [rcOf_dup _ _ _ r.live, show rcOf h m = 1 from eu]; simp [occ_cons_ref]
  | cons i rest ih =>
    intro h v l t r pu eu hv
    cases v with
    | null => simp [valAt] at hv
    | int n => simp [valAt] at hv
    | ref id =>
      obtain ⟨_, hl, _, _, a⟩ := Rep_ref_inv r
      have hne := leaf_ne_self r hv
      obtain ⟨t', _, rl⟩ := (valAt_getPath (i :: rest) r).1 _ hv
      simp only [PathUniq] at pu ⊢
      simp only [EndUniq] at eu
      rw [valAt_ref_cons] at hv ⊢
      have hocc : occ id [l] = 0 := by
        cases l with
        | null => simp
        | int n => simp
        | ref j => have : ¬ j = id := fun e => hne (by rw [e]); simp [occ_cons_ref, this]
      rw [rcOf_dup _ _ _ rl.live, payloadOf_dup, hocc]
      simp only [slotOf_dup]
      cases hp : slotOf h id i with
      | none => rw [hp] at hv; simp at hv
      | some j =>
        rw [hp] at hv
        obtain ⟨p1, p2, p3⟩ := ih (All2.getD j a Rep_null) (pu.2 j hp) (eu j hp) hv
        exact ⟨⟨by simpa using pu.1, fun j' hj' => by cases hj'; exact p1⟩, p2, p3⟩

/-- `set_index` through count-1 levels: the levels of the same path still have count 1 afterwards, and
the only count that changes is that of the old slot value, which loses the slot's handle -/
theorem walk_set_inplace {new : Val} {tn : Tree} : ∀ (path : List Int) (h : Heap) (v : Val) (F : List Val) (t : Tree),
    Inv h (v :: [new] ++ F) → Rep h v t → Rep h new tn → PathUniq h v path →
    PathUniq (walk (setLeaf new) h v path).h (walk (setLeaf new) h v path).v path ∧
    ∀ m, valAt h v path = some (.ref m) → rcOf h m = 2 → rcOf (walk (setLeaf new) h v path).h m = 1 := by
  intro path
  induction path with
  | nil =>
    intro h v F t _ _ _ _
    refine ⟨by cases (walk (setLeaf new) h v []).v <;> trivial, fun m hv h2 => ?_⟩
    rw [valAt_nil] at hv; injection hv with hv; subst hv
    have hl : m < h.allocs.length := lt_of_rcOf_pos (by omega)
    simp [walk_nil, setLeaf, drop, dropVal, h2, rcOf_setRc, hl]
  | cons ix rest ih =>
    intro h v F t i r rn pu
    cases v with
    | null => rw [walk_null_cons]; exact ⟨trivial, fun m hv => by simp [valAt] at hv⟩
    | int n => rw [walk_int_cons]; exact ⟨trivial, fun m hv => by simp [valAt] at hv⟩
    | ref id =>
      have pu0 := pu
      simp only [PathUniq] at pu
      obtain ⟨_, _, _, _, a⟩ := Rep_ref_inv r
      have i0 : Inv h (.ref id :: ([new] ++ F)) := i.congr (fun k => by simp [occ_cons])
      rw [walk_ref_cons, makeMut_of_unique pu.1, valAt_ref_cons]
      dsimp only
      cases hp : slotOf h id ix with
      | none =>
        dsimp only
        refine ⟨?_, fun m hv => by simp at hv⟩
        cases hk : keysOf h id with
        | none => simp only [walkMissing, hk]; exact pu0
        | some ks =>
          cases rest with
          | cons i2 r2 => simp only [walkMissing, hk]; exact pu0
          | nil =>
            simp only [walkMissing, hk, setLeaf]
            simp only [PathUniq, rcOf_setEntries]
            exact ⟨pu.1, fun _ _ => trivial⟩
      | some j =>
        dsimp only
        have hj := slotOf_lt hp
        obtain ⟨w, hw⟩ : ∃ w, walk (setLeaf new) (setPayload h id ((payloadOf h id).set j .null))
            ((payloadOf h id).getD j .null) rest = w := ⟨_, rfl⟩
        obtain ⟨D, _⟩ := descent (walk_spec (setLeaf_spec new tn) (setLeaf_ins new tn) rest) i0 pu.1 hj a
          (by simpa using rn) hw
        have IH := ih _ _ (.ref id :: F) _ D.inv D.rep D.caps.1 ((pu.2 j hp).same rest (D.down D.ne))
        simp only [walkStep, hw] at IH ⊢
        refine ⟨?_, fun m hv h2 => ?_⟩
        · simp only [PathUniq]
          rw [D.rc2, D.pay2, slotOf_congr D.keys2 (by rw [D.pay2]; simp), hp]
          refine ⟨rfl, fun j' hj' => ?_⟩
          cases hj'
          rw [getD_set_self _ _ _ _ hj]
          exact IH.1.same rest (D.up D.vne)
        · rw [rcOf_setPayload]
          have S := D.down D.ne
          exact IH.2 m ((valAt_congr rest S.pay S.keys).trans hv) (by rw [rcOf_setPayload]; exact h2)

theorem drop_atom (h : Heap) {v : Val} (hv : ∀ j, v ≠ .ref j) : drop h v = h := by
  cases v with
  | null => rfl
  | int n => rfl
  | ref j => exact absurd rfl (hv j)

theorem setIndex_atom (h : Heap) (v : Val) (path : List Int) (new : Val) (hn : ∀ j, new ≠ .ref j) :
    (setIndex h v path new).h = (walk (setLeaf new) h v path).h ∧
    (setIndex h v path new).v = (walk (setLeaf new) h v path).v := by
  unfold setIndex
  dsimp only
  split
  · exact ⟨rfl, rfl⟩
  · exact ⟨drop_atom _ hn, rfl⟩

end Noulith.RcHeap
