/-
C15: the two readings of an answer of the parser monad `P` of Impl/Parse.lean.  `SpecR r Q`: `r` is not
out of fuel, and `Q` holds of the answer if `r` is `ok` (termination: the judgement `Fits` of
Lemmas/C15ParseSpec.lean is stated with it).  `SpecP r Q`: `Q` holds of the answer if `r` is `ok`
(soundness, Lemmas/C15Grammar.lean), with its weakest-precondition rules in apply form, one per
primitive, so that a step through a `do` block reads `refine .bind (.peek ?_ ?_)`.
-/
import NoulithModel.Impl.Parse
namespace Noulith.C15
open Noulith Noulith.Lex Noulith.Parse

def SpecR {α} (r : Res α) (Q : α → List Token → Prop) : Prop :=
  match r with
  | .ok a rest => Q a rest
  | .err => True
  | .oof => False

def SpecP {α} (r : Res α) (Q : α → List Token → Prop) : Prop :=
  match r with
  | .ok a rest => Q a rest
  | .err => True
  | .oof => True

@[simp] theorem specR_ok {α} (a : α) (rest) (Q : α → List Token → Prop) : SpecR (.ok a rest) Q ↔ Q a rest := Iff.rfl
@[simp] theorem specR_err {α} (Q : α → List Token → Prop) : SpecR (.err : Res α) Q ↔ True := Iff.rfl
@[simp] theorem specR_oof {α} (Q : α → List Token → Prop) : SpecR (.oof : Res α) Q ↔ False := Iff.rfl

theorem specR_bind {α β} (m : P α) (f : α → P β) (ts : List Token) (Q : β → List Token → Prop) :
    SpecR ((m >>= f) ts) Q ↔ SpecR (m ts) (fun a r => SpecR (f a r) Q) := by
  show SpecR (match m ts with | .ok a rest => f a rest | .err => .err | .oof => .oof) Q ↔ _
  cases m ts <;> exact Iff.rfl

theorem specR_pure {α} (a : α) (ts : List Token) (Q : α → List Token → Prop) :
    SpecR ((pure a : P α) ts) Q ↔ Q a ts := Iff.rfl

theorem specR_fail {α} (ts : List Token) (Q : α → List Token → Prop) : SpecR ((P.fail : P α) ts) Q ↔ True := Iff.rfl
theorem specR_outOfFuel {α} (ts : List Token) (Q : α → List Token → Prop) :
    SpecR ((P.outOfFuel : P α) ts) Q ↔ False := Iff.rfl

@[simp] theorem specP_ok {α} (a : α) (rest) (Q : α → List Token → Prop) : SpecP (.ok a rest) Q ↔ Q a rest := Iff.rfl
@[simp] theorem specP_err {α} (Q : α → List Token → Prop) : SpecP (.err : Res α) Q ↔ True := Iff.rfl
@[simp] theorem specP_oof {α} (Q : α → List Token → Prop) : SpecP (.oof : Res α) Q ↔ True := Iff.rfl

theorem specP_bind {α β} (m : P α) (f : α → P β) (ts : List Token) (Q : β → List Token → Prop) :
    SpecP ((m >>= f) ts) Q ↔ SpecP (m ts) (fun a r => SpecP (f a r) Q) := by
  show SpecP (match m ts with | .ok a rest => f a rest | .err => .err | .oof => .oof) Q ↔ _
  cases m ts <;> exact Iff.rfl

theorem specP_pure {α} (a : α) (ts : List Token) (Q : α → List Token → Prop) :
    SpecP ((pure a : P α) ts) Q ↔ Q a ts := Iff.rfl

namespace SpecR
variable {α β : Type} {ts : List Token}

theorem mono {r : Res α} {Q Q' : α → List Token → Prop} (h : SpecR r Q)
    (hq : ∀ a rest, Q a rest → Q' a rest) : SpecR r Q' := by
  cases r with
  | ok a rest => exact hq a rest h
  | err => trivial
  | oof => exact h

theorem ne_oof {r : Res α} {Q : α → List Token → Prop} (h : SpecR r Q) : r ≠ .oof := by
  rintro rfl
  exact h

theorem ok {a : α} {r : List Token} {Q : α → List Token → Prop} (h : Q a r) : SpecR (.ok a r) Q := h
theorem err {Q : α → List Token → Prop} : SpecR (.err : Res α) Q := trivial
theorem bind {m : P α} {f : α → P β} {Q : β → List Token → Prop}
    (h : SpecR (m ts) (fun a r => SpecR (f a r) Q)) : SpecR ((m >>= f) ts) Q := (specR_bind _ _ _ _).2 h
theorem pure {a : α} {Q : α → List Token → Prop} (h : Q a ts) : SpecR ((Pure.pure a : P α) ts) Q := h
theorem fail {Q : α → List Token → Prop} : SpecR ((P.fail : P α) ts) Q := trivial

end SpecR

namespace SpecP
variable {α β : Type} {ts : List Token}

theorem mono {r : Res α} {Q Q' : α → List Token → Prop} (h : SpecP r Q)
    (hq : ∀ a rest, Q a rest → Q' a rest) : SpecP r Q' := by
  cases r with
  | ok a rest => exact hq a rest h
  | err => trivial
  | oof => trivial

theorem result {r : Res α} {Q : α → List Token → Prop} (h : SpecP r Q) {a : α} {rest : List Token}
    (hr : r = .ok a rest) : Q a rest := by
  subst hr; exact h

theorem ok {a : α} {r : List Token} {Q : α → List Token → Prop} (h : Q a r) : SpecP (.ok a r) Q := h
theorem err {Q : α → List Token → Prop} : SpecP (.err : Res α) Q := trivial
theorem oof {Q : α → List Token → Prop} : SpecP (.oof : Res α) Q := trivial
theorem bind {m : P α} {f : α → P β} {Q : β → List Token → Prop}
    (h : SpecP (m ts) (fun a r => SpecP (f a r) Q)) : SpecP ((m >>= f) ts) Q := (specP_bind _ _ _ _).2 h
theorem pure {a : α} {Q : α → List Token → Prop} (h : Q a ts) : SpecP ((Pure.pure a : P α) ts) Q := h
theorem fail {Q : α → List Token → Prop} : SpecP ((P.fail : P α) ts) Q := trivial

/-- The token seen is handed on as a variable `o`: `split` on a following `match` can abstract its
discriminant only if that is a variable. -/
theorem peek {Q : Option Token → List Token → Prop} (h0 : ts = [] → Q none [])
    (h1 : ∀ o t tl, ts = t :: tl → o = some t → Q o (t :: tl)) : SpecP (Parse.peek ts) Q := by
  cases ts with
  | nil => exact h0 rfl
  | cons t tl => exact h1 _ t tl rfl rfl

theorem peekIf {c : Option Token → Bool} {m m' : P α} {Q : α → List Token → Prop} (h : SpecP (m ts) Q)
    (h' : SpecP (m' ts) Q) : SpecP ((Parse.peek >>= fun t => if c t = true then m else m') ts) Q := by
  refine bind ?_
  show SpecP ((if c ts.head? = true then m else m') ts) Q
  cases c ts.head?
  · exact h'
  · exact h

theorem advance {t : Token} {tl : List Token} {Q : Unit → List Token → Prop} (h : Q () tl) :
    SpecP (Parse.advance (t :: tl)) Q := h

theorem tryConsume {x : Token} {Q : Bool → List Token → Prop} (h1 : ∀ tl, ts = x :: tl → Q true tl)
    (h0 : Q false ts) : SpecP (Parse.tryConsume x ts) Q := by
  unfold Parse.tryConsume
  split
  · split
    · rename_i h; subst h; exact h1 _ rfl
    · exact h0
  · exact h0

theorem require {x : Token} {Q : Unit → List Token → Prop} (h : ∀ tl, ts = x :: tl → Q () tl) :
    SpecP (Parse.require x ts) Q := by
  unfold Parse.require
  split
  · split
    · rename_i h'; subst h'; exact h _ rfl
    · trivial
  · trivial

theorem peekIs {x : Token} {Q : Bool → List Token → Prop} (h1 : ∀ tl, ts = x :: tl → Q true (x :: tl))
    (h0 : Q false ts) : SpecP (Parse.peekIs x ts) Q := by
  show Q (decide (ts.head? = some x)) ts
  by_cases h : ts.head? = some x
  · rw [decide_eq_true h]
    cases ts with
    | nil => cases h
    | cons t tl => cases h; exact h1 tl rfl
  · rw [decide_eq_false h]; exact h0

theorem guardP {b : Bool} {Q : Unit → List Token → Prop} (h : b = true → Q () ts) :
    SpecP (Parse.guardP b ts) Q := by
  cases b
  · trivial
  · exact h rfl

theorem skip {p : P α} {Q : Unit → List Token → Prop} (h : SpecP (p ts) (fun _ r => Q () r)) :
    SpecP (Parse.skip p ts) Q := bind h

end SpecP

/- from here on `SpecR` and `SpecP` are used through their rules only -/
attribute [irreducible] SpecR SpecP

end Noulith.C15
