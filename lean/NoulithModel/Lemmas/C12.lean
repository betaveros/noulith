/-
C12 helper lemmas.  No-panic facts about the primitives.  An item `p` of a `seq` / operator / struct
pattern is bound as the pattern `unsplat p` (`assignItems_cons` and its analogues), whence the
induction principle `Pat.induction_items`; `seq_items`, `destr_items`, `destrStruct_items` reduce
`assign`, `specAssign`, `specAssignNR` on such a pattern to their item functions on the same arranged
values (`ItemsOrRefuse`).  `noIdents`, `orClean`: the side conditions under which the no-rollback
behaviour is the transactional one.  `Runs` lists what a run of `assign` can do to the environment.
-/
import NoulithModel.Lemmas.C12Arrange
import NoulithModel.Spec.MatchNR
import NoulithModel.Lemmas.Out

namespace Noulith.C12

/-! ## no panic: the primitives -/

theorem predEval_no_panic (p : Nat) (v : Val) : predEval p v ≠ .panic := by
  fun_cases predEval p v
  -- predicate 1 looks at `v` and `seqLen v` together
  case case9 | case10 => split <;> exact nofun
  all_goals exact nofun

theorem isType_no_panic (T : Ty) (v : Val) : isType T v ≠ .panic := by
  fun_cases isType T v
  case case20 => exact predEval_no_panic _ _
  all_goals exact nofun

theorem mapRange_no_panic (f : Val → Out Val) (hf : ∀ x, f x ≠ .panic) :
    ∀ (xs : List Val) (i lo hi : Nat), mapRange f xs i lo hi ≠ .panic := by
  intro xs
  induction xs with
  | nil => intro i lo hi; simp [mapRange]
  | cons x xs ih =>
    intro i lo hi
    unfold mapRange
    split
    · cases hx : f x with
      | ok y => simp only []; exact Out.map_ne_panic (ih _ _ _)
      | throw => simp
      | panic => exact absurd hx (hf x)
    · exact Out.map_ne_panic (ih _ _ _)

theorem setIndex_no_panic (lhs : Val) (ixs : List Ix) (value : Option Val) (every : Bool) :
    setIndex lhs ixs value every ≠ .panic := by
  fun_induction setIndex lhs ixs value every
  -- the arms that go on into the elements: of a slice, of one index
  case case2 ih | case5 ih => exact Out.map_ne_panic (mapRange_no_panic _ ih _ _ _ _)
  case case12 ih | case15 ih | case21 ih => exact Out.map_ne_panic ih
  all_goals exact nofun

theorem insert_no_panic (e : Env) (x : Nat) (T : Ty) (v : Val) : (e.insert x T v).2 ≠ .panic := by
  unfold Env.insert
  split
  · simp
  · split <;> simp

theorem insertDeclare_no_panic (e : Env) (x : Nat) (T : Ty) (v : Val) :
    (insertDeclare e x T v).2 ≠ .panic := by
  unfold insertDeclare
  split
  · exact insert_no_panic _ _ _ _
  · simp
  · simp
  · next h => exact absurd h (isType_no_panic _ _)

theorem assignRespectingType_no_panic (e : Env) (x : Nat) (ixs : List Ix) (v : Val) (every : Bool := false) :
    (assignRespectingType e x ixs v every).2 ≠ .panic := by
  unfold assignRespectingType
  split
  · simp
  · split
    · split
      · simp
      · simp
      · simp
      · next h => exact absurd h (isType_no_panic _ _)
    · split
      · split
        · simp
        · simp
        · simp
        · next h => exact absurd h (isType_no_panic _ _)
      · simp
      · next h => exact absurd h (setIndex_no_panic _ _ _ _)

theorem arith_no_panic (op : Rat → Rat → Rat) (a b : Val) : arith op a b ≠ .panic := by
  unfold arith; split <;> simp

theorem negVal_no_panic (v : Val) : negVal v ≠ .panic := by
  cases v <;> simp [negVal]

theorem remNum_no_panic (r a : Val) (h : isNonzero a = true) : remNum r a ≠ .panic := by
  unfold remNum
  split
  · next x y hx hy =>
    simp [isNonzero, hy] at h
    simp [h]
  · simp

theorem divFloorNum_no_panic (r a : Val) (h : isNonzero a = true) : divFloorNum r a ≠ .panic := by
  unfold divFloorNum
  split
  · next x y hx hy =>
    simp [isNonzero, hy] at h
    simp [h]
  · simp

theorem uncons_no_panic (v : Val) : uncons v ≠ .panic := by
  unfold uncons; split <;> simp

theorem unsnoc_no_panic (v : Val) : unsnoc v ≠ .panic := by
  unfold unsnoc; split <;> (try split) <;> simp

theorem ncmp_no_panic (a b : Val) : ncmp a b ≠ .panic := by
  unfold ncmp
  split <;> (try split) <;> simp

theorem accept_no_panic (op : CmpOp) (a b : Val) : op.accept a b ≠ .panic := by
  cases op <;> simp [CmpOp.accept] <;> exact Out.map_ne_panic (ncmp_no_panic a b)

theorem cmpChain_no_panic (ops : List CmpOp) : ∀ vs : List Val, cmpChain ops vs ≠ .panic := by
  induction ops with
  | nil => intro vs; simp [cmpChain]
  | cons op ops ih =>
    intro vs
    match vs with
    | [] => simp [cmpChain]
    | [_] => simp [cmpChain]
    | a :: b :: rest =>
      simp only [cmpChain]
      split
      · exact ih _
      · exact accept_no_panic op a b

theorem destructure_no_panic (f : Bi) (v : Val) (known : List (Option Val)) :
    destructure f v known ≠ .panic := by
  have nz {a : Val} (h : ¬(!isNonzero a) = true) : isNonzero a = true := by simpa using h
  fun_cases destructure f v known
  -- the arms that hand on what a primitive returned; every other arm is `.ok _` or `.throw`
  case case4 | case9 => exact Out.map_ne_panic (arith_no_panic _ _ _)
  case case12 => exact Out.map_ne_panic (negVal_no_panic v)
  case case16 | case21 => exact Out.map_ne_panic (divFloorNum_no_panic _ _ (nz ‹_›))
  case case17 | case22 => exact Out.map_ne_panic (remNum_no_panic _ _ (nz ‹_›))
  case case31 => exact absurd ‹_› (unsnoc_no_panic v)
  case case35 => exact absurd ‹_› (uncons_no_panic v)
  case case43 => exact absurd ‹cmpChain _ _ = _› (cmpChain_no_panic _ _)
  all_goals exact nofun

theorem destructure_other (t : Nat) (v : Val) (known : List (Option Val)) :
    destructure (.other t) v known = .throw := by
  -- by the equations of `destructure` rather than `rfl`: this is where they are derived, once, for
  -- the modules that take `destructure` apart builtin by builtin
  simp only [destructure]

/-! ## item lists -/

/-- the pattern an item of a `seq` / operator / struct pattern is bound as: a splat item receives
the list arranged for it and binds it to its inner pattern; an annotated splat is the annotation of
the inner pattern -/
def unsplat : Pat → Pat
  | .splat q => q
  | .anno (.splat q) ann => .anno q ann
  | p => p

def stepItems (r : Env × Out Unit) (k : Env → Env × Out Unit) : Env × Out Unit :=
  match r with
  | (e', .ok ()) => k e'
  | r => r

def stepNR (r : Env × Bool) (k : Env → Env × Bool) : Env × Bool :=
  match r with
  | (e', true) => k e'
  | r => r

theorem assignItems_nil (e : Env) (rt : Option Ty) (vs : List Val) : assignItems e [] rt vs = (e, .ok ()) := by
  cases vs <;> rfl

theorem assignItems_cons_nil (e : Env) (p : Pat) (ps : List Pat) (rt : Option Ty) :
    assignItems e (p :: ps) rt [] = (e, .throw) := rfl

theorem assignItems_cons (e : Env) (p : Pat) (ps : List Pat) (rt : Option Ty) (v : Val) (vs : List Val) :
    assignItems e (p :: ps) rt (v :: vs) =
      stepItems (assign e (unsplat p) rt v) (fun e' => assignItems e' ps rt vs) := by
  cases p with
  | anno q ann => cases q <;> rfl
  | _ => rfl

theorem specAssignItems_nil (e : Env) (rt : Option Ty) : specAssignItems e [] rt [] = some e := rfl
theorem specAssignItems_nil_cons (e : Env) (rt : Option Ty) (v : Val) (vs : List Val) :
    specAssignItems e [] rt (v :: vs) = none := rfl
theorem specAssignItems_cons_nil (e : Env) (p : Pat) (ps : List Pat) (rt : Option Ty) :
    specAssignItems e (p :: ps) rt [] = none := rfl

theorem specAssignItems_cons (e : Env) (p : Pat) (ps : List Pat) (rt : Option Ty) (v : Val) (vs : List Val) :
    specAssignItems e (p :: ps) rt (v :: vs) =
      (specAssign e (unsplat p) rt v).bind (fun e' => specAssignItems e' ps rt vs) := by
  have key : ∀ o : Option Env, (match o with | some e' => specAssignItems e' ps rt vs | none => none)
      = o.bind (fun e' => specAssignItems e' ps rt vs) := fun o => by cases o <;> rfl
  cases p with
  | anno q ann =>
    cases q with
    | splat inner => cases ann <;> exact key _
    | _ => exact key _
  | _ => exact key _

theorem specAssignItemsNR_nil (e : Env) (rt : Option Ty) (vs : List Val) :
    specAssignItemsNR e [] rt vs = (e, true) := by cases vs <;> rfl
theorem specAssignItemsNR_cons_nil (e : Env) (p : Pat) (ps : List Pat) (rt : Option Ty) :
    specAssignItemsNR e (p :: ps) rt [] = (e, false) := rfl

theorem specAssignItemsNR_cons (e : Env) (p : Pat) (ps : List Pat) (rt : Option Ty) (v : Val) (vs : List Val) :
    specAssignItemsNR e (p :: ps) rt (v :: vs) =
      stepNR (specAssignNR e (unsplat p) rt v) (fun e' => specAssignItemsNR e' ps rt vs) := by
  cases p with
  | anno q ann =>
    cases q with
    | splat inner => cases ann <;> rfl
    | _ => rfl
  | _ => rfl

/-- How `assign`, the transactional reference and the no-rollback reference treat a pattern with
an item list (`seq`, operator, struct): all three refuse and leave `e` as it is, or all three hand
the same arranged values `arr`, under the same ambient type `rt'`, to their item functions. -/
def ItemsOrRefuse (e : Env) (r : Env × Out Unit) (s : Option Env) (n : Env × Bool)
    (ss : List Pat) (rt' : Option Ty) : Prop :=
  (r = (e, .throw) ∧ s = none ∧ n = (e, false)) ∨
  ∃ arr, arr.length = ss.length ∧ r = assignItems e ss rt' arr ∧
    s = specAssignItems e ss rt' arr ∧ n = specAssignItemsNR e ss rt' arr

theorem arranged_items (e : Env) (ss : List Pat) (rt' : Option Ty) (items : List Val) :
    ItemsOrRefuse e
      (match arrange ss items.length items with
        | .ok arranged => assignItems e ss rt' arranged
        | .throw => (e, .throw)
        | .panic => (e, .panic))
      (match specArrange ss items with
        | some arr => specAssignItems e ss rt' arr
        | none => none)
      (match specArrange ss items with
        | some arr => specAssignItemsNR e ss rt' arr
        | none => (e, false)) ss rt' := by
  rcases arrange_cases ss items with ⟨arr, h1, h2, h3⟩ | ⟨h1, h2⟩
  · rw [h1, h2]; exact Or.inr ⟨arr, h3, rfl, rfl, rfl⟩
  · rw [h1, h2]; exact Or.inl ⟨rfl, rfl, rfl⟩

/-- the announced length is the number of items the right-hand side yields -/
theorem seq_view_cases (v : Val) :
    (∃ items, patLen v = some items.length ∧ seqItems v = some items) ∨ (patLen v = none ∧ seqItems v = none) := by
  cases v with
  | list xs | dict ks vs | vector xs | stream xs => exact Or.inl ⟨_, rfl, rfl⟩
  | str cs | bytes bs => exact Or.inl ⟨_, congrArg some (List.length_map _).symm, rfl⟩
  | _ => exact Or.inr ⟨rfl, rfl⟩

theorem seq_items (e : Env) (ss : List Pat) (d : Bool) (rt : Option Ty) (v : Val) :
    ItemsOrRefuse e (assign e (.seq ss d) rt v) (specAssign e (.seq ss d) rt v)
      (specAssignNR e (.seq ss d) rt v) ss (if d then rt.map fun _ => Ty.any else rt) := by
  have tl : ∀ rt', ItemsOrRefuse e
      (match patLen v, seqItems v with
        | some len, some items =>
          (match arrange ss len items with
           | .ok arranged => assignItems e ss rt' arranged
           | .throw => (e, .throw)
           | .panic => (e, .panic))
        | _, _ => (e, .throw))
      (match seqView v with
        | some items =>
          (match specArrange ss items with
           | some arr => specAssignItems e ss rt' arr
           | none => none)
        | none => none)
      (match seqView v with
        | some items =>
          (match specArrange ss items with
           | some arr => specAssignItemsNR e ss rt' arr
           | none => (e, false))
        | none => (e, false)) ss rt' := by
    intro rt'
    unfold seqView
    rcases seq_view_cases v with ⟨items, h1, h2⟩ | ⟨h1, h2⟩
    · rw [h1, h2]; exact arranged_items e ss rt' items
    · rw [h1, h2]; exact Or.inl ⟨rfl, rfl, rfl⟩
  unfold assign specAssign specAssignNR
  cases d with
  | false => exact tl rt
  | true =>
    cases rt with
    | none => exact tl none
    | some T =>
      cases hty : isType T v with
      | ok b =>
        cases b with
        | true => simp only [hty, if_true, Option.map_some, decide_true]; exact tl (some Ty.any)
        | false => simp only [hty]; exact Or.inl ⟨rfl, rfl, rfl⟩
      | throw => simp only [hty]; exact Or.inl ⟨rfl, rfl, rfl⟩
      | panic => exact absurd hty (isType_no_panic _ _)

theorem destr_items (e : Env) (f : Bi) (args : List Pat) (rt : Option Ty) (v : Val) :
    ItemsOrRefuse e (assign e (.destr f args) rt v) (specAssign e (.destr f args) rt v)
      (specAssignNR e (.destr f args) rt v) args rt := by
  unfold assign specAssign specAssignNR
  cases hd : destructure f v (args.map knownOf) with
  | ok res =>
    simp only []
    by_cases hl : res.length = args.length
    · simp only [hl, beq_self_eq_true, if_true]
      rw [← hl]
      exact arranged_items e args rt res
    · simp only [beq_eq_false_iff_ne.mpr hl, if_neg hl, Bool.false_eq_true, if_false]
      exact Or.inl ⟨rfl, rfl, rfl⟩
  | throw => exact Or.inl ⟨rfl, rfl, rfl⟩
  | panic => exact absurd hd (destructure_no_panic _ _ _)

theorem destrStruct_items (e : Env) (sid : Nat) (args : List Pat) (rt : Option Ty) (v : Val) :
    ItemsOrRefuse e (assign e (.destrStruct sid args) rt v) (specAssign e (.destrStruct sid args) rt v)
      (specAssignNR e (.destrStruct sid args) rt v) args rt := by
  unfold assign specAssign specAssignNR
  cases v with
  | inst sid' fields =>
    simp only []
    by_cases hs : sid = sid'
    · simp only [hs, beq_self_eq_true, if_true]
      exact arranged_items e args rt fields
    · simp only [beq_eq_false_iff_ne.mpr hs, if_neg hs, Bool.false_eq_true, if_false]
      exact Or.inl ⟨rfl, rfl, rfl⟩
  | _ => exact Or.inl ⟨rfl, rfl, rfl⟩

/-- Induction over patterns as `assign` walks them: for an item list the induction hypothesis is
available for the items themselves and for what they are bound as, `unsplat p`. -/
theorem Pat.induction_items {P : Pat → Prop}
    (underscore : P .underscore) (ident : ∀ x ixs, P (.ident x ixs))
    (anno : ∀ p t, P p → P (.anno p t)) (withDefault : ∀ p d, P p → P (.withDefault p d))
    (seq : ∀ ps d, (∀ p ∈ ps, P p) → (∀ p ∈ ps, P (unsplat p)) → P (.seq ps d))
    (splat : ∀ p, P p → P (.splat p))
    (or : ∀ a b, P a → P b → P (.or a b)) (and : ∀ a b, P a → P b → P (.and a b))
    (lit : ∀ v, P (.lit v))
    (destr : ∀ f ps, (∀ p ∈ ps, P p) → (∀ p ∈ ps, P (unsplat p)) → P (.destr f ps))
    (destrStruct : ∀ s ps, (∀ p ∈ ps, P p) → (∀ p ∈ ps, P (unsplat p)) → P (.destrStruct s ps)) :
    ∀ p, P p := by
  intro p
  -- `unsplat p` is not a subterm of `p`, so the recursion carries `P (unsplat p)` along with `P p`
  have both {ps : List Pat} (ih : ∀ p ∈ ps, P p ∧ P (unsplat p)) :
      (∀ p ∈ ps, P p) ∧ (∀ p ∈ ps, P (unsplat p)) :=
    ⟨fun p hp => (ih p hp).1, fun p hp => (ih p hp).2⟩
  refine (Pat.rec (motive_1 := fun p => P p ∧ P (unsplat p))
    (motive_2 := fun ps => ∀ p ∈ ps, P p ∧ P (unsplat p))
    ⟨underscore, underscore⟩ (fun x ixs => ⟨ident x ixs, ident x ixs⟩)
    ?_ (fun p d ih => ⟨withDefault p d ih.1, withDefault p d ih.1⟩)
    (fun ps d ih => ⟨seq ps d (both ih).1 (both ih).2, seq ps d (both ih).1 (both ih).2⟩)
    (fun p ih => ⟨splat p ih.1, ih.1⟩)
    (fun a b iha ihb => ⟨or a b iha.1 ihb.1, or a b iha.1 ihb.1⟩)
    (fun a b iha ihb => ⟨and a b iha.1 ihb.1, and a b iha.1 ihb.1⟩)
    (fun v => ⟨lit v, lit v⟩)
    (fun f ps ih => ⟨destr f ps (both ih).1 (both ih).2, destr f ps (both ih).1 (both ih).2⟩)
    (fun s ps ih => ⟨destrStruct s ps (both ih).1 (both ih).2, destrStruct s ps (both ih).1 (both ih).2⟩)
    (fun _ h => nomatch h) ?_ p).1
  · intro p t ih
    refine ⟨anno p t ih.1, ?_⟩
    cases p with
    | splat q => exact anno q t ih.2
    | _ => exact anno _ t ih.1
  · intro p ps ihp ihps q hq
    rcases List.mem_cons.mp hq with rfl | hq
    · exact ihp
    · exact ihps q hq

/-! ### patterns that bind nothing, and patterns whose `or` nodes bind nothing first -/

mutual
def noIdents : Pat → Bool
  | .underscore => true
  | .ident _ _ => false
  | .anno p _ => noIdents p
  | .withDefault p _ => noIdents p
  | .seq ps _ => noIdentsL ps
  | .splat p => noIdents p
  | .or a b => noIdents a && noIdents b
  | .and a b => noIdents a && noIdents b
  | .lit _ => true
  | .destr _ ps => noIdentsL ps
  | .destrStruct _ ps => noIdentsL ps
def noIdentsL : List Pat → Bool
  | [] => true
  | p :: ps => noIdents p && noIdentsL ps
end

mutual
/-- the first alternative of every `or` binds nothing (so that a failing alternative cannot leave
anything behind) -/
def orClean : Pat → Bool
  | .underscore => true
  | .ident _ _ => true
  | .anno p _ => orClean p
  | .withDefault p _ => orClean p
  | .seq ps _ => orCleanL ps
  | .splat p => orClean p
  | .or a b => noIdents a && orClean a && orClean b
  | .and a b => orClean a && orClean b
  | .lit _ => true
  | .destr _ ps => orCleanL ps
  | .destrStruct _ ps => orCleanL ps
def orCleanL : List Pat → Bool
  | [] => true
  | p :: ps => orClean p && orCleanL ps
end

theorem noIdents_unsplat (p : Pat) : noIdents (unsplat p) = noIdents p := by
  cases p with
  | anno q t => cases q <;> rfl
  | _ => rfl

theorem orClean_unsplat (p : Pat) : orClean (unsplat p) = orClean p := by
  cases p with
  | anno q t => cases q <;> rfl
  | _ => rfl

theorem noIdentsL_cons (p : Pat) (ps : List Pat) :
    noIdentsL (p :: ps) = true ↔ noIdents (unsplat p) = true ∧ noIdentsL ps = true := by
  rw [noIdents_unsplat]; simp [noIdentsL]

theorem orCleanL_cons (p : Pat) (ps : List Pat) :
    orCleanL (p :: ps) = true ↔ orClean (unsplat p) = true ∧ orCleanL ps = true := by
  rw [orClean_unsplat]; simp [orCleanL]

/-! ## what a run of `assign` can do -/

/-- what `assign` / `assignItems` is asked to do -/
inductive Task where
  | one (p : Pat) (v : Val)
  | all (ps : List Pat) (vs : List Val)

def Task.noIdents : Task → Bool
  | .one p _ => C12.noIdents p
  | .all ps _ => noIdentsL ps

def Task.orClean : Task → Bool
  | .one p _ => C12.orClean p
  | .all ps _ => orCleanL ps

/-- `Runs e rt t r`: a way in which binding under `rt`, started in `e`, can end in `r`.  The rules are
the arms of `assign` and `assignItems` with the reasons for a refusal forgotten (`stop`); the
primitive writes are `declare` and `store`.  Every run of `assign` is one (`assign_runs`), so what
holds of all derivations (`Runs.tail`, `Runs.fixed`, and `Runs.okI`, `Runs.targets` of
`Theorems/C12Invariant.lean`) holds of `assign`. -/
inductive Runs : Env → Option Ty → Task → Env × Out Unit → Prop
  | stop {e rt t o} : o ≠ .ok () → Runs e rt t (e, o)
  | underscore {e rt v} : Runs e rt (.one .underscore v) (e, .ok ())
  | lit {e rt l v} : Runs e rt (.one (.lit l) v) (e, .ok ())
  | nil {e rt vs} : Runs e rt (.all [] vs) (e, .ok ())
  | declare {e x T v} : Runs e (some T) (.one (.ident x []) v) (insertDeclare e x T v)
  | store {e x ixs v} : Runs e none (.one (.ident x ixs) v) (assignRespectingType e x ixs v)
  | anno {e rt s t v T r} : Runs e (some T) (.one s v) r → Runs e rt (.one (.anno s t) v) r
  | withDefault {e rt s d v r} : Runs e rt (.one s v) r → Runs e rt (.one (.withDefault s d) v) r
  | orL {e rt a b v e' o} : o ≠ .throw → Runs e rt (.one a v) (e', o) → Runs e rt (.one (.or a b) v) (e', o)
  | orR {e rt a b v e' r} : Runs e rt (.one a v) (e', .throw) → Runs e' rt (.one b v) r →
      Runs e rt (.one (.or a b) v) r
  | andL {e rt a b v e' o} : o ≠ .ok () → Runs e rt (.one a v) (e', o) → Runs e rt (.one (.and a b) v) (e', o)
  | andR {e rt a b v e' r} : Runs e rt (.one a v) (e', .ok ()) → Runs e' rt (.one b v) r →
      Runs e rt (.one (.and a b) v) r
  | seq {e rt rt' ps d v arr r} : rt'.isSome = rt.isSome → Runs e rt' (.all ps arr) r →
      Runs e rt (.one (.seq ps d) v) r
  | destr {e rt f ps v arr r} : Runs e rt (.all ps arr) r → Runs e rt (.one (.destr f ps) v) r
  | destrStruct {e rt sid ps v arr r} : Runs e rt (.all ps arr) r → Runs e rt (.one (.destrStruct sid ps) v) r
  | consL {e rt p ps v vs e' o} : o ≠ .ok () → Runs e rt (.one (unsplat p) v) (e', o) →
      Runs e rt (.all (p :: ps) (v :: vs)) (e', o)
  | consR {e rt p ps v vs e' r} : Runs e rt (.one (unsplat p) v) (e', .ok ()) → Runs e' rt (.all ps vs) r →
      Runs e rt (.all (p :: ps) (v :: vs)) r

theorem assignItems_runs_of (ps : List Pat)
    (ih : ∀ p ∈ ps, ∀ e rt v, Runs e rt (.one (unsplat p) v) (assign e (unsplat p) rt v)) :
    ∀ (e : Env) (rt : Option Ty) (vs : List Val), Runs e rt (.all ps vs) (assignItems e ps rt vs) := by
  induction ps with
  | nil => intro e rt vs; rw [assignItems_nil]; exact .nil
  | cons p ps ihps =>
    intro e rt vs
    cases vs with
    | nil => exact .stop nofun
    | cons v vs =>
      rw [assignItems_cons]
      have h1 := ih p (List.mem_cons_self ..) e rt v
      generalize assign e (unsplat p) rt v = r at h1 ⊢
      obtain ⟨e', o⟩ := r
      cases o with
      | ok u => exact .consR h1 (ihps (fun q hq => ih q (List.mem_cons_of_mem _ hq)) e' rt vs)
      | throw => exact .consL nofun h1
      | panic => exact .consL nofun h1

theorem assign_runs : ∀ (p : Pat) (e : Env) (rt : Option Ty) (v : Val), Runs e rt (.one p v) (assign e p rt v) := by
  intro p e rt v
  induction p using Pat.induction_items generalizing e rt v with
  | underscore =>
    unfold assign
    cases rt with
    | none => exact .underscore
    | some T =>
      simp only []
      split
      · exact .underscore
      all_goals exact .stop nofun
  | ident x ixs =>
    unfold assign
    cases rt with
    | none => exact .store
    | some T =>
      cases ixs with
      | nil => exact .declare
      | cons i is => exact .stop nofun
  | anno s ann ih =>
    unfold assign
    cases ann with
    | none => exact .anno (ih e _ v)
    | some t =>
      simp only []
      split
      · exact .anno (ih e _ v)
      all_goals exact .stop nofun
  | withDefault s _ ih => unfold assign; exact .withDefault (ih e rt v)
  | splat _ _ => unfold assign; exact .stop nofun
  | or a b iha ihb =>
    have h1 := iha e rt v
    unfold assign
    generalize assign e a rt v = r at h1 ⊢
    obtain ⟨e', o⟩ := r
    cases o with
    | ok u => exact .orL nofun h1
    | throw => exact .orR h1 (ihb e' rt v)
    | panic => exact .orL nofun h1
  | and a b iha ihb =>
    have h1 := iha e rt v
    unfold assign
    generalize assign e a rt v = r at h1 ⊢
    obtain ⟨e', o⟩ := r
    cases o with
    | ok u => exact .andR h1 (ihb e' rt v)
    | throw => exact .andL nofun h1
    | panic => exact .andL nofun h1
  | lit l =>
    unfold assign
    split
    · exact .lit
    · exact .stop nofun
  | seq ss d _ ih =>
    rcases seq_items e ss d rt v with ⟨h1, _⟩ | ⟨arr, _, h1, _⟩
    · rw [h1]; exact .stop nofun
    · rw [h1]; exact .seq (by cases d <;> cases rt <;> rfl) (assignItems_runs_of ss ih e _ arr)
  | destr f args _ ih =>
    rcases destr_items e f args rt v with ⟨h1, _⟩ | ⟨arr, _, h1, _⟩
    · rw [h1]; exact .stop nofun
    · rw [h1]; exact .destr (assignItems_runs_of args ih e _ arr)
  | destrStruct sid args _ ih =>
    rcases destrStruct_items e sid args rt v with ⟨h1, _⟩ | ⟨arr, _, h1, _⟩
    · rw [h1]; exact .stop nofun
    · rw [h1]; exact .destrStruct (assignItems_runs_of args ih e _ arr)

theorem assignItems_runs (ps : List Pat) (e : Env) (rt : Option Ty) (vs : List Val) :
    Runs e rt (.all ps vs) (assignItems e ps rt vs) :=
  assignItems_runs_of ps (fun p _ => assign_runs (unsplat p)) e rt vs

theorem insertDeclare_tail (e : Env) (x : Nat) (T : Ty) (v : Val) :
    (insertDeclare e x T v).1.tail = e.tail := by
  unfold insertDeclare Env.insert
  repeat' split
  all_goals simp

/-- a declaring run never writes outside the innermost frame -/
theorem Runs.tail {e rt t r} (h : Runs e rt t r) (hrt : rt.isSome = true) : r.1.tail = e.tail := by
  induction h with
  | stop | underscore | lit | nil => rfl
  | declare => exact insertDeclare_tail ..
  | store => cases hrt
  | anno _ ih => exact ih rfl
  | withDefault _ ih | orL _ _ ih | andL _ _ ih | consL _ _ ih | destr _ ih | destrStruct _ ih => exact ih hrt
  | orR _ _ ih1 ih2 | andR _ _ ih1 ih2 | consR _ _ ih1 ih2 => exact (ih2 hrt).trans (ih1 hrt)
  | seq hs _ ih => exact ih (hs.trans hrt)

theorem Runs.fixed {e rt t r} (h : Runs e rt t r) (hn : t.noIdents = true) : r.1 = e := by
  induction h with
  | stop | underscore | lit | nil => rfl
  | declare | store => cases hn
  | anno _ ih | withDefault _ ih | seq _ _ ih | destr _ ih | destrStruct _ ih => exact ih hn
  | orL _ _ ih | andL _ _ ih => exact ih (Bool.and_eq_true_iff.mp hn).1
  | orR _ _ ih1 ih2 | andR _ _ ih1 ih2 =>
    obtain ⟨ha, hb⟩ := Bool.and_eq_true_iff.mp hn
    exact (ih2 hb).trans (ih1 ha)
  | consL _ _ ih => exact ih ((noIdentsL_cons _ _).mp hn).1
  | consR _ _ ih1 ih2 =>
    obtain ⟨ha, hb⟩ := (noIdentsL_cons _ _).mp hn
    exact (ih2 hb).trans (ih1 ha)

end Noulith.C12
