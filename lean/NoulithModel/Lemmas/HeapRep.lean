/-
C01: the relations of the refinement proof.  `All2` (pointwise relation of two lists), the count
invariant `Inv` (handles ≤ strong count), the representation relation `RepN` / `Rep` between heap values
and trees (indexed by the depth of the derivation, so that no induction over nested trees is needed;
`readback` computes the represented tree, so a value represents at most one), reachability from a frame
of roots, `Stable` (payloads reachable from the frame are untouched: every preservation lemma for `RepN`
is an instance of `Stable.repN`) and `Same` (the allocations reachable from one value are unchanged).
-/
import NoulithModel.Lemmas.HeapBasic

namespace Noulith.RcHeap
open Noulith.Store (Tree)

/-- pointwise relation between two lists of the same length -/
def All2 {α β : Type} (R : α → β → Prop) : List α → List β → Prop
  | [], [] => True
  | a :: as, b :: bs => R a b ∧ All2 R as bs
  | _, _ => False

namespace All2
variable {α β : Type} {R S : α → β → Prop}

@[simp] theorem nil_nil : All2 R [] [] = True := rfl
@[simp] theorem cons_cons (a : α) (as : List α) (b : β) (bs : List β) :
    All2 R (a :: as) (b :: bs) = (R a b ∧ All2 R as bs) := rfl
@[simp] theorem nil_cons (b : β) (bs : List β) : All2 R [] (b :: bs) = False := rfl
@[simp] theorem cons_nil (a : α) (as : List α) : All2 R (a :: as) [] = False := rfl

/-- induction over two related lists; the lemmas below never meet lists of different lengths -/
theorem induction {motive : List α → List β → Prop} (nil : motive [] [])
    (cons : ∀ a as b bs, R a b → All2 R as bs → motive as bs → motive (a :: as) (b :: bs)) :
    ∀ {as : List α} {bs : List β}, All2 R as bs → motive as bs
  | [], [], _ => nil
  | a :: as, b :: bs, h => cons a as b bs h.1 h.2 (induction nil cons h.2)
  | [], _ :: _, h => h.elim
  | _ :: _, [], h => h.elim

theorem length_eq {as : List α} {bs : List β} (h : All2 R as bs) : as.length = bs.length :=
  induction (R := R) (motive := fun as bs => as.length = bs.length) rfl (fun _ _ _ _ _ _ ih => by simp [ih]) h

theorem mono {as : List α} {bs : List β} (f : ∀ a b, a ∈ as → R a b → S a b) (h : All2 R as bs) :
    All2 S as bs :=
  induction (motive := fun as bs => (∀ a b, a ∈ as → R a b → S a b) → All2 S as bs) (fun _ => trivial)
    (fun a _ b _ r _ ih f => ⟨f a b (by simp) r, ih (fun a b ha => f a b (by simp [ha]))⟩) h f

theorem set {as : List α} {bs : List β} (j : Nat) {a : α} {b : β} (h : All2 R as bs) (r : R a b) :
    All2 R (as.set j a) (bs.set j b) :=
  induction (motive := fun as bs => ∀ j, All2 R (as.set j a) (bs.set j b)) (fun _ => trivial)
    (fun _ _ _ _ r' h' ih j => by cases j; exact ⟨r, h'⟩; exact ⟨r', ih _⟩) h j

/-- related defaults make the statement total: no bound on the index -/
theorem getD {as : List α} {bs : List β} (j : Nat) {da : α} {db : β} (h : All2 R as bs) (hd : R da db) :
    R (as.getD j da) (bs.getD j db) :=
  induction (motive := fun as bs => ∀ j, R (as.getD j da) (bs.getD j db))
    (fun _ => hd)
    (fun _ _ _ _ r _ ih j => by
      cases j
      · simpa using r
      · simpa using ih _) h j

theorem append : ∀ {as : List α} {bs : List β} {as' : List α} {bs' : List β},
    All2 R as bs → All2 R as' bs' → All2 R (as ++ as') (bs ++ bs') := by
  intro as bs as' bs' h h'
  exact induction (motive := fun as bs => All2 R (as ++ as') (bs ++ bs')) h'
    (fun _ _ _ _ r _ ih => by simp only [List.cons_append, cons_cons]; exact ⟨r, ih⟩) h

theorem eraseIdx {as : List α} {bs : List β} (j : Nat) (h : All2 R as bs) :
    All2 R (as.eraseIdx j) (bs.eraseIdx j) :=
  induction (motive := fun as bs => ∀ j, All2 R (as.eraseIdx j) (bs.eraseIdx j)) (fun _ => trivial)
    (fun _ _ _ _ r h' ih j => by cases j; exact h'; exact ⟨r, ih _⟩) h j

theorem dropLast {as : List α} {bs : List β} (h : All2 R as bs) : All2 R as.dropLast bs.dropLast :=
  induction (motive := fun as bs => All2 R as.dropLast bs.dropLast) trivial
    (fun _ as _ bs r h' ih => by
      cases as <;> cases bs
      · trivial
      · exact h'.elim
      · exact h'.elim
      · exact ⟨r, ih⟩) h

theorem getLast? {as : List α} {bs : List β} {x : α} (h : All2 R as bs) (hx : as.getLast? = some x) :
    ∃ y, bs.getLast? = some y ∧ R x y :=
  induction (motive := fun as bs => as.getLast? = some x → ∃ y, bs.getLast? = some y ∧ R x y)
    (fun hx => by simp at hx)
    (fun a as b bs r h' ih hx => by
      cases as <;> cases bs
      · simp at hx; subst hx; exact ⟨b, by simp, r⟩
      · exact h'.elim
      · exact h'.elim
      · simpa [List.getLast?_cons_cons] using ih (by simpa [List.getLast?_cons_cons] using hx)) h hx

theorem getLast?_none {as : List α} {bs : List β} (h : All2 R as bs) (hx : as.getLast? = none) :
    bs.getLast? = none := by
  cases as with
  | nil => cases bs with
    | nil => rfl
    | cons _ _ => exact h.elim
  | cons _ _ => simp at hx

theorem replicate (n : Nat) {a : α} {b : β} (r : R a b) : All2 R (List.replicate n a) (List.replicate n b) := by
  induction n with
  | zero => simp
  | succ n ih => simp [List.replicate_succ, r, ih]

theorem map_eq {f : α → β} {as : List α} {bs : List β} (g : ∀ a b, a ∈ as → R a b → f a = b)
    (h : All2 R as bs) : as.map f = bs :=
  induction (motive := fun as bs => (∀ a b, a ∈ as → R a b → f a = b) → as.map f = bs) (fun _ => rfl)
    (fun a _ b _ r _ ih g => by
      rw [List.map_cons, g a b (by simp) r, ih (fun a b ha => g a b (by simp [ha]))]) h g

end All2

/-- the reference-count invariant: for every allocation, the handles held in payloads plus the handles
in the list `T` (variable cells, temporaries, the caller's frame) do not exceed its strong count -/
def Inv (h : Heap) (T : List Val) : Prop := ∀ id, pocc id h + occ id T ≤ rcOf h id

/-- `RepN k h v t`: value `v` in heap `h` represents the tree `t`, by a derivation of depth ≤ k.
A handle represents a container (list or dict): same kind and keys, element-wise represented values. -/
def RepN : Nat → Heap → Val → Tree → Prop
  | _, _, .null, t => t = .null
  | _, _, .int n, t => t = .int n
  | 0, _, .ref _, _ => False
  | k + 1, h, .ref id, t =>
    t.isCont = true ∧ id < h.allocs.length ∧ keysOf h id = t.keysT ∧ t.dictWF ∧
      All2 (RepN k h) (payloadOf h id) t.kids

def Rep (h : Heap) (v : Val) (t : Tree) : Prop := ∃ k, RepN k h v t

@[simp] theorem RepN_null (k : Nat) (h : Heap) (t : Tree) : RepN k h .null t = (t = .null) := by
  cases k <;> rfl
@[simp] theorem RepN_int (k : Nat) (h : Heap) (n : Int) (t : Tree) : RepN k h (.int n) t = (t = .int n) := by
  cases k <;> rfl
@[simp] theorem RepN_ref_succ (k : Nat) (h : Heap) (id : Nat) (t : Tree) :
    RepN (k + 1) h (.ref id) t =
      (t.isCont = true ∧ id < h.allocs.length ∧ keysOf h id = t.keysT ∧ t.dictWF ∧
        All2 (RepN k h) (payloadOf h id) t.kids) := rfl
@[simp] theorem RepN_zero_ref (h : Heap) (id : Nat) (t : Tree) : RepN 0 h (.ref id) t = False := rfl
theorem RepN_null_null (k : Nat) (h : Heap) : RepN k h .null .null = True := by simp
theorem RepN_int_int (k : Nat) (h : Heap) (n m : Int) : RepN k h (.int n) (.int m) = (n = m) := by
  simp; exact ⟨fun e => e.symm, fun e => e.symm⟩
theorem RepN_ref_list (k : Nat) (h : Heap) (id : Nat) (ts : List Tree) :
    RepN (k + 1) h (.ref id) (.list ts) =
      (id < h.allocs.length ∧ keysOf h id = none ∧ All2 (RepN k h) (payloadOf h id) ts) := by
  simp [Tree.dictWF_list]
theorem RepN_ref_dict (k : Nat) (h : Heap) (id : Nat) (ks : List Int) (vs : List Tree) :
    RepN (k + 1) h (.ref id) (.dict ks vs) =
      (id < h.allocs.length ∧ keysOf h id = some ks ∧ ks.length = vs.length ∧
        All2 (RepN k h) (payloadOf h id) vs) := by
  simp only [RepN_ref_succ, Tree.isCont_dict, Tree.keysT_dict, Tree.kids_dict, true_and]
  apply propext
  constructor
  · intro ⟨a, b, c, d⟩; exact ⟨a, b, by simpa [Tree.kids] using c ks rfl, d⟩
  · intro ⟨a, b, c, d⟩; exact ⟨a, b, Tree.dictWF_dict c, d⟩

theorem RepN_ref_inv {k : Nat} {h : Heap} {id : Nat} {t : Tree} (r : RepN k h (.ref id) t) :
    ∃ k', k = k' + 1 ∧ t.isCont = true ∧ id < h.allocs.length ∧ keysOf h id = t.keysT ∧ t.dictWF ∧
      All2 (RepN k' h) (payloadOf h id) t.kids := by
  cases k with
  | zero => simp at r
  | succ k => exact ⟨k, rfl, r⟩

theorem RepN_succ : ∀ {k : Nat} {h : Heap} {v : Val} {t : Tree}, RepN k h v t → RepN (k + 1) h v t := by
  intro k
  induction k with
  | zero =>
    intro h v t r
    cases v <;> simp at r ⊢ <;> exact r
  | succ k ih =>
    intro h v t r
    cases v with
    | null => simpa using r
    | int n => simpa using r
    | ref id =>
      simp only [RepN_ref_succ] at r ⊢
      exact ⟨r.1, r.2.1, r.2.2.1, r.2.2.2.1, All2.mono (fun a b _ hab => ih hab) r.2.2.2.2⟩

theorem RepN_le {k k' : Nat} {h : Heap} {v : Val} {t : Tree} (hk : k ≤ k') (r : RepN k h v t) : RepN k' h v t := by
  induction hk with
  | refl => exact r
  | step _ ih => exact RepN_succ ih

theorem All2_Rep_common {h : Heap} : ∀ {vs : List Val} {ts : List Tree}, All2 (Rep h) vs ts →
    ∃ k, All2 (RepN k h) vs ts
  | [], [], _ => ⟨0, trivial⟩
  | v :: vs, t :: ts, hh => by
    obtain ⟨k1, r1⟩ := hh.1
    obtain ⟨k2, r2⟩ := All2_Rep_common hh.2
    exact ⟨max k1 k2, RepN_le (Nat.le_max_left _ _) r1,
      All2.mono (fun a b _ r => RepN_le (Nat.le_max_right _ _) r) r2⟩
  | [], _ :: _, hh => by simp at hh
  | _ :: _, [], hh => by simp at hh

theorem Rep_ref_cont {h : Heap} {id : Nat} {t : Tree} (hc : t.isCont = true) (hl : id < h.allocs.length)
    (hk : keysOf h id = t.keysT) (hw : t.dictWF) (hh : All2 (Rep h) (payloadOf h id) t.kids) :
    Rep h (.ref id) t := by
  obtain ⟨k, r⟩ := All2_Rep_common hh
  exact ⟨k + 1, ⟨hc, hl, hk, hw, r⟩⟩

theorem Rep_ref_list {h : Heap} {id : Nat} {ts : List Tree} (hl : id < h.allocs.length)
    (hk : keysOf h id = none) (hh : All2 (Rep h) (payloadOf h id) ts) : Rep h (.ref id) (.list ts) :=
  Rep_ref_cont (t := .list ts) rfl hl hk (Tree.dictWF_list ts) hh

theorem Rep_ref_dict {h : Heap} {id : Nat} {ks : List Int} {vs : List Tree} (hl : id < h.allocs.length)
    (hk : keysOf h id = some ks) (hlen : ks.length = vs.length) (hh : All2 (Rep h) (payloadOf h id) vs) :
    Rep h (.ref id) (.dict ks vs) :=
  Rep_ref_cont (t := .dict ks vs) rfl hl hk (Tree.dictWF_dict hlen) hh

theorem All2.rep_of_RepN {h : Heap} {k : Nat} {vs : List Val} {ts : List Tree} (a : All2 (RepN k h) vs ts) :
    All2 (Rep h) vs ts := All2.mono (fun _ _ _ r => ⟨k, r⟩) a

theorem Rep_ref_inv {h : Heap} {id : Nat} {t : Tree} (r : Rep h (.ref id) t) :
    t.isCont = true ∧ id < h.allocs.length ∧ keysOf h id = t.keysT ∧ t.dictWF ∧
      All2 (Rep h) (payloadOf h id) t.kids := by
  obtain ⟨k, r⟩ := r
  obtain ⟨k', _, hc, hl, hk, hw, a⟩ := RepN_ref_inv r
  exact ⟨hc, hl, hk, hw, All2.rep_of_RepN a⟩

theorem Rep_null {h : Heap} : Rep h .null .null := ⟨0, by simp⟩
theorem Rep_int {h : Heap} (n : Int) : Rep h (.int n) (.int n) := ⟨0, by simp⟩

theorem Rep_null_inv {h : Heap} {t : Tree} (r : Rep h .null t) : t = .null := by
  obtain ⟨k, r⟩ := r; simpa using r
theorem Rep_int_inv {h : Heap} {n : Int} {t : Tree} (r : Rep h (.int n) t) : t = .int n := by
  obtain ⟨k, r⟩ := r; simpa using r

theorem Rep.live {h : Heap} {v : Val} {t : Tree} (r : Rep h v t) : Live h v := by
  intro j e; subst e
  obtain ⟨_, hl, _⟩ := Rep_ref_inv r
  exact hl

/-! ### heaps that extend a heap -/

/-- `h'` extends `h`: every old allocation keeps its payload (counts may differ, new allocations may exist) -/
structure PayloadExt (h h' : Heap) : Prop where
  len : h.allocs.length ≤ h'.allocs.length
  pay : ∀ id, id < h.allocs.length → payloadOf h' id = payloadOf h id
  keys : ∀ id, id < h.allocs.length → keysOf h' id = keysOf h id

theorem PayloadExt.refl (h : Heap) : PayloadExt h h := ⟨Nat.le_refl _, fun _ _ => rfl, fun _ _ => rfl⟩
theorem PayloadExt.trans {h1 h2 h3 : Heap} (a : PayloadExt h1 h2) (b : PayloadExt h2 h3) : PayloadExt h1 h3 :=
  ⟨Nat.le_trans a.len b.len, fun id hl => by rw [b.pay id (Nat.lt_of_lt_of_le hl a.len), a.pay id hl],
   fun id hl => by rw [b.keys id (Nat.lt_of_lt_of_le hl a.len), a.keys id hl]⟩

/-! ### reachability from a frame and stability -/

inductive Reach (h : Heap) (F : List Val) : Val → Prop
  | root {v : Val} : v ∈ F → Reach h F v
  | step {id : Nat} {v : Val} : Reach h F (.ref id) → v ∈ payloadOf h id → Reach h F v

theorem not_reach_of_zero {h : Heap} {F : List Val} {id : Nat} (hz : pocc id h = 0) (hf : occ id F = 0) :
    ¬ Reach h F (.ref id) := by
  intro r
  cases r with
  | root hm => have := occ_pos_of_mem hm; omega
  | step _ hm => exact ne_ref_of_pocc_zero hz hm rfl

theorem Reach.self (h : Heap) (v : Val) : Reach h [v] v := .root (List.mem_singleton.2 rfl)

theorem Reach.mono {h : Heap} {F F' : List Val} (hsub : ∀ v, v ∈ F → v ∈ F') {v : Val} (r : Reach h F v) :
    Reach h F' v := by
  induction r with
  | root hm => exact .root (hsub _ hm)
  | step _ hm ih => exact .step ih hm

/-- everything reachable from the frame `F` keeps its payload -/
structure Stable (h h' : Heap) (F : List Val) : Prop where
  len : h.allocs.length ≤ h'.allocs.length
  pay : ∀ id, id < h.allocs.length → Reach h F (.ref id) → payloadOf h' id = payloadOf h id
  keys : ∀ id, id < h.allocs.length → Reach h F (.ref id) → keysOf h' id = keysOf h id

theorem Stable.refl (h : Heap) (F : List Val) : Stable h h F := ⟨Nat.le_refl _, fun _ _ _ => rfl, fun _ _ _ => rfl⟩

theorem lt_of_mem_payloadOf {h : Heap} {id : Nat} {v : Val} (hm : v ∈ payloadOf h id) : id < h.allocs.length := by
  rcases Nat.lt_or_ge id h.allocs.length with hl | hl
  · exact hl
  · rw [payloadOf_eq_nil_of_ge hl] at hm; simp at hm

theorem Stable.reach {h h' : Heap} {F : List Val} (s : Stable h h' F) {v : Val} (r : Reach h F v) :
    Reach h' F v := by
  induction r with
  | root hm => exact .root hm
  | step r0 hm ih => exact .step ih (by rw [s.pay _ (lt_of_mem_payloadOf hm) r0]; exact hm)

theorem Stable.trans {h1 h2 h3 : Heap} {F : List Val} (a : Stable h1 h2 F) (b : Stable h2 h3 F) :
    Stable h1 h3 F :=
  ⟨Nat.le_trans a.len b.len, fun id hl r => by
    rw [b.pay id (Nat.lt_of_lt_of_le hl a.len) (a.reach r), a.pay id hl r],
   fun id hl r => by
    rw [b.keys id (Nat.lt_of_lt_of_le hl a.len) (a.reach r), a.keys id hl r]⟩

theorem Stable.mono {h h' : Heap} {F F' : List Val} (s : Stable h h' F') (hsub : ∀ v, v ∈ F → v ∈ F') :
    Stable h h' F :=
  ⟨s.len, fun id hl r => s.pay id hl (r.mono hsub), fun id hl r => s.keys id hl (r.mono hsub)⟩

theorem PayloadExt.stable {h h' : Heap} (e : PayloadExt h h') (F : List Val) : Stable h h' F :=
  ⟨e.len, fun id hl _ => e.pay id hl, fun id hl _ => e.keys id hl⟩

theorem Stable.setAlloc {h : Heap} {F : List Val} {id : Nat} (a : Alloc) (hn : ¬ Reach h F (.ref id)) :
    Stable h (setAlloc h id a) F := by
  refine ⟨by simp, fun i _ r => ?_, fun i _ r => ?_⟩
  · rw [payloadOf_setAlloc]
    have : ¬ (i = id) := fun e => hn (e ▸ r)
    simp [this]
  · rw [keysOf_setAlloc]
    have : ¬ (i = id) := fun e => hn (e ▸ r)
    simp [this]

theorem Stable.repN {h h' : Heap} {F : List Val} (s : Stable h h' F) : ∀ {k : Nat} {v : Val} {t : Tree},
    Reach h F v → RepN k h v t → RepN k h' v t := by
  intro k
  induction k with
  | zero => intro v t _ r; cases v <;> simp at r ⊢ <;> exact r
  | succ k ih =>
    intro v t hr r
    cases v with
    | null => simpa using r
    | int n => simpa using r
    | ref id =>
      simp only [RepN_ref_succ] at r ⊢
      refine ⟨r.1, Nat.lt_of_lt_of_le r.2.1 s.len, by rw [s.keys id r.2.1 hr]; exact r.2.2.1, r.2.2.2.1, ?_⟩
      rw [s.pay id r.2.1 hr]
      exact All2.mono (fun c b hc hab => ih (.step hr hc) hab) r.2.2.2.2

/-! ### locality -/

theorem Reach.child {h : Heap} {id : Nat} {c w : Val} (hc : c ∈ payloadOf h id) (r : Reach h [c] w) :
    Reach h [.ref id] w := by
  induction r with
  | root hm =>
    cases List.mem_singleton.1 hm
    exact .step (.self h _) hc
  | step _ hm ih => exact .step ih hm

/-- every allocation reachable from `v` has the same count, payload and keys in `h'` as in `h`.  A
predicate that only follows handles down from `v` (`Uniq`, `PathUniq`, `EndUniq`, `valAt`) cannot tell
the two heaps apart. -/
structure Same (h h' : Heap) (v : Val) : Prop where
  rc : ∀ id, Reach h [v] (.ref id) → rcOf h' id = rcOf h id
  pay : ∀ id, Reach h [v] (.ref id) → payloadOf h' id = payloadOf h id
  keys : ∀ id, Reach h [v] (.ref id) → keysOf h' id = keysOf h id

theorem Same.child {h h' : Heap} {id : Nat} {c : Val} (s : Same h h' (.ref id)) (hc : c ∈ payloadOf h id) :
    Same h h' c :=
  ⟨fun j r => s.rc j (r.child hc), fun j r => s.pay j (r.child hc), fun j r => s.keys j (r.child hc)⟩

theorem Same.of_allocs_eq {h h' : Heap} (e : h'.allocs = h.allocs) (v : Val) : Same h h' v :=
  ⟨fun i _ => rcOf_allocs_eq e i, fun i _ => payloadOf_allocs_eq e i, fun i _ => keysOf_allocs_eq e i⟩

theorem Same.setAlloc {h : Heap} {id : Nat} (a : Alloc) (hz : pocc id h = 0) {v : Val} (hne : v ≠ .ref id) :
    Same h (setAlloc h id a) v := by
  have hn : ∀ i, Reach h [v] (.ref i) → ¬ (i = id ∧ id < h.allocs.length) :=
    fun i r c => not_reach_of_zero hz (occ_singleton_ne hne) (c.1 ▸ r)
  exact ⟨fun i r => by rw [rcOf_setAlloc, if_neg (hn i r)], fun i r => by rw [payloadOf_setAlloc, if_neg (hn i r)],
    fun i r => by rw [keysOf_setAlloc, if_neg (hn i r)]⟩

/-! ### primitives that only change counts, or add an allocation -/

theorem PayloadExt.setRc (h : Heap) (id n : Nat) : PayloadExt h (setRc h id n) :=
  ⟨by simp, fun i _ => payloadOf_setRc h id i n, fun i _ => keysOf_setRc h id i n⟩

theorem PayloadExt.dup (h : Heap) (v : Val) : PayloadExt h (dup h v) :=
  ⟨by simp [dup_length], fun i _ => payloadOf_dup h v i, fun i _ => keysOf_dup h v i⟩

theorem PayloadExt.bumpAll (h : Heap) (p : List Val) : PayloadExt h (bumpAll h p) :=
  ⟨by simp [bumpAll_length], fun i _ => payloadOf_bumpAll h p i, fun i _ => keysOf_bumpAll h p i⟩

theorem PayloadExt.push (h : Heap) (a : Alloc) (c p : Nat) : PayloadExt h ⟨h.allocs ++ [a], c, p⟩ :=
  ⟨by simp, fun i hl => by rw [payloadOf_push]; simp [Nat.ne_of_lt hl],
   fun i hl => by rw [keysOf_push]; simp [Nat.ne_of_lt hl]⟩

theorem PayloadExt.of_allocs_eq {h h' : Heap} (e : h'.allocs = h.allocs) : PayloadExt h h' :=
  ⟨by simp [e], fun i _ => payloadOf_allocs_eq e i, fun i _ => keysOf_allocs_eq e i⟩

/-! ### consequences of the invariant -/

theorem Inv.of_allocs_eq {h h' : Heap} (e : h'.allocs = h.allocs) {T : List Val} (i : Inv h T) : Inv h' T :=
  fun k => by rw [pocc_allocs_eq e, rcOf_allocs_eq e]; exact i k

theorem Inv.congr {h : Heap} {T T' : List Val} (e : ∀ id, occ id T = occ id T') (i : Inv h T) : Inv h T' :=
  fun id => by rw [← e id]; exact i id

theorem Inv.perm {h : Heap} {T T' : List Val} (p : T.Perm T') (i : Inv h T) : Inv h T' :=
  i.congr (fun _ => occ_perm p)

theorem Inv.weaken {h : Heap} {T T' : List Val} (e : ∀ id, occ id T' ≤ occ id T) (i : Inv h T) : Inv h T' :=
  fun id => Nat.le_trans (Nat.add_le_add_left (e id) _) (i id)

theorem Inv.rc_pos_of_mem {h : Heap} {T : List Val} (i : Inv h T) {id : Nat} (hv : Val.ref id ∈ T) :
    0 < rcOf h id := by
  have := i id
  have := occ_pos_of_mem hv
  omega

theorem Inv.rc_pos_of_payload {h : Heap} {T : List Val} (i : Inv h T) {j id : Nat}
    (hv : Val.ref id ∈ payloadOf h j) : 0 < rcOf h id := by
  have h1 := i id
  have h2 : 0 < occ id (payloadOf h j) := occ_pos_of_mem hv
  have h3 := occ_payload_le_pocc h j id
  omega

theorem Inv.live_of_payload {h : Heap} {T : List Val} (i : Inv h T) {j : Nat} {v : Val}
    (hv : v ∈ payloadOf h j) : Live h v := by
  intro id e; subst e
  exact lt_of_rcOf_pos (i.rc_pos_of_payload hv)

/-! ### what preserves `Rep` -/

theorem Stable.rep {h h' : Heap} {F : List Val} (s : Stable h h' F) {v : Val} {t : Tree}
    (hr : Reach h F v) (r : Rep h v t) : Rep h' v t := by
  obtain ⟨k, r⟩ := r
  exact ⟨k, s.repN hr r⟩

theorem Rep.ext {h h' : Heap} (e : PayloadExt h h') {v : Val} {t : Tree} (r : Rep h v t) : Rep h' v t :=
  (e.stable [v]).rep (.self h v) r

theorem frame_rep {h : Heap} {id : Nat} (a : Alloc) (hz : pocc id h = 0) {v : Val} {t : Tree}
    (r : Rep h v t) (hne : v ≠ .ref id) : Rep (setAlloc h id a) v t :=
  (Stable.setAlloc a (not_reach_of_zero hz (occ_singleton_ne hne))).rep (.self h v) r

/-! ### a value represents at most one tree: the one `readback` computes -/

theorem readback_of_repN : ∀ (k : Nat) (h : Heap) (v : Val) (t : Tree), RepN k h v t →
    ∀ f, k ≤ f → readback f h v = t := by
  intro k
  induction k with
  | zero =>
    intro h v t r f _
    cases v <;> simp at r <;> subst r <;> cases f <;> rfl
  | succ k ih =>
    intro h v t r f hf
    cases v with
    | null => simp at r; subst r; cases f <;> rfl
    | int n => simp at r; subst r; cases f <;> rfl
    | ref id =>
      obtain ⟨k1, hk1, hc, _, hkk, _, a⟩ := RepN_ref_inv r
      have hk : k1 = k := by omega
      subst hk
      cases f with
      | zero => omega
      | succ f =>
        have hkids : (payloadOf h id).map (readback f h) = t.kids :=
          All2.map_eq (fun v t _ r => ih _ _ _ r f (by omega)) a
        simp only [readback, hkk, hkids]
        cases t with
        | null => simp at hc
        | int n => simp at hc
        | list ts => rfl
        | dict ks vs => rfl

theorem rep_functional {h : Heap} {v : Val} {t t' : Tree} (r : Rep h v t) (r' : Rep h v t') : t = t' := by
  obtain ⟨k, r⟩ := r
  obtain ⟨k', r'⟩ := r'
  exact (readback_of_repN k h v t r _ (Nat.le_max_left k k')).symm.trans
    (readback_of_repN k' h v t' r' _ (Nat.le_max_right k k'))

end Noulith.RcHeap
