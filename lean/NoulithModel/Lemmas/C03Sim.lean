/-
C03: the Impl model of `ChainEvaluator`, under ANY interpretation
`run : F → List V → Out V` of the operators (total or failing), returns exactly the bottom-up
(post-order, first failure wins) value `semM` of the tree that `shunt` builds (`evalChain_eq_sem`).

Proof: a simulation (`Sim`) between the evaluator's stack of values and `shunt`'s stack of partial
trees (every operand value is the `semM` of the corresponding subtree), plus a "poison" argument
for failures: once an application has failed, evaluating the subtrees of the tree-level state left
to right (`stateM`) fails the same way (`Out.FailsAs`), and that is preserved by everything `shunt`
does afterwards.
-/
import NoulithModel.Lemmas.C03Shunt
import NoulithModel.Lemmas.Out

namespace Noulith

namespace Out
variable {α β : Type}
/-- forget the value, keep the outcome class -/
def void (x : Out α) : Out Unit := x.bind (fun _ => .ok ())
@[simp] theorem void_ok (a : α) : (Out.ok a).void = .ok () := rfl
@[simp] theorem void_throw : (Out.throw : Out α).void = .throw := rfl
@[simp] theorem void_panic : (Out.panic : Out α).void = .panic := rfl
theorem eq_of_void_eq {x y : Out α} (hxy : y.void = x.void) (hx : x.void ≠ .ok ()) : y = x := by
  cases x <;> cases y <;> first | rfl | contradiction

def FailsAs (x y : Out Unit) : Prop := x ≠ .ok () → y = x
theorem FailsAs.trans {x y z : Out Unit} (h₁ : FailsAs x y) (h₂ : FailsAs y z) : FailsAs x z :=
  fun hx => (h₂ (h₁ hx ▸ hx)).trans (h₁ hx)
theorem FailsAs.bind (x : Out α) {f g : α → Out Unit} (h : ∀ a, FailsAs (f a) (g a)) :
    FailsAs (x.bind f) (x.bind g) := by
  cases x with
  | ok a => exact h a
  | throw | panic => exact fun _ => rfl
end Out

namespace Chain
open Tree

variable {F L V : Type}

section sim
variable (run : F → List V → Out V) (tc : F → F → Option F) (lv : L → V)

/-- values of the operands a frame already holds -/
def fkidsM (t : Frame F L) : Out (List V) :=
  if t.isExt then kidsM run tc lv t.l else (semM run tc lv t.l).bind (fun a => .ok [a])

theorem semM_plug (t : Frame F L) (r : Tree F L) :
    semM run tc lv (t.plug r) =
      (fkidsM run tc lv t).bind fun as => (semM run tc lv r).bind fun b =>
        match t.merged tc with
        | some f => run f (as ++ [b])
        | none => .throw := by
  unfold Frame.plug fkidsM Frame.merged
  cases t.isExt
  · simp only [Bool.false_eq_true, if_false, semM, Out.bind_assoc, Out.bind_ok]; rfl
  · rfl

theorem kidsM_plug (t : Frame F L) (r : Tree F L) :
    kidsM run tc lv (t.plug r) =
      (fkidsM run tc lv t).bind fun as => (semM run tc lv r).bind fun b => .ok (as ++ [b]) := by
  unfold Frame.plug fkidsM
  cases t.isExt
  · simp only [Bool.false_eq_true, if_false, kidsM, Out.bind_assoc, Out.bind_ok]; rfl
  · rfl

/-! #### a failure stays: the operands held by the tree-level state, evaluated in order -/

/-- evaluate, bottom of the stack first, every operand the stack holds -/
def belowM : List (Frame F L) → Out Unit
  | [] => .ok ()
  | t :: rest => (belowM rest).bind fun _ => (fkidsM run tc lv t).void

/-- … and then the rightmost operand -/
def stateM (fr : List (Frame F L)) (rm : Tree F L) : Out Unit :=
  (belowM run tc lv fr).bind fun _ => (semM run tc lv rm).void

theorem stateM_push (fr : List (Frame F L)) (rm : Tree F L) (g : Op F) (x : L) :
    stateM run tc lv (⟨rm, g, false⟩ :: fr) (leaf x) = stateM run tc lv fr rm := by
  simp only [stateM, belowM, fkidsM, semM, Out.void, Out.bind_assoc, Out.bind_ok,
    Bool.false_eq_true, if_false]

theorem stateM_merge (t : Frame F L) (rest : List (Frame F L)) (rm : Tree F L) (g : Op F) (x : L) :
    stateM run tc lv (⟨t.plug rm, g, true⟩ :: rest) (leaf x) = stateM run tc lv (t :: rest) rm := by
  simp only [stateM, belowM, fkidsM, kidsM_plug, semM, Out.void, Out.bind_assoc, Out.bind_ok,
    if_true]

/-- applying the top application may fail, but only after everything that was going to fail -/
theorem stateM_pop (t : Frame F L) (rest : List (Frame F L)) (rm : Tree F L) :
    (stateM run tc lv (t :: rest) rm).FailsAs (stateM run tc lv rest (t.plug rm)) := by
  simp only [stateM, belowM, semM_plug, Out.void, Out.bind_assoc, Out.bind_ok]
  exact .bind _ fun _ => .bind _ fun _ => .bind _ fun _ h => absurd rfl h

theorem stateM_give (g : Op F) (x : L) (fr : List (Frame F L)) (rm : Tree F L) :
    (stateM run tc lv fr rm).FailsAs
      (stateM run tc lv (sgiveLoop tc g x fr rm).1 (sgiveLoop tc g x fr rm).2) := by
  fun_induction sgiveLoop tc g x fr rm with
  | case1 rm => exact fun _ => stateM_push run tc lv [] rm g x
  | case2 t rest rm => exact fun _ => stateM_merge run tc lv t rest rm g x
  | case3 t rest rm _ _ ih => exact (stateM_pop run tc lv t rest rm).trans ih
  | case4 t rest rm => exact fun _ => stateM_push run tc lv (t :: rest) rm g x

theorem stateM_finish (fr : List (Frame F L)) (rm : Tree F L) :
    (stateM run tc lv fr rm).FailsAs (semM run tc lv (sfinish fr rm)).void := by
  fun_induction sfinish fr rm with
  | case1 => exact fun _ => rfl
  | case2 t rest rm ih => exact (stateM_pop run tc lv t rest rm).trans ih

/-! #### the simulation -/

/-- an evaluator entry and a frame describe the same partial application -/
def EntryRel (e : Entry F V) (t : Frame F L) : Prop :=
  fkidsM run tc lv t = .ok e.operands ∧ t.merged tc = some e.op ∧ e.prec = t.prec

def StackRel : List (Entry F V) → List (Frame F L) → Prop
  | [], [] => True
  | e :: es, t :: ts => EntryRel run tc lv e t ∧ StackRel es ts
  | _, _ => False

theorem stateM_of_rel (es : List (Entry F V)) (ts : List (Frame F L)) (rm : Tree F L)
    (h : StackRel run tc lv es ts) : stateM run tc lv ts rm = (semM run tc lv rm).void := by
  -- every operand that related frames hold has a value
  have hb : belowM run tc lv ts = .ok () := by
    fun_induction StackRel run tc lv es ts with
    | case1 => rfl
    | case2 e es t ts ih => rw [belowM, ih h.2, h.1.1]; rfl
    | case3 => exact h.elim
  rw [stateM, hb, Out.bind_ok]

variable {run tc lv}

theorem semM_plug_of_rel {e : Entry F V} {t : Frame F L} (he : EntryRel run tc lv e t)
    (rm : Tree F L) :
    semM run tc lv (t.plug rm) = (semM run tc lv rm).bind (runTopPopped run e.operands e.op) := by
  rw [semM_plug, he.1, he.2.1]; rfl

theorem entryRel_push {rm : Tree F L} {v : V} (h : semM run tc lv rm = .ok v) (g : Op F) :
    EntryRel run tc lv ⟨[v], g.fn, g.prec⟩ ⟨rm, g, false⟩ :=
  ⟨by simp only [fkidsM, h, Bool.false_eq_true, if_false, Out.bind_ok], rfl, rfl⟩

theorem entryRel_merge {e : Entry F V} {t : Frame F L} (he : EntryRel run tc lv e t)
    {rm : Tree F L} {v : V} (h : semM run tc lv rm = .ok v) (g : Op F) {newOp : F}
    (htc : tc e.op g.fn = some newOp) :
    EntryRel run tc lv ⟨e.operands ++ [v], newOp, e.prec⟩ ⟨t.plug rm, g, true⟩ :=
  ⟨show kidsM run tc lv (t.plug rm) = _ by rw [kidsM_plug, he.1, h]; rfl,
   show (Tree.merged tc (t.plug rm)).bind (fun f => tc f g.fn) = _ by
     rw [merged_plug, he.2.1]; exact htc,
   show e.prec = headPrec (t.plug rm) by rw [headPrec_plug]; exact he.2.2⟩

variable (run tc lv)

/-- an outcome of the evaluator and a tree-level state: either the stacks describe the same
partial applications and the rightmost operands agree, or the evaluator has failed and evaluating
what the tree-level state holds fails the same way -/
def Sim : Out (CE F V) → List (Frame F L) × Tree F L → Prop
  | .ok s, (fr, rm) => StackRel run tc lv s.pending fr ∧ semM run tc lv rm = .ok s.rightmost
  | o, (fr, rm) => stateM run tc lv fr rm = o.void

/-- one `give`, with the rightmost operand possibly failed already -/
theorem sim_give (g : Op F) (x : L) : ∀ (ts : List (Frame F L)) (es : List (Entry F V)),
    StackRel run tc lv es ts → ∀ (o : Out V) (rm : Tree F L), semM run tc lv rm = o →
    Sim run tc lv (o.bind (giveLoop run tc g.fn g.prec (lv x) es)) (sgiveLoop tc g x ts rm)
  | ts, es, hrel, .throw, rm, hrm | ts, es, hrel, .panic, rm, hrm => by
    have h := stateM_of_rel run tc lv es ts rm hrel
    rw [hrm] at h
    exact (stateM_give run tc lv g x ts rm (by rw [h]; nofun)).trans h
  | [], [], _, .ok v, rm, hrm => ⟨⟨entryRel_push hrm g, trivial⟩, rfl⟩
  | t :: ts, e :: es, ⟨he, hrest⟩, .ok v, rm, hrm => by
    rw [Out.bind_ok, giveLoop, sgiveLoop, ← he.2.2]
    split
    · have hch : chains tc (t.plug rm) g = (tc e.op g.fn).isSome := by
        simp only [chains, merged_plug, he.2.1, Option.bind_some]
      rw [hch]
      cases htc : tc e.op g.fn with
      | some newOp => exact ⟨⟨entryRel_merge he hrm g htc, hrest⟩, rfl⟩
      | none =>
        exact sim_give g x ts es hrest _ (t.plug rm) (by rw [semM_plug_of_rel he, hrm]; rfl)
    · exact ⟨⟨entryRel_push hrm g, he, hrest⟩, rfl⟩

/-- the operands/operators of a chain as the evaluator receives them -/
def givenOps (more : List (Op F × L)) : List (F × Precedence × V) :=
  more.map fun p => (p.1.fn, p.1.prec, lv p.2)

theorem sim_feed (more : List (Op F × L)) (o : Out (CE F V)) (s : List (Frame F L) × Tree F L)
    (h : Sim run tc lv o s) :
    Sim run tc lv (o.bind (giveAll run tc (givenOps lv more))) (sfeed tc more s) := by
  fun_induction sfeed tc more s generalizing o with
  | case1 s => exact show Sim run tc lv (o.bind .ok) s from (Out.bind_ok_right o).symm ▸ h
  | case2 g x more s ih =>
    have step : Sim run tc lv (o.bind fun s => s.give run tc g.fn g.prec (lv x))
        (sgiveLoop tc g x s.1 s.2) := by
      cases o with
      | ok c => exact sim_give run tc lv g x s.1 c.pending h.1 _ s.2 h.2
      | throw | panic =>
        have h : stateM run tc lv s.1 s.2 = _ := h
        exact (stateM_give run tc lv g x s.1 s.2 (by rw [h]; nofun)).trans h
    have := ih _ step
    rwa [Out.bind_assoc] at this

/-- finishing applies the pending entries to whatever the rightmost operand yields, as `semM` does
along the frames -/
theorem sim_finish (ts : List (Frame F L)) (es : List (Entry F V))
    (hrel : StackRel run tc lv es ts) (o : Out V) (rm : Tree F L) (hrm : semM run tc lv rm = o) :
    o.bind (finishLoop run es) = semM run tc lv (sfinish ts rm) := by
  fun_induction StackRel run tc lv es ts generalizing o rm with
  | case1 => exact (Out.bind_ok_right o).trans hrm.symm
  | case2 e es t ts ih =>
    rw [sfinish, ← ih hrel.2 _ (t.plug rm) rfl, semM_plug_of_rel hrel.1, hrm, Out.bind_assoc]
    rfl
  | case3 => exact hrel.elim

/-- **the evaluator computes the post-order value of the tree it groups the chain into**, for
every interpretation of the operators, failing or not -/
theorem evalChain_eq_sem (c : ChainOf F L) :
    evalChain run tc (lv c.first) (givenOps lv c.rest) = semM run tc lv (shunt tc c) := by
  have h : Sim run tc lv (giveAll run tc (givenOps lv c.rest) (CE.new (lv c.first)))
      (sfeed tc c.rest ([], leaf c.first)) :=
    sim_feed run tc lv c.rest (.ok (CE.new (lv c.first))) ([], leaf c.first) ⟨trivial, rfl⟩
  unfold evalChain shunt
  generalize giveAll run tc (givenOps lv c.rest) (CE.new (lv c.first)) = o at h ⊢
  generalize sfeed tc c.rest ([], leaf c.first) = s at h ⊢
  cases o with
  | ok s' => exact sim_finish run tc lv s.1 s'.pending h.1 _ s.2 h.2
  | throw | panic =>
    have h : stateM run tc lv s.1 s.2 = _ := h
    symm
    refine Out.eq_of_void_eq ?_ nofun
    exact (stateM_finish run tc lv s.1 s.2 (by rw [h]; nofun)).trans h

end sim
end Chain
end Noulith
