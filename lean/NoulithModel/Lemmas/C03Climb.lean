/-
C03: precedence climbing (`climb`, the executable spec) against the evaluator's tree machine
(`shunt`) and the declarative predicate (`Valid`).
  * Climbing IS the evaluator's machine, read top-down: the nest of recursive `climb` calls is the
    stack of frames (`unwind`), and a call returns, merges or recurses where `sgiveLoop` pops,
    merges or pushes (`unwind_give`); so `climbTree = shunt` on every chain (`climbTree_eq_shunt`;
    `Valid` does not occur).
  * Climbing rebuilds every `Valid` tree from its yield (`climbF_valid`, `climbTree_of_valid`):
    induction on the tree, the clauses of `Valid` being the guards of `climb`'s branches.
Hence a valid tree is what the evaluator builds from its yield (`shunt_of_valid`): it is unique.
-/
import NoulithModel.Lemmas.C03Shunt

namespace Noulith.Chain
open Tree

variable {F L : Type}

section climb
variable (tc : F → F → Option F)

theorem climb_len (fuel : Nat) (ctx : Option Precedence) (lhs : Tree F L) (toks : List (Op F × L)) :
    (climb tc fuel ctx lhs toks).2.length ≤ toks.length := by
  fun_induction climb tc fuel ctx lhs toks with
  | case1 => exact Nat.le_refl _
  | case2 => exact Nat.le_refl _
  | case3 _ _ _ _ _ _ _ _ ih1 ih2 => exact Nat.le_trans ih2 (Nat.le_trans ih1 (Nat.le_succ _))
  | case4 => exact Nat.le_refl _
  | case5 _ _ _ _ _ _ _ _ _ ih1 ih2 => exact Nat.le_trans ih2 (Nat.le_trans ih1 (Nat.le_succ _))

theorem climb_fuel (n m : Nat) (ctx : Option Precedence) (lhs : Tree F L)
    (toks : List (Op F × L)) (hn : toks.length < n) (hm : toks.length < m) :
    climb tc n ctx lhs toks = climb tc m ctx lhs toks := by
  fun_induction climb tc n ctx lhs toks generalizing m with
  | case1 => exact absurd hn (Nat.not_lt_zero _)
  | case2 =>
    cases m with
    | zero => exact absurd hm (Nat.not_lt_zero _)
    | succ m => rfl
  | case3 n ctx lhs h x more hc r ih1 ih2 =>
    cases m with
    | zero => exact absurd hm (Nat.not_lt_zero _)
    | succ m =>
      -- both recursive calls: the operand one level down, then the rest of this level
      have hn := Nat.lt_of_succ_lt_succ hn
      have hm := Nat.lt_of_succ_lt_succ hm
      have hl := climb_len tc n (some (headPrec lhs)) (leaf x) more
      conv => rhs; rw [climb, if_pos hc, ← ih1 m hn hm]
      exact ih2 m (Nat.lt_of_le_of_lt hl hn) (Nat.lt_of_le_of_lt hl hm)
  | case4 n ctx lhs h x more hc hs =>
    cases m with
    | zero => exact absurd hm (Nat.not_lt_zero _)
    | succ m => rw [climb, if_neg hc, if_pos hs]
  | case5 n ctx lhs h x more hc hs r ih1 ih2 =>
    cases m with
    | zero => exact absurd hm (Nat.not_lt_zero _)
    | succ m =>
      have hn := Nat.lt_of_succ_lt_succ hn
      have hm := Nat.lt_of_succ_lt_succ hm
      have hl := climb_len tc n (some h.prec) (leaf x) more
      conv => rhs; rw [climb, if_neg hc, if_neg hs, ← ih1 m hn hm]
      exact ih2 m (Nat.lt_of_le_of_lt hl hn) (Nat.lt_of_le_of_lt hl hm)

/-- `climb` with exactly enough fuel -/
def climbF (ctx : Option Precedence) (lhs : Tree F L) (toks : List (Op F × L)) :
    Tree F L × List (Op F × L) :=
  climb tc (toks.length + 1) ctx lhs toks

theorem climb_eq_climbF (n : Nat) (ctx : Option Precedence) (lhs : Tree F L)
    (toks : List (Op F × L)) (h : toks.length < n) :
    climb tc n ctx lhs toks = climbF tc ctx lhs toks :=
  climb_fuel tc _ _ ctx lhs toks h (Nat.lt_succ_self _)

theorem climbF_nil (ctx : Option Precedence) (lhs : Tree F L) : climbF tc ctx lhs [] = (lhs, []) := by
  simp [climbF, climb]

/-- the recursion equation of `climb` without the fuel -/
theorem climbF_cons (ctx : Option Precedence) (lhs : Tree F L) (h : Op F) (x : L)
    (more : List (Op F × L)) :
    climbF tc ctx lhs ((h, x) :: more) =
      if (isNode lhs && tighter (headPrec lhs) h.prec && chains tc lhs h) = true then
        climbF tc ctx (ext lhs h (climbF tc (some (headPrec lhs)) (leaf x) more).1)
          (climbF tc (some (headPrec lhs)) (leaf x) more).2
      else if stops ctx h = true then (lhs, (h, x) :: more)
      else
        climbF tc ctx (bin lhs h (climbF tc (some h.prec) (leaf x) more).1)
          (climbF tc (some h.prec) (leaf x) more).2 := by
  rw [climbF, List.length_cons, climb]
  -- the operand one level down leaves at most `more` unread, so the fuel left suffices
  exact ite_congr rfl
    (fun _ => climb_eq_climbF tc _ ctx _ _ (Nat.lt_succ_of_le (climb_len tc _ _ (leaf x) more)))
    fun _ => ite_congr rfl (fun _ => rfl)
      fun _ => climb_eq_climbF tc _ ctx _ _ (Nat.lt_succ_of_le (climb_len tc _ _ (leaf x) more))

/-! ### climbing is the evaluator's machine -/

/-- the binding context of the `climb` call that reads the right operand of the top frame -/
def ctxOf : List (Frame F L) → Option Precedence
  | [] => none
  | t :: _ => some t.prec

/-- the nest of `climb` calls a stack stands for: each frame waits for its right operand, plugs it
in and goes on reading at its own level -/
def unwind : List (Frame F L) → Tree F L × List (Op F × L) → Tree F L
  | [], r => r.1
  | t :: rest, r => unwind rest (climbF tc (ctxOf rest) (t.plug r.1) r.2)

theorem unwind_nil (st : List (Frame F L)) (rm : Tree F L) : unwind tc st (rm, []) = sfinish st rm := by
  induction st generalizing rm with
  | nil => rfl
  | cons t rest ih => rw [unwind, climbF_nil, ih]; rfl

/-- `hm`: the operand read so far does not itself take `g` as one more operator (it is a leaf, or
an application that was popped because it does not chain with `g`). -/
theorem unwind_give (g : Op F) (x : L) (more : List (Op F × L)) (st : List (Frame F L))
    (rm : Tree F L) (hm : (isNode rm && tighter (headPrec rm) g.prec && chains tc rm g) = false) :
    unwind tc st (climbF tc (ctxOf st) rm ((g, x) :: more)) =
      unwind tc (sgiveLoop tc g x st rm).1 (climbF tc (ctxOf (sgiveLoop tc g x st rm).1) (leaf x) more) := by
  fun_induction sgiveLoop tc g x st rm with
  | case1 rm => rw [climbF_cons, if_neg (by rw [hm]; nofun), if_neg (by nofun)]; rfl
  | case2 t rest rm ht hc =>
    rw [climbF_cons, if_neg (by rw [hm]; nofun), if_pos (show stops (ctxOf (t :: rest)) g = true from ht),
      unwind, climbF_cons, if_pos (by rw [isNode_plug, headPrec_plug, ht, hc]; rfl)]
    rfl
  | case3 t rest rm ht hc ih =>
    rw [climbF_cons, if_neg (by rw [hm]; nofun), if_pos (show stops (ctxOf (t :: rest)) g = true from ht),
      unwind]
    exact ih (by rw [eq_false_of_ne_true hc, Bool.and_false])
  | case4 t rest rm ht =>
    rw [climbF_cons, if_neg (by rw [hm]; nofun), if_neg (by exact ht)]; rfl

theorem unwind_feed (toks : List (Op F × L)) : ∀ (st : List (Frame F L)) (x : L),
    unwind tc st (climbF tc (ctxOf st) (leaf x) toks) =
      sfinish (sfeed tc toks (st, leaf x)).1 (sfeed tc toks (st, leaf x)).2 := by
  induction toks with
  | nil => intro st x; rw [climbF_nil, unwind_nil]; rfl
  | cons p more ih =>
    intro st x
    have e : sgiveLoop tc p.1 p.2 st (leaf x) = ((sgiveLoop tc p.1 p.2 st (leaf x)).1, leaf p.2) :=
      Prod.ext rfl (sgiveLoop_snd tc p.1 p.2 st (leaf x))
    rw [unwind_give tc p.1 p.2 more st (leaf x) rfl, ih, sfeed, ← e]

theorem climbTree_eq_shunt (c : ChainOf F L) : climbTree tc c = shunt tc c :=
  unwind_feed tc c.rest [] c.first

/-! ### climbing rebuilds a valid tree -/

/-- what the next unread operator must satisfy for the operand `t` to be complete below it:
the root application and everything on the right spine below it would be applied first -/
def NextOK (t : Tree F L) (more : List (Op F × L)) : Prop :=
  ∀ h' x' m, more = (h', x') :: m → isNode t = true →
    tighter (headPrec t) h'.prec = true ∧ AppliedBefore tc (lastKid t) h'

theorem rspine_node (t : Tree F L) (h : isNode t = true) : rspine t = t :: rspine (lastKid t) := by
  cases t <;> simp_all [isNode, rspine, lastKid]

/-- an operand applied before `g` does not take `g` as one more operator -/
theorem AppliedBefore.no_merge {t : Tree F L} {g : Op F} (h : AppliedBefore tc t g) :
    (isNode t && tighter (headPrec t) g.prec && chains tc t g) = false := by
  cases hn : isNode t
  · rfl
  · rw [(h t (by rw [rspine_node t hn]; exact List.mem_cons_self)).2, Bool.and_false]

theorem climbF_return (ctx : Option Precedence) (t : Tree F L) (more : List (Op F × L))
    (h : ∀ h' x' m, more = (h', x') :: m →
      (isNode t && tighter (headPrec t) h'.prec && chains tc t h') = false ∧ stops ctx h' = true) :
    climbF tc ctx t more = (t, more) := by
  cases more with
  | nil => exact climbF_nil tc ctx t
  | cons p m =>
    obtain ⟨h', x'⟩ := p
    obtain ⟨h1, h2⟩ := h h' x' m rfl
    rw [climbF_cons]
    simp [h1, h2]

/-- the right operand `r` of a node that binds with precedence `p`: read one level down (given
that this level rebuilds `r`), it is complete when the next operator is one the node is applied
before -/
theorem climbF_right (r : Tree F L) (p : Precedence) (more : List (Op F × L))
    (ihr : ∀ (ctx : Option Precedence) (more : List (Op F × L)),
      (∀ h ∈ lspine r, stops ctx h = false) → NextOK tc r more →
      climbF tc ctx (leaf (first r)) (rest r ++ more) = climbF tc ctx r more)
    (hwr : Waited p r)
    (hnext : ∀ h' x' m, more = (h', x') :: m →
      tighter p h'.prec = true ∧ AppliedBefore tc r h') :
    climbF tc (some p) (leaf (first r)) (rest r ++ more) = (r, more) := by
  have hnr : NextOK tc r more := by
    intro h' x' m hm hn
    have habr := (hnext h' x' m hm).2
    rw [AppliedBefore, rspine_node r hn, List.forall_mem_cons] at habr
    exact ⟨habr.1.1, habr.2⟩
  rw [ihr (some p) more hwr hnr]
  exact climbF_return tc (some p) r more fun h' x' m hm =>
    ⟨(hnext h' x' m hm).2.no_merge tc, (hnext h' x' m hm).1⟩

/-- stated for the loop: reading the yield of a valid tree at one level rebuilds it as the `lhs`,
whatever `climb` then does with `more` -/
theorem climbF_valid : ∀ (t : Tree F L), Valid tc t →
    ∀ (ctx : Option Precedence) (more : List (Op F × L)),
      (∀ h ∈ lspine t, stops ctx h = false) → NextOK tc t more →
      climbF tc ctx (leaf (first t)) (rest t ++ more) = climbF tc ctx t more := by
  intro t
  induction t with
  | leaf v => intro _ ctx more _ _; rfl
  | bin l g r ihl ihr =>
    intro hv ctx more hls hnext
    obtain ⟨hvl, hvr, hab, hwr⟩ := hv
    simp only [rest, first, List.append_assoc, List.cons_append]
    -- the left operand, at this level; everything on its right spine is applied before `g`
    rw [ihl hvl ctx _ (fun h hh => hls h (List.mem_cons_of_mem _ hh)) (by
      intro h' x' m hm hn
      cases hm
      rw [AppliedBefore, rspine_node l hn, List.forall_mem_cons] at hab
      exact ⟨hab.1.1, hab.2⟩)]
    rw [climbF_cons]
    rw [if_neg (by rw [hab.no_merge tc]; nofun), if_neg (by rw [hls g List.mem_cons_self]; nofun)]
    -- the right operand, one level down
    rw [climbF_right tc r g.prec more (ihr hvr) hwr fun h' x' m hm => hnext h' x' m hm rfl]
  | ext l g r ihl ihr =>
    intro hv ctx more hls hnext
    obtain ⟨hnode, hvl, hvr, ⟨hti, hch⟩, hab, hwr⟩ := hv
    simp only [rest, first, List.append_assoc, List.cons_append]
    rw [ihl hvl ctx _ hls (by
      intro h' x' m hm _
      cases hm
      exact ⟨hti, hab⟩)]
    rw [climbF_cons, if_pos (by rw [hnode, hti, hch]; rfl)]
    rw [climbF_right tc r (headPrec l) more (ihr hvr) hwr fun h' x' m hm => hnext h' x' m hm rfl]

theorem climbTree_of_valid (t : Tree F L) (hv : Valid tc t) : climbTree tc (chain t) = t := by
  have h := climbF_valid tc t hv none [] (fun _ _ => rfl) (fun _ _ _ hm => nomatch hm)
  rw [List.append_nil, climbF_nil] at h
  exact congrArg Prod.fst h

theorem shunt_of_valid (t : Tree F L) (hv : Valid tc t) : shunt tc (chain t) = t :=
  (climbTree_eq_shunt tc (chain t)).symm.trans (climbTree_of_valid tc t hv)

end climb
end Noulith.Chain
