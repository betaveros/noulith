/-
C01: `walk` (set_index / modify_existing_index) computes the Spec's `modPath`.  The slot an index or key
addresses, the contract of a leaf action (`LeafSpec`), one level of the walk below a uniquely owned
allocation (`Descent`, `walkStep_spec`), the induction along the index path (`walk_spec`), and the
contracts of the four leaf actions: assignment, consume, pop, remove.
-/
import NoulithModel.Lemmas.HeapOps

namespace Noulith.RcHeap
open Noulith.Store (Tree modPath pyIdx LeafT keyIdx dictSlot setφ takeφ popφ removeφ)

theorem pyIndex_eq_pyIdx (n : Nat) (i : Int) : pyIndex n i = pyIdx n i := rfl

theorem pyIndex_lt {n : Nat} {i : Int} {j : Nat} (h : pyIndex n i = some j) : j < n := by
  unfold pyIndex at h
  split at h
  · injection h with h; omega
  · split at h
    · injection h with h; omega
    · cases h

theorem keyPos_eq_keyIdx : ∀ (ks : List Int) (i : Int), keyPos ks i = keyIdx ks i
  | [], _ => rfl
  | k :: ks, i => by simp [keyPos, keyIdx, keyPos_eq_keyIdx ks i]

theorem slotOf_lt {h : Heap} {id : Nat} {i : Int} {j : Nat} (hs : slotOf h id i = some j) :
    j < (payloadOf h id).length := by
  unfold slotOf at hs
  split at hs
  · exact pyIndex_lt hs
  · split at hs
    · split at hs
      · injection hs with hs; omega
      · cases hs
    · cases hs

/-- the slot an index / key addresses in a container tree -/
def treeSlot (t : Tree) (i : Int) : Option Nat :=
  match t.keysT with
  | none => pyIdx t.kids.length i
  | some ks => dictSlot ks t.kids.length i

theorem treeSlot_lt {t : Tree} {i : Int} {j : Nat} (h : treeSlot t i = some j) : j < t.kids.length := by
  unfold treeSlot at h
  cases hk : t.keysT with
  | none => rw [hk] at h; exact pyIndex_lt (by rw [pyIndex_eq_pyIdx]; exact h)
  | some ks =>
    rw [hk] at h
    simp only [dictSlot] at h
    cases hki : Store.keyIdx ks i with
    | none => rw [hki] at h; simp at h
    | some j' =>
      rw [hki] at h
      dsimp only at h
      split at h
      · injection h with h; omega
      · cases h

theorem slotOf_eq_treeSlot {h : Heap} {id : Nat} {t : Tree} (hk : keysOf h id = t.keysT)
    (hlen : (payloadOf h id).length = t.kids.length) (i : Int) : slotOf h id i = treeSlot t i := by
  unfold slotOf treeSlot
  rw [hk, hlen]
  cases t.keysT with
  | none => rfl
  | some ks => simp only [dictSlot, keyPos_eq_keyIdx]; cases keyIdx ks i <;> rfl

theorem slotOf_congr {h h' : Heap} {id : Nat} (hk : keysOf h' id = keysOf h id)
    (hp : (payloadOf h' id).length = (payloadOf h id).length) (i : Int) : slotOf h' id i = slotOf h id i := by
  unfold slotOf; rw [hk, hp]

/-- the contract of a slot transformer: it owns the slot value `c` and the captured values `cap`;
afterwards it owns the new slot value, the result, and (only if it raised) still the captured values.
On the tree side it computes `φ`. -/
def LeafSpec (leaf : Heap → Val → WalkRes) (cap : List Val) (capT : List Tree)
    (φ : Tree → Option (Tree × Tree)) : Prop :=
  ∀ (h : Heap) (c : Val) (F : List Val) (t : Tree),
    Inv h (c :: cap ++ F) → Rep h c t → All2 (Rep h) cap capT →
    Tr h (leaf h c).h ((leaf h c).v :: (leaf h c).r :: (bif (leaf h c).ok then [] else cap)) F ∧
    (match φ t with
     | some (t', r) => (leaf h c).ok = true ∧ Rep (leaf h c).h (leaf h c).v t' ∧ Rep (leaf h c).h (leaf h c).r r
     | none => (leaf h c).ok = false ∧ Rep (leaf h c).h (leaf h c).v t ∧ (leaf h c).r = .null)

theorem walk_nil (leaf : Leaf) (h : Heap) (v : Val) : walk leaf h v [] = leaf.act h v := by
  cases v <;> rfl

/-- the part of `walk` after `make_mut` and a successful bounds check -/
def walkStep (leaf : Leaf) (h0 : Heap) (id1 j : Nat) (rest : List Int) : WalkRes :=
  let w := walk leaf (setPayload h0 id1 ((payloadOf h0 id1).set j .null)) ((payloadOf h0 id1).getD j .null) rest
  ⟨setPayload w.h id1 ((payloadOf w.h id1).set j w.v), .ref id1, w.r, w.ok⟩

theorem walk_ref_cons (leaf : Leaf) (h : Heap) (id : Nat) (i : Int) (rest : List Int) :
    walk leaf h (.ref id) (i :: rest) =
      (match slotOf (makeMut h id).1 (makeMut h id).2 i with
       | none => walkMissing leaf (makeMut h id).1 (makeMut h id).2 i rest
       | some j => walkStep leaf (makeMut h id).1 (makeMut h id).2 j rest) := by
  rw [walk]
  cases slotOf (makeMut h id).1 (makeMut h id).2 i <;> rfl

theorem walk_null_cons (leaf : Leaf) (h : Heap) (i : Int) (rest : List Int) :
    walk leaf h .null (i :: rest) = ⟨h, .null, .null, false⟩ := rfl
theorem walk_int_cons (leaf : Leaf) (h : Heap) (n : Int) (i : Int) (rest : List Int) :
    walk leaf h (.int n) (i :: rest) = ⟨h, .int n, .null, false⟩ := rfl

/-- One level of `walk` below a uniquely owned allocation `id`: slot `j` is nulled, the inner walk `w`
runs on the element with the handle of `id` in its frame, the new slot value is written back.  The
fields say what the inner walk may assume (`inv`, `rep`, `caps`), that on the way down and on the way
back up nothing but allocation `id` changes (`down`, `up`), and what `id` looks like in between and at
the end: the inner walk's contract keeps it as it was handed over. -/
structure Descent (h : Heap) (id j : Nat) (cap F : List Val) (capT : List Tree) (tc : Tree) (w : WalkRes) : Prop where
  pz : pocc id h = 0
  fz : occ id F = 0
  ne : (payloadOf h id).getD j .null ≠ .ref id
  inv : Inv (setPayload h id ((payloadOf h id).set j .null))
    ((payloadOf h id).getD j .null :: cap ++ (.ref id :: F))
  rep : Rep (setPayload h id ((payloadOf h id).set j .null)) ((payloadOf h id).getD j .null) tc
  caps : All2 (Rep (setPayload h id ((payloadOf h id).set j .null))) cap capT
  down : ∀ {u : Val}, u ≠ .ref id → Same h (setPayload h id ((payloadOf h id).set j .null)) u
  rc1 : rcOf (setPayload h id ((payloadOf h id).set j .null)) id = 1
  pay1 : payloadOf (setPayload h id ((payloadOf h id).set j .null)) id = (payloadOf h id).set j .null
  tr : Tr (setPayload h id ((payloadOf h id).set j .null)) w.h (w.v :: w.r :: (bif w.ok then [] else cap)) (.ref id :: F)
  rcw : rcOf w.h id = 1
  payw : payloadOf w.h id = (payloadOf h id).set j .null
  pzw : pocc id w.h = 0
  vne : w.v ≠ .ref id
  rne : w.r ≠ .ref id
  up : ∀ {u : Val}, u ≠ .ref id → Same w.h (setPayload w.h id ((payloadOf w.h id).set j w.v)) u
  rc2 : rcOf (setPayload w.h id ((payloadOf w.h id).set j w.v)) id = 1
  pay2 : payloadOf (setPayload w.h id ((payloadOf w.h id).set j w.v)) id = (payloadOf h id).set j w.v
  keys2 : keysOf (setPayload w.h id ((payloadOf w.h id).set j w.v)) id = keysOf h id
  lt2 : id < (setPayload w.h id ((payloadOf w.h id).set j w.v)).allocs.length

theorem descent {leaf : Leaf} {cap : List Val} {capT : List Tree} {ψ : Tree → Option (Tree × Tree)}
    {rest : List Int} (IH : LeafSpec (fun h v => walk leaf h v rest) cap capT ψ)
    {h : Heap} {id j : Nat} {F : List Val} {ts : List Tree}
    (i0 : Inv h (.ref id :: (cap ++ F))) (rc1 : rcOf h id = 1) (hj : j < (payloadOf h id).length)
    (a : All2 (Rep h) (payloadOf h id) ts) (rcap : All2 (Rep h) cap capT) {w : WalkRes}
    (hw : walk leaf (setPayload h id ((payloadOf h id).set j .null)) ((payloadOf h id).getD j .null) rest = w) :
    Descent h id j cap F capT (ts.getD j .null) w ∧
    (match ψ (ts.getD j .null) with
     | some (t', r) => w.ok = true ∧ Rep w.h w.v t' ∧ Rep w.h w.r r
     | none => w.ok = false ∧ Rep w.h w.v (ts.getD j .null) ∧ w.r = .null) := by
  obtain ⟨hz, _, hcf, hl⟩ := Inv.sole (o := []) i0 (Nat.le_of_eq rc1)
  obtain ⟨hcz, hfz⟩ := occ_append_eq_zero hcf
  have hne := slot_ne hz hj
  have i1 := slot_take_inv i0 rc1 hj
  have rc : Rep (setPayload h id ((payloadOf h id).set j .null)) ((payloadOf h id).getD j .null) (ts.getD j .null) :=
    frame_rep _ hz (All2.getD j a Rep_null) hne
  have rcap1 : All2 (Rep (setPayload h id ((payloadOf h id).set j .null))) cap capT :=
    All2.mono (fun cv _ hm r => frame_rep _ hz r (ne_ref_of_occ_zero hcz hm)) rcap
  have hpay1 : payloadOf (setPayload h id ((payloadOf h id).set j .null)) id = (payloadOf h id).set j .null := by
    simp [payloadOf_setPayload, hl]
  have hrc1 : rcOf (setPayload h id ((payloadOf h id).set j .null)) id = 1 := by
    rw [rcOf_setPayload]; exact rc1
  have W := IH _ _ (.ref id :: F) _ i1 rc rcap1
  dsimp only at W
  rw [hw] at W
  obtain ⟨rcw, payw, keysw, hzw, how, _, hlw⟩ := W.1.parent_kept hrc1
  rw [hpay1] at payw
  refine ⟨⟨hz, hfz, hne, i1, rc, rcap1, fun hu => .setAlloc _ hz hu, hrc1, hpay1, W.1, rcw, payw, hzw,
    ne_ref_of_occ_zero how (by simp), ne_ref_of_occ_zero how (by simp), fun hu => .setAlloc _ hzw hu,
    ?_, ?_, ?_, by simpa using hlw⟩, W.2⟩
  · rw [rcOf_setPayload]; exact rcw
  · rw [payloadOf_setPayload, payw, List.set_set]; simp [hlw]
  · rw [keysOf_setPayload, keysw, keysOf_setPayload]

theorem walkStep_spec {leaf : Leaf} {cap : List Val} {capT : List Tree}
    {ψ : Tree → Option (Tree × Tree)} {rest : List Int}
    (IH : LeafSpec (fun h v => walk leaf h v rest) cap capT ψ)
    {h0 : Heap} {id1 j : Nat} {F : List Val} {t0 : Tree}
    (i0 : Inv h0 (.ref id1 :: (cap ++ F))) (rc1 : rcOf h0 id1 = 1)
    (hj : j < (payloadOf h0 id1).length) (hcont : t0.isCont = true) (hkeys : keysOf h0 id1 = t0.keysT)
    (hwf : t0.dictWF)
    (a : All2 (Rep h0) (payloadOf h0 id1) t0.kids) (rcap : All2 (Rep h0) cap capT)
    {s : WalkRes} (hs : walkStep leaf h0 id1 j rest = s) :
    Tr h0 s.h (s.v :: s.r :: (bif s.ok then [] else cap)) F ∧
    (match ψ (t0.kids.getD j .null) with
     | some (t', r) => s.ok = true ∧ Rep s.h s.v (t0.withKids (t0.kids.set j t')) ∧ Rep s.h s.r r
     | none => s.ok = false ∧ Rep s.h s.v t0 ∧ s.r = .null) := by
  subst hs
  obtain ⟨w, hw⟩ : ∃ w, walk leaf (setPayload h0 id1 ((payloadOf h0 id1).set j .null))
      ((payloadOf h0 id1).getD j .null) rest = w := ⟨_, rfl⟩
  obtain ⟨D, Wrep⟩ := descent IH i0 rc1 hj a rcap hw
  have e : walkStep leaf h0 id1 j rest =
      ⟨setPayload w.h id1 ((payloadOf w.h id1).set j w.v), .ref id1, w.r, w.ok⟩ := by
    simp only [walkStep, hw]
  rw [e]
  dsimp only
  -- the siblings (with the slot itself nulled) keep their representation through take / inner walk / put
  have sib : All2 (Rep (setPayload w.h id1 ((payloadOf w.h id1).set j w.v)))
      ((payloadOf h0 id1).set j .null) (t0.kids.set j .null) := by
    refine All2.mono (fun s t hs r => ?_) (All2.set j a Rep_null)
    have hsne : s ≠ .ref id1 := by
      rcases List.mem_or_eq_of_mem_set hs with hm | rfl
      · exact ne_ref_of_pocc_zero D.pz hm
      · simp
    have r2 := D.tr.stable.rep (.step (id := id1) (.root (by simp)) (by rw [D.pay1]; exact hs))
      (frame_rep _ D.pz r hsne)
    exact frame_rep _ D.pzw r2 hsne
  have repv : ∀ t', Rep w.h w.v t' →
      Rep (setPayload w.h id1 ((payloadOf w.h id1).set j w.v)) (.ref id1) (t0.withKids (t0.kids.set j t')) := by
    intro t' rv
    apply Rep_ref_cont (Tree.withKids_isCont _ hcont) D.lt2 (by rw [Tree.withKids_keysT, D.keys2]; exact hkeys)
      (Tree.dictWF_withKids hwf (by simp))
    rw [D.pay2, Tree.withKids_kids _ hcont]
    have := All2.set j sib (frame_rep _ D.pzw rv D.vne)
    simpa [List.set_set] using this
  refine ⟨⟨?_, ?_, ?_⟩, ?_⟩
  · -- the new slot value moves from the owned values into the payload
    have iw : Inv w.h (.ref id1 :: w.v :: (w.r :: (bif w.ok then [] else cap) ++ F)) :=
      D.tr.inv.perm List.perm_middle
    have i3 := slot_write_inv iw D.rcw (by rw [D.payw]; simpa using hj)
    have hnull : (payloadOf w.h id1).getD j .null = .null := by
      rw [D.payw]; exact getD_set_self _ _ _ _ hj
    rw [hnull] at i3
    exact i3.congr (fun k => by simp [occ_cons, occ_append] <;> omega)
  · exact ((Stable.setAlloc _ (not_reach_of_zero D.pz D.fz)).trans (D.tr.stable.mono (by intro v hv; simp [hv]))).trans
      (Stable.setAlloc _ (not_reach_of_zero D.pzw D.fz))
  · intro k hp hle
    rw [rcOf_setPayload]
    have := D.tr.tight k (by rw [rcOf_setPayload]; exact hp)
      (by rw [rcOf_setPayload]; simp only [occ_cons]; omega)
    rw [rcOf_setPayload] at this
    exact this
  · cases hψ : ψ (t0.kids.getD j .null) with
    | none =>
      rw [hψ] at Wrep
      dsimp only at Wrep ⊢
      refine ⟨Wrep.1, ?_, Wrep.2.2⟩
      have := repv _ Wrep.2.1
      rwa [set_getD_self, Tree.withKids_self] at this
    | some tr =>
      obtain ⟨t', r⟩ := tr
      rw [hψ] at Wrep
      dsimp only at Wrep ⊢
      exact ⟨Wrep.1, repv _ Wrep.2.1, frame_rep _ D.pzw Wrep.2.2 D.rne⟩

theorem modPath_nil (φ : LeafT) (t : Tree) : modPath φ t [] = φ.act t := by
  cases t <;> rfl

theorem modPath_list_cons (φ : LeafT) (ts : List Tree) (i : Int) (rest : List Int) :
    modPath φ (.list ts) (i :: rest) =
      (match pyIdx ts.length i with
       | none => none
       | some j =>
         match modPath φ (ts.getD j .null) rest with
         | none => none
         | some (t', r) => some (.list (ts.set j t'), r)) := by
  rw [modPath]
  cases pyIdx ts.length i with
  | none => rfl
  | some j => dsimp only; cases modPath φ (ts.getD j .null) rest <;> rfl

/-- the Spec side of a missing slot: an index assignment whose last index is a new dict key inserts it -/
def modMissing (φ : LeafT) (t : Tree) (i : Int) (rest : List Int) : Option (Tree × Tree) :=
  match t.keysT, rest, φ.ins with
  | some ks, [], some new => some (.dict (ks ++ [i]) (t.kids ++ [new]), .null)
  | _, _, _ => none

/-- `modPath` on a container, uniformly for lists and dicts -/
theorem modPath_cont_cons (φ : LeafT) {t : Tree} (hc : t.isCont = true) (i : Int) (rest : List Int) :
    modPath φ t (i :: rest) =
      (match treeSlot t i with
       | some j =>
         match modPath φ (t.kids.getD j .null) rest with
         | none => none
         | some (t', r) => some (t.withKids (t.kids.set j t'), r)
       | none => modMissing φ t i rest) := by
  cases t with
  | null => simp at hc
  | int n => simp at hc
  | list ts =>
    rw [modPath_list_cons]
    simp only [treeSlot, Tree.keysT_list, Tree.kids_list, Tree.withKids_list]
    cases pyIdx ts.length i with
    | none => simp [modMissing]
    | some j => rfl
  | dict ks vs =>
    simp only [treeSlot, Tree.keysT_dict, Tree.kids_dict, Tree.withKids_dict]
    cases hds : dictSlot ks vs.length i with
    | none =>
      simp only [modMissing, Tree.keysT_dict, Tree.kids_dict]
      cases rest <;> cases hi : φ.ins <;> simp [modPath, hds, hi]
    | some j =>
      dsimp only
      simp only [modPath, hds]
      cases modPath φ (vs.getD j .null) rest <;> rfl

/-- how the inserted value of the Impl leaf and of the Spec leaf relate to the captured values: neither
leaf inserts, or both insert the one captured value -/
def InsSpec (li : Option Val) (ti : Option Tree) (cap : List Val) (capT : List Tree) : Prop :=
  (li = none ∧ ti = none) ∨ ∃ new tn, li = some new ∧ ti = some tn ∧ cap = [new] ∧ capT = [tn]

/-- **`walk` lifts a leaf contract along an index path**: `set_index` / `modify_existing_index` with
`make_mut` at every level computes exactly the Spec's `modPath` on the represented tree (lists and
dicts, insertion of a new key at the last level included), preserves the count invariant, and touches
nothing reachable from the frame.  `LeafSpec` is a `def`: `walk_spec L LI path` is applied to `h c F t` and the three
hypotheses, and what comes out holds β-redexes (`(fun t => modPath φ t path) t`); `dsimp only at` it, or `rw` with an equation
about `modPath φ t path` finds no instance. -/
theorem walk_spec {leaf : Leaf} {cap : List Val} {capT : List Tree}
    {φ : LeafT} (L : LeafSpec leaf.act cap capT φ.act) (LI : InsSpec leaf.ins φ.ins cap capT) :
    ∀ path : List Int, LeafSpec (fun h v => walk leaf h v path) cap capT (fun t => modPath φ t path) := by
  intro path
  induction path with
  | nil =>
    intro h c F t i r rcap
    simp only [walk_nil, modPath_nil]
    exact L h c F t i r rcap
  | cons ix rest ih =>
    intro h c F t i r rcap
    dsimp only
    cases c with
    | null =>
      have := Rep_null_inv r; subst this
      rw [walk_null_cons]
      exact ⟨Tr.raise i, rfl, r, rfl⟩
    | int n =>
      have := Rep_int_inv r; subst this
      rw [walk_int_cons]
      exact ⟨Tr.raise i, rfl, r, rfl⟩
    | ref id =>
      obtain ⟨hc, hl, hk, hw, a⟩ := Rep_ref_inv r
      obtain ⟨m, hm⟩ : ∃ m, makeMut h id = m := ⟨_, rfl⟩
      have MS := makeMut_spec (F := cap ++ F) (i.congr (fun k => by simp [occ_cons, occ_append])) hm
      have a0 : All2 (Rep m.1) (payloadOf m.1 m.2) t.kids := by
        rw [MS.pay]
        exact All2.mono (fun _ _ _ r => r.ext MS.ext) a
      have rcap0 : All2 (Rep m.1) cap capT := All2.mono (fun _ _ _ r => r.ext MS.ext) rcap
      have hlen : (payloadOf m.1 m.2).length = t.kids.length := All2.length_eq a0
      have hk0 : keysOf m.1 m.2 = t.keysT := by rw [MS.keys]; exact hk
      have i0 : Inv m.1 (.ref m.2 :: (cap ++ F)) :=
        MS.tr.inv.congr (fun k => by simp [occ_cons, occ_append])
      rw [walk_ref_cons, hm, modPath_cont_cons φ hc, slotOf_eq_treeSlot hk0 hlen]
      cases hp : treeSlot t ix with
      | none =>
        dsimp only
        -- failure unless this is an index assignment of a new key at the last level
        have fail : Tr h m.1 (.ref m.2 :: .null :: cap) F ∧
            Rep m.1 (.ref m.2) t :=
          ⟨MS.tr.to_outs.outs_weaken (fun k => by simp [occ_cons]),
           Rep_ref_cont hc MS.lt hk0 hw a0⟩
        unfold walkMissing modMissing
        rw [hk0]
        cases hkt : t.keysT with
        | none => exact ⟨fail.1, rfl, fail.2, rfl⟩
        | some ks =>
          cases rest with
          | cons i2 r2 => exact ⟨fail.1, rfl, fail.2, rfl⟩
          | nil =>
            rcases LI with ⟨hli, hti⟩ | ⟨new, tn, hli, hti, rfl, rfl⟩
            · simp only [hli, hti]; exact ⟨fail.1, trivial, fail.2, trivial⟩
            · simp only [hli, hti, setEntries]
              obtain ⟨T, hl', hp', hk', keep⟩ := makeMut_rewrite hm (ins := [new]) (outs := []) (F := F)
                ⟨payloadOf m.1 m.2 ++ [new], rcOf m.1 m.2,
                  some (ks ++ [ix])⟩ i rfl (fun k => by simp [MS.pay, occ_append])
              refine ⟨T.outs_weaken (fun k => by simp [occ_cons]), trivial, ?_, Rep_null⟩
              refine Rep_ref_dict hl' hk' (by simp [hw ks hkt]) ?_
              rw [hp']
              have a' : All2 (Rep h) (payloadOf m.1 m.2) t.kids := by rw [MS.pay]; exact a
              exact All2.append (All2.mono (fun s _ hs r => keep r (by rw [← MS.pay]; simp [hs])) a')
                ⟨keep (by simpa using rcap) (by simp), trivial⟩
      | some j =>
        dsimp only
        have hj : j < (payloadOf m.1 m.2).length :=
          slotOf_lt (by rw [slotOf_eq_treeSlot hk0 hlen]; exact hp)
        have S := walkStep_spec (F := F) ih i0 MS.rc1 hj hc hk0 hw a0 rcap0 rfl
        obtain ⟨Str, Srep⟩ := S
        refine ⟨?_, ?_⟩
        · refine ⟨Str.inv, (MS.ext.stable F).trans Str.stable, fun k hpk hle => ?_⟩
          have e1 := MS.tr.tight k hpk (by simp only [occ_append]; omega)
          have := Str.tight k (by omega) (by omega)
          omega
        · cases hψ : modPath φ (t.kids.getD j .null) rest with
          | none => rw [hψ] at Srep; exact Srep
          | some tr => obtain ⟨t', r'⟩ := tr; rw [hψ] at Srep; exact Srep

/-! ### the contracts of the four leaf actions -/

theorem setLeaf_spec (new : Val) (tn : Tree) : LeafSpec (setLeaf new).act [new] [tn] (setφ tn).act := by
  intro h c F t i _ rcap
  have t0 := drop_tr (h := h) (v := c) (F := new :: F) (i.congr (fun k => by simp [occ_cons]))
  refine ⟨?_, rfl, ?_, Rep_null⟩
  · exact t0.to_outs (G := [new]) |>.outs_weaken (fun k => by simp [setLeaf, occ_cons])
  · have : Rep h new tn := by simpa using rcap
    exact t0.stable.rep (.root (by simp [setLeaf])) this

theorem setLeaf_ins (new : Val) (tn : Tree) : InsSpec (setLeaf new).ins (setφ tn).ins [new] [tn] :=
  .inr ⟨new, tn, rfl, rfl, rfl, rfl⟩
theorem takeLeaf_ins : InsSpec takeLeaf.ins takeφ.ins [] [] := .inl ⟨rfl, rfl⟩
theorem popLeaf_ins : InsSpec popLeaf.ins popφ.ins [] [] := .inl ⟨rfl, rfl⟩
theorem removeLeaf_ins (i : Int) : InsSpec (removeLeaf i).ins (removeφ i).ins [] [] := .inl ⟨rfl, rfl⟩

theorem takeLeaf_spec : LeafSpec takeLeaf.act [] [] takeφ.act := by
  intro h c F t i r _
  exact ⟨Tr.refl (i.congr (fun k => by simp [takeLeaf, occ_cons])), rfl, Rep_null, r⟩

theorem popLeaf_spec : LeafSpec popLeaf.act [] [] popφ.act := by
  intro h c F t i r _
  cases c with
  | null => cases Rep_null_inv r; exact ⟨Tr.raise i, rfl, r, rfl⟩
  | int n => cases Rep_int_inv r; exact ⟨Tr.raise i, rfl, r, rfl⟩
  | ref id =>
    obtain ⟨hc, hl, hk, hw, a⟩ := Rep_ref_inv r
    cases t with
    | null => simp at hc
    | int n => simp at hc
    | dict ks vs =>
      have e : popLeaf.act h (.ref id) = ⟨h, .ref id, .null, false⟩ := by
        simp only [popLeaf, popAct, hk, Tree.keysT_dict]
      rw [e]
      exact ⟨Tr.raise i, rfl, r, rfl⟩
    | list ts =>
      simp only [Tree.keysT_list, Tree.kids_list] at hk a
      obtain ⟨m, hm⟩ : ∃ m, makeMut h id = m := ⟨_, rfl⟩
      have MS := makeMut_spec (F := F) i hm
      cases hg : (payloadOf h id).getLast? with
      | none =>
        have e : popLeaf.act h (.ref id) = ⟨m.1, .ref m.2, .null, false⟩ := by
          simp only [popLeaf, popAct, hk, hm, MS.pay, hg]
        rw [e]
        simp only [popφ, Store.popAct, All2.getLast?_none a hg]
        refine ⟨MS.tr.outs_weaken (fun k => by simp [occ_cons]), trivial, ?_, trivial⟩
        refine Rep_ref_list MS.lt (by rw [MS.keys]; exact hk) ?_
        rw [MS.pay]; exact All2.mono (fun _ _ _ r => r.ext MS.ext) a
      | some x =>
        have e : popLeaf.act h (.ref id) = ⟨setAlloc m.1 m.2
            ⟨(payloadOf h id).dropLast, rcOf m.1 m.2, keysOf m.1 m.2⟩,
            .ref m.2, x, true⟩ := by
          simp only [popLeaf, popAct, hk, hm, MS.pay, hg, setPayload]
        rw [e]
        obtain ⟨y, hy, rxy⟩ := All2.getLast? a hg
        simp only [popφ, Store.popAct, hy]
        obtain ⟨T, hl', hp', hk', keep⟩ := makeMut_rewrite hm (ins := []) (outs := [x])
          ⟨(payloadOf h id).dropLast, rcOf m.1 m.2, keysOf m.1 m.2⟩ i rfl
          (fun k => by have := occ_dropLast_getLast k _ x hg; simp at this ⊢; omega)
        refine ⟨T, trivial, Rep_ref_list hl' (by rw [hk', MS.keys]; exact hk) ?_,
          keep rxy (by simpa using List.mem_of_getLast? hg)⟩
        rw [hp']
        exact All2.mono (fun s _ hs r => keep r (by simpa using List.dropLast_subset _ hs)) (All2.dropLast a)

theorem removeLeaf_spec (ix : Int) : LeafSpec (removeLeaf ix).act [] [] (removeφ ix).act := by
  intro h c F t i r _
  cases c with
  | null => cases Rep_null_inv r; exact ⟨Tr.raise i, rfl, r, rfl⟩
  | int n => cases Rep_int_inv r; exact ⟨Tr.raise i, rfl, r, rfl⟩
  | ref id =>
    obtain ⟨hc, hl, hk, hw, a⟩ := Rep_ref_inv r
    obtain ⟨m, hm⟩ : ∃ m, makeMut h id = m := ⟨_, rfl⟩
    have MS := makeMut_spec (F := F) i hm
    have hlen : (payloadOf h id).length = t.kids.length := All2.length_eq a
    -- the element taken out, once its slot `j` is known: the same for a list and for a dict
    have out : ∀ (j : Nat) (ks' : Option (List Int)) (t' : Tree), j < (payloadOf h id).length →
        t'.isCont = true → t'.keysT = ks' → t'.dictWF → t'.kids = t.kids.eraseIdx j →
        ∀ H, H = setAlloc m.1 m.2 ⟨(payloadOf h id).eraseIdx j, rcOf m.1 m.2, ks'⟩ →
        Tr h H [.ref m.2, (payloadOf h id).getD j .null] F ∧ Rep H (.ref m.2) t' ∧
          Rep H ((payloadOf h id).getD j .null) (t.kids.getD j .null) := by
      intro j ks' t' hj hc' hk' hw' hkids H hH
      subst hH
      obtain ⟨T, hl', hp', hkk, keep⟩ := makeMut_rewrite hm (ins := []) (outs := [(payloadOf h id).getD j .null])
        ⟨(payloadOf h id).eraseIdx j, rcOf m.1 m.2, ks'⟩ i rfl
        (fun k => by have := occ_eraseIdx k (payloadOf h id) j; simp at this ⊢; omega)
      refine ⟨T, Rep_ref_cont hc' hl' (by rw [hkk, hk']) hw' ?_,
        keep (All2.getD j a Rep_null) (by simpa using getD_mem _ hj)⟩
      rw [hp', hkids]
      exact All2.mono (fun s _ hs r => keep r (by simpa using List.mem_of_mem_eraseIdx hs)) (All2.eraseIdx j a)
    cases t with
    | null => simp at hc
    | int n => simp at hc
    | list ts =>
      simp only [Tree.keysT_list, Tree.kids_list] at hk hlen
      cases hp : pyIdx ts.length ix with
      | none =>
        have e : (removeLeaf ix).act h (.ref id) = ⟨h, .ref id, .null, false⟩ := by
          simp only [removeLeaf, removeAct, hk, hlen, pyIndex_eq_pyIdx, hp]
        rw [e]; simp only [removeφ, Store.removeAct, hp]
        exact ⟨Tr.raise i, trivial, r, trivial⟩
      | some j =>
        have hj : j < (payloadOf h id).length := by
          rw [hlen]; exact pyIndex_lt (by rw [pyIndex_eq_pyIdx]; exact hp)
        have e : (removeLeaf ix).act h (.ref id) = ⟨setAlloc m.1 m.2
            ⟨(payloadOf h id).eraseIdx j, rcOf m.1 m.2, keysOf m.1 m.2⟩,
            .ref m.2, (payloadOf h id).getD j .null, true⟩ := by
          simp only [removeLeaf, removeAct, hk, hlen, pyIndex_eq_pyIdx, hp, hm, MS.pay, setPayload]
        rw [e]; simp only [removeφ, Store.removeAct, hp]
        obtain ⟨T, r1, r2⟩ := out j (keysOf m.1 m.2) (.list (ts.eraseIdx j)) hj rfl (by rw [MS.keys, hk]; rfl)
          (Tree.dictWF_list _) rfl _ rfl
        exact ⟨T, trivial, r1, r2⟩
    | dict ks vs =>
      simp only [Tree.keysT_dict, Tree.kids_dict] at hk hlen
      have hslot : slotOf m.1 m.2 ix = dictSlot ks vs.length ix :=
        slotOf_eq_treeSlot (t := .dict ks vs) (by rw [MS.keys]; exact hk) (by rw [MS.pay]; exact hlen) ix
      have hwl : ks.length = vs.length := by simpa [Tree.kids] using hw ks rfl
      cases hp : dictSlot ks vs.length ix with
      | none =>
        have e : (removeLeaf ix).act h (.ref id) = ⟨m.1, .ref m.2, .null, false⟩ := by
          simp only [removeLeaf, removeAct, hk, hm, hslot, hp]
        rw [e]; simp only [removeφ, Store.removeAct, hp]
        refine ⟨MS.tr.outs_weaken (fun k => by simp [occ_cons]), trivial, ?_, trivial⟩
        refine Rep_ref_dict MS.lt (by rw [MS.keys]; exact hk) hwl ?_
        rw [MS.pay]; exact All2.mono (fun _ _ _ r => r.ext MS.ext) a
      | some j =>
        have hj : j < (payloadOf h id).length := by
          rw [← MS.pay]; exact slotOf_lt (by rw [hslot]; exact hp)
        have e : (removeLeaf ix).act h (.ref id) = ⟨setAlloc m.1 m.2
            ⟨(payloadOf h id).eraseIdx j, rcOf m.1 m.2, some (ks.eraseIdx j)⟩,
            .ref m.2, (payloadOf h id).getD j .null, true⟩ := by
          simp only [removeLeaf, removeAct, hk, hm, hslot, hp, MS.pay, setEntries]
        rw [e]; simp only [removeφ, Store.removeAct, hp]
        obtain ⟨T, r1, r2⟩ := out j (some (ks.eraseIdx j)) (.dict (ks.eraseIdx j) (vs.eraseIdx j)) hj rfl rfl
          (Tree.dictWF_dict (by simp [List.length_eraseIdx, hwl])) rfl _ rfl
        exact ⟨T, trivial, r1, r2⟩

end Noulith.RcHeap
