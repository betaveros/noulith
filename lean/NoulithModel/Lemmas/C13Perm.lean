/-
The shape of an index vector pins down the pair of positions the scan of `Permutations::next`
returns (the transcription shared with C11, `Impl/Stream.lean` `Perm.scan`): C11's
`PermT.scan_of_decomp`, on which its step lemma rests, under the name C13's documents use.
`left_getD` is the mirror image of `PermT.right_getD`.
-/
import NoulithModel.Theorems.C11PermStep
namespace Noulith.C13Perm
open Noulith Noulith.Stream Noulith.C11 Noulith.C11.PermT

theorem left_getD (d1 : List Nat) (y : Nat) (d2 : List Nat) (i : Nat) (hi : i < d1.length) :
    (d1 ++ y :: d2).getD i 0 ∈ d1 := by
  simp only [List.getD_eq_getElem?_getD]
  rw [List.getElem?_append_left hi, List.getElem?_eq_getElem hi]
  simp

theorem scan_of_decomp (p d1 d2 : List Nat) (x y : Nat)
    (hdesc : (d1 ++ y :: d2).Pairwise (· > ·)) (hB : y > x) (hC : ∀ b ∈ d2, b < x) :
    Perm.scan (p ++ x :: (d1 ++ y :: d2)) = some (p.length, p.length + 1 + d1.length) :=
  PermT.scan_of_decomp p d1 d2 x y hdesc hB hC

end Noulith.C13Perm
