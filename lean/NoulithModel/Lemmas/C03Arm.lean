/-
C03: the `Expr::Chain` arm and `Func::ChainSection` as transcribed in `Impl/Chain.lean`: which
sub-expressions each path evaluates (`chainArm_within`), what a section applied to arguments does
(`sectionGives_enough`, `runChainSection_wrong`), and the value of the arm when every
sub-expression evaluates (`sectionOps_value`, `generalLoop_value`).

Every fact about a loop of the arm is proved by following its `Tr.bind`s: `Tr.Within` (which
sub-expressions are evaluated) and the projection `Tr.bind_snd` (what is returned) each have a rule
for `bind`, so no proof looks inside the monad.
-/
import NoulithModel.Impl.Chain
import NoulithModel.Lemmas.Out

namespace Noulith.Chain

variable {E F V : Type}

theorem give_new_finish (run : F → List V → Out V) (tc : F → F → Option F) (a b : V) (f : F)
    (p : Precedence) :
    ((CE.new a).give run tc f p b).bind (fun s => s.finish run) = run f [a, b] :=
  Out.bind_ok_right _

namespace Tr
variable {α β : Type}
@[simp] theorem bind_pure (a : α) (f : α → Tr E β) : Tr.bind (Tr.pure a) f = f a := by
  simp [Tr.bind, Tr.pure]
@[simp] theorem bind_fail (f : α → Tr E β) : Tr.bind (Tr.fail : Tr E α) f = Tr.fail := by
  simp [Tr.bind, Tr.fail]
theorem bind_fst_prefix (x : Tr E α) (f : α → Tr E β) : x.1 <+: (Tr.bind x f).1 := by
  obtain ⟨l, o⟩ := x
  cases o <;> simp [Tr.bind]

theorem bind_snd (x : Tr E α) (f : α → Tr E β) : (Tr.bind x f).2 = x.2.bind fun a => (f a).2 := by
  obtain ⟨l, o⟩ := x
  cases o <;> rfl

theorem bind_lift_lift (o : Out α) (f : α → Out β) :
    Tr.bind (Tr.lift o : Tr E α) (fun a => Tr.lift (f a)) = Tr.lift (o.bind f) := by
  cases o <;> rfl

/-- `x` evaluates sub-expressions of `full` only, from the left and in this order, and all of
them if it yields a value -/
def Within (x : Tr E α) (full : List E) : Prop :=
  x.1 <+: full ∧ ∀ r, x.2 = .ok r → x.1 = full

theorem within_pure (a : α) : Within (Tr.pure a : Tr E α) [] := ⟨List.prefix_rfl, fun _ _ => rfl⟩
theorem within_lift (o : Out α) : Within (Tr.lift o : Tr E α) [] := ⟨List.prefix_rfl, fun _ _ => rfl⟩
theorem within_fail (full : List E) : Within (Tr.fail : Tr E α) full :=
  ⟨List.nil_prefix, fun _ h => nomatch h⟩

theorem within_bind {x : Tr E α} {f : α → Tr E β} {l₁ l₂ : List E} (hx : Within x l₁)
    (hf : ∀ a, Within (f a) l₂) : Within (Tr.bind x f) (l₁ ++ l₂) := by
  obtain ⟨l, o⟩ := x
  cases o with
  | ok a =>
    -- `x` yields a value, so its trace is all of `l₁`
    obtain rfl : l = l₁ := hx.2 a rfl
    exact ⟨(List.prefix_append_right_inj l).2 (hf a).1, fun r h => congrArg (l ++ ·) ((hf a).2 r h)⟩
  | throw => exact ⟨hx.1.trans (List.prefix_append l₁ l₂), fun _ h => nomatch h⟩
  | panic => exact ⟨hx.1.trans (List.prefix_append l₁ l₂), fun _ h => nomatch h⟩

theorem within_map {x : Tr E α} {l : List E} (hx : Within x l) (g : α → β) :
    Within (Tr.bind x fun a => Tr.pure (g a)) l :=
  List.append_nil l ▸ within_bind hx fun a => within_pure (g a)
end Tr

open Tr

section arm
variable (I : Lang E F V)

/-- the sub-expressions of the chain that are not `_` holes, in source order -/
def expectedTrace (op1 : E) (ops : List (E × E)) : List E :=
  (if I.isUnderscore op1 then [] else [op1]) ++
    ops.flatMap (fun p => if I.isUnderscore p.2 then [p.1] else [p.1, p.2])

theorem within_evalT (e : E) : Within (evalT I e) [e] :=
  ⟨by unfold evalT; cases I.evaluate e <;> exact List.prefix_rfl, fun _ _ => rfl⟩

theorem evalT_snd (e : E) : (evalT I e).2 = I.evaluate e := rfl

theorem within_evalT_bind {β : Type} (e : E) {k : V → Tr E β} {rest : List E}
    (hk : ∀ v, Within (k v) rest) : Within (Tr.bind (evalT I e) k) (e :: rest) :=
  within_bind (within_evalT I e) hk

/-! #### which sub-expressions each path evaluates -/

theorem generalLoop_within (ops : List (E × E)) : ∀ ev : CE F V,
    Within (generalLoop I ops ev) (ops.flatMap fun p => [p.1, p.2]) := by
  induction ops with
  | nil => exact fun _ => within_lift _
  | cons o rest ih =>
    refine fun ev => within_evalT_bind I o.1 fun oprr => ?_
    cases I.asFunc oprr with
    | none => exact within_fail _
    | some bp =>
      exact within_evalT_bind I o.2 fun oprd => within_bind (l₁ := []) (within_lift _) ih

theorem sectionOps_within (ops : List (E × E)) :
    Within (sectionOps I ops)
      (ops.flatMap fun p => if I.isUnderscore p.2 then [p.1] else [p.1, p.2]) := by
  induction ops with
  | nil => exact within_pure _
  | cons o rest ih =>
    rw [sectionOps, List.flatMap_cons]
    cases hu : I.isUnderscore o.2 <;>
      refine within_evalT_bind I o.1 fun oprr => ?_ <;>
      cases I.asFunc oprr with
      | none => exact within_fail _
      | some bp => ?_
    · exact within_evalT_bind I o.2 fun oprd => within_map ih _
    · exact within_map ih _

theorem flatMap_no_holes : ∀ (ops : List (E × E)),
    ops.any (fun p => I.isUnderscore p.2) = false →
    ops.flatMap (fun p => if I.isUnderscore p.2 then [p.1] else [p.1, p.2]) =
      ops.flatMap (fun p => [p.1, p.2])
  | [], _ => rfl
  | p :: ops, h => by
    simp only [List.any_cons, Bool.or_eq_false_iff] at h
    simp only [List.flatMap_cons, h.1, Bool.false_eq_true, if_false, flatMap_no_holes ops h.2]

theorem expectedTrace_no_holes (op1 : E) (ops : List (E × E))
    (h : (I.isUnderscore op1 || ops.any (fun p => I.isUnderscore p.2)) = false) :
    expectedTrace I op1 ops = op1 :: ops.flatMap (fun p => [p.1, p.2]) := by
  simp only [Bool.or_eq_false_iff] at h
  simp only [expectedTrace, h.1, flatMap_no_holes I ops h.2, Bool.false_eq_true, if_false,
    List.cons_append, List.nil_append]

/-- the arm evaluates non-hole sub-expressions only, once each, in source order, and all of them
if the chain yields a value -/
theorem chainArm_within (op1 : E) (ops : List (E × E)) :
    Within (chainArm I op1 ops) (expectedTrace I op1 ops) := by
  unfold chainArm
  split
  · refine within_bind ?_ fun v1 => within_map (sectionOps_within I ops) _
    split
    · exact within_pure _
    · exact within_map (within_evalT I op1) _
  · rename_i h
    rw [expectedTrace_no_holes I op1 ops (Bool.not_eq_true _ ▸ h)]
    split
    · exact within_evalT_bind I op1 fun lhs => within_evalT_bind I _ fun oprr => by
        cases I.asFunc oprr with
        | none => exact within_fail _
        | some bp => exact within_evalT_bind I _ fun oprd => within_lift _
    · exact within_evalT_bind I op1 fun v1 => generalLoop_within I ops _

/-! #### `Func::ChainSection` applied -/

/-- number of `_` holes among the operands of a section -/
def holesOf : List (F × Precedence × Option V) → Nat
  | [] => 0
  | (_, _, some _) :: rest => holesOf rest
  | (_, _, none) :: rest => holesOf rest + 1

/-- the section's operators with the holes filled from `it`, left to right -/
def fillOps : List (F × Precedence × Option V) → List V → List (F × Precedence × V)
  | [], _ => []
  | (f, p, some x) :: rest, it => (f, p, x) :: fillOps rest it
  | (f, p, none) :: rest, a :: it => (f, p, a) :: fillOps rest it
  | (_, _, none) :: rest, [] => fillOps rest []

theorem sectionGives_enough (ops : List (F × Precedence × Option V)) (it : List V) (ce : CE F V)
    (h : holesOf ops ≤ it.length) :
    sectionGives I ops it ce =
      (giveAll I.run I.tryChain (fillOps ops it) ce).bind
        (fun ce' => .ok (ce', it.drop (holesOf ops))) := by
  fun_induction sectionGives I ops it ce with
  | case1 => rfl
  | case2 f p rest ce x it ih =>
    rw [fillOps, giveAll, Out.bind_assoc]
    congr 1; funext ce'; exact ih ce' h
  | case3 f p rest ce a it ih =>
    rw [fillOps, giveAll, Out.bind_assoc]
    congr 1; funext ce'; exact ih ce' (Nat.le_of_succ_le_succ h)
  | case4 => nomatch h

theorem sectionGives_few (ops : List (F × Precedence × Option V)) (it : List V) (ce : CE F V)
    (h : it.length < holesOf ops) (r : CE F V × List V) : sectionGives I ops it ce ≠ .ok r := by
  fun_induction sectionGives I ops it ce with
  | case1 => nomatch h
  | case2 f p rest ce x it ih =>
    rw [ne_eq, Out.bind_eq_ok]
    exact fun ⟨ce', _, h'⟩ => ih ce' h h'
  | case3 f p rest ce a it ih =>
    rw [ne_eq, Out.bind_eq_ok]
    exact fun ⟨ce', _, h'⟩ => ih ce' (Nat.lt_of_succ_lt_succ h) h'
  | case4 => nofun

theorem runChainSection_wrong (x : V) (ops : List (F × Precedence × Option V)) (args : List V)
    (h : args.length ≠ holesOf ops) (v : V) : runChainSection I (some x) ops args ≠ .ok v := by
  unfold runChainSection
  simp only [ne_eq, Out.bind_eq_ok, not_exists, not_and]
  intro p hp
  rcases Nat.lt_or_gt_of_ne h with hlt | hgt
  · exact absurd hp (sectionGives_few I ops args _ hlt p)
  · -- too many: every `give` may succeed, but an argument is left over
    rw [sectionGives_enough I ops args _ (Nat.le_of_lt hgt), Out.bind_eq_ok] at hp
    obtain ⟨ce', _, hp⟩ := hp
    cases Out.ok.inj hp
    cases hd : args.drop (holesOf ops) with
    | nil => exact absurd (List.drop_eq_nil_iff.1 hd) (Nat.not_le_of_gt hgt)
    | cons _ _ => nofun

end arm

/-! #### the value of the arm when every sub-expression evaluates -/

section value
variable (I : Lang E F V)

/-- the operators and operands of the chain, evaluated (operands that are `_` stay holes);
`none` when some sub-expression fails or an operator is not a function -/
def evalOps : List (E × E) → Option (List (F × Precedence × Option V))
  | [] => some []
  | (oper, opd) :: rest =>
    match I.evaluate oper with
    | .ok w =>
      match I.asFunc w with
      | some (f, p) =>
        if I.isUnderscore opd then (evalOps rest).map ((f, p, none) :: ·)
        else
          match I.evaluate opd with
          | .ok v => (evalOps rest).map ((f, p, some v) :: ·)
          | _ => none
      | none => none
    | _ => none

theorem evalT_bind_snd {β : Type} {e : E} {v : V} (k : V → Tr E β) (h : I.evaluate e = .ok v) :
    (Tr.bind (evalT I e) k).2 = (k v).2 := by
  rw [bind_snd, evalT_snd, h]; rfl

theorem sectionOps_value (ops : List (E × E)) : ∀ (acc : List (F × Precedence × Option V)),
    evalOps I ops = some acc → (sectionOps I ops).2 = .ok acc := by
  fun_induction evalOps I ops with
  | case1 => intro _ h; cases h; rfl
  | case2 oper opd rest w hw f p hf hu ih =>
    intro acc h
    obtain ⟨acc', hr, rfl⟩ := Option.map_eq_some_iff.1 h
    rw [sectionOps, evalT_bind_snd I _ hw]
    simp only [hf]
    rw [if_pos hu, bind_snd, ih acc' hr]; rfl
  | case3 oper opd rest w hw f p hf hu v hv ih =>
    intro acc h
    obtain ⟨acc', hr, rfl⟩ := Option.map_eq_some_iff.1 h
    rw [sectionOps, evalT_bind_snd I _ hw]
    simp only [hf]
    rw [if_neg hu, evalT_bind_snd I _ hv, bind_snd, ih acc' hr]; rfl
  | case4 | case5 | case6 => intro _ h; cases h

theorem generalLoop_value (ops : List (E × E)) : ∀ (acc : List (F × Precedence × Option V))
    (ev : CE F V), ops.any (fun p => I.isUnderscore p.2) = false → evalOps I ops = some acc →
    (generalLoop I ops ev).2 =
      (giveAll I.run I.tryChain (fillOps acc []) ev).bind (fun s => s.finish I.run) := by
  fun_induction evalOps I ops with
  | case1 => intro _ _ _ h; cases h; rfl
  | case2 oper opd rest w hw f p hf hu ih =>
    intro _ _ hno
    rw [List.any_cons, hu] at hno
    cases hno
  | case3 oper opd rest w hw f p hf hu v hv ih =>
    intro acc ev hno h
    obtain ⟨acc', hr, rfl⟩ := Option.map_eq_some_iff.1 h
    rw [generalLoop, evalT_bind_snd I _ hw]
    simp only [hf]
    rw [evalT_bind_snd I _ hv, bind_snd, fillOps, giveAll, Out.bind_assoc]
    congr 1; funext ev'
    exact ih acc' ev' (Bool.or_eq_false_iff.1 (List.any_cons ▸ hno)).2 hr
  | case4 | case5 | case6 => intro _ _ _ h; cases h

end value

end Noulith.Chain
