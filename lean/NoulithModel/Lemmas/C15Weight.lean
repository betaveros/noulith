/-
Helper lemmas for C15 (parser termination): the weight `W` of a token list (a format-string token
weighs twice its body length + 2, every other token 1) and `W (lex cs) ≤ 2 * cs.length`.
-/
import NoulithModel.Impl.Lex
namespace Noulith.C15
open Noulith Noulith.Lex

/-- weight of a token for the parser's fuel: a format string carries its body, which is lexed and
parsed recursively (its tokens weigh at most `2 * s.length`, `W_lex_le`; the `+ 2` covers the constant
of `Bud.formatString`, Lemmas/C15ParseSpec.lean); every other token counts 1 -/
def tw : Token → Nat
  | .formatString s => 2 * s.length + 2
  | _ => 1

def W : List Token → Nat
  | [] => 0
  | t :: ts => tw t + W ts

theorem tw_pos (t : Token) : 1 ≤ tw t := by
  unfold tw
  split
  · exact Nat.le_add_left _ _
  · exact Nat.le_refl _
theorem tw_of_plain {t : Token} (h : t.plain = true) : tw t = 1 := by
  unfold tw
  split
  · cases h
  · rfl
@[simp] theorem W_nil : W [] = 0 := rfl
@[simp] theorem W_cons (t : Token) (ts : List Token) : W (t :: ts) = tw t + W ts := rfl
theorem W_append (a b : List Token) : W (a ++ b) = W a + W b := by
  induction a with
  | nil => simp
  | cons t a ih => simp [ih]; omega

theorem length_le_W (ts : List Token) : ts.length ≤ W ts := by
  induction ts with
  | nil => exact Nat.le_refl _
  | cons t ts ih => have := tw_pos t; rw [List.length_cons, W_cons]; omega

theorem W_of_plain {ts : List Token} (h : ∀ t ∈ ts, t.plain = true) : W ts = ts.length := by
  induction ts with
  | nil => rfl
  | cons t ts ih =>
    rw [W_cons, tw_of_plain (h t (by simp)), ih (fun u hu => h u (by simp [hu])), List.length_cons]
    omega

/-- the tokens of one iteration on `c :: cs` weigh at most twice the characters consumed: plain
tokens weigh 1 each and there are at most two; a format string weighs twice its decoded body, every
character of which was read from the input between the quotes -/
theorem W_step_le {cs : List Char} {s : Step} (h : Step.OK cs s) :
    W s.toks + 2 * s.rest.length ≤ 2 * cs.length + 2 := by
  cases h with
  | plain h =>
    have := h.count
    have := h.rest.length_le
    rw [W_of_plain h.plain]
    omega
  | fmt q body hb =>
    have hr := lexStr_ok q body
    have := hr.length
    have := hb.length_le
    have hpre : W (lexStr q body).pre ≤ 1 := by
      rcases hr.pre with h0 | ⟨k, hk⟩
      · rw [h0]; exact Nat.zero_le _
      · rw [hk]; exact Nat.le_refl _
    simp only [W_append, W_cons, W_nil, tw, List.length_cons] at *
    omega

/-- **the token stream weighs at most twice the source length** (format-string bodies included) -/
theorem W_lex_le (cs : List Char) : W (lex cs) ≤ 2 * cs.length := by
  fun_induction lex cs with
  | case1 => simp
  | case2 c cs h =>
    have := W_step_le (lexStep_ok c cs)
    simp only [List.length_cons]
    omega
  | case3 c cs h ih =>
    have := W_step_le (lexStep_ok c cs)
    simp only [W_append, List.length_cons]
    omega

theorem W_filter_le (p : Token → Bool) (ts : List Token) : W (ts.filter p) ≤ W ts := by
  induction ts with
  | nil => simp
  | cons t ts ih => simp only [List.filter_cons]; split <;> simp <;> omega

theorem W_stripComments_le (ts : List Token) : W (stripComments ts).1 ≤ W ts := W_filter_le _ ts

end Noulith.C15
