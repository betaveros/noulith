/-
C15, soundness of the parser model on the expression fragment.

The fragment: token lists over literals, identifiers, `( ) [ ] ,`.  `D` is its grammar in
difference-list form (`D c ts rest`: a phrase of category `c` is a prefix of `ts`, `rest` follows);
`Lang c pre := D c pre []`.  `AllSound n`: at fuel `n` every function of the recogniser that the
fragment can reach consumes only phrases of its category (partial correctness, `SpecP`).  Proved by
induction on the fuel: the step (`allSound_succ`) walks through the `do` block of each function with
the rules of `SpecP` (Lemmas/C15ParseRules.lean), one line per primitive, and names at every exit the production
of `D` that justifies the path taken.
The operator position of a chain is an `OpAtom` (an identifier, possibly wrapped in parentheses: the
recogniser requires the operator expression to *be* an identifier, `+` or `(+)`); the posts therefore
also track "if the result is a bare identifier expression then the phrase is an `OpAtom`".
-/
import NoulithModel.Lemmas.C15ParseRules
namespace Noulith.C15
open Noulith Noulith.Lex Noulith.Parse

/-! ### the expression fragment and its grammar -/

def isLitTok : Token → Bool
  | .intLit _ => true | .ratLit _ => true | .floatLit _ => true | .imagLit _ => true
  | .stringLit _ => true | .bytesLit _ => true | .null => true
  | _ => false

/-- the alphabet of the expression fragment: literals, identifiers, `( ) [ ] ,` -/
def Frag : Token → Bool
  | .intLit _ => true | .ratLit _ => true | .floatLit _ => true | .imagLit _ => true
  | .stringLit _ => true | .bytesLit _ => true | .null => true
  | .ident _ => true
  | .leftParen => true | .rightParen => true | .leftBracket => true | .rightBracket => true
  | .comma => true
  | _ => false

/-! `Frag` on each constructor of `Token`: the 13 kinds inside, then (names ending in `_`) the 56 outside.
`AllFrag.not_head` takes the latter to refute a branch of the recogniser, `simp` the former to show that
a concrete token list is in the fragment. -/
theorem frag_null : Frag .null = true := rfl
theorem frag_leftParen : Frag .leftParen = true := rfl
theorem frag_rightParen : Frag .rightParen = true := rfl
theorem frag_leftBracket : Frag .leftBracket = true := rfl
theorem frag_rightBracket : Frag .rightBracket = true := rfl
theorem frag_comma : Frag .comma = true := rfl
theorem frag_intLit (x) : Frag (.intLit x) = true := rfl
theorem frag_ratLit (x) : Frag (.ratLit x) = true := rfl
theorem frag_floatLit (x) : Frag (.floatLit x) = true := rfl
theorem frag_imagLit (x) : Frag (.imagLit x) = true := rfl
theorem frag_stringLit (x) : Frag (.stringLit x) = true := rfl
theorem frag_bytesLit (x) : Frag (.bytesLit x) = true := rfl
theorem frag_ident (x) : Frag (.ident x) = true := rfl
theorem frag_bLeftBracket_ : Frag .bLeftBracket = false := rfl
theorem frag_leftBrace_ : Frag .leftBrace = false := rfl
theorem frag_rightBrace_ : Frag .rightBrace = false := rfl
theorem frag_backtick_ : Frag .backtick = false := rfl
theorem frag_and_ : Frag .and = false := rfl
theorem frag_or_ : Frag .or = false := rfl
theorem frag_coalesce_ : Frag .coalesce = false := rfl
theorem frag_while_ : Frag .while = false := rfl
theorem frag_for_ : Frag .for = false := rfl
theorem frag_yield_ : Frag .yield = false := rfl
theorem frag_into_ : Frag .into = false := rfl
theorem frag_if_ : Frag .if = false := rfl
theorem frag_else_ : Frag .else = false := rfl
theorem frag_switch_ : Frag .switch = false := rfl
theorem frag_case_ : Frag .case = false := rfl
theorem frag_try_ : Frag .try = false := rfl
theorem frag_catch_ : Frag .catch = false := rfl
theorem frag_break_ : Frag .break = false := rfl
theorem frag_continue_ : Frag .continue = false := rfl
theorem frag_return_ : Frag .return = false := rfl
theorem frag_throw_ : Frag .throw = false := rfl
theorem frag_bang_ : Frag .bang = false := rfl
theorem frag_questionMark_ : Frag .questionMark = false := rfl
theorem frag_colon_ : Frag .colon = false := rfl
theorem frag_leftArrow_ : Frag .leftArrow = false := rfl
theorem frag_rightArrow_ : Frag .rightArrow = false := rfl
theorem frag_doubleLeftArrow_ : Frag .doubleLeftArrow = false := rfl
theorem frag_doubleColon_ : Frag .doubleColon = false := rfl
theorem frag_semicolon_ : Frag .semicolon = false := rfl
theorem frag_ellipsis_ : Frag .ellipsis = false := rfl
theorem frag_lambda_ : Frag .lambda = false := rfl
theorem frag_lambdaEnd_ : Frag .lambdaEnd = false := rfl
theorem frag_assign_ : Frag .assign = false := rfl
theorem frag_consume_ : Frag .consume = false := rfl
theorem frag_pop_ : Frag .pop = false := rfl
theorem frag_remove_ : Frag .remove = false := rfl
theorem frag_swap_ : Frag .swap = false := rfl
theorem frag_every_ : Frag .every = false := rfl
theorem frag_struct_ : Frag .struct = false := rfl
theorem frag_freeze_ : Frag .freeze = false := rfl
theorem frag_import_ : Frag .import = false := rfl
theorem frag_literally_ : Frag .literally = false := rfl
theorem frag_underscore_ : Frag .underscore = false := rfl
theorem frag_internalFrame_ : Frag .internalFrame = false := rfl
theorem frag_internalPush_ : Frag .internalPush = false := rfl
theorem frag_internalPop_ : Frag .internalPop = false := rfl
theorem frag_internalPeek_ : Frag .internalPeek = false := rfl
theorem frag_internalWhile_ : Frag .internalWhile = false := rfl
theorem frag_internalFor_ : Frag .internalFor = false := rfl
theorem frag_internalCall_ : Frag .internalCall = false := rfl
theorem frag_internalLambda_ : Frag .internalLambda = false := rfl
theorem frag_invalid_ (x) : Frag (.invalid x) = false := rfl
theorem frag_formatString_ (x) : Frag (.formatString x) = false := rfl
theorem frag_internalPeekN_ (x) : Frag (.internalPeekN x) = false := rfl
theorem frag_comment_ (x) : Frag (.comment x) = false := rfl
theorem frag_panic_ (x) : Frag (.panic x) = false := rfl

def AllFrag (ts : List Token) : Prop := ∀ t ∈ ts, Frag t = true

@[simp] theorem allFrag_nil : AllFrag [] := by simp [AllFrag]
@[simp] theorem allFrag_cons (t : Token) (ts : List Token) : AllFrag (t :: ts) ↔ Frag t = true ∧ AllFrag ts := by
  simp [AllFrag]

theorem AllFrag.head {t : Token} {tl : List Token} (h : AllFrag (t :: tl)) : Frag t = true := ((allFrag_cons _ _).1 h).1
theorem AllFrag.tail {t : Token} {tl : List Token} (h : AllFrag (t :: tl)) : AllFrag tl := ((allFrag_cons _ _).1 h).2
theorem AllFrag.not_head {t : Token} {tl : List Token} {p : Prop} (h : AllFrag (t :: tl)) (hn : Frag t = false) : p :=
  absurd h.head (by rw [hn]; decide)

inductive Cat where
  | atom | opAtom | operand | chain | opTail | args1 | args
  deriving DecidableEq, Repr

/-- the grammar, in difference-list form: `D c ts rest` — a phrase of category `c` is a prefix of
`ts`, and `rest` is what follows it.

    Atom    ::= literal | ident | '(' Args ')' | '[' ']' | '[' Args ']'
    Operand ::= Atom | Operand '(' ')' | Operand '(' Args ')' | Operand '[' Chain ']'
    OpAtom  ::= ident | '(' OpAtom ')'
    Chain   ::= Operand | Operand Atom | Operand OpAtom Operand OpTail
    OpTail  ::= ε | OpAtom Operand OpTail
    Args1   ::= Chain | Args1 ',' Chain
    Args    ::= Args1 | Args1 ','                                                        -/
inductive D : Cat → List Token → List Token → Prop where
  | lit (t : Token) (r : List Token) : isLitTok t = true → D .atom (t :: r) r
  | ident (s : List Char) (r : List Token) : D .atom (.ident s :: r) r
  | paren (ts r : List Token) : D .args ts (.rightParen :: r) → D .atom (.leftParen :: ts) r
  | emptyList (r : List Token) : D .atom (.leftBracket :: .rightBracket :: r) r
  | list (ts r : List Token) : D .args ts (.rightBracket :: r) → D .atom (.leftBracket :: ts) r
  | operandAtom (ts r : List Token) : D .atom ts r → D .operand ts r
  | callEmpty (ts r : List Token) : D .operand ts (.leftParen :: .rightParen :: r) → D .operand ts r
  | call (ts m r : List Token) : D .operand ts (.leftParen :: m) → D .args m (.rightParen :: r) → D .operand ts r
  | index (ts m r : List Token) : D .operand ts (.leftBracket :: m) → D .chain m (.rightBracket :: r) → D .operand ts r
  | chainOperand (ts r : List Token) : D .operand ts r → D .chain ts r
  | juxtapose (ts m r : List Token) : D .operand ts m → D .atom m r → D .chain ts r
  | opIdent (s : List Char) (r : List Token) : D .opAtom (.ident s :: r) r
  | opParen (ts r : List Token) : D .opAtom ts (.rightParen :: r) → D .opAtom (.leftParen :: ts) r
  | chainOps (ts m1 m2 m3 r : List Token) : D .operand ts m1 → D .opAtom m1 m2 → D .operand m2 m3 →
      D .opTail m3 r → D .chain ts r
  | opNil (r : List Token) : D .opTail r r
  | opCons (ts m1 m2 r : List Token) : D .opAtom ts m1 → D .operand m1 m2 → D .opTail m2 r → D .opTail ts r
  | args1One (ts r : List Token) : D .chain ts r → D .args1 ts r
  | args1Snoc (ts m r : List Token) : D .args1 ts (.comma :: m) → D .chain m r → D .args1 ts r
  | argsOf (ts r : List Token) : D .args1 ts r → D .args ts r
  | argsTrailing (ts r : List Token) : D .args1 ts (.comma :: r) → D .args ts r

theorem attach_frag (e : PExpr) (ts : List Token) (h : AllFrag ts) : attachSymbolAccesses e ts = .ok e ts := by
  unfold attachSymbolAccesses
  split
  · exact h.not_head frag_doubleColon_
  · exact h.not_head frag_doubleColon_
  · rfl

/-! ### rules of `SpecP` (Lemmas/C15ParseRules.lean) that rest on the fragment hypothesis -/
namespace SpecP
variable {β : Type} {ts : List Token}

theorem attach {e : PExpr} {f : PExpr → P β} {Q : β → List Token → Prop} (hf : AllFrag ts)
    (h : SpecP (f e ts) Q) : SpecP (((show P PExpr from attachSymbolAccesses e) >>= f) ts) Q :=
  bind (by rw [attach_frag e ts hf]; exact .ok h)

theorem tryConsume_outside {x : Token} {Q : Bool → List Token → Prop} (hf : AllFrag ts) (hx : Frag x = false)
    (h : Q false ts) : SpecP (Parse.tryConsume x ts) Q :=
  tryConsume (fun _ e => (e ▸ hf).not_head hx) h

theorem peekIs_outside {x : Token} {Q : Bool → List Token → Prop} (hf : AllFrag ts) (hx : Frag x = false)
    (h : Q false ts) : SpecP (Parse.peekIs x ts) Q :=
  peekIs (fun _ e => (e ▸ hf).not_head hx) h

end SpecP

theorem isIdent_iff (e : PExpr) : e.isIdent = true ↔ e = .ident := by
  cases e <;> simp [PExpr.isIdent]

def PostD (c : Cat) (ts : List Token) {α} : α → List Token → Prop := fun _ r => D c ts r ∧ AllFrag r
def PostI (c : Cat) (ts : List Token) : PExpr → List Token → Prop :=
  fun a r => D c ts r ∧ AllFrag r ∧ (a = .ident → D .opAtom ts r)
def PostSame {α} (e : α) (ts : List Token) : α → List Token → Prop := fun a r => r = ts ∧ a = e

structure AllSound (n : Nat) : Prop where
  atom : ∀ ts, AllFrag ts → SpecP (atom n ts) (PostI .atom ts)
  operand : ∀ ts, AllFrag ts → SpecP (operand n ts) (PostI .operand ts)
  operandLoop : ∀ ts0 cur ts, AllFrag ts → D .operand ts0 ts →
    SpecP (operandLoop n cur ts) (fun a r => D .operand ts0 r ∧ AllFrag r ∧ (a = .ident → cur = .ident ∧ r = ts))
  operator : ∀ ab ts, AllFrag ts →
    SpecP (operator n ab ts) (fun p r => D .atom ts r ∧ AllFrag r ∧ (p.1 = true → D .opAtom ts r))
  chain : ∀ ab ts, AllFrag ts → SpecP (chain n ab ts) (PostI .chain ts)
  chainLoop : ∀ ab ts, AllFrag ts → SpecP (chainLoop n ab ts) (PostD .opTail ts)
  logicAnd : ∀ ts, AllFrag ts → SpecP (logicAnd n ts) (PostI .chain ts)
  logicAndLoop : ∀ e ts, AllFrag ts → SpecP (logicAndLoop n e ts) (PostSame e ts)
  single : ∀ ts, AllFrag ts → SpecP (single n ts) (PostI .chain ts)
  singleLoop : ∀ e ts, AllFrag ts → SpecP (singleLoop n e ts) (PostSame e ts)
  acs : ∀ a ts, AllFrag ts → SpecP (acs n a ts)
    (fun p r => D .args ts r ∧ AllFrag r ∧ (∀ e, p.1 = [e] → p.2 = false → e = .ident → D .opAtom ts r))
  acsLoop : ∀ ts0 a x y c ts, AllFrag ts → D .args1 ts0 ts → SpecP (acsLoop n a x y c ts)
    (fun p r => D .args ts0 r ∧ AllFrag r ∧ (∀ e, p.1 = [e] → p.2 = false → r = ts ∧ x ++ y = [e] ∧ c = false))
  annotatedPattern : ∀ a ts, AllFrag ts → SpecP (annotatedPattern n a ts) (PostI .args ts)
  assignment : ∀ ts, AllFrag ts → SpecP (assignment n ts) (PostI .args ts)
  expression : ∀ ts, AllFrag ts → SpecP (expression n ts) (PostI .args ts)
  exprLoop : ∀ ts, AllFrag ts → SpecP (exprLoop n ts) (PostSame (false, false) ts)

attribute [irreducible] AllFrag

/-- at fuel 0 every function answers `oof`, of which `SpecP` says nothing -/
theorem allSound_zero : AllSound 0 := by
  constructor <;> intros <;> exact .oof

/-- the fields follow the order of the functions in `Impl/Parse.lean` -/
theorem allSound_succ (n : Nat) (ih : AllSound n) : AllSound (n + 1) where
  atom := by
    intro ts hf
    unfold atom
    cases ts with
    | nil => exact .err
    | cons t tl =>
      cases t with
      | null | intLit | ratLit | floatLit | imagLit | stringLit | bytesLit => exact .ok ⟨.lit _ _ rfl, hf.tail, nofun⟩
      | ident => exact .ok ⟨.ident _ _, hf.tail, fun _ => .opIdent _ _⟩
      | leftParen =>
        refine .bind ((ih.expression _ hf.tail).mono fun e r ⟨hd, hf', hi⟩ => ?_)
        refine .bind (.require ?_)
        rintro r' rfl
        exact .pure ⟨.paren _ _ hd, hf'.tail, fun he => .opParen _ _ (hi he)⟩
      | leftBracket =>
        refine .bind (.tryConsume ?_ ?_)
        · rintro r rfl
          exact .pure ⟨.emptyList _, hf.tail.tail, nofun⟩
        · refine .bind ((ih.acs _ _ hf.tail).mono fun p r ⟨hd, hf', _⟩ => ?_)
          obtain ⟨exs, c⟩ := p
          refine .bind (.require ?_)
          rintro r' rfl
          exact .pure ⟨.list _ _ hd, hf'.tail, nofun⟩
      | rightParen | rightBracket | comma => exact .err
      -- every other token is outside the fragment
      | _ => exact hf.not_head rfl
  operand := by
    intro ts hf
    unfold operand
    refine .bind ((ih.atom _ hf).mono fun cur r ⟨hd, hf, hi⟩ => ?_)
    refine (ih.operandLoop ts _ _ hf (.operandAtom _ _ hd)).mono fun a r' ⟨hd', hf', hs⟩ => ⟨hd', hf', fun ha => ?_⟩
    -- the result is still an identifier: no postfix was taken
    obtain ⟨rfl, rfl⟩ := hs ha
    exact hi rfl
  operandLoop := by
    intro ts0 cur ts hf hd
    -- after a postfix the accumulator is no identifier any more
    have again : ∀ cur' ts', cur' ≠ .ident → AllFrag ts' → D .operand ts0 ts' → SpecP (operandLoop n cur' ts')
        (fun a r => D .operand ts0 r ∧ AllFrag r ∧ (a = .ident → cur = .ident ∧ r = ts)) :=
      fun cur' ts' hc hf' hd' => (ih.operandLoop ts0 _ _ hf' hd').mono fun a r ⟨h, hf'', hs⟩ =>
        ⟨h, hf'', fun ha => absurd (hs ha).1 hc⟩
    unfold operandLoop
    refine .attach hf (.bind (.peek ?_ ?_))
    · rintro rfl
      exact .pure ⟨hd, hf, fun h => ⟨h, rfl⟩⟩
    rintro o t tl rfl ho
    split
    · cases ho
      refine .bind (.advance (.bind (.tryConsume ?_ ?_)))
      · rintro tl rfl
        exact again _ _ nofun hf.tail.tail (.callEmpty _ _ hd)
      · refine .bind ((ih.acs _ _ hf.tail).mono fun p r1 ⟨h1, hf1, _⟩ => ?_)
        obtain ⟨cs, c⟩ := p
        refine .bind (.require ?_)
        rintro r2 rfl
        exact again _ _ nofun hf1.tail (.call _ _ _ hd h1)
    · cases ho
      refine .bind (.advance (.bind (.tryConsume_outside hf.tail frag_colon_ ?_)))
      refine .bind (.skip ((ih.single _ hf.tail).mono fun _ r1 ⟨h1, hf1, _⟩ => ?_))
      refine .bind (.tryConsume_outside hf1 frag_colon_ ?_)
      refine .bind (.require ?_)
      rintro r2 rfl
      exact again _ _ nofun hf1.tail (.index _ _ _ hd h1)
    · cases ho
      exact hf.not_head frag_leftBrace_
    · cases ho
      exact hf.not_head frag_bang_
    · exact .pure ⟨hd, hf, fun h => ⟨h, rfl⟩⟩
  operator := by
    intro ab ts hf
    unfold operator
    refine .bind (.peekIs_outside hf frag_backtick_ ?_)
    rw [Bool.and_false]
    refine .bind ((ih.atom _ hf).mono fun e r ⟨hd, hf, hi⟩ => ?_)
    exact .pure ⟨hd, hf, fun h => hi ((isIdent_iff e).1 h)⟩
  chain := by
    intro ab ts hf
    unfold chain
    refine .bind ((ih.operand _ hf).mono fun op1 r1 ⟨h1, hf1, hi1⟩ => ?_)
    refine .peekIf (.pure ⟨.chainOperand _ _ h1, hf1, hi1⟩) ?_
    refine .bind ((ih.operator _ _ hf1).mono fun p r2 ⟨h2, hf2, ho⟩ => ?_)
    obtain ⟨isOp, second⟩ := p
    refine .attach hf2 ?_
    have juxt : PostI .chain ts (.call op1 [second] .juxtapose) r2 := ⟨.juxtapose _ _ _ h1 h2, hf2, nofun⟩
    split
    · rename_i hop
      refine .bind (.tryConsume_outside hf2 frag_bang_ ?_)
      refine .peekIf (.pure juxt) ?_
      refine .bind ((ih.operand _ hf2).mono fun o r3 ⟨h3, hf3, _⟩ => ?_)
      refine .bind ((ih.chainLoop _ _ hf3).mono fun ops r4 ⟨h4, hf4⟩ => ?_)
      exact .pure ⟨.chainOps _ _ _ _ _ h1 (ho hop) h3 h4, hf4, nofun⟩
    · exact .peekIf (.pure juxt) .fail
  chainLoop := by
    intro ab ts hf
    unfold chainLoop
    refine .peekIf ?_ (.pure ⟨.opNil _, hf⟩)
    refine .bind ((ih.operator _ _ hf).mono fun p r1 ⟨_, hf1, ho⟩ => ?_)
    obtain ⟨isOp, e⟩ := p
    refine .bind (.guardP fun h => ?_)
    refine .bind (.bind (.tryConsume_outside hf1 frag_bang_ ?_))
    refine (ih.operand _ hf1).mono fun o r2 ⟨h2, hf2, _⟩ => ?_
    refine .bind ((ih.chainLoop _ _ hf2).mono fun rest r3 ⟨h3, hf3⟩ => ?_)
    exact .pure ⟨.opCons _ _ _ _ (ho h) h2 h3, hf3⟩
  logicAnd := by
    intro ts hf
    unfold logicAnd
    refine .bind ((ih.chain _ _ hf).mono fun op1 r ⟨hd, hf, hi⟩ => ?_)
    exact (ih.logicAndLoop _ _ hf).mono fun _ _ ⟨hr, ha⟩ => hr ▸ ha ▸ ⟨hd, hf, hi⟩
  logicAndLoop := by
    intro e ts hf
    unfold logicAndLoop
    exact .bind (.tryConsume_outside hf frag_and_ (.pure ⟨rfl, rfl⟩))
  single := by
    intro ts hf
    unfold single
    refine .bind ((ih.logicAnd _ hf).mono fun op1 r ⟨hd, hf, hi⟩ => ?_)
    exact (ih.singleLoop _ _ hf).mono fun _ _ ⟨hr, ha⟩ => hr ▸ ha ▸ ⟨hd, hf, hi⟩
  singleLoop := by
    intro e ts hf
    unfold singleLoop
    refine .bind (.peek ?_ ?_)
    · rintro rfl
      exact .pure ⟨rfl, rfl⟩
    rintro o t tl rfl ho
    split
    · cases ho
      exact hf.not_head frag_or_
    · cases ho
      exact hf.not_head frag_coalesce_
    · exact .pure ⟨rfl, rfl⟩
  acs := by
    intro a ts hf
    unfold acs
    refine .bind ((ih.single _ hf).mono fun first r ⟨hd, hf, hi⟩ => ?_)
    refine (ih.acsLoop ts _ _ _ _ _ hf (.args1One _ _ hd)).mono fun p r' ⟨hd', hf', hs⟩ =>
      ⟨hd', hf', fun e he hc hid => ?_⟩
    -- a single expression without comma: the loop stopped at once and `e` is `first`
    obtain ⟨rfl, hx, -⟩ := hs e he hc
    cases hx
    exact hi hid
  acsLoop := by
    intro ts0 a x y c ts hf hd
    unfold acsLoop
    refine .bind (.peek ?_ ?_)
    · rintro rfl
      exact .pure ⟨.argsOf _ _ hd, hf, fun e he hc => ⟨rfl, he, hc⟩⟩
    rintro o t tl rfl ho
    split
    · cases ho
      refine .bind (.advance (.bind (.peek ?_ ?_)))
      · rintro rfl
        exact .pure ⟨.argsTrailing _ _ hd, hf.tail, fun e _ hc => nomatch hc⟩
      rintro _ t' tl' rfl rfl
      split
      · exact .pure ⟨.argsTrailing _ _ hd, hf.tail, fun e _ hc => nomatch hc⟩
      split
      · rename_i h
        cases h
        exact hf.tail.not_head frag_colon_
      · refine .bind ((ih.single _ hf.tail).mono fun e r ⟨h1, hf1, _⟩ => ?_)
        -- after a comma the flag is set
        exact (ih.acsLoop ts0 _ _ _ _ _ hf1 (.args1Snoc _ _ _ hd h1)).mono fun p r ⟨h, hf2, hs⟩ =>
          ⟨h, hf2, fun e he hc => nomatch (hs e he hc).2.2⟩
    · cases ho
      exact hf.not_head frag_colon_
    · exact .pure ⟨.argsOf _ _ hd, hf, fun e he hc => ⟨rfl, he, hc⟩⟩
  annotatedPattern := by
    intro a ts hf
    unfold annotatedPattern
    refine .bind ((ih.acs _ _ hf).mono fun p r ⟨hd, hf, hi⟩ => ?_)
    obtain ⟨exs, c⟩ := p
    dsimp only
    split
    · exact .fail
    · exact .pure ⟨hd, hf, fun he => hi _ rfl rfl he⟩
    · exact .pure ⟨hd, hf, nofun⟩
    · exact .pure ⟨hd, hf, nofun⟩
  assignment := by
    intro ts hf
    unfold assignment
    refine .bind (.tryConsume_outside hf frag_swap_ ?_)
    refine .bind (.tryConsume_outside hf frag_every_ ?_)
    refine .bind ((ih.annotatedPattern _ _ hf).mono fun pat r ⟨hd, hf, hi⟩ => ?_)
    refine .bind (.peekIs_outside hf frag_assign_ ?_)
    exact .pure ⟨hd, hf, hi⟩
  expression := by
    intro ts hf
    unfold expression
    refine .bind ((ih.assignment _ hf).mono fun first r ⟨hd, hf, hi⟩ => ?_)
    refine .bind ((ih.exprLoop _ hf).mono fun _ _ ⟨hr, ha⟩ => ?_)
    subst hr ha
    exact .pure ⟨hd, hf, hi⟩
  exprLoop := by
    intro ts hf
    unfold exprLoop
    exact .bind (.tryConsume_outside hf frag_semicolon_ (.pure ⟨rfl, rfl⟩))

theorem allSound (n : Nat) : AllSound n := by
  induction n with
  | zero => exact allSound_zero
  | succ n ih => exact allSound_succ n ih

/-! ### from difference lists to languages -/

def Lang (c : Cat) (pre : List Token) : Prop := D c pre []

/-- `D` does not look at what follows the phrase: the consumed prefix is a phrase in every context -/
theorem D_cancel {c : Cat} {ts r : List Token} (h : D c ts r) :
    ∃ pre, ts = pre ++ r ∧ ∀ r', D c (pre ++ r') r' := by
  induction h with
  | lit t r hl => exact ⟨[t], rfl, fun r' => .lit t r' hl⟩
  | ident s r => exact ⟨[.ident s], rfl, fun r' => .ident s r'⟩
  | paren ts r _ ih =>
    obtain ⟨p, rfl, hq⟩ := ih
    exact ⟨.leftParen :: p ++ [.rightParen], by simp, fun r' => by simpa using D.paren _ r' (hq _)⟩
  | emptyList r => exact ⟨[.leftBracket, .rightBracket], rfl, fun r' => .emptyList r'⟩
  | list ts r _ ih =>
    obtain ⟨p, rfl, hq⟩ := ih
    exact ⟨.leftBracket :: p ++ [.rightBracket], by simp, fun r' => by simpa using D.list _ r' (hq _)⟩
  | operandAtom ts r _ ih =>
    obtain ⟨p, hp, hq⟩ := ih
    exact ⟨p, hp, fun r' => .operandAtom _ _ (hq r')⟩
  | callEmpty ts r _ ih =>
    obtain ⟨p, rfl, hq⟩ := ih
    exact ⟨p ++ [.leftParen, .rightParen], by simp, fun r' => by simpa using D.callEmpty _ r' (hq _)⟩
  | call ts m r _ _ ih1 ih2 =>
    obtain ⟨p1, rfl, hq1⟩ := ih1
    obtain ⟨p2, rfl, hq2⟩ := ih2
    exact ⟨p1 ++ .leftParen :: p2 ++ [.rightParen], by simp, fun r' => by simpa using D.call _ _ r' (hq1 _) (hq2 _)⟩
  | index ts m r _ _ ih1 ih2 =>
    obtain ⟨p1, rfl, hq1⟩ := ih1
    obtain ⟨p2, rfl, hq2⟩ := ih2
    exact ⟨p1 ++ .leftBracket :: p2 ++ [.rightBracket], by simp, fun r' => by simpa using D.index _ _ r' (hq1 _) (hq2 _)⟩
  | chainOperand ts r _ ih =>
    obtain ⟨p, hp, hq⟩ := ih
    exact ⟨p, hp, fun r' => .chainOperand _ _ (hq r')⟩
  | juxtapose ts m r _ _ ih1 ih2 =>
    obtain ⟨p1, rfl, hq1⟩ := ih1
    obtain ⟨p2, rfl, hq2⟩ := ih2
    exact ⟨p1 ++ p2, by simp, fun r' => by simpa using D.juxtapose _ _ r' (hq1 _) (hq2 _)⟩
  | opIdent s r => exact ⟨[.ident s], rfl, fun r' => .opIdent s r'⟩
  | opParen ts r _ ih =>
    obtain ⟨p, rfl, hq⟩ := ih
    exact ⟨.leftParen :: p ++ [.rightParen], by simp, fun r' => by simpa using D.opParen _ r' (hq _)⟩
  | chainOps ts m1 m2 m3 r _ _ _ _ ih1 ih2 ih3 ih4 =>
    obtain ⟨p1, rfl, hq1⟩ := ih1
    obtain ⟨p2, rfl, hq2⟩ := ih2
    obtain ⟨p3, rfl, hq3⟩ := ih3
    obtain ⟨p4, rfl, hq4⟩ := ih4
    exact ⟨p1 ++ p2 ++ p3 ++ p4, by simp, fun r' => by simpa using D.chainOps _ _ _ _ r' (hq1 _) (hq2 _) (hq3 _) (hq4 _)⟩
  | opNil r => exact ⟨[], rfl, fun r' => .opNil r'⟩
  | opCons ts m1 m2 r _ _ _ ih1 ih2 ih3 =>
    obtain ⟨p1, rfl, hq1⟩ := ih1
    obtain ⟨p2, rfl, hq2⟩ := ih2
    obtain ⟨p3, rfl, hq3⟩ := ih3
    exact ⟨p1 ++ p2 ++ p3, by simp, fun r' => by simpa using D.opCons _ _ _ r' (hq1 _) (hq2 _) (hq3 _)⟩
  | args1One ts r _ ih =>
    obtain ⟨p, hp, hq⟩ := ih
    exact ⟨p, hp, fun r' => .args1One _ _ (hq r')⟩
  | args1Snoc ts m r _ _ ih1 ih2 =>
    obtain ⟨p1, rfl, hq1⟩ := ih1
    obtain ⟨p2, rfl, hq2⟩ := ih2
    exact ⟨p1 ++ .comma :: p2, by simp, fun r' => by simpa using D.args1Snoc _ _ r' (hq1 _) (hq2 _)⟩
  | argsOf ts r _ ih =>
    obtain ⟨p, hp, hq⟩ := ih
    exact ⟨p, hp, fun r' => .argsOf _ _ (hq r')⟩
  | argsTrailing ts r _ ih =>
    obtain ⟨p, rfl, hq⟩ := ih
    exact ⟨p ++ [.comma], by simp, fun r' => by simpa using D.argsTrailing _ r' (hq _)⟩

theorem D_lang {c : Cat} {ts r : List Token} (h : D c ts r) : ∃ pre, ts = pre ++ r ∧ Lang c pre := by
  obtain ⟨pre, hp, hq⟩ := D_cancel h
  exact ⟨pre, hp, by have := hq []; simpa [Lang] using this⟩

/-- **soundness of the recogniser on the expression fragment** (`single`: one expression): whenever
`single` succeeds on a token list over the fragment's alphabet, what it consumed is a `Chain` phrase
of the grammar `D` -/
theorem single_sound (n : Nat) (ts : List Token) (hf : AllFrag ts) (e : PExpr) (rest : List Token)
    (h : single n ts = .ok e rest) : ∃ pre, ts = pre ++ rest ∧ Lang .chain pre :=
  D_lang (((allSound n).single ts hf).result h).1

/-- **soundness of `parse` on the expression fragment**: a non-empty token list over the fragment's
alphabet that the parser model accepts (with any fuel) is an `Args` phrase — a comma-separated
sequence of operator chains of operands built from literals, identifiers, calls, indexing,
parentheses and lists -/
theorem parseTokens_sound (fuel : Nat) (tokens : List Token) (hf : AllFrag tokens) (hne : tokens ≠ [])
    (h : Parse.parseTokens fuel tokens = .ok) : Lang .args tokens := by
  unfold Parse.parseTokens at h
  rw [if_neg (mt List.isEmpty_iff.1 hne)] at h
  split at h
  · rename_i e hr
    exact (((allSound fuel).expression tokens hf).result hr).1
  all_goals cases h

end Noulith.C15
