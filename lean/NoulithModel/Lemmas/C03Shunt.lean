/-
C03: the evaluator replayed on trees.  `shunt` is a proof device, neither the Impl model nor the
Spec: it is `ChainEvaluator` run on the free interpretation, where a pending entry remembers the
partially built application node (`Frame` = node so far, arriving operator, merged?).  By a stack
invariant (`Inv`) `shunt` builds a `Valid` tree (`shunt_is_valid`) whose yield is the chain
(`shunt_yield`, `chain_shunt`).
-/
import NoulithModel.Spec.ChainTree

namespace Noulith.Chain
open Tree

variable {F L : Type}

/-- a pending entry, on trees: the application node built so far is `plug · r` once the right
operand `r` is known -/
structure Frame (F L : Type) where
  l : Tree F L
  g : Op F
  isExt : Bool

namespace Frame
def plug (t : Frame F L) (r : Tree F L) : Tree F L :=
  if t.isExt then ext t.l t.g r else bin t.l t.g r
/-- precedence the entry keeps: that of the node's first operator -/
def prec (t : Frame F L) : Precedence := if t.isExt then headPrec t.l else t.g.prec
/-- first operators on the left spine of `plug t r` (independent of `r`) -/
def lsp (t : Frame F L) : List (Op F) := if t.isExt then lspine t.l else t.g :: lspine t.l
/-- function of `plug t r` (independent of `r`) -/
def merged (tc : F → F → Option F) (t : Frame F L) : Option F :=
  if t.isExt then (Tree.merged tc t.l).bind (fun f => tc f t.g.fn) else some t.g.fn
end Frame

section ghost
variable (tc : F → F → Option F)

/-- `giveLoop` on trees -/
def sgiveLoop (g : Op F) (x : L) : List (Frame F L) → Tree F L → List (Frame F L) × Tree F L
  | [], rm => ([⟨rm, g, false⟩], leaf x)
  | t :: rest, rm =>
    if tighter t.prec g.prec then
      if chains tc (t.plug rm) g then (⟨t.plug rm, g, true⟩ :: rest, leaf x)
      else sgiveLoop g x rest (t.plug rm)
    else (⟨rm, g, false⟩ :: t :: rest, leaf x)

def sfinish : List (Frame F L) → Tree F L → Tree F L
  | [], rm => rm
  | t :: rest, rm => sfinish rest (t.plug rm)

def sfeed : List (Op F × L) → List (Frame F L) × Tree F L → List (Frame F L) × Tree F L
  | [], s => s
  | (g, x) :: more, s => sfeed more (sgiveLoop tc g x s.1 s.2)

/-- the tree the evaluator builds for a chain -/
def shunt (c : ChainOf F L) : Tree F L :=
  let s := sfeed tc c.rest ([], leaf c.first)
  sfinish s.1 s.2

end ghost

def ChainOf.syms (c : ChainOf F L) : List (Sym F L) :=
  .opd c.first :: c.rest.flatMap (fun p => [.opr p.1, .opd p.2])

/-! ### basic facts about `plug` -/

@[simp] theorem headPrec_plug (t : Frame F L) (r : Tree F L) : headPrec (t.plug r) = t.prec := by
  unfold Frame.plug Frame.prec; cases t.isExt <;> simp [headPrec]

@[simp] theorem lspine_plug (t : Frame F L) (r : Tree F L) : lspine (t.plug r) = t.lsp := by
  unfold Frame.plug Frame.lsp; cases t.isExt <;> simp [lspine]

@[simp] theorem merged_plug (tc : F → F → Option F) (t : Frame F L) (r : Tree F L) :
    Tree.merged tc (t.plug r) = t.merged tc := by
  unfold Frame.plug Frame.merged; cases t.isExt <;> simp [Tree.merged]

@[simp] theorem rspine_plug (t : Frame F L) (r : Tree F L) :
    rspine (t.plug r) = t.plug r :: rspine r := by
  unfold Frame.plug; cases t.isExt <;> simp [rspine]

@[simp] theorem lastKid_plug (t : Frame F L) (r : Tree F L) : lastKid (t.plug r) = r := by
  unfold Frame.plug; cases t.isExt <;> simp [lastKid]

@[simp] theorem isNode_plug (t : Frame F L) (r : Tree F L) : isNode (t.plug r) = true := by
  unfold Frame.plug; cases t.isExt <;> simp [isNode]

theorem yield_plug (t : Frame F L) (r : Tree F L) :
    yield (t.plug r) = yield t.l ++ .opr t.g :: yield r := by
  unfold Frame.plug; cases t.isExt <;> simp [yield]

theorem chains_plug (tc : F → F → Option F) (t : Frame F L) (r r' : Tree F L) (g : Op F) :
    chains tc (t.plug r) g = chains tc (t.plug r') g := by
  simp [chains]

/-! ### the stack invariant -/

section inv
variable (tc : F → F → Option F)

/-- everything `Valid (plug t r)` asks that does not mention `r` -/
def FrameOK (t : Frame F L) : Prop :=
  Valid tc t.l ∧
  (if t.isExt then
    isNode t.l = true ∧ (tighter (headPrec t.l) t.g.prec = true ∧ chains tc t.l t.g = true) ∧
      AppliedBefore tc (lastKid t.l) t.g
   else AppliedBefore tc t.l t.g)

theorem valid_plug (t : Frame F L) (r : Tree F L) :
    Valid tc (t.plug r) ↔ FrameOK tc t ∧ Valid tc r ∧ Waited t.prec r := by
  unfold Frame.plug FrameOK Frame.prec
  cases h : t.isExt <;> simp [Valid] <;> constructor <;> intro h' <;> simp_all

/-- `above` = first operators on the left spine of whatever sits on top of the stack -/
def StackOK : List (Frame F L) → List (Op F) → Prop
  | [], _ => True
  | t :: rest, above =>
    FrameOK tc t ∧ (∀ h ∈ above, tighter t.prec h.prec = false) ∧ StackOK rest t.lsp

def Inv (fr : List (Frame F L)) (rm : Tree F L) : Prop :=
  Valid tc rm ∧ StackOK tc fr (lspine rm)

/-- the top frame is complete once its right operand is: popping keeps the invariant -/
theorem Inv.pop {t : Frame F L} {rest : List (Frame F L)} {rm : Tree F L}
    (h : Inv tc (t :: rest) rm) : Inv tc rest (t.plug rm) :=
  ⟨(valid_plug tc t rm).2 ⟨h.2.1, h.1, h.2.2.1⟩, (lspine_plug t rm).symm ▸ h.2.2.2⟩

theorem sgiveLoop_inv (g : Op F) (x : L) (fr : List (Frame F L)) (rm : Tree F L)
    (hinv : Inv tc fr rm) (hab : AppliedBefore tc rm g) :
    Inv tc (sgiveLoop tc g x fr rm).1 (sgiveLoop tc g x fr rm).2 := by
  fun_induction sgiveLoop tc g x fr rm with
  | case1 rm => exact ⟨trivial, ⟨hinv.1, hab⟩, nofun, trivial⟩
  | case2 t rest rm ht hc =>
    -- merge: the node `plug t rm` takes `g` as one more operator
    exact ⟨trivial, ⟨(hinv.pop tc).1, isNode_plug t rm,
      ⟨headPrec_plug t rm ▸ ht, hc⟩, (lastKid_plug t rm).symm ▸ hab⟩, nofun, (hinv.pop tc).2⟩
  | case3 t rest rm ht hc ih =>
    -- pop: `plug t rm` is finished, and applied before `g` like the rest of its right spine
    refine ih (hinv.pop tc) ?_
    rw [AppliedBefore, rspine_plug, List.forall_mem_cons, headPrec_plug]
    exact ⟨⟨ht, Bool.not_eq_true _ ▸ hc⟩, hab⟩
  | case4 t rest rm ht =>
    -- push: the frame below is not tighter than `g`, nor than what was above it
    obtain ⟨hvrm, hft, habove, hrest⟩ := hinv
    refine ⟨trivial, ⟨hvrm, hab⟩, nofun, hft, ?_, hrest⟩
    rw [Frame.lsp, if_neg Bool.false_ne_true, List.forall_mem_cons]
    exact ⟨Bool.not_eq_true _ ▸ ht, habove⟩

theorem sgiveLoop_snd (g : Op F) (x : L) (fr : List (Frame F L)) (rm : Tree F L) :
    (sgiveLoop tc g x fr rm).2 = leaf x := by
  fun_induction sgiveLoop tc g x fr rm with
  | case1 => rfl
  | case2 => rfl
  | case3 _ _ _ _ _ ih => exact ih
  | case4 => rfl

theorem sfinish_valid :
    ∀ (fr : List (Frame F L)) (rm : Tree F L), Inv tc fr rm → Valid tc (sfinish fr rm) := by
  intro fr
  induction fr with
  | nil => exact fun _ h => h.1
  | cons t rest ih =>
    exact fun rm h => ih (t.plug rm) (h.pop tc)

theorem sfeed_inv :
    ∀ (more : List (Op F × L)) (s : List (Frame F L) × Tree F L),
      Inv tc s.1 s.2 → (∃ x, s.2 = leaf x) →
      Inv tc (sfeed tc more s).1 (sfeed tc more s).2 := by
  intro more
  induction more with
  | nil => exact fun _ h _ => h
  | cons p more ih =>
    exact fun s h ⟨_, hy⟩ =>
      ih _ (sgiveLoop_inv tc p.1 p.2 _ _ h (hy ▸ nofun)) ⟨p.2, sgiveLoop_snd tc p.1 p.2 _ _⟩

theorem shunt_is_valid (c : ChainOf F L) : Valid tc (shunt tc c) := by
  unfold shunt
  apply sfinish_valid
  apply sfeed_inv
  · exact ⟨trivial, trivial⟩
  · exact ⟨c.first, rfl⟩

end inv

/-! ### the yield of the built tree is the chain -/

section yield
variable (tc : F → F → Option F)

/-- symbols to the left of the hole of a stack -/
def stackYield : List (Frame F L) → List (Sym F L)
  | [] => []
  | t :: rest => stackYield rest ++ (yield t.l ++ [.opr t.g])

theorem yield_sfinish :
    ∀ (fr : List (Frame F L)) (rm : Tree F L),
      yield (sfinish fr rm) = stackYield fr ++ yield rm := by
  intro fr
  induction fr with
  | nil => intro rm; simp [sfinish, stackYield]
  | cons t rest ih =>
    intro rm
    simp only [sfinish, stackYield, ih, yield_plug]
    simp [List.append_assoc]

theorem stackYield_sgiveLoop (g : Op F) (x : L) (fr : List (Frame F L)) (rm : Tree F L) :
    stackYield (sgiveLoop tc g x fr rm).1 = stackYield fr ++ yield rm ++ [.opr g] := by
  fun_induction sgiveLoop tc g x fr rm with
  | case1 => rfl
  | case2 => simp [stackYield, yield_plug, List.append_assoc]
  | case3 _ _ _ _ _ ih => rw [ih]; simp [stackYield, yield_plug, List.append_assoc]
  | case4 => simp [stackYield, List.append_assoc]

theorem yield_sfeed :
    ∀ (more : List (Op F × L)) (s : List (Frame F L) × Tree F L),
      stackYield (sfeed tc more s).1 ++ yield (sfeed tc more s).2 =
        stackYield s.1 ++ yield s.2 ++ more.flatMap (fun p => [.opr p.1, .opd p.2]) := by
  intro more
  induction more with
  | nil => intro s; simp [sfeed]
  | cons p more ih =>
    intro s
    obtain ⟨g, x⟩ := p
    simp only [sfeed]
    rw [ih, stackYield_sgiveLoop, sgiveLoop_snd]
    simp [yield, List.append_assoc]

theorem shunt_yield (c : ChainOf F L) : yield (shunt tc c) = c.syms := by
  unfold shunt
  simp only [yield_sfinish]
  have := yield_sfeed tc c.rest ([], leaf c.first)
  rw [this]
  simp [stackYield, yield, ChainOf.syms]

end yield

/-! ### a chain and its symbol sequence determine each other -/

section syms
variable (tc : F → F → Option F)

theorem yield_eq_syms (t : Tree F L) : yield t = (chain t).syms := by
  induction t with
  | leaf v => rfl
  | bin l g r ihl ihr | ext l g r ihl ihr =>
    rw [yield, ihl, ihr]
    simp [chain, ChainOf.syms, first, rest]

theorem syms_rest_inj : ∀ (a b : List (Op F × L)),
    a.flatMap (fun p => [Sym.opr p.1, Sym.opd p.2]) = b.flatMap (fun p => [Sym.opr p.1, Sym.opd p.2]) →
    a = b := by
  intro a
  induction a with
  | nil => exact fun b h => match b, h with | [], _ => rfl
  | cons p a ih =>
    intro b h
    match b, h with
    | q :: b, h =>
      simp only [List.flatMap_cons, List.cons_append, List.nil_append, List.cons.injEq,
        Sym.opr.injEq, Sym.opd.injEq] at h
      rw [Prod.ext h.1 h.2.1, ih b h.2.2]

theorem syms_inj (c d : ChainOf F L) (h : c.syms = d.syms) : c = d := by
  obtain ⟨cf, cr⟩ := c
  obtain ⟨df, dr⟩ := d
  simp only [ChainOf.syms, List.cons.injEq, Sym.opd.injEq] at h
  obtain ⟨h1, h2⟩ := h
  rw [h1, syms_rest_inj cr dr h2]

theorem chain_shunt (c : ChainOf F L) : chain (shunt tc c) = c := by
  apply syms_inj
  rw [← yield_eq_syms, shunt_yield]

end syms

end Noulith.Chain
