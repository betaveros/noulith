/-
C01: the heap primitives.  Counting the handles to an allocation (`occ` in a list of values, `pocc` in
all payloads); what a lookup returns, and that the cost ledger stays, after each update (`setAlloc`, a
pushed allocation, and through them `setRc`, `setPayload`, `setEntries`, `dup`, `bumpAll`); heaps that
differ only in the cost ledger.
-/
import NoulithModel.Impl.HeapAbs

namespace Noulith.RcHeap

/-! ### list facts -/

theorem getD_mem {α : Type} {l : List α} {j : Nat} (d : α) (hj : j < l.length) : l.getD j d ∈ l := by
  simp [List.getD, List.getElem?_eq_getElem hj]

theorem set_getD_self {α : Type} (l : List α) (j : Nat) (d : α) : l.set j (l.getD j d) = l := by
  induction l generalizing j with
  | nil => simp
  | cons a as ih =>
    cases j with
    | zero => simp
    | succ n => have := ih n; simp [List.getD] at this ⊢; exact this

theorem getD_set_self {α : Type} (l : List α) (j : Nat) (v d : α) (hj : j < l.length) : (l.set j v).getD j d = v := by
  simp [List.getD, hj]

theorem getD_set_ne {α : Type} (l : List α) (x y : Nat) (v d : α) (hne : x ≠ y) : (l.set x v).getD y d = l.getD y d := by
  simp [List.getD, List.getElem?_set_ne hne]

theorem sum_set_add (l : List Nat) (j x : Nat) (hj : j < l.length) :
    (l.set j x).sum + l[j] = l.sum + x := by
  induction l generalizing j with
  | nil => exact absurd hj (Nat.not_lt_zero _)
  | cons a as ih =>
    cases j with
    | zero =>
      show (x :: as).sum + a = (a :: as).sum + x
      rw [List.sum_cons, List.sum_cons, Nat.add_right_comm, Nat.add_right_comm a, Nat.add_comm x]
    | succ j =>
      have hj' := Nat.lt_of_succ_lt_succ hj
      show (a :: as.set j x).sum + as[j] = (a :: as).sum + x
      rw [List.sum_cons, List.sum_cons, Nat.add_assoc, ih j hj', Nat.add_assoc]

theorem le_sum_of_mem {l : List Nat} {x : Nat} (hx : x ∈ l) : x ≤ l.sum := by
  induction l with
  | nil => simp at hx
  | cons a as ih =>
    rcases List.mem_cons.1 hx with rfl | h
    · simp
    · have := ih h; simp; omega

theorem foldl_preserves {α β γ : Type} (g : α → γ) {f : α → β → α} (hf : ∀ a b, g (f a b) = g a) :
    ∀ (l : List β) (a : α), g (l.foldl f a) = g a
  | [], _ => rfl
  | b :: l, a => by rw [List.foldl_cons, foldl_preserves g hf l, hf]

/-! ### occurrences of a handle in a list of values -/

/-- number of handles to allocation `id` in a list of values -/
def occ (id : Nat) : List Val → Nat
  | [] => 0
  | v :: vs => (if v = .ref id then 1 else 0) + occ id vs

@[simp] theorem occ_nil (id : Nat) : occ id [] = 0 := rfl
theorem occ_cons (id : Nat) (v : Val) (vs : List Val) :
    occ id (v :: vs) = (if v = .ref id then 1 else 0) + occ id vs := rfl
@[simp] theorem occ_cons_null (id : Nat) (vs : List Val) : occ id (.null :: vs) = occ id vs := by
  simp [occ_cons]
@[simp] theorem occ_cons_int (id : Nat) (n : Int) (vs : List Val) : occ id (.int n :: vs) = occ id vs := by
  simp [occ_cons]
theorem occ_cons_ref (id j : Nat) (vs : List Val) :
    occ id (.ref j :: vs) = (if j = id then 1 else 0) + occ id vs := by
  simp [occ_cons]

theorem occ_append (id : Nat) (as bs : List Val) : occ id (as ++ bs) = occ id as + occ id bs := by
  induction as with
  | nil => simp
  | cons a as ih => simp [occ_cons, ih]; omega

theorem occ_append_eq_zero {id : Nat} {as bs : List Val} (h : occ id (as ++ bs) = 0) :
    occ id as = 0 ∧ occ id bs = 0 :=
  Nat.add_eq_zero_iff.1 (occ_append id as bs ▸ h)

theorem occ_eq_zero_iff (id : Nat) (vs : List Val) : occ id vs = 0 ↔ ∀ v ∈ vs, v ≠ .ref id := by
  induction vs with
  | nil => simp
  | cons a as ih =>
    simp only [occ_cons, List.mem_cons, forall_eq_or_imp]
    by_cases h : a = .ref id <;> simp [h, ih]

theorem ne_ref_of_occ_zero {id : Nat} {vs : List Val} {v : Val} (hz : occ id vs = 0) (hv : v ∈ vs) : v ≠ .ref id :=
  (occ_eq_zero_iff id vs).1 hz v hv

theorem occ_perm {id : Nat} {vs ws : List Val} (p : vs.Perm ws) : occ id vs = occ id ws := by
  induction p with
  | nil => rfl
  | cons v _ ih => rw [occ_cons, occ_cons, ih]
  | swap a b l => rw [occ_cons, occ_cons, occ_cons, occ_cons, Nat.add_left_comm]
  | trans _ _ ih1 ih2 => exact ih1.trans ih2

theorem occ_pos_of_mem {id : Nat} {vs : List Val} (h : Val.ref id ∈ vs) : 0 < occ id vs := by
  rcases Nat.eq_zero_or_pos (occ id vs) with h0 | h0
  · exact absurd rfl ((occ_eq_zero_iff id vs).1 h0 _ h)
  · exact h0

theorem occ_singleton_ne {id : Nat} {v : Val} (h : v ≠ .ref id) : occ id [v] = 0 := by
  simp [occ_cons, h]

theorem occ_eraseIdx (id : Nat) (vs : List Val) (j : Nat) :
    occ id (vs.eraseIdx j) + occ id [vs.getD j .null] = occ id vs := by
  induction vs generalizing j with
  | nil => rfl
  | cons a as ih =>
    cases j with
    | zero =>
      show occ id as + occ id [a] = occ id (a :: as)
      rw [occ_cons, occ_cons, occ_nil, Nat.add_zero, Nat.add_comm]
    | succ j =>
      show occ id (a :: as.eraseIdx j) + occ id [as.getD j .null] = occ id (a :: as)
      rw [occ_cons id a, occ_cons id a, Nat.add_assoc, ih j]

/-- replacing element `j`: additive form (no subtraction); both sides are what the other elements
hold plus the old and the new element -/
theorem occ_set (id : Nat) (vs : List Val) (j : Nat) (v : Val) (hj : j < vs.length) :
    occ id (vs.set j v) + occ id [vs.getD j .null] = occ id vs + occ id [v] := by
  have e := occ_eraseIdx id (vs.set j v) j
  rw [List.eraseIdx_set_eq, getD_set_self _ _ _ _ hj] at e
  rw [← e, ← occ_eraseIdx id vs j, Nat.add_right_comm]

theorem occ_replicate (id : Nat) (n : Nat) (v : Val) :
    occ id (List.replicate n v) = n * occ id [v] := by
  induction n with
  | zero => simp
  | succ n ih => simp [List.replicate_succ, occ_cons, ih, Nat.succ_mul]; omega

theorem occ_dropLast_getLast (id : Nat) (vs : List Val) (x : Val) (h : vs.getLast? = some x) :
    occ id vs.dropLast + occ id [x] = occ id vs := by
  have : vs = vs.dropLast ++ [x] := by
    rcases List.eq_nil_or_concat vs with rfl | ⟨l, a, rfl⟩
    · simp at h
    · simp at h; simp [h]
  conv => rhs; rw [this]
  rw [occ_append]

/-! ### lookups after `setAlloc` and after a push -/

theorem rcOf_eq_zero_of_ge {h : Heap} {id : Nat} (hge : h.allocs.length ≤ id) : rcOf h id = 0 := by
  simp [rcOf, List.getElem?_eq_none hge]

theorem lt_of_rcOf_pos {h : Heap} {id : Nat} (hp : 0 < rcOf h id) : id < h.allocs.length := by
  rcases Nat.lt_or_ge id h.allocs.length with hl | hl
  · exact hl
  · rw [rcOf_eq_zero_of_ge hl] at hp; omega

theorem payloadOf_eq_nil_of_ge {h : Heap} {id : Nat} (hge : h.allocs.length ≤ id) : payloadOf h id = [] := by
  simp [payloadOf, List.getElem?_eq_none hge]

theorem keysOf_eq_none_of_ge {h : Heap} {id : Nat} (hge : h.allocs.length ≤ id) : keysOf h id = none := by
  simp [keysOf, List.getElem?_eq_none hge]

@[simp] theorem setAlloc_length (h : Heap) (id : Nat) (a : Alloc) :
    (setAlloc h id a).allocs.length = h.allocs.length := by simp [setAlloc]
@[simp] theorem setAlloc_copied (h : Heap) (id : Nat) (a : Alloc) : (setAlloc h id a).copied = h.copied := rfl
@[simp] theorem setAlloc_pushes (h : Heap) (id : Nat) (a : Alloc) : (setAlloc h id a).pushes = h.pushes := rfl

theorem allocs_setAlloc (h : Heap) (id i : Nat) (a : Alloc) :
    (setAlloc h id a).allocs[i]? = if i = id ∧ id < h.allocs.length then some a else h.allocs[i]? := by
  simp only [setAlloc, List.getElem?_set]
  by_cases hi : id = i
  · subst hi; by_cases hl : id < h.allocs.length <;> simp [hl]
  · have : ¬ i = id := fun e => hi e.symm
    simp [hi, this]

theorem rcOf_setAlloc (h : Heap) (id i : Nat) (a : Alloc) :
    rcOf (setAlloc h id a) i = if i = id ∧ id < h.allocs.length then a.rc else rcOf h i := by
  unfold rcOf; rw [allocs_setAlloc]
  by_cases c : i = id ∧ id < h.allocs.length
  · simp only [if_pos c]
  · simp only [if_neg c]

theorem payloadOf_setAlloc (h : Heap) (id i : Nat) (a : Alloc) :
    payloadOf (setAlloc h id a) i = if i = id ∧ id < h.allocs.length then a.payload else payloadOf h i := by
  unfold payloadOf; rw [allocs_setAlloc]
  by_cases c : i = id ∧ id < h.allocs.length
  · simp only [if_pos c]
  · simp only [if_neg c]

theorem keysOf_setAlloc (h : Heap) (id i : Nat) (a : Alloc) :
    keysOf (setAlloc h id a) i = if i = id ∧ id < h.allocs.length then a.keys else keysOf h i := by
  unfold keysOf; rw [allocs_setAlloc]
  by_cases c : i = id ∧ id < h.allocs.length
  · simp only [if_pos c]
  · simp only [if_neg c]

/-- an update that writes back the old value of the field being read -/
theorem ite_same_at {α : Type} (f : Nat → α) (i id : Nat) (c : Prop) [Decidable c] :
    (if i = id ∧ c then f id else f i) = f i := by
  split
  · rename_i hc; rw [hc.1]
  · rfl

theorem getElem?_push (l : List Alloc) (a : Alloc) (i : Nat) :
    (l ++ [a])[i]? = if i = l.length then some a else l[i]? := by
  rcases Nat.lt_trichotomy i l.length with hl | hl | hl
  · simp [List.getElem?_append_left hl, Nat.ne_of_lt hl]
  · simp [hl]
  · rw [List.getElem?_eq_none (by simp; omega), List.getElem?_eq_none (by omega)]
    simp [Nat.ne_of_gt hl]

theorem rcOf_push (h : Heap) (a : Alloc) (c p i : Nat) :
    rcOf ⟨h.allocs ++ [a], c, p⟩ i = if i = h.allocs.length then a.rc else rcOf h i := by
  unfold rcOf; rw [getElem?_push]
  by_cases e : i = h.allocs.length
  · simp only [if_pos e]
  · simp only [if_neg e]

theorem payloadOf_push (h : Heap) (a : Alloc) (c p i : Nat) :
    payloadOf ⟨h.allocs ++ [a], c, p⟩ i = if i = h.allocs.length then a.payload else payloadOf h i := by
  unfold payloadOf; rw [getElem?_push]
  by_cases e : i = h.allocs.length
  · simp only [if_pos e]
  · simp only [if_neg e]

theorem keysOf_push (h : Heap) (a : Alloc) (c p i : Nat) :
    keysOf ⟨h.allocs ++ [a], c, p⟩ i = if i = h.allocs.length then a.keys else keysOf h i := by
  unfold keysOf; rw [getElem?_push]
  by_cases e : i = h.allocs.length
  · simp only [if_pos e]
  · simp only [if_neg e]

/-! ### handles held in payloads -/

/-- handles to `id` held in payloads of all allocations -/
def pocc (id : Nat) (h : Heap) : Nat := (h.allocs.map (fun a => occ id a.payload)).sum

theorem pocc_setAlloc (h : Heap) (id i : Nat) (a : Alloc) (hl : id < h.allocs.length) :
    pocc i (setAlloc h id a) + occ i (payloadOf h id) = pocc i h + occ i a.payload := by
  unfold pocc setAlloc payloadOf
  simp only [List.map_set]
  have := sum_set_add (h.allocs.map (fun a => occ i a.payload)) id (occ i a.payload) (by simpa using hl)
  simp only [List.getElem_map] at this
  simp [List.getElem?_eq_getElem hl]
  exact this

theorem pocc_setAlloc_ge (h : Heap) (id i : Nat) (a : Alloc) (hl : h.allocs.length ≤ id) :
    pocc i (setAlloc h id a) = pocc i h := by
  unfold pocc setAlloc
  rw [List.set_eq_of_length_le hl]

theorem pocc_push (h : Heap) (i : Nat) (a : Alloc) (c p : Nat) :
    pocc i ⟨h.allocs ++ [a], c, p⟩ = pocc i h + occ i a.payload := by
  simp [pocc]

theorem occ_payload_le_pocc (h : Heap) (id i : Nat) : occ i (payloadOf h id) ≤ pocc i h := by
  rcases Nat.lt_or_ge id h.allocs.length with hl | hl
  · unfold pocc payloadOf
    simp only [List.getElem?_eq_getElem hl]
    exact le_sum_of_mem (List.mem_map.2 ⟨_, List.getElem_mem hl, rfl⟩)
  · simp [payloadOf_eq_nil_of_ge hl]

theorem ne_ref_of_pocc_zero {h : Heap} {i id : Nat} {c : Val} (hz : pocc i h = 0)
    (hc : c ∈ payloadOf h id) : c ≠ .ref i := by
  have := occ_payload_le_pocc h id i
  exact ne_ref_of_occ_zero (by omega) hc

/-! ### setRc / setPayload / setEntries -/

@[simp] theorem setRc_length (h : Heap) (id n : Nat) : (setRc h id n).allocs.length = h.allocs.length := by
  simp [setRc]
@[simp] theorem setPayload_length (h : Heap) (id : Nat) (p : List Val) :
    (setPayload h id p).allocs.length = h.allocs.length := by simp [setPayload]
@[simp] theorem setRc_copied (h : Heap) (id n : Nat) : (setRc h id n).copied = h.copied := rfl
@[simp] theorem setPayload_copied (h : Heap) (id : Nat) (p : List Val) : (setPayload h id p).copied = h.copied := rfl
@[simp] theorem setRc_pushes (h : Heap) (id n : Nat) : (setRc h id n).pushes = h.pushes := rfl
@[simp] theorem setPayload_pushes (h : Heap) (id : Nat) (p : List Val) : (setPayload h id p).pushes = h.pushes := rfl

theorem rcOf_setRc (h : Heap) (id i n : Nat) :
    rcOf (setRc h id n) i = if i = id ∧ id < h.allocs.length then n else rcOf h i :=
  rcOf_setAlloc h id i _

theorem payloadOf_setRc (h : Heap) (id i n : Nat) : payloadOf (setRc h id n) i = payloadOf h i := by
  rw [setRc, payloadOf_setAlloc]; exact ite_same_at (payloadOf h) i id _

theorem keysOf_setRc (h : Heap) (id i n : Nat) : keysOf (setRc h id n) i = keysOf h i := by
  rw [setRc, keysOf_setAlloc]; exact ite_same_at (keysOf h) i id _

theorem pocc_setRc (h : Heap) (id i n : Nat) : pocc i (setRc h id n) = pocc i h := by
  rcases Nat.lt_or_ge id h.allocs.length with hl | hl
  · have := pocc_setAlloc h id i ⟨payloadOf h id, n, keysOf h id⟩ hl
    exact Nat.add_right_cancel this
  · exact pocc_setAlloc_ge h id i _ hl

theorem rcOf_setAlloc_same {h : Heap} {id : Nat} {a : Alloc} (ha : a.rc = rcOf h id) (i : Nat) :
    rcOf (setAlloc h id a) i = rcOf h i := by
  rw [rcOf_setAlloc, ha]; exact ite_same_at (rcOf h) i id _

theorem rcOf_setPayload (h : Heap) (id i : Nat) (p : List Val) : rcOf (setPayload h id p) i = rcOf h i :=
  rcOf_setAlloc_same rfl i

theorem payloadOf_setPayload (h : Heap) (id i : Nat) (p : List Val) :
    payloadOf (setPayload h id p) i = if i = id ∧ id < h.allocs.length then p else payloadOf h i :=
  payloadOf_setAlloc h id i _

theorem keysOf_setPayload (h : Heap) (id i : Nat) (p : List Val) : keysOf (setPayload h id p) i = keysOf h i := by
  rw [setPayload, keysOf_setAlloc]; exact ite_same_at (keysOf h) i id _

theorem pocc_setPayload (h : Heap) (id i : Nat) (p : List Val) (hl : id < h.allocs.length) :
    pocc i (setPayload h id p) + occ i (payloadOf h id) = pocc i h + occ i p :=
  pocc_setAlloc h id i ⟨p, rcOf h id, keysOf h id⟩ hl

@[simp] theorem setEntries_length (h : Heap) (id : Nat) (p : List Val) (ks : List Int) :
    (setEntries h id p ks).allocs.length = h.allocs.length := by simp [setEntries]
@[simp] theorem setEntries_copied (h : Heap) (id : Nat) (p : List Val) (ks : List Int) :
    (setEntries h id p ks).copied = h.copied := rfl
@[simp] theorem setEntries_pushes (h : Heap) (id : Nat) (p : List Val) (ks : List Int) :
    (setEntries h id p ks).pushes = h.pushes := rfl
theorem rcOf_setEntries (h : Heap) (id i : Nat) (p : List Val) (ks : List Int) :
    rcOf (setEntries h id p ks) i = rcOf h i :=
  rcOf_setAlloc_same rfl i
theorem payloadOf_setEntries (h : Heap) (id i : Nat) (p : List Val) (ks : List Int) :
    payloadOf (setEntries h id p ks) i = if i = id ∧ id < h.allocs.length then p else payloadOf h i :=
  payloadOf_setAlloc h id i _
theorem keysOf_setEntries (h : Heap) (id i : Nat) (p : List Val) (ks : List Int) :
    keysOf (setEntries h id p ks) i = if i = id ∧ id < h.allocs.length then some ks else keysOf h i :=
  keysOf_setAlloc h id i _
theorem pocc_setEntries (h : Heap) (id i : Nat) (p : List Val) (ks : List Int) (hl : id < h.allocs.length) :
    pocc i (setEntries h id p ks) + occ i (payloadOf h id) = pocc i h + occ i p :=
  pocc_setAlloc h id i ⟨p, rcOf h id, some ks⟩ hl

/-! ### dup / bumpAll -/

theorem dup_length (h : Heap) (v : Val) : (dup h v).allocs.length = h.allocs.length := by
  cases v <;> simp [dup]

theorem payloadOf_dup (h : Heap) (v : Val) (i : Nat) : payloadOf (dup h v) i = payloadOf h i := by
  cases v <;> simp [dup, payloadOf_setRc]

theorem keysOf_dup (h : Heap) (v : Val) (i : Nat) : keysOf (dup h v) i = keysOf h i := by
  cases v <;> simp [dup, keysOf_setRc]

theorem pocc_dup (h : Heap) (v : Val) (i : Nat) : pocc i (dup h v) = pocc i h := by
  cases v <;> simp [dup, pocc_setRc]

theorem dup_copied (h : Heap) (v : Val) : (dup h v).copied = h.copied := by
  cases v <;> simp [dup]

theorem dup_pushes (h : Heap) (v : Val) : (dup h v).pushes = h.pushes := by cases v <;> rfl

/-- a value whose handle (if any) points to an existing allocation -/
def Live (h : Heap) (v : Val) : Prop := ∀ id, v = .ref id → id < h.allocs.length

theorem rcOf_dup (h : Heap) (v : Val) (i : Nat) (hv : Live h v) :
    rcOf (dup h v) i = rcOf h i + occ i [v] := by
  cases v with
  | null => simp [dup]
  | int n => simp [dup]
  | ref id =>
    have hl := hv id rfl
    simp only [dup, rcOf_setRc, occ_cons_ref, occ_nil]
    by_cases hi : i = id
    · subst hi; simp [hl]
    · have : ¬ id = i := fun e => hi e.symm
      simp [hi, this]

theorem Live.ext {h h' : Heap} {v : Val} (hv : Live h v) (hl : h.allocs.length ≤ h'.allocs.length) : Live h' v :=
  fun id e => Nat.lt_of_lt_of_le (hv id e) hl

theorem bumpAll_length (h : Heap) (p : List Val) : (bumpAll h p).allocs.length = h.allocs.length :=
  foldl_preserves (·.allocs.length) dup_length p h

theorem payloadOf_bumpAll (h : Heap) (p : List Val) (i : Nat) : payloadOf (bumpAll h p) i = payloadOf h i :=
  foldl_preserves (payloadOf · i) (payloadOf_dup · · i) p h

theorem keysOf_bumpAll (h : Heap) (p : List Val) (i : Nat) : keysOf (bumpAll h p) i = keysOf h i :=
  foldl_preserves (keysOf · i) (keysOf_dup · · i) p h

theorem pocc_bumpAll (h : Heap) (p : List Val) (i : Nat) : pocc i (bumpAll h p) = pocc i h :=
  foldl_preserves (pocc i) (pocc_dup · · i) p h

theorem bumpAll_copied (h : Heap) (p : List Val) : (bumpAll h p).copied = h.copied :=
  foldl_preserves (·.copied) dup_copied p h

theorem bumpAll_pushes (h : Heap) (p : List Val) : (bumpAll h p).pushes = h.pushes :=
  foldl_preserves (·.pushes) dup_pushes p h

theorem rcOf_bumpAll (h : Heap) (p : List Val) (i : Nat) (hp : ∀ v ∈ p, Live h v) :
    rcOf (bumpAll h p) i = rcOf h i + occ i p := by
  induction p generalizing h with
  | nil => simp [bumpAll]
  | cons v vs ih =>
    have hv : Live h v := hp v (by simp)
    have := ih (dup h v) (fun w hw => (hp w (by simp [hw])).ext (by simp [dup_length]))
    simp only [bumpAll, List.foldl_cons] at this ⊢
    rw [this, rcOf_dup h v i hv]
    simp [occ_cons]; omega

/-! ### heaps that differ only in the cost ledger -/

theorem rcOf_allocs_eq {h h' : Heap} (e : h'.allocs = h.allocs) (i : Nat) : rcOf h' i = rcOf h i := by
  simp [rcOf, e]
theorem payloadOf_allocs_eq {h h' : Heap} (e : h'.allocs = h.allocs) (i : Nat) : payloadOf h' i = payloadOf h i := by
  simp [payloadOf, e]
theorem keysOf_allocs_eq {h h' : Heap} (e : h'.allocs = h.allocs) (i : Nat) : keysOf h' i = keysOf h i := by
  simp [keysOf, e]
theorem pocc_allocs_eq {h h' : Heap} (e : h'.allocs = h.allocs) (i : Nat) : pocc i h' = pocc i h := by
  simp [pocc, e]

end Noulith.RcHeap
