/-
Helper lemmas for C15 (Theorems/C15.lean): the lexer model never emits the panic pseudo-token,
positional notation (`digits` / `ofDigits`), digit characters, `takeWhile`/`dropWhile` on digit runs,
the number arm on a digit run, the escape arms of the string lexer, the saturating `\u` accumulator.
-/
import NoulithModel.Impl.Lex
import NoulithModel.Spec.Literal
namespace Noulith.C15
open Noulith Noulith.Lex Noulith.LitSpec

/-! ## the main loop -/

theorem lex_nil : lex [] = [] := by rw [lex]

theorem lex_cons (c : Char) (cs : List Char) :
    lex (c :: cs) = if (lexStep c cs).stop then (lexStep c cs).toks
      else (lexStep c cs).toks ++ lex (lexStep c cs).rest := by
  rw [lex]

theorem lex_of_step (c : Char) (cs : List Char) (toks : List Token) (rest : List Char)
    (h : lexStep c cs = ⟨toks, rest, false⟩) : lex (c :: cs) = toks ++ lex rest := by
  rw [lex_cons, h]; simp

/-- **`lex_no_panic`**: the lexer never reaches a place where the Rust would panic -/
theorem lex_no_panic (cs : List Char) : ∀ t ∈ lex cs, t.isPanic = false := by
  fun_induction lex cs with
  | case1 => simp
  | case2 c cs h => exact (lexStep_ok c cs).noPanic
  | case3 c cs h ih =>
    intro t ht
    rcases List.mem_append.mp ht with ht | ht
    · exact (lexStep_ok c cs).noPanic t ht
    · exact ih t ht

/-! ## positional notation and the number arm -/

def horner (b : Nat) (x : Nat) (ds : List Nat) : Nat := ds.foldl (fun x d => b * x + d) x

theorem ofDigits_eq_horner (b : Nat) (ds : List Nat) : ofDigits b ds = horner b 0 ds := rfl

/-- the recursive call of `digitsAux` stays within the fuel -/
theorem div_lt_fuel {b n fuel : Nat} (hn : ¬ (n < b ∨ b < 2)) (h : n < fuel + 1) : n / b < fuel :=
  Nat.lt_of_lt_of_le (Nat.div_lt_self (by omega) (by omega)) (Nat.le_of_lt_succ h)

/-- with enough fuel, `digitsAux` puts the digits of `n` in front of the accumulator -/
theorem horner_digitsAux (b fuel n : Nat) (acc : List Nat) (h : n < fuel) :
    horner b 0 (digitsAux b fuel n acc) = horner b n acc := by
  induction fuel generalizing n acc with
  | zero => omega
  | succ fuel ih =>
    unfold digitsAux
    split
    · simp [horner]
    · rename_i hge
      rw [ih _ _ (div_lt_fuel hge h)]
      simp [horner, Nat.div_add_mod]

theorem horner_digits (b n : Nat) : horner b 0 (digits b n) = n :=
  horner_digitsAux b (n + 1) n [] (Nat.lt_succ_self n)

theorem digitsAux_lt (b : Nat) (hb : 2 ≤ b) (fuel n : Nat) (acc : List Nat) (h : n < fuel)
    (hacc : ∀ d ∈ acc, d < b) : ∀ d ∈ digitsAux b fuel n acc, d < b := by
  induction fuel generalizing n acc with
  | zero => omega
  | succ fuel ih =>
    unfold digitsAux
    split
    · rename_i hlt
      intro d hd
      rcases List.mem_cons.mp hd with rfl | hd
      · omega
      · exact hacc d hd
    · rename_i hge
      refine ih _ _ (div_lt_fuel hge h) fun d hd => ?_
      rcases List.mem_cons.mp hd with rfl | hd
      · exact Nat.mod_lt _ (by omega)
      · exact hacc d hd

theorem digits_lt (b n : Nat) (hb : 2 ≤ b) : ∀ d ∈ digits b n, d < b :=
  digitsAux_lt b hb (n + 1) n [] (Nat.lt_succ_self n) nofun

theorem digitsAux_ne_nil (b fuel n : Nat) (acc : List Nat) (h : acc ≠ [] ∨ 0 < fuel) :
    digitsAux b fuel n acc ≠ [] := by
  induction fuel generalizing n acc with
  | zero => exact h.resolve_right (Nat.lt_irrefl 0)
  | succ fuel ih =>
    unfold digitsAux
    split
    · exact List.cons_ne_nil _ _
    · exact ih _ _ (Or.inl (List.cons_ne_nil _ _))

theorem digits_ne_nil (b n : Nat) : digits b n ≠ [] := digitsAux_ne_nil b _ n [] (Or.inr (Nat.succ_pos n))

/-! digit characters -/
theorem toNat_ofNat (n : Nat) (h : n.isValidChar) : (Char.ofNat n).toNat = n := by
  unfold Char.ofNat
  rw [dif_pos h]
  simp [Char.ofNatAux, Char.toNat]

theorem toDigit_digitChar (u : Bool) (d r : Nat) (hd : d < r) (hr : r ≤ 36) :
    toDigit (digitChar u d) r = some d := by
  unfold digitChar
  split
  · have h : (Char.ofNat (48 + d)).toNat = 48 + d := toNat_ofNat _ (Or.inl (by omega))
    simp only [toDigit, h, Nat.add_sub_cancel_left]
    rw [if_pos ⟨Nat.le_add_right 48 d, by omega⟩, if_pos hd]
  · cases u
    · have h : (Char.ofNat (87 + d)).toNat = 87 + d := toNat_ofNat _ (Or.inl (by omega))
      simp only [toDigit, h, Nat.add_sub_cancel_left, Bool.false_eq_true, if_false]
      rw [if_neg (by omega), if_pos (by omega), if_pos (by omega), if_pos hd]
    · have h : (Char.ofNat (55 + d)).toNat = 55 + d := toNat_ofNat _ (Or.inl (by omega))
      simp only [toDigit, h, Nat.add_sub_cancel_left, if_true]
      rw [if_neg (by omega), if_pos (by omega), if_neg (by omega), if_pos (by omega), if_pos hd]

/-- the base-64 alphabet is a table of 2 × 64 entries, checked entry by entry -/
theorem b64Digit_b64Char (alt : Bool) (d : Nat) (hd : d < 64) : b64Digit (b64Char alt d) = some d := by
  revert alt d
  decide

theorem foldDigits_map {α : Type} (r : Nat) (enc : α → Char) (val : α → Nat) (ds : List α) (x : Nat)
    (h : ∀ d ∈ ds, toDigit (enc d) r = some (val d)) :
    foldDigits r x (ds.map enc) = horner r x (ds.map val) := by
  induction ds generalizing x with
  | nil => rfl
  | cons d ds ih =>
    simp only [List.map_cons, foldDigits, h d (by simp), Option.getD_some]
    rw [ih _ (fun d' hd' => h d' (by simp [hd']))]
    rfl

theorem foldB64_map (alt : Bool) (ds : List Nat) (x : Nat) (h : ∀ d ∈ ds, d < 64) :
    foldB64 x (ds.map (b64Char alt)) = horner 64 x ds := by
  induction ds generalizing x with
  | nil => rfl
  | cons d ds ih =>
    have hd : d < 64 := h d (by simp)
    simp only [List.map_cons, foldB64, b64Digit_b64Char alt d hd, Option.getD_some]
    rw [ih _ (fun d' hd' => h d' (by simp [hd']))]
    rfl

/-! `takeWhile` / `dropWhile` on a run followed by a stopper -/
def Stops (p : Char → Bool) (rest : List Char) : Prop := ∀ c ∈ rest.head?, p c = false

theorem stops_nil (p : Char → Bool) : Stops p [] := by simp [Stops]
theorem stops_cons (p : Char → Bool) (c : Char) (cs : List Char) (h : p c = false) : Stops p (c :: cs) := by
  simp [Stops, h]

theorem takeWhile_run (p : Char → Bool) (run rest : List Char) (hrun : ∀ c ∈ run, p c = true)
    (hstop : Stops p rest) : (run ++ rest).takeWhile p = run := by
  rw [List.takeWhile_append_of_pos hrun]
  cases rest with
  | nil => exact List.append_nil _
  | cons c cs => rw [List.takeWhile_cons_of_neg (by rw [hstop c rfl]; nofun), List.append_nil]

theorem dropWhile_run (p : Char → Bool) (run rest : List Char) (hrun : ∀ c ∈ run, p c = true)
    (hstop : Stops p rest) : (run ++ rest).dropWhile p = rest := by
  rw [List.dropWhile_append_of_pos hrun]
  cases rest with
  | nil => rfl
  | cons c cs => exact List.dropWhile_cons_of_neg (by rw [hstop c rfl]; nofun)

theorem lexBase_digits (r : Nat) (hr2 : 2 ≤ r) (hr : r ≤ 36) (u : Bool) (n : Nat) (rest : List Char)
    (hstop : Stops (fun c => (toDigit c r).isSome) rest) :
    lexBase r ((digits r n).map (digitChar u) ++ rest) = (n, rest) := by
  have hdec : ∀ d ∈ digits r n, toDigit (digitChar u d) r = some d :=
    fun d hd => toDigit_digitChar u d r (digits_lt r n hr2 d hd) hr
  have hrun : ∀ c ∈ (digits r n).map (digitChar u), (fun c => (toDigit c r).isSome) c = true :=
    List.forall_mem_map.2 fun d hd => by simp [hdec d hd]
  unfold lexBase
  rw [takeWhile_run _ _ _ hrun hstop, dropWhile_run _ _ _ hrun hstop,
    foldDigits_map r _ id _ 0 hdec, List.map_id, horner_digits r n]

theorem lexBase64_digits (alt : Bool) (n : Nat) (rest : List Char)
    (hstop : Stops (fun c => (b64Digit c).isSome) rest) :
    lexBase64 ((digits 64 n).map (b64Char alt) ++ rest) = (n, rest) := by
  have hrun : ∀ c ∈ (digits 64 n).map (b64Char alt), (fun c => (b64Digit c).isSome) c = true :=
    List.forall_mem_map.2 fun d hd => by simp [b64Digit_b64Char alt d (digits_lt 64 n (by omega) d hd)]
  unfold lexBase64
  rw [takeWhile_run _ _ _ hrun hstop, dropWhile_run _ _ _ hrun hstop,
    foldB64_map alt _ 0 (digits_lt 64 n (by omega)), horner_digits 64 n]

/-! decimal digit strings -/
theorem isDigit10_iff (c : Char) : isDigit10 c = true ↔ 48 ≤ c.toNat ∧ c.toNat ≤ 57 := by
  unfold isDigit10 toDigit
  simp only
  by_cases h : 48 ≤ c.toNat ∧ c.toNat ≤ 57
  · rw [if_pos h, if_pos (Nat.lt_succ_of_le (Nat.sub_le_sub_right h.2 48))]
    exact ⟨fun _ => h, fun _ => rfl⟩
  · rw [if_neg h, if_neg (by decide)]
    exact ⟨nofun, fun h' => absurd h' h⟩

theorem isDigit10_digitChar (d : Nat) (hd : d < 10) : isDigit10 (digitChar false d) = true := by
  simp [isDigit10, toDigit_digitChar false d 10 hd (by omega)]

abbrev AllDig (l : List Char) : Prop := ∀ c ∈ l, isDigit10 c = true

theorem decDigits_all (ds : List Nat) (h : ∀ d ∈ ds, d < 10) : AllDig (decDigits ds) :=
  List.forall_mem_map.2 fun d hd => isDigit10_digitChar d (h d hd)

theorem decimal_all (n : Nat) : AllDig (decimal n) :=
  decDigits_all _ (digits_lt 10 n (by omega))

theorem decimal_ne_nil (n : Nat) : decimal n ≠ [] := by
  simp [decimal, digits_ne_nil]

theorem foldDigits_decimal (n : Nat) : foldDigits 10 0 (decimal n) = n := by
  unfold decimal
  rw [foldDigits_map 10 _ id _ 0 fun d hd => toDigit_digitChar false d 10 (digits_lt 10 n (by omega) d hd) (by omega),
    List.map_id, horner_digits 10 n]

theorem parseBigInt_decimal (n : Nat) : parseBigInt (decimal n) = some n := by
  unfold parseBigInt
  have hall : (decimal n).all isDigit10 = true := by
    rw [List.all_eq_true]; exact decimal_all n
  rw [if_pos ⟨decimal_ne_nil n, hall⟩, foldDigits_decimal]

theorem parseU32_decimal (n : Nat) (h : n ≤ 4294967295) : parseU32 (decimal n) = some n := by
  simp [parseU32, parseBigInt_decimal, h]

/-! the number arm of the lexer on a digit run -/

/-- what `lexNumber` does once its digit loop has split off the run `I`: the `match` of its definition on
what follows the run -/
def afterRun (I tail : List Char) : Step :=
  match tail with
  | '.' :: cs2 => lexAfterFraction (I ++ '.' :: cs2.takeWhile isDigit10) (cs2.dropWhile isDigit10)
  | [] => ⟨[intLitTok I], [], false⟩
  | d :: cs2 => lexAfterInt I d cs2

theorem lexNumber_run (c : Char) (ds tail : List Char) (hds : AllDig ds)
    (hs : Stops isDigit10 tail) : lexNumber c (ds ++ tail) = afterRun (c :: ds) tail := by
  unfold lexNumber
  rw [takeWhile_run _ _ _ hds hs, dropWhile_run _ _ _ hds hs]
  rfl

theorem afterRun_dot (I cs2 : List Char) : afterRun I ('.' :: cs2) =
    lexAfterFraction (I ++ '.' :: cs2.takeWhile isDigit10) (cs2.dropWhile isDigit10) := rfl

theorem afterRun_other (I : List Char) (d : Char) (cs2 : List Char) (hdot : d ≠ '.') :
    afterRun I (d :: cs2) = lexAfterInt I d cs2 := by
  unfold afterRun
  split
  · rename_i heq; cases heq; exact absurd rfl hdot
  · rename_i heq; cases heq
  · rename_i heq; cases heq; rfl

theorem not_ws_of_digit (c : Char) (h : isDigit10 c = true) : Unicode.isWhitespace c = false := by
  rw [isDigit10_iff] at h
  unfold Unicode.isWhitespace
  simp only
  rw [if_pos (by omega)]
  have h1 : ¬ (c.toNat ≤ 13) := by omega
  have h2 : ¬ (c.toNat = 32) := by omega
  simp [h1, h2]

theorem lexOther_digit (c : Char) (cs : List Char) (h : isDigit10 c = true) :
    lexOther c cs = lexNumber c cs := by
  unfold lexOther
  rw [if_neg (by simp [not_ws_of_digit c h]), if_pos h]

theorem lexStep_digit (c : Char) (cs : List Char) (h : isDigit10 c = true) :
    lexStep c cs = lexNumber c cs := by
  fun_cases lexStep c cs
  -- the catch-all arm; in every other `c` is a concrete character that is no digit
  case case22 => exact lexOther_digit c cs h
  all_goals exact absurd h (by decide)

theorem lex_run (I : List Char) (hI : AllDig I) (hne : I ≠ []) (tail : List Char)
    (hs : Stops isDigit10 tail) (toks : List Token) (rest : List Char)
    (h : afterRun I tail = ⟨toks, rest, false⟩) : lex (I ++ tail) = toks ++ lex rest := by
  obtain ⟨c, ds, rfl⟩ := List.exists_cons_of_ne_nil hne
  exact lex_of_step c (ds ++ tail) _ _ (by rw [lexStep_digit c _ (hI c (by simp)),
    lexNumber_run c ds tail (fun d hd => hI d (by simp [hd])) hs, h])

theorem lex_run_other (I : List Char) (hI : AllDig I) (hne : I ≠ []) (d : Char)
    (cs2 : List Char) (hd : isDigit10 d = false) (hdot : d ≠ '.') (toks : List Token) (rest : List Char)
    (h : lexAfterInt I d cs2 = ⟨toks, rest, false⟩) : lex (I ++ d :: cs2) = toks ++ lex rest :=
  lex_run I hI hne _ (stops_cons _ _ _ hd) _ _ (by rw [afterRun_other I d cs2 hdot, h])

/-! ### integer literals -/

/-- the letters that continue a decimal digit run into something else -/
def numSuffixLetters : List Char :=
  ['x', 'X', 'b', 'B', 'o', 'O', 'r', 'R', 'i', 'I', 'j', 'J', 'q', 'Q', 'f', 'F', 'e', 'E']

/-- what may follow an integer literal of form `f` for the literal to end there -/
def IntStop (f : IntForm) (rest : List Char) : Prop :=
  match f with
  | .dec => ∀ c ∈ rest.head?, isDigit10 c = false ∧ c ≠ '.' ∧ c ∉ numSuffixLetters
  | .hex _ _ => Stops (fun c => (toDigit c 16).isSome) rest
  | .bin _ => Stops (fun c => (toDigit c 2).isSome) rest
  | .oct _ => Stops (fun c => (toDigit c 8).isSome) rest
  | .radix r _ _ => Stops (fun c => (toDigit c r).isSome) rest
  | .b64 _ _ => Stops (fun c => (b64Digit c).isSome) rest

theorem intStop_nil (f : IntForm) : IntStop f [] := by
  cases f
  case dec => nofun
  all_goals exact stops_nil _

theorem intLitTok_decimal (n : Nat) : intLitTok (decimal n) = .intLit n := by
  simp [intLitTok, parseBigInt_decimal]

theorem lexAfterInt_plain (acc : List Char) (d : Char) (cs2 : List Char) (hd : d ∉ numSuffixLetters) :
    lexAfterInt acc d cs2 = ⟨[intLitTok acc], d :: cs2, false⟩ := by
  simp [numSuffixLetters] at hd
  unfold lexAfterInt
  simp [hd]

theorem lexBaseTok_digits (r : Nat) (hr2 : 2 ≤ r) (hr : r ≤ 36) (u : Bool) (n : Nat) (rest : List Char)
    (hstop : Stops (fun c => (toDigit c r).isSome) rest) :
    lexBaseTok r ((digits r n).map (digitChar u) ++ rest) = ⟨[.intLit n], rest, false⟩ := by
  unfold lexBaseTok
  rw [if_pos ⟨hr2, hr⟩, lexBase_digits r hr2 hr u n rest hstop]

/-- a decimal digit run `I`, a letter `p` after which `lex_base_and_emit(r)` is called, and the
digits of `n` in base `r`: the forms `0x… 0b… 0o… NNr…` for every radix at once -/
theorem lex_radix (I : List Char) (p : Char) (r : Nat) (hI : AllDig I) (hne : I ≠ [])
    (hp : isDigit10 p = false) (hdot : p ≠ '.')
    (hsel : ∀ cs2, lexAfterInt I p cs2 = lexBaseTok r cs2) (hr2 : 2 ≤ r) (hr : r ≤ 36)
    (u : Bool) (n : Nat) (rest : List Char) (hstop : Stops (fun c => (toDigit c r).isSome) rest) :
    lex (I ++ p :: ((digits r n).map (digitChar u) ++ rest)) = .intLit n :: lex rest :=
  lex_run_other I hI hne p _ hp hdot _ _ (by rw [hsel, lexBaseTok_digits r hr2 hr u n rest hstop])

/-! ## string escapes

`lexStr` (the decoded characters) and `lexStrHex` (which of them were written `\\xHH`) run the same
recursion, so every arm is stated for both at once. -/

theorem lexStr_delim (e : Char) (cs : List Char) :
    lexStr e (e :: cs) = ⟨[], [], cs⟩ ∧ lexStrHex e (e :: cs) = [] :=
  ⟨by rw [lexStr.eq_def]; simp, by rw [lexStrHex.eq_def]; simp⟩

theorem lexStr_plain (e c : Char) (cs : List Char) (h1 : c ≠ e) (h2 : c ≠ '\\') :
    lexStr e (c :: cs) = (lexStr e cs).push c ∧ lexStrHex e (c :: cs) = false :: lexStrHex e cs :=
  ⟨by rw [lexStr.eq_def]; simp [h1, h2], by rw [lexStrHex.eq_def]; simp [h1, h2]⟩

/-- the escapes that stand for one fixed character -/
def simpleEscapes : List (Char × Char) :=
  [('n', '\n'), ('r', '\r'), ('t', '\t'), ('0', Char.ofNat 0), ('\\', '\\'), ('\'', '\''), ('"', '"')]

theorem lexStr_esc (e : Char) (he : e ≠ '\\') (c1 c : Char) (h : (c1, c) ∈ simpleEscapes) (cs : List Char) :
    lexStr e ('\\' :: c1 :: cs) = (lexStr e cs).push c ∧
    lexStrHex e ('\\' :: c1 :: cs) = false :: lexStrHex e cs := by
  have he' : ¬ ('\\' = e) := fun h => he h.symm
  simp only [simpleEscapes, List.mem_cons, Prod.mk.injEq, List.not_mem_nil, or_false] at h
  rcases h with ⟨rfl, rfl⟩ | ⟨rfl, rfl⟩ | ⟨rfl, rfl⟩ | ⟨rfl, rfl⟩ | ⟨rfl, rfl⟩ | ⟨rfl, rfl⟩ | ⟨rfl, rfl⟩ <;>
    exact ⟨by rw [lexStr.eq_def]; simp [he'], by rw [lexStrHex.eq_def]; simp [he']⟩

theorem lexStr_esc_x (e : Char) (he : e ≠ '\\') (h1 h2 : Char) (d1 d2 : Nat)
    (hd1 : toDigit h1 16 = some d1) (hd2 : toDigit h2 16 = some d2) (cs : List Char) :
    lexStr e ('\\' :: 'x' :: h1 :: h2 :: cs) = (lexStr e cs).push (Char.ofNat (d1 * 16 + d2)) ∧
    lexStrHex e ('\\' :: 'x' :: h1 :: h2 :: cs) = true :: lexStrHex e cs := by
  have he' : ¬ ('\\' = e) := fun h => he h.symm
  exact ⟨by rw [lexStr.eq_def]; simp [he', hd1, hd2, validScalar_hex2 hd1 hd2],
    by rw [lexStrHex.eq_def]; simp [he', hd1, hd2, validScalar_hex2 hd1 hd2]⟩

/-- the `\\u` arm when the closing bracket (if one is required) follows the digit run -/
theorem lexStr_esc_u (e : Char) (he : e ≠ '\\') (cs1 next : List Char)
    (hx : uAfter cs1 = (uExpected cs1).toList ++ next) :
    lexStr e ('\\' :: 'u' :: cs1) =
      (if validScalar (uValue cs1) then (lexStr e next).push (Char.ofNat (uValue cs1))
       else strFail .uTooBig next) ∧
    lexStrHex e ('\\' :: 'u' :: cs1) =
      (if validScalar (uValue cs1) then false :: lexStrHex e next else []) := by
  have he' : ¬ ('\\' = e) := fun h => he h.symm
  cases hexp : uExpected cs1 with
  | none =>
    replace hx : uAfter cs1 = next := by rw [hx, hexp]; rfl
    exact ⟨by rw [lexStr.eq_def]; simp [he', hexp, hx], by rw [lexStrHex.eq_def]; simp [he', hexp, hx]⟩
  | some close =>
    replace hx : uAfter cs1 = close :: next := by rw [hx, hexp]; rfl
    constructor
    · rw [lexStr.eq_def]; simp [he', hexp]
      split
      · rename_i h0; rw [hx] at h0; cases h0
      · rename_i c2 cs3 h0; rw [hx] at h0; cases h0; simp
    · rw [lexStrHex.eq_def]; simp [he', hexp]
      split
      · rename_i h0; rw [hx] at h0; cases h0
      · rename_i c2 cs3 h0; rw [hx] at h0; cases h0; simp

/-! the `\\u` accumulator: the saturating `u32` loop computes `min value u32::MAX` -/
theorem satStep_min (X d : Nat) : satStep (min X U32_MAX) d = min (X * 16 + d) U32_MAX := by
  unfold satStep
  generalize U32_MAX = M
  rcases Nat.le_total (X * 16) M with h | h
  · rw [Nat.min_eq_left (Nat.le_trans (Nat.le_mul_of_pos_right X (by decide)) h), Nat.min_eq_left h]
  · -- saturated: every `min` below is `M`
    have h1 : M ≤ min X M * 16 := by
      rcases Nat.le_total X M with hx | hx
      · rwa [Nat.min_eq_left hx]
      · rw [Nat.min_eq_right hx]; exact Nat.le_mul_of_pos_right M (by decide)
    rw [Nat.min_eq_right h1, Nat.min_eq_right (Nat.le_add_right M d),
      Nat.min_eq_right (Nat.le_trans h (Nat.le_add_right _ _))]

theorem hexAccSat_min (X : Nat) (cs : List Char) :
    hexAccSat (min X U32_MAX) cs = min (foldDigits 16 X cs) U32_MAX := by
  induction cs generalizing X with
  | nil => rfl
  | cons c cs ih => rw [hexAccSat, foldDigits, satStep_min, ih, Nat.mul_comm]

theorem hexAccSat_zero (cs : List Char) : hexAccSat 0 cs = min (foldDigits 16 0 cs) U32_MAX :=
  hexAccSat_min 0 cs

theorem validScalar_min (v : Nat) : validScalar (min v U32_MAX) = validScalar v := by
  unfold validScalar U32_MAX
  by_cases h : v ≤ 4294967295
  · rw [Nat.min_eq_left h]
  · have h1 : min v 4294967295 = 4294967295 := by omega
    rw [h1]
    have : ¬ v < 55296 := by omega
    have : ¬ v ≤ 1114111 := by omega
    simp [*]

theorem min_eq_of_valid (v : Nat) (h : validScalar v = true) : min v U32_MAX = v := by
  unfold validScalar at h
  unfold U32_MAX
  simp at h
  omega

theorem toDigit_hexChar (d : HexDigit) (h : d.val < 16) : toDigit d.char 16 = some d.val :=
  toDigit_digitChar d.upper d.val 16 h (by omega)

theorem isHexDigit_char (d : HexDigit) (h : d.val < 16) : isHexDigit d.char = true := by
  rw [isHexDigit, toDigit_hexChar d h]; rfl

theorem hexChars_all (ds : List HexDigit) (h : ∀ d ∈ ds, d.val < 16) :
    ∀ c ∈ ds.map HexDigit.char, isHexDigit c = true :=
  List.forall_mem_map.2 fun d hd => isHexDigit_char d (h d hd)

/-- what the `\\u` arm computes on `cs = open? DIGITS close? next` once the opening bracket has been
recognised (`hub`): the value of the digit run, and what is left after it -/
theorem u_parts_of (cs inner : List Char) (close : Option Char) (hub : uBracket cs = (close, inner))
    (ds : List HexDigit) (h : ∀ d ∈ ds, d.val < 16) (after : List Char) (hstop : Stops isHexDigit after)
    (hinner : inner = ds.map HexDigit.char ++ after) :
    uExpected cs = close ∧ uValue cs = min (ofDigits 16 (ds.map HexDigit.val)) U32_MAX ∧ uAfter cs = after := by
  have hall := hexChars_all ds h
  subst hinner
  refine ⟨by rw [uExpected, hub], ?_, ?_⟩
  · rw [uValue, hub, takeWhile_run _ _ _ hall hstop, hexAccSat_zero,
      foldDigits_map 16 _ _ ds 0 fun d hd => toDigit_hexChar d (h d hd), ofDigits_eq_horner]
  · rw [uAfter, hub, dropWhile_run _ _ _ hall hstop]

theorem u_parts (b : Bracket) (ds : List HexDigit) (h : ∀ d ∈ ds, d.val < 16) (hne : b = .none → ds ≠ [])
    (next : List Char) (hstop : b = .none → Stops isHexDigit next) :
    uExpected (b.opening ++ (ds.map HexDigit.char ++ (b.closing ++ next))) = b.closing.head? ∧
    uValue (b.opening ++ (ds.map HexDigit.char ++ (b.closing ++ next))) =
      min (ofDigits 16 (ds.map HexDigit.val)) U32_MAX ∧
    uAfter (b.opening ++ (ds.map HexDigit.char ++ (b.closing ++ next))) = b.closing ++ next := by
  cases b
  case none =>
    -- no bracket: the first digit is not an opening bracket
    obtain ⟨d, ds', rfl⟩ := List.exists_cons_of_ne_nil (hne rfl)
    have hd : isHexDigit d.char = true := isHexDigit_char d (h d (by simp))
    refine u_parts_of _ _ none ?_ (d :: ds') h next (hstop rfl) rfl
    show uBracket (d.char :: _) = _
    unfold uBracket
    split
    case h_5 => rfl
    all_goals (rename_i heq; simp at heq; rw [heq.1] at hd; exact absurd hd (by decide))
  all_goals exact u_parts_of _ _ _ rfl ds h _ (stops_cons _ _ _ (by decide)) rfl

/-- a `\\u` item in any of the five bracket forms, with any number of digits: the character the digits
spell if that is a Unicode scalar value, the error "u result too big" otherwise (the accumulator
saturates, so over-long digit runs end up here too) -/
theorem lexStr_uni (e : Char) (he : e ≠ '\\') (b : Bracket) (ds : List HexDigit) (hds : ∀ d ∈ ds, d.val < 16)
    (hne : b = .none → ds ≠ []) (next : List Char) (hstop : b = .none → Stops isHexDigit next) :
    lexStr e ((StrItem.uni b ds).render ++ next) =
      (if validScalar (ofDigits 16 (ds.map HexDigit.val))
       then (lexStr e next).push (Char.ofNat (ofDigits 16 (ds.map HexDigit.val)))
       else strFail .uTooBig next) ∧
    lexStrHex e ((StrItem.uni b ds).render ++ next) =
      (if validScalar (ofDigits 16 (ds.map HexDigit.val)) then false :: lexStrHex e next else []) := by
  obtain ⟨h1, h2, h3⟩ := u_parts b ds hds hne next hstop
  have hr : (StrItem.uni b ds).render ++ next
      = '\\' :: 'u' :: (b.opening ++ (ds.map HexDigit.char ++ (b.closing ++ next))) := by
    simp [StrItem.render]
  have := lexStr_esc_u e he _ next (by rw [h3, h1]; cases b <;> rfl)
  rw [h2, validScalar_min] at this
  rw [hr]
  split
  · rename_i hsc
    rw [if_pos hsc, if_pos hsc, min_eq_of_valid _ hsc] at this
    exact this
  · rename_i hsc
    rw [if_neg hsc, if_neg hsc] at this
    exact this

theorem isScalar_eq_validScalar (v : Nat) : isScalar v = validScalar v := rfl

end Noulith.C15
