/-
C15, parser termination: with the linear fuel `fuelFor` the parser model never runs out of fuel.

`pneed_fmtScan`: the parts the brace scanner makes of a format-string body need fuel linear in its length
(invariant `FInv` of `fmtLoop`), which the weight of the format-string token pays for (`Bud.formatString`).
`allOK_succ`: if every function of the mutual block is safe at fuel `n` (`AllOK n`), then every one is
safe at fuel `n + 1`.  The proof of each field is a derivation of the judgement `Fits` (Lemmas/C15ParseSpec.lean)
that follows the function's `do` block, one rule per statement; what it says at each call is which of
the two budget rules applies: the callee sits on a lower grammar level (`Fits.below`), or a token has been
consumed (`Fits.any`).  The measure, fuel ≥ 10 · (weight of the remaining tokens) + (grammar level of the
function), and the levels are explained at the head of Lemmas/C15ParseSpec.lean.
-/
import NoulithModel.Lemmas.C15ParseSpec
namespace Noulith.C15
open Noulith Noulith.Lex Noulith.Parse

/-- the heaviest embedded expression of a part list -/
def wmax : List FmtPart → Nat
  | [] => 0
  | .lit _ :: r => wmax r
  | .expr toks _ :: r => max (W toks) (wmax r)

theorem wmax_append (a b : List FmtPart) : wmax (a ++ b) = max (wmax a) (wmax b) := by
  induction a with
  | nil => exact (Nat.zero_max _).symm
  | cons p a ih =>
    cases p with
    | lit c => exact ih
    | expr toks fl => exact (congrArg (max (W toks)) ih).trans (Nat.max_assoc _ _ _).symm

/-- every part costs one unit of fuel, and an embedded expression must fit below the parts before it -/
theorem pneed_le (r : List FmtPart) : pneed r ≤ 10 * wmax r + r.length + 11 := by
  induction r with
  | nil => exact Nat.le_add_left _ _
  | cons p r ih =>
    cases p with
    | lit c => exact Nat.succ_le_succ ih
    | expr toks fl => simp only [pneed, wmax, List.length_cons]; omega

theorem fmtExpr_W (acc : List Char) (part : FmtPart) (h : fmtExpr acc = .ok part) :
    ∃ toks fl, part = .expr toks fl ∧ W toks ≤ 2 * acc.length := by
  unfold fmtExpr at h
  simp only at h
  split at h
  · cases h
  · split at h
    · cases h
    · split at h
      · rename_i fl hfl
        cases h
        exact ⟨_, fl, rfl, Nat.le_trans (W_stripComments_le _) (W_lex_le acc)⟩
      · cases h

/-- Invariant of the brace scanner on a body of `N` characters, `cs` being what is still to read: the
parts made and the characters of the expression being collected came from distinct characters read,
and so did, for every embedded expression, half its weight and all parts (also the later ones). -/
def FInv (N : Nat) (cs : List Char) (ret : List FmtPart) (acc : List Char) : Prop :=
  ret.length + acc.length + cs.length ≤ N ∧ 2 * ret.length + wmax ret + 2 * cs.length ≤ 2 * N

namespace FInv
variable {N : Nat} {c c' : Char} {cs acc : List Char} {ret : List FmtPart}
theorem tail (h : FInv N cs ret acc) : FInv N cs.tail ret acc := by
  have := @List.length_tail _ cs; unfold FInv at *; omega
theorem lit (h : FInv N (c :: cs) ret acc) : FInv N cs (ret ++ [.lit c']) acc := by
  simp only [FInv, List.length_append, List.length_cons, List.length_nil, wmax_append, wmax] at *; omega
theorem char (h : FInv N (c :: cs) ret acc) : FInv N cs ret (acc ++ [c']) := by
  simp only [FInv, List.length_append, List.length_cons, List.length_nil] at *; omega
theorem expr {toks : List Token} {fl : FmtFlags} (h : FInv N (c :: cs) ret acc) (hw : W toks ≤ 2 * acc.length) :
    FInv N cs (ret ++ [.expr toks fl]) [] := by
  simp only [FInv, List.length_append, List.length_cons, List.length_nil, wmax_append, wmax] at *; omega
end FInv

theorem fmtLoop_inv {N : Nat} (st : FmtState) (cs : List Char) (st' : FmtState)
    (h : fmtLoop st cs = .ok st') (hi : FInv N cs st.ret st.exprAcc) : FInv N [] st'.ret st'.exprAcc := by
  fun_induction fmtLoop st cs
  case case1 => cases h; exact hi
  case case2 ih => exact ih h hi.lit.tail
  case case3 ih => exact ih h hi.tail
  case case4 ih => exact ih h hi.lit.tail
  case case5 => cases h
  case case6 ih => exact ih h hi.lit
  case case7 ih => exact ih h hi.char
  case case8 part hpart _ ih =>
    obtain ⟨toks, fl, rfl, hw⟩ := fmtExpr_W _ _ hpart
    exact ih h (hi.expr hw)
  case case9 => cases h
  case case10 ih => exact ih h hi.char
  case case11 ih => exact ih h hi.char

/-- the fuel `formatParts` needs on the parts of a format string is linear in the body length -/
theorem pneed_fmtScan (s : List Char) (parts : List FmtPart) (h : fmtScan s = .ok parts) :
    pneed parts ≤ 20 * s.length + 11 := by
  unfold fmtScan at h
  split at h
  · rename_i st hst
    split at h
    · cases h
    · cases h
      have hinv := fmtLoop_inv (N := s.length) {} s st hst ⟨Nat.le_of_eq (Nat.zero_add _), Nat.le_of_eq (Nat.zero_add _)⟩
      have hp := pneed_le st.ret
      unfold FInv at hinv
      omega
  · cases h

/- `unfold f` opens one layer of `f` only, and unification never looks into a callee -/
attribute [local irreducible] Parse.atom Parse.dictLoop Parse.switchCases Parse.structFields Parse.forIterations Parse.forIteration Parse.operand Parse.operandLoop Parse.updateLoop Parse.operator Parse.chain Parse.chainLoop Parse.logicAnd Parse.logicAndLoop Parse.single Parse.singleLoop Parse.acs Parse.acsLoop Parse.annotatedPattern Parse.assignment Parse.paramList Parse.paramLoop Parse.expression Parse.exprLoop Parse.formatString Parse.formatParts

/-- the fields follow the order of the functions in `Impl/Parse.lean` -/
theorem allOK_succ (n : Nat) (ih : AllOK n) : AllOK (n + 1) where
  atom := by
    intro ts hb
    unfold atom
    cases ts with
    | nil => exact .err
    | cons t ts' =>
    have ha := (Adv.refl (t :: ts')).tail
    have prefixed : ∀ e : PExpr, Fits n 1 1 (do skip (single n); pure e) 1 :=
      fun e => .bind (.skip (.any ih.single)) fun _ => .pure
    have parenthesised : ∀ k : P PExpr, Fits n 1 1 k 1 → Fits n 1 1 (do
        require .leftParen
        skip (expression n)
        require .rightParen
        k) 1 :=
      fun k hk =>
        .bind .require fun _ =>
        .bind (.skip (.any ih.expression)) fun _ =>
        .bind .require fun _ => hk
    have body : Fits n 1 1 (do skip (assignment n); pure PExpr.other) 1 :=
      .bind (.skip (.any ih.assignment)) fun _ => .pure
    cases t with
    | null | intLit | ratLit | floatLit | imagLit | stringLit | bytesLit | underscore | ident | «continue»
    | internalPop | internalPeekN => exact .ok ha.toLt
    | throw | literally | freeze | «import» | internalFrame | internalPush =>
      refine .run hb ha ?_
      exact prefixed _
    | consume | pop | remove =>
      refine .run hb ha ?_
      exact .bind (.any ih.single) fun _ => .guardP fun _ => .pure
    | ellipsis =>
      refine .run hb ha ?_
      exact .bind (.any ih.single) fun _ => .pure
    | formatString s =>
      have hs := ih.formatString s hb.formatString
      -- reduce the `match` on the token, so that `split` meets the one on the nested parse
      dsimp only
      split
      · exact .ok ha.toLt
      · exact .err
      · exact .err
      · rename_i h; exact absurd h hs
    | doubleColon =>
      dsimp only
      split
      · exact .ok ha.tail.toLt
      · exact .err
    | «break» =>
      have ha := ha.skipBreaks
      dsimp only
      generalize skipBreaks ts' = ts2 at ha ⊢
      split
      · exact .ok ha.tail.toLt
      · split
        · exact .ok ha.toLt
        · refine .run hb ha ?_
          exact prefixed _
    | «return» =>
      dsimp only
      split
      · exact .ok ha.toLt
      · refine .run hb ha ?_
        exact prefixed _
    | leftParen =>
      refine .run hb ha ?_
      exact .bind (.any ih.expression) fun _ => .bind .require fun _ => .pure
    | leftBracket =>
      refine .run hb ha ?_
      refine .ifTryConsume .pure ?_
      exact .bind (.any (ih.acs _)) fun ⟨_, _⟩ => .bind .require fun _ => .pure
    | bLeftBracket =>
      refine .run hb ha ?_
      refine .ifTryConsume .pure (.ifTryConsumeBounded ?_ .fail)
      exact .bind .bytesTail fun _ => .bind .require fun _ => .pure
    | leftBrace =>
      have entries : Fits n 1 1 (do
          dictLoop n
          require .rightBrace
          pure PExpr.other) 1 := .bind (.anyLe ih.dictLoop) fun _ => .bind .require fun _ => .pure
      refine .run hb ha ?_
      refine .ifTryConsume ?_ entries
      exact .bind (.skip (.any ih.single)) fun _ => .peekIf (.bind .require fun _ => entries) entries
    | lambda =>
      have finish : Fits n 1 1 (do
          if (← peekIs .lambdaEnd) then advance
          pure PExpr.other) 1 := .ifPeekIs (.bind .advance fun _ => .pure) .pure
      refine .run hb ha ?_
      refine .ifTryConsumeBounded finish (.ifPeekIs ?_ ?_)
      · exact .bind .advance fun _ =>
          .bind (.anyLe ih.switchCases) fun _ =>
          .guardP fun _ => finish
      · exact .bind (.anyLe ih.paramList) fun _ => .bind (.skip (.any ih.single)) fun _ => finish
    | «if» =>
      refine .run hb ha ?_
      refine parenthesised _ ?_
      exact .bind (.skip (.any ih.assignment)) fun _ => .optional (.any ih.assignment) .pure
    | «for» =>
      have into : Fits n 1 1 (do
          if (← tryConsume .into) then
            skip (single n)
          pure PExpr.other) 1 := .optional (.any ih.single) .pure
      refine .run hb ha ?_
      refine .bind .require fun _ => .bind (.anyLe ih.forIterations) fun _ => .ifTryConsume ?_ body
      exact .bind (.skip (.any ih.single)) fun _ => .optional (.any ih.single) into
    | «while» =>
      refine .run hb ha ?_
      exact parenthesised _ body
    | «switch» =>
      refine .run hb ha ?_
      exact parenthesised _ (.bind (.anyLe ih.switchCases) fun _ => .guardP fun _ => .pure)
    | «try» =>
      refine .run hb ha ?_
      refine .bind (.skip (.any ih.expression)) fun _ => .bind .require fun _ => ?_
      exact .bind (.any (ih.annotatedPattern _)) fun _ =>
        .guardP fun _ =>
        .bind .require fun _ => prefixed _
    | struct =>
      have close : Fits n 1 1 (do
          require .rightParen
          pure PExpr.other) 1 := .bind .require fun _ => .pure
      have fields : Fits n 1 1 (do
          structFields n
          require .rightParen
          pure PExpr.other) 1 := .bind (.anyLe ih.structFields) fun _ => close
      refine .run hb ha ?_
      refine .peek (.guardP nofun) fun o =>
        .guardP fun _ =>
        .bind .advance fun _ =>
        .bind .require fun _ => ?_
      exact .peek close fun o => .ite (.bind .advance fun _ => .optional (.any ih.single) fields) (.seen close)
    | internalPeek =>
      refine .run hb ha ?_
      exact .ifTryConsumeBounded .pure .fail
    | internalWhile =>
      refine .run hb ha ?_
      refine .bind .require fun _ => .bind (.skip (.any ih.single)) fun _ => ?_
      exact .bind .require fun _ => prefixed _
    | internalFor =>
      refine .run hb ha ?_
      refine .bind .require fun _ => .bind (.skip (.any ih.single)) fun _ => ?_
      exact .bind .require fun _ => body
    | internalCall =>
      refine .run hb ha ?_
      exact .ifTryConsumeBounded (prefixed _) .fail
    | internalLambda =>
      have rest : Fits n 1 1 (do
          if (← tryConsumeBounded USIZE_MAX) then
            skip (single n)
            pure PExpr.other
          else if (← peekIs .ellipsis) then
            advance
            skip (single n)
            pure PExpr.other
          else P.fail) 1 :=
        .ifTryConsumeBounded (prefixed _) (.ifPeekIs (.bind .advance fun _ => prefixed _) .fail)
      refine .run hb ha ?_
      refine .ifPeekIs ?_ rest
      exact .bind .advance fun _ =>
        .bind (.skip (.any (ih.acs _))) fun _ =>
        .bind .require fun _ => rest
    | _ => exact .err
  dictLoop := Fits.le <| by
    unfold dictLoop
    have rest : Fits n 7 1 (do
        if !cscStopper (← peek) then require .comma
        dictLoop n) 0 :=
      .peekIf (.bind .require fun _ => .loop ih.dictLoop) (.loop ih.dictLoop)
    exact .peekIf .pure (.bind (.skip (.below ih.single)) fun _ => .optional (.any ih.single) rest)
  switchCases := Fits.le <| by
    unfold switchCases
    refine .ifTryConsume ?_ .pure
    refine .bind (.any (ih.annotatedPattern _)) fun _ =>
      .guardP fun _ =>
      .bind .require fun _ => ?_
    exact .bind (.skip (.any ih.single)) fun _ => .bind (.anyLe ih.switchCases) fun _ => .pure
  structFields := Fits.le <| by
    unfold structFields
    refine .ifTryConsume ?_ .pure
    refine .peek (.guardP nofun) fun o => .guardP fun _ => .bind .advance fun _ => ?_
    exact .optional (.any ih.single) (.loop ih.structFields)
  forIterations := Fits.le <| by
    unfold forIterations
    refine .bind (.belowLe ih.forIteration) fun _ => .peek .fail fun o => ?_
    split
    · exact .weak .advance
    · exact .bind .advance fun _ => .loop ih.forIterations
    · exact .seen .fail
  forIteration := Fits.le <| by
    unfold forIteration
    refine .ifTryConsume (.weak (.skip (.any ih.single))) ?_
    refine .bind (.below (ih.annotatedPattern _)) fun _ =>
      .guardP fun _ =>
      .peek .failThen fun o => ?_
    have rest : Fits n 9 1 (skip (annotatedPattern n false)) 0 := .weak (.skip (.any (ih.annotatedPattern _)))
    split
    · exact .bind .advance fun _ => rest
    · exact .bind .advance fun _ => rest
    · exact .bind .advance fun _ => rest
    · exact .seen .failThen
  operand := Fits.lt <| by
    unfold operand
    exact .bind (.below ih.atom) fun _ => .anyLe (ih.operandLoop _)
  operandLoop := fun cur0 => Fits.le <| by
    unfold operandLoop
    refine .bind .attach fun cur => .peek .pure fun o => ?_
    have again : ∀ e, Fits n 1 1 (operandLoop n e) 0 := fun e => .loop (ih.operandLoop e)
    -- after `[ lo :` or `[ :`: an optional upper bound, the `]`, and further postfixes
    have upper : Fits n 1 1 (do
        if (← tryConsume .rightBracket) then operandLoop n (.index cur)
        else
          skip (single n)
          require .rightBracket
          operandLoop n (.index cur)) 0 :=
      .ifTryConsume (again _) (.bind (.skip (.any ih.single)) fun _ => .bind .require fun _ => again _)
    split
    · refine .bind .advance fun _ => .ifTryConsume (again _) ?_
      exact .bind (.any (ih.acs _)) fun ⟨_, _⟩ => .bind .require fun _ => again _
    · refine .bind .advance fun _ => .ifTryConsume upper ?_
      refine .bind (.skip (.any ih.single)) fun _ => .ifTryConsume upper ?_
      exact .bind .require fun _ => again _
    · exact .bind .advance fun _ =>
        .bind (.anyLe ih.updateLoop) fun _ =>
        .bind .require fun _ => again _
    · refine .bind .advance fun _ => .peekIf (again _) ?_
      exact .bind (.any (ih.acs _)) fun ⟨_, _⟩ => again _
    · exact .seen .pure
  updateLoop := Fits.le <| by
    unfold updateLoop
    refine .peekIf .pure (.bind (.skip (.below ih.single)) fun _ => .bind .require fun _ => ?_)
    exact .bind (.skip (.any ih.single)) fun _ => .ifTryConsume (.loop ih.updateLoop) .pure
  operator := fun ab => Fits.lt <| by
    unfold operator
    have plain : Fits n 2 0 (do let e ← atom n; pure (e.isIdent, e)) 1 := .bind (.below ih.atom) fun _ => .pure
    refine .peekIs (.ite ?_ (.seen plain)) ?_
    · exact .bind .advance fun _ =>
        .bind (.any (ih.chain _)) fun _ =>
        .bind .require fun _ => .pure
    · rw [Bool.and_false]
      exact plain
  chain := fun ab => Fits.lt <| by
    unfold chain
    refine .bind (.below ih.operand) fun op1 => .peekIf .pure ?_
    refine .bind (.any (ih.operator _)) fun ⟨isOp, second0⟩ => .bind .attach fun second => .ite ?_ ?_
    · refine .ifTryConsume ?_ (.peekIf .pure ?_)
      · exact .bind (.any ih.single) fun _ => .ifPeekIs (.seen .fail) .pure
      · exact .bind (.any ih.operand) fun _ => .bind (.anyLe (ih.chainLoop _)) fun _ => .pure
    · exact .peekIf .pure .fail
  chainLoop := fun ab => Fits.le <| by
    unfold chainLoop
    refine .peekIf ?_ .pure
    refine .bind (.below (ih.operator _)) fun ⟨isOp, _⟩ => .guardP fun _ => ?_
    have again : ∀ o, Fits n 3 1 (do let rest ← chainLoop n ab; pure (o :: rest)) 0 :=
      fun o => .bind (.anyLe (ih.chainLoop _)) fun _ => .pure
    exact .bind (.ifTryConsume (.any ih.single) (.any ih.operand)) again
  logicAnd := Fits.lt <| by
    unfold logicAnd
    exact .bind (.below (ih.chain _)) fun _ => .anyLe (ih.logicAndLoop _)
  logicAndLoop := fun e => Fits.le <| by
    unfold logicAndLoop
    exact .ifTryConsume (.bind (.any (ih.chain _)) fun _ => .loop (ih.logicAndLoop _)) .pure
  single := Fits.lt <| by
    unfold single
    exact .bind (.below ih.logicAnd) fun _ => .anyLe (ih.singleLoop _)
  singleLoop := fun e => Fits.le <| by
    unfold singleLoop
    refine .peek .pure fun o => ?_
    split
    · exact .bind .advance fun _ => .bind (.any ih.logicAnd) fun _ => .loop (ih.singleLoop _)
    · exact .bind .advance fun _ => .bind (.skip (.any ih.logicAnd)) fun _ => .loop (ih.singleLoop _)
    · exact .seen .pure
  acs := fun a => Fits.lt <| by
    unfold acs
    exact .bind (.below ih.single) fun _ => .anyLe (ih.acsLoop _ _ _ _)
  acsLoop := fun a x y c => Fits.le <| by
    unfold acsLoop
    refine .peek .pure fun o => ?_
    have again : ∀ a x y c, Fits n 1 1 (acsLoop n a x y c) 0 := fun a x y c => .loop (ih.acsLoop a x y c)
    split
    · refine .bind .advance fun _ => .bind .look fun t => .ite .pure (.ite (again _ _ _ _) ?_)
      exact .bind (.any ih.single) fun _ => again _ _ _ _
    · refine .guardP fun _ =>
        .bind .advance fun _ =>
        .guardP fun _ =>
        .peekIf ?_ (again _ _ _ _)
      exact .bind (.skip (.any ih.single)) fun _ => again _ _ _ _
    · exact .seen .pure
  annotatedPattern := fun a => Fits.lt <| by
    unfold annotatedPattern
    refine .bind (.below (ih.acs _)) fun _ => ?_
    split
    split
    · exact .fail
    · exact .pure
    · exact .pure
    · exact .pure
  assignment := Fits.lt <| by
    unfold assignment
    refine .ifTryConsume ?_ ?_
    · refine .bind (.any ih.single) fun _ =>
        .guardP fun _ =>
        .bind .require fun _ => ?_
      exact .bind (.any ih.single) fun _ => .guardP fun _ => .pure
    -- whether or not `every` is there, the pattern sits one level down
    refine .bind .tryConsume fun every => .bind (.below (ih.annotatedPattern _)) fun pat => ?_
    refine .ifPeekIs (.bind .advance fun _ => ?_) (.ite .fail .pure)
    have rhs : Fits n 9 1 (skip (annotatedPattern n false)) 1 := .skip (.any (ih.annotatedPattern _))
    split
    · exact .guardP fun _ =>
        .bind rhs fun _ =>
        .guardP fun _ => .pure
    · exact .guardP fun _ =>
        .bind rhs fun _ =>
        .guardP fun _ => .pure
    · refine .bind rhs fun _ => ?_
      split
      · exact .pure
      · exact .fail
  paramList := Fits.le <| by
    unfold paramList
    exact .ifTryConsume .pure (.belowLe ih.paramLoop)
  paramLoop := Fits.le <| by
    unfold paramLoop
    have separator : Fits n 7 1 (do
        match (← peek) with
        | some .comma =>
          advance
          paramLoop n
        | some .rightArrow => advance
        | _ => P.fail) 0 := by
      refine .peek .fail fun o => ?_
      split
      · exact .bind .advance fun _ => .loop ih.paramLoop
      · exact .weak .advance
      · exact .seen .fail
    have afterCore : ∀ core, Fits n 7 1 (do
        guardP (lvalueNoLitOk core)
        if (← tryConsume .assign) then
          skip (single n)
        match (← peek) with
        | some .comma =>
          advance
          paramLoop n
        | some .rightArrow => advance
        | _ => P.fail) 0 := fun core => .guardP fun _ => .optional (.any ih.single) separator
    refine .bind (.below ih.single) fun core0 => .bind (.ifTryConsume ?_ .pure) afterCore
    exact .bind (.skip (.any ih.single)) fun _ => .pure
  expression := Fits.lt <| by
    unfold expression
    exact .bind (.below ih.assignment) fun _ => .bind (.anyLe ih.exprLoop) fun ⟨_, _⟩ => .pure
  exprLoop := Fits.le <| by
    unfold exprLoop
    refine .ifTryConsume (.peekIf .pure ?_) .pure
    exact .bind (.skip (.any ih.assignment)) fun _ => .bind (.anyLe ih.exprLoop) fun ⟨_, _⟩ => .pure
  formatString := by
    intro s hs
    unfold formatString
    split
    · nofun
    · nofun
    · rename_i parts hparts
      exact ih.formatParts _ (Nat.le_trans (pneed_fmtScan s parts hparts) (Nat.le_of_succ_le_succ hs))
  formatParts := by
    intro parts hp
    unfold formatParts
    split
    · nofun
    · exact ih.formatParts _ (Nat.le_of_succ_le_succ hp)
    · rename_i toks fl rest
      have hp := Nat.max_le.1 (Nat.le_of_succ_le_succ hp)
      have he := (ih.expression toks hp.1).ne_oof
      split
      · exact ih.formatParts rest hp.2
      · nofun
      · nofun
      · rename_i h; exact absurd h he

theorem Bud.not_zero {ts : List Token} {k : Nat} : ¬ Bud 0 ts (k + 1) := Nat.not_succ_le_zero _

theorem pneed_pos (parts : List FmtPart) : 1 ≤ pneed parts := by
  unfold pneed
  split
  · exact Nat.le_refl _
  · exact Nat.le_add_left _ _
  · exact Nat.le_add_left _ _

/-- no budget fits fuel 0: every grammar level is at least 1, and so is `pneed` -/
theorem allOK_zero : AllOK 0 := by
  constructor
  case formatString => intro s hs; exact absurd hs (Nat.not_succ_le_zero _)
  case formatParts => intro parts hp; exact absurd (Nat.le_trans (pneed_pos parts) hp) (Nat.not_succ_le_zero _)
  all_goals intros; exact absurd ‹Bud 0 _ _› Bud.not_zero

theorem allOK (n : Nat) : AllOK n := by
  induction n with
  | zero => exact allOK_zero
  | succ n ih => exact allOK_succ n ih

theorem expression_fuel (n : Nat) (ts : List Token) (h : 10 * W ts + 10 ≤ n) : expression n ts ≠ .oof :=
  ((allOK n).expression ts h).ne_oof

theorem parseTokens_fuel (n : Nat) (ts : List Token) (h : 10 * W ts + 10 ≤ n) :
    parseTokens n ts ≠ .outOfFuel := by
  unfold parseTokens
  split
  · nofun
  · have := expression_fuel n ts h
    split
    · nofun
    · nofun
    · nofun
    · rename_i h
      exact absurd h this

/-- **the parser model never runs out of fuel**: `fuelFor code = 32 * |code| + 64` always suffices,
the token list weighing at most twice the length of the source -/
theorem parse_never_out_of_fuel (code : List Char) : Parse.parse code ≠ .outOfFuel := by
  have hw : W (stripComments (lex code)).1 ≤ 2 * code.length :=
    Nat.le_trans (W_stripComments_le _) (W_lex_le code)
  exact parseTokens_fuel _ _ (by unfold fuelFor; omega)

end Noulith.C15
