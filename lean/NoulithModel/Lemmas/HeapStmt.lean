/-
C01: the parts a statement is made of, as maps of configurations.  A configuration `Cfg h T Ts C σ` is
a heap in which the owned temporaries `T` and the variable cells `C` represent the trees `Ts` and the
store `σ` (`Refines` is the case without temporaries); `Cfg.next` is the one place where the frame
conditions of an operation (`Tr0`: invariant, `Stable`) are turned into the next configuration.
Reading an lvalue (eval_lvalue_as_obj) leaves exactly one clone of the value `valAt` finds at the end of
the path (`readPath_dup`).  Last, the tree lemmas about the Spec's `setPath` that operator-assignment needs.
The rules read a variable as `σ.getD x .null`; `Store.step` says `Store.get σ x`, the same only after unfolding: a goal
about `Store.step` goes through `simp only [Store.get, …]` first, or an equation `hg : getPath (σ.getD x .null) path = …`
(`setPath`, `modPath`) taken from a rule does not rewrite it: `simp only [hg]` raises no error, the mismatch shows at `c.refines`.
-/
import NoulithModel.Lemmas.HeapWalk

namespace Noulith.RcHeap
open Noulith.Store (Tree modPath pyIdx setφ getPath setPath LeafT dictSlot)

/-- statement-level transition: count invariant re-established, frame-reachable payloads untouched -/
structure Tr0 (h h' : Heap) (outs F : List Val) : Prop where
  inv : Inv h' (outs ++ F)
  stable : Stable h h' F

theorem Tr.tr0 {h h' : Heap} {o F : List Val} (a : Tr h h' o F) : Tr0 h h' o F := ⟨a.inv, a.stable⟩

/-- as `Tr.seq`; only `Stable` composes: the outs `o1`, `o2` of the two steps are forgotten, `o3` is free, and the
invariant of the composite for `o3` is the hypothesis `hinv` (`D.inv` where the second step is `D := drop_tr (F := o3 ++ F) …`) -/
theorem Tr0.seq {h1 h2 h3 : Heap} {o1 o2 o3 F F2 : List Val} (a : Tr0 h1 h2 o1 F) (b : Tr0 h2 h3 o2 F2)
    (hsub : ∀ v, v ∈ F → v ∈ F2) (hinv : Inv h3 (o3 ++ F)) : Tr0 h1 h3 o3 F :=
  ⟨hinv, a.stable.trans (b.stable.mono hsub)⟩

/-! ### cells -/

theorem occ_take_cell (k : Nat) (cells : List Val) (x : Nat) (hx : x < cells.length) :
    occ k cells = occ k [cells.getD x .null] + occ k (cells.set x .null) := by
  have := occ_set k cells x .null hx
  simp at this ⊢; omega

theorem occ_put_cell (k : Nat) (cells : List Val) (x : Nat) (v : Val) (hx : x < cells.length) :
    occ k (cells.set x v) = occ k [v] + occ k (cells.set x .null) := by
  have h1 := occ_set k (cells.set x .null) x v (by simpa using hx)
  rw [getD_set_self _ _ _ _ hx, List.set_set] at h1
  simp at h1 ⊢; omega

theorem inv_take_cell {h : Heap} {T cells : List Val} {x : Nat} (hx : x < cells.length)
    (i : Inv h (T ++ cells)) : Inv h (cells.getD x .null :: T ++ cells.set x .null) :=
  i.congr (fun k => by
    have := occ_take_cell k cells x hx
    simp only [occ_append, occ_cons, List.cons_append, occ_nil] at this ⊢; omega)

theorem inv_put_cell {h : Heap} {T cells : List Val} {x : Nat} {v : Val} (hx : x < cells.length)
    (i : Inv h (v :: T ++ cells.set x .null)) : Inv h (T ++ cells.set x v) :=
  i.congr (fun k => by
    have := occ_put_cell k cells x v hx
    simp only [occ_append, occ_cons, List.cons_append, occ_nil] at this ⊢; omega)

/-! ### configurations -/

theorem Inv.tail {h : Heap} {v : Val} {T : List Val} (i : Inv h (v :: T)) : Inv h T :=
  i.weaken (fun _ => Nat.le_add_left _ _)

/-- a configuration in the middle of a statement: in the heap `h` the owned temporaries `T` and the
variable cells `C` represent the trees `Ts` and the store `σ`, and the count invariant accounts for both -/
structure Cfg (h : Heap) (T : List Val) (Ts : List Tree) (C : List Val) (σ : List Tree) : Prop where
  inv : Inv h (T ++ C)
  tmp : All2 (Rep h) T Ts
  sim : All2 (Rep h) C σ

/-- an operation that ran next to the temporaries and the cells (their payloads are stable) and now
owns `o`: everything that was represented still is.  An operation that consumes temporaries is applied after
they are forgotten (`c.tail.tail.next …`), so that the frame of `t` is what remains.  Give `(o := [_]) (os := [_])`
(`o` may be left out only if the type of `t` is known): `All2` is a recursive definition, and the anonymous constructor
for `ro` fails with "Invalid ⟨...⟩ notation" while one of its lists is a metavariable. -/
theorem Cfg.next {h h' : Heap} {T o C : List Val} {Ts os σ : List Tree} (c : Cfg h T Ts C σ)
    (t : Tr0 h h' o (T ++ C)) (ro : All2 (Rep h') o os) : Cfg h' (o ++ T) (os ++ Ts) C σ :=
  ⟨(List.append_assoc o T C).symm ▸ t.inv,
    ro.append (All2.mono (fun _ _ hv r => t.stable.rep (.root (List.mem_append_left _ hv)) r) c.tmp),
    All2.mono (fun _ _ hv r => t.stable.rep (.root (List.mem_append_right _ hv)) r) c.sim⟩

/-- a temporary may be forgotten (the invariant is an inequality) -/
theorem Cfg.tail {h : Heap} {v : Val} {t : Tree} {T C : List Val} {Ts σ : List Tree}
    (c : Cfg h (v :: T) (t :: Ts) C σ) : Cfg h T Ts C σ :=
  ⟨Inv.tail (T := T ++ C) c.inv, c.tmp.2, c.sim⟩

theorem Cfg.drop {h : Heap} {v : Val} {t : Tree} {T C : List Val} {Ts σ : List Tree}
    (c : Cfg h (v :: T) (t :: Ts) C σ) : Cfg (drop h v) T Ts C σ :=
  have D := drop_tr (F := T ++ C) c.inv
  c.tail.next (o := []) (os := []) D.tr0 trivial

theorem Cfg.swap {h : Heap} {u v : Val} {tu tv : Tree} {T C : List Val} {Ts σ : List Tree}
    (c : Cfg h (u :: v :: T) (tu :: tv :: Ts) C σ) : Cfg h (v :: u :: T) (tv :: tu :: Ts) C σ :=
  ⟨c.inv.perm (.swap v u _), ⟨c.tmp.2.1, c.tmp.1, c.tmp.2.2⟩, c.sim⟩

theorem Cfg.null {h : Heap} {T C : List Val} {Ts σ : List Tree} (c : Cfg h T Ts C σ) :
    Cfg h (.null :: T) (.null :: Ts) C σ :=
  ⟨c.inv.congr (fun k => (occ_cons_null k _).symm), ⟨Rep_null, c.tmp⟩, c.sim⟩

theorem Inv.dup {h : Heap} {T : List Val} {v : Val} (i : Inv h T) (hv : Live h v) : Inv (dup h v) (v :: T) :=
  i.bumpAll (p := [v]) (fun _ hw => by cases List.mem_singleton.1 hw; exact hv)

theorem Cfg.dup {h : Heap} {T C : List Val} {Ts σ : List Tree} {l : Val} {t : Tree} (c : Cfg h T Ts C σ)
    (r : Rep h l t) : Cfg (dup h l) (l :: T) (t :: Ts) C σ :=
  c.next (o := [l]) (os := [t]) ⟨c.inv.dup r.live, (PayloadExt.dup h l).stable _⟩ ⟨r.ext (PayloadExt.dup h l), trivial⟩

theorem Cfg.take_cell {h : Heap} {T C : List Val} {Ts σ : List Tree} {x : Nat} (hx : x < C.length)
    (c : Cfg h T Ts C σ) :
    Cfg h (C.getD x .null :: T) (σ.getD x .null :: Ts) (C.set x .null) (σ.set x .null) :=
  ⟨inv_take_cell hx c.inv, ⟨All2.getD x c.sim Rep_null, c.tmp⟩, All2.set x c.sim Rep_null⟩

theorem Cfg.put_cell {h : Heap} {T C : List Val} {Ts σ : List Tree} {x : Nat} {v : Val} {t : Tree}
    (hx : x < C.length) (c : Cfg h (v :: T) (t :: Ts) (C.set x .null) (σ.set x .null)) :
    Cfg h T Ts (C.set x v) (σ.set x t) := by
  have a := All2.set x c.sim c.tmp.1
  rw [List.set_set, List.set_set] at a
  exact ⟨inv_put_cell hx c.inv, c.tmp.2, a⟩

/-! ### setIndex -/

theorem setPath_eq (t : Tree) (path : List Int) (tn : Tree) :
    setPath t path tn = (modPath (setφ tn) t path).map (·.1) := rfl

theorem setIndex_spec {h : Heap} {v new : Val} {T C : List Val} {t tn : Tree} {Ts σ : List Tree} (path : List Int)
    (c : Cfg h (v :: new :: T) (t :: tn :: Ts) C σ) {w : WalkRes} (hw : setIndex h v path new = w) :
    (match setPath t path tn with
     | some t' => w.ok = true ∧ Cfg w.h (w.v :: T) (t' :: Ts) C σ
     | none => w.ok = false ∧ Cfg w.h (w.v :: T) (t :: Ts) C σ) := by
  subst hw
  obtain ⟨Wtr, Wrep⟩ := walk_spec (setLeaf_spec new tn) (setLeaf_ins new tn) path h v (T ++ C) t c.inv c.tmp.1
    ⟨c.tmp.2.1, trivial⟩
  dsimp only at Wtr Wrep
  have i := Wtr.inv
  rw [setPath_eq]
  cases hm : modPath (setφ tn) t path with
  | some tr =>
    obtain ⟨t', r'⟩ := tr
    rw [hm] at Wrep
    dsimp only at Wrep
    have e : setIndex h v path new = walk (setLeaf new) h v path := by simp [setIndex, Wrep.1]
    rw [e]
    rw [Wrep.1] at i
    exact ⟨Wrep.1, c.tail.tail.next (o := [_]) (os := [t']) ⟨(i.perm (.swap _ _ _)).tail, Wtr.stable⟩ ⟨Wrep.2.1, trivial⟩⟩
  | none =>
    rw [hm] at Wrep
    dsimp only at Wrep
    have e : setIndex h v path new =
        ⟨drop (walk (setLeaf new) h v path).h new, (walk (setLeaf new) h v path).v, .null, false⟩ := by
      simp [setIndex, Wrep.1]
    rw [e]
    rw [Wrep.1] at i
    -- the walk raised before it reached the leaf: the value it was to store is dropped
    have D := drop_tr (F := (walk (setLeaf new) h v path).v :: (T ++ C)) ((i.perm (.swap _ _ _)).tail.perm (.swap _ _ _))
    exact ⟨rfl, c.tail.tail.next (o := [_]) (os := [t]) (Wtr.tr0.seq D.tr0 (fun _ hv => List.mem_cons_of_mem _ hv) D.inv)
      ⟨D.stable.rep (.root (List.mem_cons_self ..)) Wrep.2.1, trivial⟩⟩

/-! ### readPath -/

theorem getPath_nil (t : Tree) : getPath t [] = some t := by cases t <;> rfl
theorem getPath_list_cons (ts : List Tree) (i : Int) (rest : List Int) :
    getPath (.list ts) (i :: rest) =
      (match pyIdx ts.length i with
       | none => none
       | some j => getPath (ts.getD j .null) rest) := by
  rw [getPath]
  cases pyIdx ts.length i <;> rfl

theorem getPath_cont_cons {t : Tree} (hc : t.isCont = true) (i : Int) (rest : List Int) :
    getPath t (i :: rest) =
      (match treeSlot t i with
       | none => none
       | some j => getPath (t.kids.getD j .null) rest) := by
  cases t with
  | null => simp at hc
  | int n => simp at hc
  | list ts => rw [getPath_list_cons]; rfl
  | dict ks vs =>
    simp only [treeSlot, Tree.keysT_dict, Tree.kids_dict]
    cases hds : dictSlot ks vs.length i <;> simp only [getPath, hds]

theorem readPath_nil (h : Heap) (v : Val) : readPath h v [] = (h, some v) := by cases v <;> rfl

/-- the value at the end of an index path -/
def valAt (h : Heap) : Val → List Int → Option Val
  | v, [] => some v
  | .ref id, i :: rest =>
    match slotOf h id i with
    | none => none
    | some j => valAt h ((payloadOf h id).getD j .null) rest
  | _, _ :: _ => none

theorem valAt_nil (h : Heap) (v : Val) : valAt h v [] = some v := by cases v <;> rfl
theorem valAt_ref_cons (h : Heap) (id : Nat) (i : Int) (rest : List Int) :
    valAt h (.ref id) (i :: rest) =
      (match slotOf h id i with
       | none => none
       | some j => valAt h ((payloadOf h id).getD j .null) rest) := by
  rw [valAt]

theorem valAt_getPath : ∀ (path : List Int) {h : Heap} {v : Val} {t : Tree}, Rep h v t →
    (∀ l, valAt h v path = some l → ∃ t', getPath t path = some t' ∧ Rep h l t') ∧
    (valAt h v path = none → getPath t path = none) := by
  intro path
  induction path with
  | nil => intro h v t r; rw [valAt_nil, getPath_nil]; exact ⟨fun l e => by cases e; exact ⟨t, rfl, r⟩, fun e => nomatch e⟩
  | cons i rest ih =>
    intro h v t r
    cases v with
    | null => cases Rep_null_inv r; exact ⟨fun l e => (nomatch e), fun _ => rfl⟩
    | int n => cases Rep_int_inv r; exact ⟨fun l e => (nomatch e), fun _ => rfl⟩
    | ref id =>
      obtain ⟨hc, _, hk, _, a⟩ := Rep_ref_inv r
      rw [valAt_ref_cons, getPath_cont_cons hc, ← slotOf_eq_treeSlot hk (All2.length_eq a)]
      cases slotOf h id i with
      | none => exact ⟨fun l e => (nomatch e), fun _ => rfl⟩
      | some j => exact ih (All2.getD j a Rep_null)

theorem heap_ext {h1 h2 : Heap} (hl : h1.allocs.length = h2.allocs.length)
    (hr : ∀ i, rcOf h1 i = rcOf h2 i) (hp : ∀ i, payloadOf h1 i = payloadOf h2 i)
    (hk : ∀ i, keysOf h1 i = keysOf h2 i)
    (hc : h1.copied = h2.copied) (hpu : h1.pushes = h2.pushes) : h1 = h2 := by
  cases h1 with
  | mk a1 c1 p1 =>
    cases h2 with
    | mk a2 c2 p2 =>
      simp only at hl hc hpu
      subst hc; subst hpu
      congr 1
      apply List.ext_getElem hl
      intro i hi1 hi2
      have e1 := hr i
      have e2 := hp i
      have e3 := hk i
      simp only [rcOf, payloadOf, keysOf, List.getElem?_eq_getElem hi1, List.getElem?_eq_getElem hi2] at e1 e2 e3
      cases h1 : a1[i] with
      | mk pa ra ka =>
        cases h2 : a2[i] with
        | mk pb rb kb =>
          rw [h1, h2] at e1 e2 e3
          simp only at e1 e2 e3
          rw [e1, e2, e3]

/-- `index` clones the element `c` and then drops the container handle it was given; that handle was
itself a clone, so the drop is a decrement and the net effect is the clone of the element (also when the
element is the container: nothing here needs the heap to be acyclic) -/
theorem drop_dup_dup {h : Heap} {id : Nat} {c : Val} (hr : 0 < rcOf h id) (hlc : Live h c) :
    drop (dup (dup h (.ref id)) c) (.ref id) = dup h c := by
  have hl : id < h.allocs.length := lt_of_rcOf_pos hr
  have hlid : Live h (.ref id) := fun j e => by injection e with e; subst e; exact hl
  have hlc' : Live (dup h (.ref id)) c := hlc.ext (by simp [dup_length])
  have r2 : rcOf (dup (dup h (.ref id)) c) id = rcOf h id + 1 + occ id [c] := by
    rw [rcOf_dup _ _ _ hlc', rcOf_dup _ _ _ hlid]; simp [occ_cons_ref]
  have hnot : ¬ rcOf (dup (dup h (.ref id)) c) id ≤ 1 := by omega
  have e : drop (dup (dup h (.ref id)) c) (.ref id) =
      setRc (dup (dup h (.ref id)) c) id (rcOf (dup (dup h (.ref id)) c) id - 1) := by
    simp [drop, dropVal, hnot]
  rw [e]
  apply heap_ext
  · simp [dup_length]
  · intro i
    rw [rcOf_setRc, rcOf_dup _ _ _ hlc]
    by_cases hi : i = id
    · subst hi
      simp only [dup_length, hl, and_self, if_true, r2]; omega
    · simp only [hi, false_and, if_false]
      rw [rcOf_dup _ _ _ hlc', rcOf_dup _ _ _ hlid]
      have : ¬ id = i := fun e => hi e.symm
      simp [occ_cons_ref, this]
  · intro i; simp [payloadOf_setRc, payloadOf_dup]
  · intro i; simp [keysOf_setRc, keysOf_dup]
  · simp [dup_copied]
  · simp [dup_pushes]

theorem slotOf_dup (h : Heap) (v : Val) (id : Nat) (i : Int) : slotOf (dup h v) id i = slotOf h id i :=
  slotOf_congr (keysOf_dup h v id) (by rw [payloadOf_dup]) i

/-- **`eval_lvalue_as_obj` is a clone of the addressed value**: `index` is given a clone of the
variable's handle, clones the element and drops the handle it was given, level by level; every such
drop undoes the clone before it, so what is left is the heap as it was plus one clone of the value at
the end of the path — and the heap as it was when the path cannot be followed.  No allocation is freed,
whatever is shared. -/
theorem readPath_dup {h : Heap} {T : List Val} (i : Inv h T) : ∀ (path : List Int) (v : Val),
    (∀ id, v = .ref id → 0 < rcOf h id) →
    readPath (dup h v) v path =
      (match valAt h v path with
       | some l => (dup h l, some l)
       | none => (h, none)) := by
  intro path
  induction path with
  | nil => intro v _; rw [valAt_nil, readPath_nil]
  | cons ix rest ih =>
    intro v hv
    cases v with
    | null => rfl
    | int n => rfl
    | ref id =>
      rw [valAt_ref_cons]
      simp only [readPath, payloadOf_dup, slotOf_dup]
      cases hp : slotOf h id ix with
      | none => exact congrArg (·, none) (drop_dup_dup (c := .null) (hv id rfl) (fun _ e => nomatch e))
      | some j =>
        dsimp only
        have hc := getD_mem Val.null (slotOf_lt hp)
        rw [drop_dup_dup (hv id rfl) (i.live_of_payload hc)]
        exact ih _ (fun m e => i.rc_pos_of_payload (e ▸ hc))

/-! ### reading an lvalue: `eval_lvalue_as_obj` = variable read + `readPath` -/

theorem mem_of_getD_ref {l : List Val} {x id : Nat} (e : l.getD x .null = .ref id) : Val.ref id ∈ l := by
  rcases Nat.lt_or_ge x l.length with hx | hx
  · exact e ▸ getD_mem _ hx
  · simp [List.getD, List.getElem?_eq_none hx] at e

theorem readLvalue_spec {s : State} {h : Heap} {T : List Val} {Ts σ : List Tree} (x : Nat) (path : List Int)
    (c : Cfg h T Ts s.cells σ) {rp : Heap × Option Val}
    (hrp : readPath (dup h (cellOf s x)) (cellOf s x) path = rp) :
    (getPath (σ.getD x .null) path = none ∧ rp.2 = none ∧ Cfg rp.1 T Ts s.cells σ) ∨
    ∃ t' l, getPath (σ.getD x .null) path = some t' ∧ rp.2 = some l ∧ Cfg rp.1 (l :: T) (t' :: Ts) s.cells σ := by
  subst hrp
  rw [readPath_dup c.inv path (cellOf s x) (fun id e => c.inv.rc_pos_of_mem (List.mem_append_right _ (mem_of_getD_ref e)))]
  obtain ⟨hs, hn⟩ := valAt_getPath path (All2.getD x c.sim Rep_null)
  cases hv : valAt h (cellOf s x) path with
  | none => exact .inl ⟨hn hv, rfl, c⟩
  | some l => obtain ⟨t', hg, rl⟩ := hs l hv; exact .inr ⟨t', l, hg, rfl, c.dup rl⟩

/-! ### append -/

/-- the heap `appendOp` returns for a list first argument -/
def appendHeap (h : Heap) (id : Nat) (b : Val) : Heap :=
  let m := makeMut h id
  let h1 := setPayload m.1 m.2 (payloadOf m.1 m.2 ++ [b])
  { h1 with pushes := h1.pushes + 1 }

theorem appendOp_ref (h : Heap) (id : Nat) (b : Val) (hk : keysOf h id = none) :
    appendOp h (.ref id) b = (appendHeap h id b, some (.ref (makeMut h id).2)) := by
  simp only [appendOp, hk]; rfl

theorem appendOp_dict (h : Heap) (id : Nat) (b : Val) {ks : List Int} (hk : keysOf h id = some ks) :
    appendOp h (.ref id) b = (drop (drop h (.ref id)) b, none) := by
  simp only [appendOp, hk]

theorem appendHeap_allocs (h : Heap) (id : Nat) (b : Val) :
    (appendHeap h id b).allocs =
      (setPayload (makeMut h id).1 (makeMut h id).2 (payloadOf (makeMut h id).1 (makeMut h id).2 ++ [b])).allocs := rfl

theorem Tree.list_or_not (t : Tree) : (∃ ts, t = .list ts) ∨ ∀ ts, t ≠ .list ts := by
  cases t <;> simp

theorem appendOp_list {h : Heap} {a b : Val} {T C : List Val} {ts : List Tree} {tb : Tree} {Ts σ : List Tree}
    (c : Cfg h (a :: b :: T) (.list ts :: tb :: Ts) C σ) :
    ∃ v, (appendOp h a b).2 = some v ∧ Cfg (appendOp h a b).1 (v :: T) (.list (ts ++ [tb]) :: Ts) C σ := by
  have i : Inv h (a :: b :: (T ++ C)) := c.inv
  have ra := c.tmp.1
  cases a with
  | null => cases Rep_null_inv ra
  | int n => cases Rep_int_inv ra
  | ref id =>
    obtain ⟨_, _, hk, _, a0⟩ := Rep_ref_inv ra
    simp only [Tree.keysT_list, Tree.kids_list] at hk a0
    obtain ⟨m, hm⟩ : ∃ m, makeMut h id = m := ⟨_, rfl⟩
    have MS := makeMut_spec (F := b :: (T ++ C)) i hm
    obtain ⟨tr, hl', hp', hk', keep⟩ := makeMut_rewrite hm (ins := [b]) (outs := [])
      ⟨payloadOf m.1 m.2 ++ [b], rcOf m.1 m.2,
        keysOf m.1 m.2⟩ i rfl (fun k => by simp [MS.pay, occ_append])
    have ea := appendHeap_allocs h id b
    rw [appendOp_ref h id b hk]
    rw [hm] at ea ⊢
    refine ⟨.ref m.2, rfl, c.tail.tail.next (o := [_]) (os := [_]) ⟨(tr.ledger ea).inv, (tr.ledger ea).stable⟩
      ⟨Rep.ext (PayloadExt.of_allocs_eq ea) ?_, trivial⟩⟩
    unfold setPayload
    refine Rep_ref_list hl' (by rw [hk', MS.keys]; exact hk) ?_
    rw [hp']
    have a0' : All2 (Rep h) (payloadOf m.1 m.2) ts := by rw [MS.pay]; exact a0
    exact All2.append (All2.mono (fun s _ hs r => keep r (by rw [← MS.pay]; simp [hs])) a0')
      ⟨keep c.tmp.2.1 (by simp), trivial⟩

theorem appendOp_raise {h : Heap} {a b : Val} {T C : List Val} {ta tb : Tree} {Ts σ : List Tree}
    (c : Cfg h (a :: b :: T) (ta :: tb :: Ts) C σ) (hnl : ∀ ts, ta ≠ .list ts) :
    (appendOp h a b).2 = none ∧ Cfg (appendOp h a b).1 T Ts C σ := by
  cases a with
  | null => exact ⟨rfl, c.tail.drop⟩
  | int n => exact ⟨rfl, c.tail.drop⟩
  | ref id =>
    obtain ⟨hc, _, hk, _, _⟩ := Rep_ref_inv c.tmp.1
    cases ta with
    | null => simp at hc
    | int n => simp at hc
    | list ts => exact absurd rfl (hnl ts)
    | dict ks vs =>
      rw [appendOp_dict h id b (by simpa using hk)]
      exact ⟨rfl, c.drop.drop⟩

/-! ### atoms, literals -/

theorem evalAtom_spec {s : State} {h : Heap} {T : List Val} {σ : List Tree} (a : Atom)
    (i : Inv h (T ++ s.cells)) (sim : All2 (Rep h) s.cells σ) :
    Inv (evalAtom s h a).1 ((evalAtom s h a).2 :: T ++ s.cells) ∧ PayloadExt h (evalAtom s h a).1 ∧
    Rep (evalAtom s h a).1 (evalAtom s h a).2 (Store.evalAtom σ a) := by
  cases a with
  | null => exact ⟨i.congr (fun k => by simp [evalAtom]), PayloadExt.refl h, Rep_null⟩
  | int n => exact ⟨i.congr (fun k => by simp [evalAtom]), PayloadExt.refl h, Rep_int n⟩
  | var x =>
    have r : Rep h (cellOf s x) (Store.get σ x) := All2.getD x sim Rep_null
    exact ⟨i.dup r.live, PayloadExt.dup _ _, r.ext (PayloadExt.dup _ _)⟩

theorem evalAtom_cfg {s : State} {h : Heap} {T : List Val} {Ts σ : List Tree} (a : Atom) (c : Cfg h T Ts s.cells σ) :
    Cfg (evalAtom s h a).1 ((evalAtom s h a).2 :: T) (Store.evalAtom σ a :: Ts) s.cells σ := by
  obtain ⟨i1, e1, r1⟩ := evalAtom_spec (T := T) a c.inv c.sim
  exact c.next (o := [_]) (os := [_]) ⟨i1, e1.stable _⟩ ⟨r1, trivial⟩

theorem evalAtoms_spec {s : State} {σ : List Tree} : ∀ (as : List Atom) {h : Heap} {T : List Val},
    Inv h (T ++ s.cells) → All2 (Rep h) s.cells σ →
    Inv (evalAtoms s h as).1 ((evalAtoms s h as).2 ++ T ++ s.cells) ∧ PayloadExt h (evalAtoms s h as).1 ∧
    All2 (Rep (evalAtoms s h as).1) (evalAtoms s h as).2 (as.map (Store.evalAtom σ)) := by
  intro as
  induction as with
  | nil => intro h T i _; exact ⟨by simpa [evalAtoms] using i, PayloadExt.refl h, by simp [evalAtoms]⟩
  | cons a as ih =>
    intro h T i sim
    obtain ⟨i1, e1, r1⟩ := evalAtom_spec (T := T) a i sim
    have sim1 : All2 (Rep (evalAtom s h a).1) s.cells σ := All2.mono (fun _ _ _ r => r.ext e1) sim
    obtain ⟨i2, e2, r2⟩ := ih (h := (evalAtom s h a).1) (T := (evalAtom s h a).2 :: T)
      i1 sim1
    simp only [evalAtoms, List.map_cons]
    refine ⟨i2.perm (List.perm_middle.append_right _), e1.trans e2, r1.ext e2, r2⟩

/-- a fresh container (`alloc`: a list, `allocDict`: a dict) takes over the handles of its payload and
represents the tree whose elements the payload represents -/
theorem push_rep {h : Heap} {p T : List Val} {ks : Option (List Int)} {t : Tree} (c q : Nat)
    (i : Inv h (p ++ T)) (hc : t.isCont = true) (hk : ks = t.keysT) (hw : t.dictWF) (a : All2 (Rep h) p t.kids) :
    Inv ⟨h.allocs ++ [⟨p, 1, ks⟩], c, q⟩ (.ref h.allocs.length :: T) ∧
    PayloadExt h ⟨h.allocs ++ [⟨p, 1, ks⟩], c, q⟩ ∧
    Rep ⟨h.allocs ++ [⟨p, 1, ks⟩], c, q⟩ (.ref h.allocs.length) t := by
  have e := PayloadExt.push h ⟨p, 1, ks⟩ c q
  refine ⟨push_inv (a := ⟨p, 1, ks⟩) rfl i c q, e, Rep_ref_cont hc (by simp) (by simp [keysOf_push, hk]) hw ?_⟩
  rw [payloadOf_push, if_pos rfl]
  exact All2.mono (fun _ _ _ r => r.ext e) a

theorem evalRhs_spec {s : State} {T : List Val} {Ts σ : List Tree} (r : Rhs) (c : Cfg s.h T Ts s.cells σ) :
    Cfg (evalRhs s r).1 ((evalRhs s r).2 :: T) (Store.evalRhs σ r :: Ts) s.cells σ := by
  have i := c.inv
  have sim := c.sim
  cases r with
  | atom a => exact evalAtom_cfg a c
  | list as =>
    obtain ⟨i1, e1, r1⟩ := evalAtoms_spec (σ := σ) as (T := T) i sim
    obtain ⟨i2, e2, r2⟩ := push_rep (t := .list (as.map (Store.evalAtom σ))) _ _
      (by simpa [List.append_assoc] using i1) rfl rfl (Tree.dictWF_list _) r1
    exact c.next (o := [_]) (os := [_]) ⟨i2, (e1.trans e2).stable _⟩ ⟨r2, trivial⟩
  | dict kvs =>
    obtain ⟨i1, e1, r1⟩ := evalAtoms_spec (σ := σ) (kvs.map (·.2)) (T := T) i sim
    obtain ⟨i2, e2, r2⟩ := push_rep (t := .dict (kvs.map (·.1)) ((kvs.map (·.2)).map (Store.evalAtom σ))) _ _
      (by simpa [List.append_assoc] using i1) rfl rfl (Tree.dictWF_dict (by simp)) r1
    exact c.next (o := [_]) (os := [_]) ⟨i2, (e1.trans e2).stable _⟩ ⟨r2, trivial⟩
  | rep a n =>
    obtain ⟨i1, e1, r1⟩ := evalAtom_spec (T := T) a i sim
    obtain ⟨⟨h1, v⟩, hev⟩ : ∃ e, evalAtom s s.h a = e := ⟨_, rfl⟩
    simp only [hev] at i1 e1 r1
    simp only [evalRhs, hev, Store.evalRhs]
    -- the one-element list
    obtain ⟨i2, e2, _⟩ := push_rep (t := .list [Store.evalAtom σ a]) h1.copied h1.pushes (p := [v]) i1 rfl rfl
      (Tree.dictWF_list _) ⟨r1, trivial⟩
    have i2 : Inv (alloc h1 [v]).1 (.ref h1.allocs.length :: (T ++ s.cells)) := i2
    have e2 : PayloadExt h1 (alloc h1 [v]).1 := e2
    -- n clones of its element
    have hlive : ∀ w ∈ List.replicate n v, Live (alloc h1 [v]).1 w := by
      intro w hw
      cases (List.mem_replicate.1 hw).2
      exact i2.live_of_payload (j := h1.allocs.length) (by simp [alloc, payloadOf_push])
    have i3 : Inv (bumpAll (alloc h1 [v]).1 (List.replicate n v))
        (List.replicate n v ++ (.ref h1.allocs.length :: (T ++ s.cells))) := i2.bumpAll hlive
    have e3 := e2.trans (PayloadExt.bumpAll (alloc h1 [v]).1 (List.replicate n v))
    obtain ⟨i4, e4, r4⟩ := push_rep (t := .list (List.replicate n (Store.evalAtom σ a)))
      (bumpAll (alloc h1 [v]).1 (List.replicate n v)).copied (bumpAll (alloc h1 [v]).1 (List.replicate n v)).pushes
      i3 rfl rfl (Tree.dictWF_list _) (All2.replicate n (r1.ext e3))
    have D := drop_tr (i4.congr (fun k => by simp only [occ_cons]; omega) :
      Inv _ (.ref h1.allocs.length ::
        (.ref (bumpAll (alloc h1 [v]).1 (List.replicate n v)).allocs.length :: (T ++ s.cells))))
    exact c.next (o := [_]) (os := [_])
      (Tr0.seq (o1 := [_, _]) ⟨i4, ((e1.trans e3).trans e4).stable _⟩ D.tr0 (fun _ hv => List.mem_cons_of_mem _ hv) D.inv)
      ⟨D.stable.rep (.root (List.mem_cons_self ..)) r4, trivial⟩

/-! ### `writeCell`, and slot transformers applied to a cell (`withCell`): move the cell's value out,
transform it, move it back -/

theorem writeCell_spec {h : Heap} {C T : List Val} {Ts σ : List Tree} {y : Nat} {v : Val} {t : Tree}
    (hy : y < C.length) (c : Cfg h (v :: T) (t :: Ts) C σ) :
    Cfg (writeCell h C y v).h T Ts (writeCell h C y v).cells (σ.set y t) :=
  (c.take_cell hy).drop.put_cell hy

theorem withCell_setIndex {s : State} {h : Heap} {T : List Val} {Ts σ : List Tree} {x : Nat} {new : Val}
    {tn : Tree} (path : List Int) (hx : x < s.cells.length) (c : Cfg h (new :: T) (tn :: Ts) s.cells σ)
    {w : State × Val × Bool} (hw : withCell s h x (fun h v => setIndex h v path new) = w) :
    (match setPath (σ.getD x .null) path tn with
     | some t' => w.2.2 = true ∧ Cfg w.1.h T Ts w.1.cells (σ.set x t')
     | none => w.2.2 = false ∧ Cfg w.1.h T Ts w.1.cells σ) := by
  subst hw
  have S := setIndex_spec path (c.take_cell hx) rfl
  simp only [withCell, cellOf]
  cases hsp : setPath (σ.getD x .null) path tn with
  | some t' => rw [hsp] at S; exact ⟨S.1, S.2.put_cell hx⟩
  | none =>
    rw [hsp] at S
    have := S.2.put_cell hx
    rw [set_getD_self] at this
    exact ⟨S.1, this⟩

theorem withCell_walk {leaf : Leaf} {φ : LeafT} (L : LeafSpec leaf.act [] [] φ.act) (LI : InsSpec leaf.ins φ.ins [] [])
    {s : State} {h : Heap} {T : List Val} {Ts σ : List Tree} {x : Nat} (path : List Int) (hx : x < s.cells.length)
    (c : Cfg h T Ts s.cells σ) {w : State × Val × Bool} (hw : withCell s h x (fun h v => walk leaf h v path) = w) :
    (match modPath φ (σ.getD x .null) path with
     | some (t', r) => w.2.2 = true ∧ Cfg w.1.h (w.2.1 :: T) (r :: Ts) w.1.cells (σ.set x t')
     | none => w.2.2 = false ∧ Cfg w.1.h T Ts w.1.cells σ) := by
  subst hw
  have c1 := c.take_cell hx
  obtain ⟨Wtr, Wrep⟩ := walk_spec L LI path h _ (T ++ s.cells.set x .null) _ c1.inv c1.tmp.1 trivial
  dsimp only at Wtr Wrep
  have i := Wtr.inv
  simp only [withCell, cellOf]
  cases hm : modPath φ (σ.getD x .null) path with
  | some tr =>
    obtain ⟨t', r⟩ := tr
    rw [hm] at Wrep
    rw [Wrep.1] at i
    exact ⟨Wrep.1, (c1.tail.next (o := [_, _]) (os := [t', r]) ⟨i, Wtr.stable⟩ ⟨Wrep.2.1, Wrep.2.2, trivial⟩).put_cell hx⟩
  | none =>
    rw [hm] at Wrep
    rw [Wrep.1] at i
    have := (c1.tail.next (o := [_]) (os := [_]) ⟨(i.perm (.swap _ _ _)).tail, Wtr.stable⟩ ⟨Wrep.2.1, trivial⟩).put_cell hx
    rw [set_getD_self] at this
    exact ⟨Wrep.1, this⟩

/-! ### tree lemmas about the Spec's `setPath` -/

theorem keyIdx_lt : ∀ {ks : List Int} {i : Int} {j : Nat}, Store.keyIdx ks i = some j → j < ks.length
  | [], _, _, h => by simp [Store.keyIdx] at h
  | k :: ks, i, j, h => by
    simp only [Store.keyIdx] at h
    split at h
    · injection h with h; subst h; simp
    · cases hk : Store.keyIdx ks i with
      | none => rw [hk] at h; simp at h
      | some j' => rw [hk] at h; simp at h; subst h; have := keyIdx_lt hk; simp; omega

theorem keyIdx_append_self : ∀ (ks : List Int) (i : Int), Store.keyIdx ks i = none →
    Store.keyIdx (ks ++ [i]) i = some ks.length
  | [], i, _ => by simp [Store.keyIdx]
  | k :: ks, i, h => by
    simp only [Store.keyIdx] at h
    split at h
    · cases h
    · rename_i hne
      cases hk : Store.keyIdx ks i with
      | some j => rw [hk] at h; simp at h
      | none => simp [Store.keyIdx, hne, keyIdx_append_self ks i hk]

theorem set_append_length {α : Type} (l : List α) (a b : α) : (l ++ [a]).set l.length b = l ++ [b] := by
  induction l with
  | nil => rfl
  | cons x xs ih => simp [ih]

/-- a second assignment along the same path overrides the first.  The tree is a represented one, so its
dicts have as many keys as values at every depth: a key inserted by the first assignment is found by
the second at the position where it was put. -/
theorem modPath_set_set (a b : Tree) : ∀ (path : List Int) {h : Heap} {v : Val} {t t1 r : Tree}, Rep h v t →
    modPath (setφ a) t path = some (t1, r) → modPath (setφ b) t1 path = modPath (setφ b) t path := by
  intro path
  induction path with
  | nil =>
    intro h v t t1 r _ hm
    rw [modPath_nil] at hm ⊢; rw [modPath_nil]
    simp [setφ]
  | cons ix rest ih =>
    intro h v t t1 r rep hm
    cases v with
    | null => cases Rep_null_inv rep; simp [modPath] at hm
    | int n => cases Rep_int_inv rep; simp [modPath] at hm
    | ref id =>
      obtain ⟨hc, _, _, hw, kids⟩ := Rep_ref_inv rep
      rw [modPath_cont_cons _ hc] at hm
      cases hp : treeSlot t ix with
      | some j =>
        rw [hp] at hm
        dsimp only at hm
        have hj := treeSlot_lt hp
        cases hm' : modPath (setφ a) (t.kids.getD j .null) rest with
        | none => rw [hm'] at hm; simp at hm
        | some tr =>
          obtain ⟨t', r'⟩ := tr
          rw [hm'] at hm
          simp only [Option.some.injEq, Prod.mk.injEq] at hm
          obtain ⟨rfl, rfl⟩ := hm
          have hc' := Tree.withKids_isCont (t.kids.set j t') hc
          have hslot : treeSlot (t.withKids (t.kids.set j t')) ix = some j := by
            unfold treeSlot at hp ⊢
            rw [Tree.withKids_keysT, Tree.withKids_kids _ hc]
            simpa using hp
          rw [modPath_cont_cons _ hc', modPath_cont_cons _ hc, hslot, hp]
          dsimp only
          rw [Tree.withKids_kids _ hc, getD_set_self _ _ _ _ hj,
            ih (All2.getD j kids Rep_null) hm']
          cases modPath (setφ b) (t.kids.getD j .null) rest with
          | none => rfl
          | some tr2 =>
            obtain ⟨t2, r2⟩ := tr2
            dsimp only
            rw [List.set_set, Tree.withKids_withKids]
      | none =>
        rw [hp] at hm
        dsimp only at hm
        unfold modMissing at hm
        cases hk : t.keysT with
        | none => rw [hk] at hm; simp at hm
        | some ks =>
          rw [hk] at hm
          cases rest with
          | cons i2 r2 => simp at hm
          | nil =>
            simp only [setφ, Option.some.injEq, Prod.mk.injEq] at hm
            obtain ⟨rfl, rfl⟩ := hm
            have hwl : ks.length = t.kids.length := hw ks hk
            -- the key is really absent
            have hnone : Store.keyIdx ks ix = none := by
              unfold treeSlot at hp
              rw [hk] at hp
              simp only [dictSlot] at hp
              cases hki : Store.keyIdx ks ix with
              | none => rfl
              | some j' =>
                rw [hki] at hp
                have := keyIdx_lt hki
                simp only at hp
                split at hp
                · cases hp
                · omega
            have hslot : treeSlot (Tree.dict (ks ++ [ix]) (t.kids ++ [a])) ix = some t.kids.length := by
              simp only [treeSlot, Tree.keysT_dict, Tree.kids_dict, dictSlot, keyIdx_append_self ks ix hnone]
              simp [hwl]
            rw [modPath_cont_cons _ (by simp), modPath_cont_cons _ hc, hslot, hp]
            simp only [modPath_nil, setφ, Tree.kids_dict, Tree.withKids_dict, modMissing, hk,
              set_append_length]

theorem setPath_setPath {h : Heap} {v : Val} {t t1 : Tree} {path : List Int} {a : Tree} (b : Tree)
    (rep : Rep h v t) (hs : setPath t path a = some t1) : setPath t1 path b = setPath t path b := by
  rw [setPath_eq] at hs
  cases hm : modPath (setφ a) t path with
  | none => rw [hm] at hs; simp at hs
  | some tr =>
    obtain ⟨t', r⟩ := tr
    rw [hm] at hs
    simp at hs
    subst hs
    rw [setPath_eq, setPath_eq, modPath_set_set a b path rep hm]

theorem modPath_set_isSome (a b : Tree) : ∀ (path : List Int) (t : Tree),
    (modPath (setφ a) t path).isSome = (modPath (setφ b) t path).isSome := by
  intro path
  induction path with
  | nil => intro t; rw [modPath_nil, modPath_nil]; simp [setφ]
  | cons ix rest ih =>
    intro t
    by_cases hc : t.isCont = true
    · rw [modPath_cont_cons _ hc, modPath_cont_cons _ hc]
      cases hp : treeSlot t ix with
      | none =>
        dsimp only
        unfold modMissing
        cases t.keysT <;> cases rest <;> simp [setφ]
      | some j =>
        dsimp only
        have := ih (t.kids.getD j .null)
        cases h1 : modPath (setφ a) (t.kids.getD j .null) rest <;>
          cases h2 : modPath (setφ b) (t.kids.getD j .null) rest <;> rw [h1, h2] at this <;> simp at this ⊢
    · cases t with
      | null => simp [modPath]
      | int n => simp [modPath]
      | list ts => simp at hc
      | dict ks vs => simp at hc

theorem setPath_none_iff {t : Tree} {path : List Int} (a b : Tree) :
    setPath t path a = none ↔ setPath t path b = none := by
  have := modPath_set_isSome a b path t
  rw [setPath_eq, setPath_eq]
  cases h1 : modPath (setφ a) t path <;> cases h2 : modPath (setφ b) t path <;> simp [h1, h2] at this ⊢

end Noulith.RcHeap
