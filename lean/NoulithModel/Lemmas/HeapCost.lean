/-
C02: what each heap operation does to the cost ledger (`copied`, `pushes`), and path uniqueness
(`PathUniq`: strong count 1 at every level of an index path; `EndUniq`: also on the addressed list):
under it `walk` copies nothing.
-/
import NoulithModel.Lemmas.HeapStmt

namespace Noulith.RcHeap

/-! ### the ledger under the primitive operations -/

theorem dropVal_ledger : ∀ (f : Nat) (h : Heap) (v : Val),
    (dropVal f h v).copied = h.copied ∧ (dropVal f h v).pushes = h.pushes := by
  intro f
  induction f with
  | zero => intro h v; exact ⟨rfl, rfl⟩
  | succ f ih =>
    intro h v
    cases v with
    | null => exact ⟨rfl, rfl⟩
    | int n => exact ⟨rfl, rfl⟩
    | ref id =>
      simp only [dropVal]
      split
      · exact ⟨foldl_preserves (·.copied) (fun h v => (ih h v).1) _ _, foldl_preserves (·.pushes) (fun h v => (ih h v).2) _ _⟩
      · exact ⟨rfl, rfl⟩

theorem drop_copied (h : Heap) (v : Val) : (drop h v).copied = h.copied := (dropVal_ledger _ h v).1

theorem makeMut_copied (h : Heap) (id : Nat) :
    (makeMut h id).1.copied = h.copied + (if rcOf h id ≤ 1 then 0 else (payloadOf h id).length) := by
  unfold makeMut
  split
  · simp
  · simp [bumpAll_copied]

theorem makeMut_of_unique {h : Heap} {id : Nat} (h1 : rcOf h id = 1) : makeMut h id = (h, id) := by
  simp [makeMut, h1]

theorem walkMissing_copied (leaf : Leaf) (h : Heap) (id : Nat) (i : Int) (rest : List Int) :
    (walkMissing leaf h id i rest).h.copied = h.copied := by
  unfold walkMissing
  split <;> rfl

theorem readPath_copied : ∀ (path : List Int) (h : Heap) (v : Val), (readPath h v path).1.copied = h.copied := by
  intro path
  induction path with
  | nil => intro h v; rw [readPath_nil]
  | cons ix rest ih =>
    intro h v
    cases v with
    | null => rfl
    | int n => rfl
    | ref id =>
      simp only [readPath]
      split
      · exact drop_copied _ _
      · rw [ih, drop_copied, dup_copied]

/-! ### path uniqueness -/

/-- strong count 1 at every level the index path walks through (the levels `set_index` calls
`make_mut` on) -/
def PathUniq (h : Heap) : Val → List Int → Prop
  | _, [] => True
  | .ref id, i :: rest =>
    rcOf h id = 1 ∧ ∀ j, slotOf h id i = some j → PathUniq h ((payloadOf h id).getD j .null) rest
  | _, _ :: _ => True

/-- the value at the end of the path, if it is a list, is uniquely owned too (needed when the leaf
action itself calls `make_mut`: pop, remove, append) -/
def EndUniq (h : Heap) : Val → List Int → Prop
  | .ref id, [] => rcOf h id = 1
  | _, [] => True
  | .ref id, i :: rest =>
    ∀ j, slotOf h id i = some j → EndUniq h ((payloadOf h id).getD j .null) rest
  | _, _ :: _ => True

theorem PathUniq.same {h h' : Heap} : ∀ (path : List Int) {v : Val}, Same h h' v → PathUniq h v path →
    PathUniq h' v path := by
  intro path
  induction path with
  | nil => intro v _ _; cases v <;> trivial
  | cons i rest ih =>
    intro v s pu
    cases v with
    | null => trivial
    | int n => trivial
    | ref id =>
      simp only [PathUniq] at pu ⊢
      rw [s.rc id (.self h _), s.pay id (.self h _), slotOf_congr (s.keys id (.self h _)) (by rw [s.pay id (.self h _)])]
      exact ⟨pu.1, fun j hj => ih (s.child (getD_mem _ (slotOf_lt hj))) (pu.2 j hj)⟩

theorem EndUniq.same {h h' : Heap} : ∀ (path : List Int) {v : Val}, Same h h' v → EndUniq h v path →
    EndUniq h' v path := by
  intro path
  induction path with
  | nil =>
    intro v s eu
    cases v with
    | null => trivial
    | int n => trivial
    | ref id => simp only [EndUniq] at eu ⊢; rw [s.rc id (.self h _)]; exact eu
  | cons i rest ih =>
    intro v s eu
    cases v with
    | null => trivial
    | int n => trivial
    | ref id =>
      simp only [EndUniq] at eu ⊢
      rw [s.pay id (.self h _), slotOf_congr (s.keys id (.self h _)) (by rw [s.pay id (.self h _)])]
      exact fun j hj => ih (s.child (getD_mem _ (slotOf_lt hj))) (eu j hj)

/-- a leaf action that copies nothing when the slot value it is given is uniquely owned -/
def LeafNoCopy (leaf : Leaf) : Prop :=
  ∀ (h : Heap) (c : Val), EndUniq h c [] → (leaf.act h c).h.copied = h.copied

theorem setLeaf_nocopy (new : Val) : LeafNoCopy (setLeaf new) := fun h c _ => drop_copied h c
theorem takeLeaf_nocopy : LeafNoCopy takeLeaf := fun _ _ _ => rfl

theorem popLeaf_nocopy : LeafNoCopy popLeaf := by
  intro h c eu
  cases c with
  | null => rfl
  | int n => rfl
  | ref id =>
    simp only [EndUniq] at eu
    simp only [popLeaf, popAct, makeMut_of_unique eu]
    split
    · rfl
    · split <;> rfl

theorem removeLeaf_nocopy (i : Int) : LeafNoCopy (removeLeaf i) := by
  intro h c eu
  cases c with
  | null => rfl
  | int n => rfl
  | ref id =>
    simp only [EndUniq] at eu
    simp only [removeLeaf, removeAct, makeMut_of_unique eu]
    split
    · split <;> rfl
    · split <;> rfl

/-- **in-place walk**: if every level of the path has strong count 1, `set_index` /
`modify_existing_index` copy nothing, provided the leaf action copies nothing.  `E` says whether the leaf
action needs the slot value itself to be uniquely owned (pop, remove: they call `make_mut` on it) or
not (plain assignment, consume). -/
theorem walk_nocopy_of {leaf : Leaf} {E : Prop}
    (L : ∀ h c, (E → EndUniq h c []) → (leaf.act h c).h.copied = h.copied) :
    ∀ (path : List Int) (h : Heap) (v : Val) (T : List Val), Inv h (v :: T) →
      PathUniq h v path → (E → EndUniq h v path) → (walk leaf h v path).h.copied = h.copied := by
  intro path
  induction path with
  | nil => intro h v T _ _ eu; rw [walk_nil]; exact L h v eu
  | cons ix rest ih =>
    intro h v T i pu eu
    cases v with
    | null => rfl
    | int n => rfl
    | ref id =>
      simp only [PathUniq] at pu
      simp only [EndUniq] at eu
      rw [walk_ref_cons, makeMut_of_unique pu.1]
      dsimp only
      cases hp : slotOf h id ix with
      | none => exact walkMissing_copied _ _ _ _ _
      | some j =>
        dsimp only [walkStep]
        rw [setPayload_copied]
        have hz := (Inv.sole (o := []) i (Nat.le_of_eq pu.1)).1
        have hj := slotOf_lt hp
        have hcne := slot_ne hz hj
        rw [ih _ _ _ (slot_take_inv (cap := []) i pu.1 hj) (PathUniq.same _ (.setAlloc _ hz hcne) (pu.2 j hp))
          (fun e => EndUniq.same _ (.setAlloc _ hz hcne) (eu e j hp))]
        rfl

theorem walk_nocopy {leaf : Leaf} (L : LeafNoCopy leaf) (path : List Int) (h : Heap) (v : Val) (T : List Val)
    (i : Inv h (v :: T)) (pu : PathUniq h v path) (eu : EndUniq h v path) :
    (walk leaf h v path).h.copied = h.copied :=
  walk_nocopy_of (E := True) (fun h c e => L h c (e trivial)) path h v T i pu (fun _ => eu)

theorem setIndex_nocopy {h : Heap} {v new : Val} {T : List Val} (path : List Int) (i : Inv h (v :: T))
    (pu : PathUniq h v path) : (setIndex h v path new).h.copied = h.copied := by
  have := walk_nocopy_of (leaf := setLeaf new) (E := False) (fun h c _ => drop_copied h c) path h v T i pu
    (fun e => e.elim)
  unfold setIndex
  dsimp only
  split
  · exact this
  · simp only [drop_copied]; exact this

/-! ### the push counter: only `appendOp` pushes -/

theorem drop_pushes (h : Heap) (v : Val) : (drop h v).pushes = h.pushes := (dropVal_ledger _ h v).2

theorem makeMut_pushes (h : Heap) (id : Nat) : (makeMut h id).1.pushes = h.pushes := by
  unfold makeMut
  split
  · rfl
  · simp [bumpAll_pushes]

theorem walkMissing_pushes (leaf : Leaf) (h : Heap) (id : Nat) (i : Int) (rest : List Int) :
    (walkMissing leaf h id i rest).h.pushes = h.pushes := by
  unfold walkMissing
  split <;> rfl

theorem walk_pushes {leaf : Leaf} (L : ∀ h c, (leaf.act h c).h.pushes = h.pushes) :
    ∀ (path : List Int) (h : Heap) (v : Val), (walk leaf h v path).h.pushes = h.pushes := by
  intro path
  induction path with
  | nil => intro h v; rw [walk_nil]; exact L h v
  | cons ix rest ih =>
    intro h v
    cases v with
    | null => rfl
    | int n => rfl
    | ref id =>
      rw [walk_ref_cons]
      cases slotOf (makeMut h id).1 (makeMut h id).2 ix with
      | none => dsimp only; rw [walkMissing_pushes, makeMut_pushes]
      | some j =>
        dsimp only [walkStep]
        rw [setPayload_pushes, ih, setPayload_pushes, makeMut_pushes]

theorem setLeaf_pushes (new : Val) (h : Heap) (c : Val) : ((setLeaf new).act h c).h.pushes = h.pushes := drop_pushes h c
theorem takeLeaf_pushes (h : Heap) (c : Val) : (takeLeaf.act h c).h.pushes = h.pushes := rfl
theorem popLeaf_pushes (h : Heap) (c : Val) : (popLeaf.act h c).h.pushes = h.pushes := by
  cases c with
  | null => rfl
  | int n => rfl
  | ref id =>
    simp only [popLeaf, popAct]
    split
    · rfl
    · split
      · simp [makeMut_pushes]
      · exact makeMut_pushes h id
theorem removeLeaf_pushes (i : Int) (h : Heap) (c : Val) : ((removeLeaf i).act h c).h.pushes = h.pushes := by
  cases c with
  | null => rfl
  | int n => rfl
  | ref id =>
    simp only [removeLeaf, removeAct]
    split
    · split
      · rfl
      · simp [makeMut_pushes]
    · split
      · exact makeMut_pushes h id
      · simp [makeMut_pushes]

theorem setIndex_pushes (h : Heap) (v : Val) (path : List Int) (new : Val) :
    (setIndex h v path new).h.pushes = h.pushes := by
  have := walk_pushes (leaf := setLeaf new) (setLeaf_pushes new) path h v
  unfold setIndex
  dsimp only
  split
  · exact this
  · simp only [drop_pushes]; exact this

theorem readPath_pushes : ∀ (path : List Int) (h : Heap) (v : Val), (readPath h v path).1.pushes = h.pushes := by
  intro path
  induction path with
  | nil => intro h v; rw [readPath_nil]
  | cons ix rest ih =>
    intro h v
    cases v with
    | null => rfl
    | int n => rfl
    | ref id =>
      simp only [readPath]
      split
      · exact drop_pushes _ _
      · rw [ih, drop_pushes, dup_pushes]

theorem evalAtom_pushes (s : State) (h : Heap) (a : Atom) : (evalAtom s h a).1.pushes = h.pushes := by
  cases a with
  | null => rfl
  | int n => rfl
  | var x => exact dup_pushes _ _

theorem evalAtoms_pushes (s : State) : ∀ (as : List Atom) (h : Heap), (evalAtoms s h as).1.pushes = h.pushes := by
  intro as
  induction as with
  | nil => intro h; rfl
  | cons a as ih => intro h; simp only [evalAtoms]; rw [ih, evalAtom_pushes]

theorem evalRhs_pushes (s : State) (r : Rhs) : (evalRhs s r).1.pushes = s.h.pushes := by
  cases r with
  | atom a => exact evalAtom_pushes s s.h a
  | list as => simp only [evalRhs, alloc]; exact evalAtoms_pushes s as s.h
  | rep a n => simp only [evalRhs, alloc, drop_pushes, bumpAll_pushes]; exact evalAtom_pushes s s.h a
  | dict kvs => simp only [evalRhs, allocDict]; exact evalAtoms_pushes s _ s.h

theorem appendOp_pushes_le (h : Heap) (a b : Val) : (appendOp h a b).1.pushes ≤ h.pushes + 1 := by
  cases a with
  | null => simp [appendOp, drop_pushes]
  | int n => simp [appendOp, drop_pushes]
  | ref id =>
    cases hk : keysOf h id with
    | none => rw [appendOp_ref h id b hk]; simp [appendHeap, makeMut_pushes]
    | some ks => rw [appendOp_dict h id b hk]; simp [drop_pushes]

theorem appendFinish_pushes_le (s : State) (h : Heap) (x : Nat) (path : List Int) (l ev : Val) :
    (appendFinish s h x path l ev).1.h.pushes ≤ h.pushes + 1 := by
  simp only [appendFinish]
  split
  · split
    · simp only [withCell, setIndex_pushes]
      refine Nat.le_trans (appendOp_pushes_le _ _ _) ?_
      simp [setIndex_pushes]
    · refine Nat.le_trans (appendOp_pushes_le _ _ _) ?_
      simp [withCell, setIndex_pushes]
  · simp [withCell, drop_pushes, setIndex_pushes]

theorem step_pushes_le (s : State) (st : Stmt) : (step s st).1.h.pushes ≤ s.h.pushes + 1 := by
  -- one case per branch of `step`, its `let`s as local definitions: only the operator of `append=` and
  -- the builtin `append` push; for the rest the count of every operation involved is rewritten away
  fun_cases step s st
  case case6 | case29 =>
    refine Nat.le_trans (appendFinish_pushes_le _ _ _ _ _ _) ?_
    simp +zetaDelta only [Nat.le_refl, withCell, evalRhs_pushes, walk_pushes popLeaf_pushes, readPath_pushes, readVar,
      dup_pushes]
  case case25 | case26 =>
    simp +zetaDelta only [writeCell, drop_pushes]
    refine Nat.le_trans (appendOp_pushes_le _ _ _) ?_
    simp only [Nat.le_refl, evalAtom_pushes, readVar, dup_pushes]
  all_goals
    simp +zetaDelta only [Nat.le_add_right, writeCell, withCell, readVar, drop_pushes, dup_pushes, evalRhs_pushes,
      evalAtom_pushes, setIndex_pushes, readPath_pushes, walk_pushes popLeaf_pushes, walk_pushes (removeLeaf_pushes _),
      walk_pushes takeLeaf_pushes]

end Noulith.RcHeap
