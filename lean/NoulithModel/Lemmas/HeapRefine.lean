/-
C01: the refinement relation `Refines` (a configuration without temporaries) and one refinement lemma per
statement form: each runs the statement's parts from `R.cfg` and reads the result off the last
configuration.
-/
import NoulithModel.Lemmas.HeapStmt

namespace Noulith.RcHeap
open Noulith.Store (Tree modPath popφ setPath)

/-- the count invariant of a state: cells and payloads account for every strong count -/
def SInv (s : State) : Prop := Inv s.h s.cells
/-- every cell represents the Spec's tree for that variable -/
def Sim (s : State) (σ : List Tree) : Prop := All2 (Rep s.h) s.cells σ
@[simp] theorem SInv_def (s : State) : SInv s = Inv s.h s.cells := rfl
@[simp] theorem Sim_def (s : State) (σ : List Tree) : Sim s σ = All2 (Rep s.h) s.cells σ := rfl

/-- the simulation relation between an Impl state and a Spec store -/
structure Refines (s : State) (σ : List Tree) : Prop where
  inv : SInv s
  sim : Sim s σ

theorem Refines.len {s : State} {σ : List Tree} (R : Refines s σ) : s.cells.length = σ.length :=
  All2.length_eq R.sim

theorem Refines.decl {s : State} {σ : List Tree} (R : Refines s σ) (x : Nat) :
    declared s x = Store.declared σ x := by
  simp [RcHeap.declared, Store.declared, R.len]

theorem Refines.cfg {s : State} {σ : List Tree} (R : Refines s σ) : Cfg s.h [] [] s.cells σ := ⟨R.inv, trivial, R.sim⟩
theorem Cfg.refines {h : Heap} {C : List Val} {σ : List Tree} (c : Cfg h [] [] C σ) : Refines ⟨h, C⟩ σ := ⟨c.inv, c.sim⟩

def StepOK (s : State) (σ : List Tree) (st : Stmt) : Prop :=
  Refines (step s st).1 (Store.step σ st).1 ∧ (step s st).2 = (Store.step σ st).2

theorem lt_of_declared {s : State} {x : Nat} (h : declared s x = true) : x < s.cells.length := by
  simpa [declared] using h

/-- both sides branch on the same condition -/
theorem refines_ite2 {c c' : Prop} [Decidable c] [Decidable c'] (hc : c ↔ c') {A A' : State × Bool}
    {B B' : List Tree × Bool} (hpos : c → Refines A.1 B.1 ∧ A.2 = B.2) (hneg : ¬ c → Refines A'.1 B'.1 ∧ A'.2 = B'.2) :
    Refines (if c then A else A').1 (if c' then B else B').1 ∧ (if c then A else A').2 = (if c' then B else B').2 := by
  by_cases h : c
  · rw [if_pos h, if_pos (hc.1 h)]; exact hpos h
  · rw [if_neg h, if_neg (fun h' => h (hc.2 h'))]; exact hneg h

/-- statements that raise on an undeclared variable before doing anything: only the declared case is
left to prove -/
theorem refines_ite {s : State} {σ : List Tree} (R : Refines s σ) {c c' : Prop} [Decidable c] [Decidable c']
    (hc : c ↔ c') {A : State × Bool} {B : List Tree × Bool} (hAB : c → Refines A.1 B.1 ∧ A.2 = B.2) :
    Refines (if c then A else (s, false)).1 (if c' then B else (σ, false)).1 ∧
      (if c then A else (s, false)).2 = (if c' then B else (σ, false)).2 :=
  refines_ite2 hc hAB (fun _ => ⟨R, rfl⟩)

theorem step_assign {s : State} {σ : List Tree} (R : Refines s σ) (x : Nat) (r : Rhs) :
    StepOK s σ (.assign x r) := by
  have c := evalRhs_spec r R.cfg
  exact refines_ite2 (by rw [R.decl]) (fun hd => ⟨(writeCell_spec (lt_of_declared hd) c).refines, rfl⟩)
    (fun _ => ⟨c.drop.refines, rfl⟩)

theorem step_setIdx {s : State} {σ : List Tree} (R : Refines s σ) (x : Nat) (path : List Int) (r : Rhs) :
    StepOK s σ (.setIdx x path r) := by
  have c := evalRhs_spec r R.cfg
  refine refines_ite2 (by rw [R.decl]) (fun hd => ?_) (fun _ => ⟨c.drop.refines, rfl⟩)
  have m := withCell_setIndex path (lt_of_declared hd) c rfl
  simp only [Store.get]
  cases hsp : setPath (σ.getD x .null) path (Store.evalRhs σ r) with
  | some t' => rw [hsp] at m; exact ⟨m.2.refines, m.1⟩
  | none => rw [hsp] at m; exact ⟨m.2.refines, m.1⟩

theorem Refines.decl2 {s : State} {σ : List Tree} (R : Refines s σ) (x y : Nat) :
    (declared s x = true ∧ declared s y = true) ↔ (Store.declared σ x = true ∧ Store.declared σ y = true) := by
  rw [R.decl, R.decl]

theorem withCell_cells_length (s : State) (h : Heap) (x : Nat) (f : Heap → Val → WalkRes) :
    (withCell s h x f).1.cells.length = s.cells.length := by simp [withCell]

/-- `y = pop / remove / consume x[path]` on the Impl side, for any leaf action: the three cases of
`step` are this function by definition -/
def extractStep (leaf : Leaf) (s : State) (y x : Nat) (path : List Int) : State × Bool :=
  if declared s x ∧ declared s y then
    let w := withCell s s.h x (fun h v => walk leaf h v path)
    if w.2.2 then (writeCell w.1.h w.1.cells y w.2.1, true) else (w.1, false)
  else (s, false)

theorem step_extract {leaf : Leaf} {φ : Store.LeafT}
    (L : LeafSpec leaf.act [] [] φ.act) (LI : InsSpec leaf.ins φ.ins [] []) {s : State} {σ : List Tree}
    (R : Refines s σ) (y x : Nat) (path : List Int) :
    Refines (extractStep leaf s y x path).1 (Store.extract σ φ y x path).1 ∧
      (extractStep leaf s y x path).2 = (Store.extract σ φ y x path).2 := by
  unfold extractStep Store.extract
  refine refines_ite R (R.decl2 x y) (fun hd => ?_)
  have hx := lt_of_declared hd.1
  have hy := lt_of_declared hd.2
  obtain ⟨w, hw⟩ : ∃ w, withCell s s.h x (fun h v => walk leaf h v path) = w := ⟨_, rfl⟩
  have W := withCell_walk L LI path hx R.cfg hw
  simp only [Store.get, hw]
  cases hm : modPath φ (σ.getD x .null) path with
  | none =>
    rw [hm] at W
    simp only [W.1, Bool.false_eq_true, if_false]
    exact ⟨W.2.refines, trivial⟩
  | some tr =>
    obtain ⟨t', r⟩ := tr
    rw [hm] at W
    dsimp only at W ⊢
    simp only [W.1, if_true]
    exact ⟨(writeCell_spec (by rw [← hw, withCell_cells_length]; exact hy) W.2).refines, trivial⟩

theorem step_pop {s : State} {σ : List Tree} (R : Refines s σ) (y x : Nat) (path : List Int) :
    StepOK s σ (.pop y x path) := step_extract popLeaf_spec popLeaf_ins R y x path
theorem step_remove {s : State} {σ : List Tree} (R : Refines s σ) (y x : Nat) (path : List Int) (i : Int) :
    StepOK s σ (.remove y x path i) := step_extract (removeLeaf_spec i) (removeLeaf_ins i) R y x path
theorem step_consume {s : State} {σ : List Tree} (R : Refines s σ) (y x : Nat) (path : List Int) :
    StepOK s σ (.consume y x path) := step_extract takeLeaf_spec takeLeaf_ins R y x path

/-! ### operator-assignment, swap, update, call -/

theorem appendFinish_not_list {σ : List Tree} {x : Nat} {path : List Int} {tl tv : Tree}
    (hnl : ∀ ts, tl ≠ .list ts) :
    Store.appendFinish σ x path tl tv =
      (match setPath (Store.get σ x) path .null with
       | some t' => (σ.set x t', false)
       | none => (σ, false)) := by
  cases tl with
  | list ts => exact absurd rfl (hnl ts)
  | _ => rfl

theorem appendFinish_spec {s : State} {h : Heap} {σ : List Tree} {x : Nat} {l ev : Val} {tl tv : Tree}
    (path : List Int) (hx : x < s.cells.length) (c : Cfg h [ev, l] [tv, tl] s.cells σ) :
    Refines (appendFinish s h x path l ev).1 (Store.appendFinish σ x path tl tv).1 ∧
    (appendFinish s h x path l ev).2 = (Store.appendFinish σ x path tl tv).2 := by
  have hxσ : x < σ.length := by rw [← All2.length_eq c.sim]; exact hx
  have hlen := withCell_cells_length s h x (fun h v => setIndex h v path .null)
  rw [appendFinish]
  obtain ⟨d, hdd⟩ : ∃ d, withCell s h x (fun h v => setIndex h v path .null) = d := ⟨_, rfl⟩
  have md := withCell_setIndex path hx c.null hdd
  rw [hdd] at hlen ⊢
  cases hsn : setPath (σ.getD x .null) path .null with
  | none =>
    rw [hsn] at md
    simp only [md.1]
    have hnone : ∀ b, setPath (Store.get σ x) path b = none := fun b => (setPath_none_iff .null b).1 hsn
    have e : Store.appendFinish σ x path tl tv = (σ, false) := by
      unfold Store.appendFinish; cases tl <;> simp only [hnone]
    rw [e]
    exact ⟨md.2.swap.drop.drop.refines, rfl⟩
  | some t1 =>
    rw [hsn] at md
    simp only [md.1, if_true]
    rcases Tree.list_or_not tl with ⟨ts, rfl⟩ | hnl
    · obtain ⟨v, hv, cv⟩ := appendOp_list md.2.swap
      simp only [hv, Store.appendFinish, Store.get]
      obtain ⟨w, hw⟩ : ∃ w, withCell d.1 (appendOp d.1.h l ev).1 x (fun h v' => setIndex h v' path v) = w := ⟨_, rfl⟩
      have mw := withCell_setIndex (s := d.1) path (by rw [hlen]; exact hx) cv hw
      rw [hw]
      rw [getD_set_self _ _ _ _ hxσ, setPath_setPath _ (All2.getD x c.sim Rep_null) hsn] at mw
      cases hsf : setPath (σ.getD x .null) path (.list (ts ++ [tv])) with
      | none => exact absurd ((setPath_none_iff _ .null).1 hsf) (by rw [hsn]; simp)
      | some t2 =>
        rw [hsf] at mw
        have := mw.2.refines
        rw [List.set_set] at this
        exact ⟨this, mw.1⟩
    · obtain ⟨hn, cn⟩ := appendOp_raise md.2.swap hnl
      simp only [hn, appendFinish_not_list hnl, Store.get, hsn]
      exact ⟨cn.refines, trivial⟩

theorem step_append {s : State} {σ : List Tree} (R : Refines s σ) (x : Nat) (path : List Int) (r : Rhs) :
    StepOK s σ (.append x path r) := by
  refine refines_ite R (by rw [R.decl]) (fun hd => ?_)
  simp only [Store.get, readVar]
  rcases readLvalue_spec x path R.cfg rfl with ⟨hg, hl, cl⟩ | ⟨tl, l, hg, hl, cl⟩
  · simp only [hg, hl]; exact ⟨cl.refines, trivial⟩
  · simp only [hg, hl]
    exact appendFinish_spec path (lt_of_declared hd) (evalRhs_spec (s := ⟨_, s.cells⟩) r cl)

theorem step_appendPop {s : State} {σ : List Tree} (R : Refines s σ) (x : Nat) (path : List Int) (y : Nat)
    (ypath : List Int) : StepOK s σ (.appendPop x path y ypath) := by
  refine refines_ite R (R.decl2 x y) (fun hd => ?_)
  simp only [Store.get, readVar]
  obtain ⟨rp, hrp⟩ : ∃ rp, readPath (dup s.h (cellOf s x)) (cellOf s x) path = rp := ⟨_, rfl⟩
  simp only [hrp]
  rcases readLvalue_spec x path R.cfg hrp with ⟨hg, hl, cl⟩ | ⟨tl, l, hg, hl, cl⟩
  · simp only [hg, hl]; exact ⟨cl.refines, trivial⟩
  · simp only [hg, hl]
    obtain ⟨w, hw⟩ : ∃ w, withCell s rp.1 y (fun h v => walk popLeaf h v ypath) = w := ⟨_, rfl⟩
    have mw := withCell_walk popLeaf_spec popLeaf_ins (s := s) ypath (lt_of_declared hd.2) cl hw
    rw [hw]
    cases hm : modPath popφ (σ.getD y .null) ypath with
    | none => rw [hm] at mw; simp only [mw.1]; exact ⟨mw.2.drop.refines, rfl⟩
    | some tr =>
      obtain ⟨ty, r⟩ := tr
      rw [hm] at mw
      dsimp only at mw ⊢
      simp only [mw.1, if_true]
      exact appendFinish_spec path (by rw [← hw, withCell_cells_length]; exact lt_of_declared hd.1) mw.2

theorem step_swap {s : State} {σ : List Tree} (R : Refines s σ) (x : Nat) (px : List Int) (y : Nat) (py : List Int) :
    StepOK s σ (.swap x px y py) := by
  refine refines_ite R (R.decl2 x y) (fun hd => ?_)
  simp only [Store.get]
  obtain ⟨ra, hra⟩ : ∃ ra, readPath (readVar s x).1 (readVar s x).2 px = ra := ⟨_, rfl⟩
  rw [hra]
  rcases readLvalue_spec x px R.cfg hra with ⟨hga, hav, ca⟩ | ⟨ta, av, hga, hav, ca⟩
  · simp only [hga, hav]; exact ⟨ca.refines, trivial⟩
  · simp only [hga, hav]
    obtain ⟨rb, hrb⟩ : ∃ rb, readPath (readVar ⟨ra.1, s.cells⟩ y).1 (readVar ⟨ra.1, s.cells⟩ y).2 py = rb := ⟨_, rfl⟩
    rw [hrb]
    rcases readLvalue_spec (s := ⟨ra.1, s.cells⟩) y py ca hrb with ⟨hgb, hbv, cb⟩ | ⟨tb, bv, hgb, hbv, cb⟩
    · simp only [hgb, hbv]; exact ⟨cb.drop.refines, trivial⟩
    · simp only [hgb, hbv]
      obtain ⟨w1, hw1⟩ : ∃ w1, withCell s rb.1 x (fun h v => setIndex h v px bv) = w1 := ⟨_, rfl⟩
      have hlen := withCell_cells_length s rb.1 x (fun h v => setIndex h v px bv)
      have m1 := withCell_setIndex (s := s) px (lt_of_declared hd.1) cb hw1
      simp only [hw1] at hlen ⊢
      cases hsx : setPath (σ.getD x .null) px tb with
      | none => rw [hsx] at m1; simp only [m1.1]; exact ⟨m1.2.drop.refines, rfl⟩
      | some tx =>
        rw [hsx] at m1
        simp only [m1.1, if_true]
        obtain ⟨w2, hw2⟩ : ∃ w2, withCell w1.1 w1.1.h y (fun h v => setIndex h v py av) = w2 := ⟨_, rfl⟩
        have m2 := withCell_setIndex (s := w1.1) py (by rw [hlen]; exact lt_of_declared hd.2) m1.2 hw2
        rw [hw2]
        cases hsy : setPath ((σ.set x tx).getD y .null) py ta with
        | none => rw [hsy] at m2; exact ⟨m2.2.refines, m2.1⟩
        | some ty => rw [hsy] at m2; exact ⟨m2.2.refines, m2.1⟩

/-- the two owned arguments of `x{i = a}` and `x append a`: a clone of `x`'s value and the value of `a` -/
theorem evalArgs_spec {s : State} {σ : List Tree} (R : Refines s σ) (x : Nat) (a : Atom) :
    Cfg (evalAtom s (dup s.h (cellOf s x)) a).1 [cellOf s x, (evalAtom s (dup s.h (cellOf s x)) a).2]
      [Store.get σ x, Store.evalAtom σ a] s.cells σ :=
  (evalAtom_cfg a (evalAtom_cfg (.var x) R.cfg)).swap

theorem step_update {s : State} {σ : List Tree} (R : Refines s σ) (y x : Nat) (i : Int) (a : Atom) :
    StepOK s σ (.update y x i a) := by
  refine refines_ite R (R.decl2 x y) (fun hd => ?_)
  simp only [readVar]
  obtain ⟨w, hw⟩ : ∃ w, setIndex (evalAtom s (dup s.h (cellOf s x)) a).1 (cellOf s x) [i]
    (evalAtom s (dup s.h (cellOf s x)) a).2 = w := ⟨_, rfl⟩
  have S := setIndex_spec [i] (evalArgs_spec R x a) hw
  simp only [hw]
  cases hsp : setPath (Store.get σ x) [i] (Store.evalAtom σ a) with
  | none =>
    rw [hsp] at S
    simp only [S.1]
    exact ⟨S.2.drop.refines, rfl⟩
  | some t' =>
    rw [hsp] at S
    simp only [S.1, if_true]
    exact ⟨(writeCell_spec (lt_of_declared hd.2) S.2).refines, trivial⟩

theorem step_callAppend {s : State} {σ : List Tree} (R : Refines s σ) (y x : Nat) (a : Atom) :
    StepOK s σ (.callAppend y x a) := by
  refine refines_ite R (R.decl2 x y) (fun hd => ?_)
  have c := evalArgs_spec R x a
  simp only [readVar]
  rcases Tree.list_or_not (Store.get σ x) with ⟨ts, hts⟩ | hnl
  · rw [hts] at c ⊢
    obtain ⟨v, hv, cv⟩ := appendOp_list c
    simp only [hv]
    exact ⟨(writeCell_spec (lt_of_declared hd.2) cv).refines, trivial⟩
  · obtain ⟨hn, cn⟩ := appendOp_raise c hnl
    simp only [hn]
    exact ⟨cn.refines, trivial⟩

theorem step_ok {s : State} {σ : List Tree} (R : Refines s σ) (st : Stmt) : StepOK s σ st := by
  cases st with
  | assign x r => exact step_assign R x r
  | setIdx x path r => exact step_setIdx R x path r
  | append x path r => exact step_append R x path r
  | pop y x path => exact step_pop R y x path
  | remove y x path i => exact step_remove R y x path i
  | consume y x path => exact step_consume R y x path
  | swap x px y py => exact step_swap R x px y py
  | update y x i a => exact step_update R y x i a
  | callAppend y x a => exact step_callAppend R y x a
  | appendPop x path y ypath => exact step_appendPop R x path y ypath

end Noulith.RcHeap
