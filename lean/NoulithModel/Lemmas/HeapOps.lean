/-
C01: what the operations on owned values do to counts, payloads and the invariant.  The invariant
at an allocation with one handle (`Inv.sole`), after a handle is given up (`Inv.setRc_pred`) and after
cloning (`Inv.bumpAll`); the transition bundle `Tr` (invariant re-established, frame-reachable payloads
untouched, counts of allocations all of whose handles are in the frame unchanged), its instances for
`dropVal` and `makeMut`, and in-place writes on a uniquely owned allocation (`replace_alloc`,
`slot_write_inv`, `makeMut_rewrite`).
-/
import NoulithModel.Lemmas.HeapRep

namespace Noulith.RcHeap
open Noulith.Store (Tree)

/-! ### the count invariant at one allocation: a single handle, giving a handle up, cloning -/

theorem Inv.sole {h : Heap} {id : Nat} {o T : List Val} (i : Inv h (o ++ .ref id :: T)) (h1 : rcOf h id ≤ 1) :
    pocc id h = 0 ∧ occ id o = 0 ∧ occ id T = 0 ∧ id < h.allocs.length := by
  have hid := i id
  rw [occ_append, occ_cons_ref, if_pos rfl] at hid
  have z : pocc id h + (occ id o + occ id T) = 0 := by omega
  have y := Nat.eq_zero_of_add_eq_zero_left z
  exact ⟨Nat.eq_zero_of_add_eq_zero_right z, Nat.eq_zero_of_add_eq_zero_right y, Nat.eq_zero_of_add_eq_zero_left y,
    lt_of_rcOf_pos (i.rc_pos_of_mem (List.mem_append_right _ (List.mem_cons_self ..)))⟩

theorem Inv.head_lt {h : Heap} {id : Nat} {F : List Val} (i : Inv h (.ref id :: F)) : occ id F < rcOf h id := by
  have := i id
  rw [occ_cons_ref, if_pos rfl] at this
  omega

theorem Inv.setRc_pred {h : Heap} {id : Nat} {F : List Val} (i : Inv h (.ref id :: F)) :
    Inv (setRc h id (rcOf h id - 1)) F := by
  intro j
  have hj := i j
  have hl := lt_of_rcOf_pos (i.rc_pos_of_mem (List.mem_cons_self ..))
  rw [occ_cons_ref] at hj
  rw [pocc_setRc, rcOf_setRc]
  by_cases e : j = id
  · subst e
    rw [if_pos rfl, Nat.add_comm 1, ← Nat.add_assoc] at hj
    rw [if_pos ⟨rfl, hl⟩]
    exact Nat.le_sub_of_add_le hj
  · rw [if_neg (Ne.symm e), Nat.zero_add] at hj
    rw [if_neg (fun c => e c.1)]
    exact hj

theorem Inv.bumpAll {h : Heap} {T : List Val} (i : Inv h T) {p : List Val} (hp : ∀ v ∈ p, Live h v) :
    Inv (bumpAll h p) (p ++ T) := by
  intro j
  rw [pocc_bumpAll, rcOf_bumpAll _ _ _ hp, occ_append, Nat.add_left_comm, Nat.add_comm (rcOf h j)]
  exact Nat.add_le_add_left (i j) _

/-! ### the transition bundle -/

/-- `Tr h h' outs F`: a heap operation that consumed its owned inputs and now owns `outs`, run
next to a frame `F` of values owned by others, (1) re-establishes the count invariant, (2) leaves
every payload reachable from the frame alone, (3) leaves alone the count of every allocation all of
whose handles are in the frame. -/
structure Tr (h h' : Heap) (outs F : List Val) : Prop where
  inv : Inv h' (outs ++ F)
  stable : Stable h h' F
  tight : ∀ id, 0 < rcOf h id → rcOf h id ≤ occ id F → rcOf h' id = rcOf h id

theorem Tr.refl {h : Heap} {T F : List Val} (i : Inv h (T ++ F)) : Tr h h T F :=
  ⟨i, Stable.refl _ _, fun _ _ _ => rfl⟩

/-- sequential composition; the second step may run with a larger frame (values the first step
produced and the second does not touch) -/
theorem Tr.seq {h1 h2 h3 : Heap} {o1 o2 o3 F F2 : List Val} (a : Tr h1 h2 o1 F) (b : Tr h2 h3 o2 F2)
    (hsub : ∀ v, v ∈ F → v ∈ F2) (hocc : ∀ id, occ id F ≤ occ id F2)
    (hinv : Inv h3 (o3 ++ F)) : Tr h1 h3 o3 F := by
  refine ⟨hinv, a.stable.trans (b.stable.mono hsub), fun id hp hle => ?_⟩
  have e1 := a.tight id hp hle
  rw [← e1] at hp hle ⊢
  exact b.tight id hp (Nat.le_trans hle (hocc id))

theorem Tr.outs_weaken {h h' : Heap} {o o' F : List Val} (a : Tr h h' o F)
    (e : ∀ id, occ id o' ≤ occ id o) : Tr h h' o' F :=
  ⟨a.inv.weaken (fun id => by rw [occ_append, occ_append]; exact Nat.add_le_add_right (e id) _), a.stable, a.tight⟩

/-- an operation that raises without touching anything still owns what it was given -/
theorem Tr.raise {h : Heap} {c : Val} {cap F : List Val} (i : Inv h (c :: cap ++ F)) :
    Tr h h (c :: .null :: cap) F :=
  Tr.refl (i.congr (fun k => by simp [occ_cons, occ_append]))

theorem Tr.ledger {h h1 h' : Heap} {o F : List Val} (a : Tr h h1 o F) (e : h'.allocs = h1.allocs) : Tr h h' o F :=
  ⟨a.inv.of_allocs_eq e, a.stable.trans ((PayloadExt.of_allocs_eq e).stable F),
   fun k hp hle => by rw [rcOf_allocs_eq e]; exact a.tight k hp hle⟩

theorem Tr.trans {h1 h2 h3 : Heap} {o1 o2 F : List Val} (a : Tr h1 h2 o1 F) (b : Tr h2 h3 o2 F) :
    Tr h1 h3 o2 F :=
  a.seq b (fun _ hv => hv) (fun _ => Nat.le_refl _) b.inv

theorem Tr.to_outs {h h' : Heap} {o G F : List Val} (a : Tr h h' o (G ++ F)) : Tr h h' (o ++ G) F :=
  ⟨by simpa [List.append_assoc] using a.inv, a.stable.mono (by intro v hv; simp [hv]),
   fun id hp hle => a.tight id hp (by rw [occ_append]; exact Nat.le_trans hle (Nat.le_add_left _ _))⟩

theorem Tr.keeps_unique {h h' : Heap} {o F : List Val} (t : Tr h h' o F) {id : Nat} (hm : Val.ref id ∈ F)
    (h1 : rcOf h id = 1) : rcOf h' id = 1 ∧ payloadOf h' id = payloadOf h id ∧ keysOf h' id = keysOf h id := by
  have hp : 0 < rcOf h id := by rw [h1]; exact Nat.one_pos
  have hle : rcOf h id ≤ occ id F := by rw [h1]; exact occ_pos_of_mem hm
  exact ⟨(t.tight id hp hle).trans h1, t.stable.pay id (lt_of_rcOf_pos hp) (.root hm),
    t.stable.keys id (lt_of_rcOf_pos hp) (.root hm)⟩

theorem Tr.parent_kept {h h' : Heap} {o F : List Val} {id : Nat} (t : Tr h h' o (.ref id :: F))
    (h1 : rcOf h id = 1) :
    rcOf h' id = 1 ∧ payloadOf h' id = payloadOf h id ∧ keysOf h' id = keysOf h id ∧
      pocc id h' = 0 ∧ occ id o = 0 ∧ occ id F = 0 ∧ id < h'.allocs.length := by
  obtain ⟨k1, k2, k3⟩ := t.keeps_unique (List.mem_cons_self ..) h1
  exact ⟨k1, k2, k3, t.inv.sole (Nat.le_of_eq k1)⟩

/-! ### dropping an owned value -/

/-- freeing an allocation whose last handle is being dropped: its elements become owned -/
theorem free_inv {h : Heap} {id : Nat} {F : List Val} (i : Inv h (.ref id :: F)) (hrc : rcOf h id ≤ 1) :
    Inv (setAlloc h id ⟨[], 0, none⟩) (payloadOf h id ++ F) := by
  obtain ⟨hz, _, hf, hl⟩ := Inv.sole (o := []) i hrc
  intro j
  have hj := i j
  have hp := pocc_setAlloc h id j ⟨[], 0, none⟩ hl
  simp only [occ_nil, Nat.add_zero] at hp
  rw [occ_append, ← Nat.add_assoc, hp, rcOf_setAlloc]
  by_cases e : j = id
  · subst e; rw [hz, hf]; exact Nat.zero_le _
  · rw [occ_cons_ref, if_neg (Ne.symm e), Nat.zero_add] at hj
    rw [if_neg (fun c => e c.1)]
    exact hj

theorem dropList_tr {f : Nat}
    (ih : ∀ (h : Heap) (v : Val) (F : List Val), Inv h (v :: F) → Tr h (dropVal f h v) [] F) :
    ∀ (p : List Val) (h : Heap) (F : List Val), Inv h (p ++ F) → Tr h (p.foldl (dropVal f) h) [] F := by
  intro p
  induction p with
  | nil => intro h F i; exact Tr.refl i
  | cons v vs ihp =>
    intro h F i
    have t1 := ih h v (vs ++ F) i
    exact t1.to_outs.trans (ihp (dropVal f h v) F t1.inv)

theorem dropVal_tr : ∀ (f : Nat) (h : Heap) (v : Val) (F : List Val),
    Inv h (v :: F) → Tr h (dropVal f h v) [] F := by
  intro f
  induction f with
  | zero =>
    intro h v F i
    exact Tr.refl (i.weaken (fun id => by simp [occ_cons]))
  | succ f ih =>
    intro h v F i
    cases v with
    | null => exact Tr.refl (i.weaken (fun id => by simp))
    | int n => exact Tr.refl (i.weaken (fun id => by simp))
    | ref id =>
      simp only [dropVal]
      by_cases hrc : rcOf h id ≤ 1
      · simp only [hrc, if_true]
        obtain ⟨hpz, _, hfz, _⟩ := Inv.sole (o := []) i hrc
        have t := dropList_tr ih (payloadOf h id) _ F (free_inv i hrc)
        have s0 : Stable h (setAlloc h id ⟨[], 0, none⟩) F := Stable.setAlloc _ (not_reach_of_zero hpz hfz)
        refine ⟨t.inv, s0.trans t.stable, fun j hp hle => ?_⟩
        have hne : ¬ j = id := fun e => by subst e; rw [hfz] at hle; exact Nat.not_lt.2 hle hp
        have e0 : rcOf (setAlloc h id ⟨[], 0, none⟩) j = rcOf h j := by
          rw [rcOf_setAlloc, if_neg (fun c => hne c.1)]
        rw [← e0] at hp hle ⊢
        exact t.tight j hp hle
      · simp only [hrc, if_false]
        refine ⟨i.setRc_pred, (PayloadExt.setRc h id _).stable F, fun j hp hle => ?_⟩
        have hne : ¬ j = id := fun e => by subst e; exact Nat.not_le.2 i.head_lt hle
        rw [rcOf_setRc, if_neg (fun c => hne c.1)]

theorem drop_tr {h : Heap} {v : Val} {F : List Val} (i : Inv h (v :: F)) : Tr h (drop h v) [] F :=
  dropVal_tr _ h v F i

/-! ### make_mut -/

/-- a fresh allocation with count 1 takes over the handles of its payload -/
theorem push_inv {h : Heap} {a : Alloc} {T : List Val} (ha : a.rc = 1) (i : Inv h (a.payload ++ T)) (c p : Nat) :
    Inv ⟨h.allocs ++ [a], c, p⟩ (.ref h.allocs.length :: T) := by
  intro k
  have hk := i k
  simp only [pocc_push, rcOf_push, occ_cons_ref, occ_append] at hk ⊢
  by_cases e : k = h.allocs.length
  · subst e
    rw [rcOf_eq_zero_of_ge (Nat.le_refl _)] at hk
    simp [ha]; omega
  · have : ¬ h.allocs.length = k := fun x => e x.symm
    simp [e, this]; omega

/-- an allocation all of whose handles are among the owned values occurs in no payload -/
theorem tight_zero {p o rc : Nat} (h : p + o ≤ rc) (h1 : rc ≤ o) : p = 0 := by
  omega

/-- facts about `m = Rc::make_mut` on an owned handle -/
structure MakeMutSpec (h : Heap) (id : Nat) (F : List Val) (m : Heap × Nat) : Prop where
  tr : Tr h m.1 [.ref m.2] F
  ext : PayloadExt h m.1
  rc1 : rcOf m.1 m.2 = 1
  pay : payloadOf m.1 m.2 = payloadOf h id
  keys : keysOf m.1 m.2 = keysOf h id
  lt : m.2 < m.1.allocs.length

theorem makeMut_spec {h : Heap} {id : Nat} {F : List Val} (i : Inv h (.ref id :: F)) {m : Heap × Nat}
    (hm : makeMut h id = m) : MakeMutSpec h id F m := by
  subst hm
  have hpos := i.rc_pos_of_mem (List.mem_cons_self ..)
  have hl : id < h.allocs.length := lt_of_rcOf_pos hpos
  by_cases hrc : rcOf h id ≤ 1
  · have e : makeMut h id = (h, id) := by simp [makeMut, hrc]
    refine ⟨?_, ?_, ?_, ?_, ?_, ?_⟩ <;> rw [e]
    · exact Tr.refl i
    · exact PayloadExt.refl h
    · exact Nat.le_antisymm hrc hpos
    · exact hl
  · obtain ⟨h1, hh1⟩ : ∃ h1, bumpAll (setRc h id (rcOf h id - 1)) (payloadOf h id) = h1 := ⟨_, rfl⟩
    have e : makeMut h id =
        (⟨h1.allocs ++ [⟨payloadOf h id, 1, keysOf h id⟩], h1.copied + (payloadOf h id).length, h1.pushes⟩,
          h.allocs.length) := by
      simp [makeMut, hrc, hh1]
    have hlen : h1.allocs.length = h.allocs.length := by rw [← hh1]; simp [bumpAll_length]
    have e1 : PayloadExt h h1 := hh1 ▸ (PayloadExt.setRc h id _).trans (PayloadExt.bumpAll _ _)
    have hlive : ∀ v ∈ payloadOf h id, Live (setRc h id (rcOf h id - 1)) v :=
      fun v hv => (i.live_of_payload hv).ext (by simp)
    have i1 : Inv h1 (payloadOf h id ++ F) := hh1 ▸ i.setRc_pred.bumpAll hlive
    rw [e]
    refine ⟨⟨?_, (e1.trans (PayloadExt.push _ _ _ _)).stable F, fun j hpj hle => ?_⟩,
      e1.trans (PayloadExt.push _ _ _ _), ?_, ?_, ?_, ?_⟩
    · have := push_inv (a := ⟨payloadOf h id, 1, keysOf h id⟩) rfl i1 (h1.copied + (payloadOf h id).length) h1.pushes
      rwa [hlen] at this
    · -- an allocation all of whose handles are in the frame occurs in no payload, so it is not cloned
      have hj := i j
      have e2 : ¬ j = id := fun x => by subst x; exact Nat.not_le.2 i.head_lt hle
      rw [occ_cons_ref, if_neg (Ne.symm e2), Nat.zero_add] at hj
      have hz : occ j (payloadOf h id) = 0 :=
        Nat.eq_zero_of_le_zero (tight_zero hj hle ▸ occ_payload_le_pocc h id j)
      rw [rcOf_push, hlen, if_neg (Nat.ne_of_lt (lt_of_rcOf_pos hpj)), ← hh1, rcOf_bumpAll _ _ _ hlive, rcOf_setRc,
        if_neg (fun c => e2 c.1), hz, Nat.add_zero]
    · simp [rcOf_push, hlen]
    · simp [payloadOf_push, hlen]
    · simp [keysOf_push, hlen]
    · simp [hlen]

/-! ### in-place writes on a uniquely owned allocation -/

/-- replacing a uniquely owned allocation (payload and keys; same count): the handles of the new
payload come from the old payload and the owned inputs -/
theorem replace_alloc {m : Heap} {id1 : Nat} {ins outs F : List Val} (a : Alloc) (ha : a.rc = rcOf m id1)
    (i : Inv m (.ref id1 :: ins ++ F)) (rc1 : rcOf m id1 = 1)
    (hocc : ∀ k, occ k a.payload + occ k outs = occ k (payloadOf m id1) + occ k ins) :
    Tr m (setAlloc m id1 a) (.ref id1 :: outs) F := by
  obtain ⟨hz, _, hf, hl⟩ := Inv.sole (o := []) i (Nat.le_of_eq rc1)
  refine ⟨fun k => ?_, Stable.setAlloc _ (not_reach_of_zero hz (occ_append_eq_zero hf).2),
    fun k _ _ => rcOf_setAlloc_same ha k⟩
  have hk := i k
  have e1 := pocc_setAlloc m id1 k a hl
  have e2 := hocc k
  rw [rcOf_setAlloc_same ha]
  simp only [occ_cons, occ_append, List.cons_append] at hk ⊢
  omega

theorem slot_write_inv {h : Heap} {id j : Nat} {v : Val} {T : List Val}
    (i : Inv h (.ref id :: v :: T)) (h1 : rcOf h id = 1) (hj : j < (payloadOf h id).length) :
    Inv (setPayload h id ((payloadOf h id).set j v)) (.ref id :: (payloadOf h id).getD j .null :: T) :=
  (replace_alloc (ins := [v]) ⟨_, rcOf h id, keysOf h id⟩ rfl i h1 (fun k => occ_set k _ j v hj)).inv

theorem slot_ne {h : Heap} {id j : Nat} (hz : pocc id h = 0) (hj : j < (payloadOf h id).length) :
    (payloadOf h id).getD j .null ≠ .ref id :=
  ne_ref_of_pocc_zero hz (getD_mem _ hj)

/-- taking element `j` out of a uniquely owned allocation, as `walk` does before it descends: the slot
becomes null, the element is owned, the handle of the allocation joins the frame -/
theorem slot_take_inv {h : Heap} {id j : Nat} {cap F : List Val}
    (i : Inv h (.ref id :: (cap ++ F))) (h1 : rcOf h id = 1) (hj : j < (payloadOf h id).length) :
    Inv (setPayload h id ((payloadOf h id).set j .null))
      ((payloadOf h id).getD j .null :: cap ++ (.ref id :: F)) := by
  have := slot_write_inv (v := .null) (T := cap ++ F) (j := j) (i.congr (fun k => by simp [occ_cons])) h1 hj
  exact this.perm List.perm_middle.symm

/-- `Rc::make_mut` on an owned handle followed by a rewrite of the allocation it then points to (pop,
remove, push, insertion of a key): the handles of the new payload come from the old payload and the
owned inputs `ins`; what is no longer stored is owned as `outs`.  Every value the old payload or the
inputs held keeps its representation, because the rewritten allocation has no other holder. -/
theorem makeMut_rewrite {h : Heap} {id : Nat} {ins outs F : List Val} {m : Heap × Nat}
    (hm : makeMut h id = m) (a : Alloc) (i : Inv h (.ref id :: ins ++ F)) (ha : a.rc = rcOf m.1 m.2)
    (hocc : ∀ k, occ k a.payload + occ k outs = occ k (payloadOf h id) + occ k ins) :
    Tr h (setAlloc m.1 m.2 a) (.ref m.2 :: outs) F ∧ m.2 < (setAlloc m.1 m.2 a).allocs.length ∧
    payloadOf (setAlloc m.1 m.2 a) m.2 = a.payload ∧ keysOf (setAlloc m.1 m.2 a) m.2 = a.keys ∧
    ∀ {v : Val} {t : Tree}, Rep h v t → v ∈ payloadOf h id ++ ins → Rep (setAlloc m.1 m.2 a) v t := by
  have MS := makeMut_spec (F := ins ++ F) i hm
  have i0 : Inv m.1 (.ref m.2 :: (ins ++ F)) := MS.tr.inv
  obtain ⟨hz, _, hcf, hl⟩ := Inv.sole (o := []) i0 (Nat.le_of_eq MS.rc1)
  have hiz := (occ_append_eq_zero hcf).1
  have R := replace_alloc (outs := outs) a ha i0 MS.rc1 (by rw [MS.pay]; exact hocc)
  refine ⟨MS.tr.to_outs.trans R, by simpa using hl,
    by simp [payloadOf_setAlloc, hl], by simp [keysOf_setAlloc, hl], fun r hv => ?_⟩
  refine frame_rep a hz (r.ext MS.ext) ?_
  rcases List.mem_append.1 hv with hm | hm
  · exact ne_ref_of_pocc_zero hz (by rw [MS.pay]; exact hm)
  · exact ne_ref_of_occ_zero hiz hm

end Noulith.RcHeap
