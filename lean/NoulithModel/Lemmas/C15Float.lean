/-
Helper lemmas for C15, float literals: the texts the lexer hands to `str::parse::<f64>` are accepted
(`f64TextValid_mantissa`, `float_text_valid`) and the exponent / fraction / suffix arms on digit runs.
A literal is read in two parts: the mantissa `I` or `I.F` (`lex_mantissa`), then exponent, suffix or
nothing, which the arm without a point handles by the same code as the arm with one (`lexAfterInt_float`;
in lex.rs the three `match` arms `i j`, `e`, `f` stand twice).
-/
import NoulithModel.Lemmas.C15Basic
namespace Noulith.C15
open Noulith Noulith.Lex Noulith.LitSpec

/-- what `f64TextValid` checks after the mantissa: nothing, or an exponent `e[±]DIGITS` -/
def f64ExpValid (r2 : List Char) : Bool :=
  match r2 with
  | [] => true
  | e :: r3 =>
    if e = 'e' ∨ e = 'E' then
      let r4 := match r3 with
        | '-' :: r => r
        | '+' :: r => r
        | _ => r3
      !r4.isEmpty && r4.all isDigit10
    else false

theorem f64TextValid_mantissa (I : List Char) (hI : AllDig I) (hIne : I ≠ []) (frac : Option (List Char))
    (hF : ∀ F, frac = some F → AllDig F) (T : List Char) (hT : Stops isDigit10 T) (hdot : ∀ r, T ≠ '.' :: r) :
    f64TextValid (I ++ (match frac with | some F => '.' :: F | none => []) ++ T) = f64ExpValid T := by
  have hIe : I.isEmpty = false := by
    cases I with
    | nil => exact absurd rfl hIne
    | cons => rfl
  unfold f64TextValid
  cases frac with
  | none =>
    simp only [List.append_nil]
    rw [takeWhile_run isDigit10 I T hI hT, dropWhile_run isDigit10 I T hI hT]
    split
    · exact absurd rfl (hdot _)
    · simp only [hIe, Bool.false_and, Bool.false_eq_true, if_false]; rfl
  | some F =>
    have hs : Stops isDigit10 ('.' :: F ++ T) := stops_cons _ _ _ (by decide)
    rw [List.append_assoc, takeWhile_run isDigit10 I _ hI hs, dropWhile_run isDigit10 I _ hI hs]
    simp only [List.cons_append, takeWhile_run isDigit10 F T (hF F rfl) hT, dropWhile_run isDigit10 F T (hF F rfl) hT,
      hIe, Bool.false_and, Bool.false_eq_true, if_false]
    rfl

theorem f64ExpValid_exp (neg : Bool) (E : List Char) (hE : AllDig E) (hne : E ≠ []) :
    f64ExpValid ('e' :: ((if neg then ['-'] else []) ++ E)) = true := by
  obtain ⟨e0, E', rfl⟩ := List.exists_cons_of_ne_nil hne
  have he0 : isDigit10 e0 = true := hE e0 (by simp)
  have hall : (e0 :: E').all isDigit10 = true := List.all_eq_true.mpr hE
  cases neg
  · have h1 : e0 ≠ '-' := by intro h; rw [h] at he0; revert he0; decide
    have h2 : e0 ≠ '+' := by intro h; rw [h] at he0; revert he0; decide
    simp [f64ExpValid, h1, h2, hall]
  · simp [f64ExpValid, hall]

theorem decDigits_allDig (ds : List Nat) (h : ds.all (· < 10) = true) : AllDig (decDigits ds) :=
  decDigits_all ds fun d hd => of_decide_eq_true (List.all_eq_true.mp h d hd)

theorem frac_allDig {frac : Option (List Nat)}
    (h : (match frac with | some fs => fs.all (· < 10) | none => true) = true) (F : List Char)
    (hF : frac.map decDigits = some F) : AllDig F := by
  cases frac with
  | none => cases hF
  | some fs => cases hF; exact decDigits_allDig fs h

theorem decDigits_ne_nil (ds : List Nat) (h : ds ≠ []) : decDigits ds ≠ [] := by
  simp [decDigits, h]

theorem lexExponent_digits (acc : List Char) (neg : Bool) (E : List Char) (hE : AllDig E) (hEne : E ≠ [])
    (rest : List Char) (hstop : Stops isDigit10 rest) :
    lexExponent acc ((if neg then ['-'] else []) ++ (E ++ rest)) =
      ⟨[emitFloat (acc ++ 'e' :: ((if neg then ['-'] else []) ++ E))], rest, false⟩ := by
  obtain ⟨e0, E', rfl⟩ := List.exists_cons_of_ne_nil hEne
  have he0 : isDigit10 e0 = true := hE e0 (by simp)
  cases neg
  · have h1 : e0 ≠ '-' := by intro h; rw [h] at he0; revert he0; decide
    simp only [Bool.false_eq_true, if_false, List.nil_append]
    unfold lexExponent
    split
    · rename_i heq; simp at heq; exact absurd heq.1 h1
    · rw [takeWhile_run isDigit10 _ _ hE hstop, dropWhile_run isDigit10 _ _ hE hstop]
  · have h1 := takeWhile_run isDigit10 _ _ hE hstop
    have h2 := dropWhile_run isDigit10 _ _ hE hstop
    simp only [List.cons_append] at h1 h2
    simp only [if_true, List.cons_append, List.nil_append]
    unfold lexExponent
    simp only
    rw [h1, h2]

/-- what may follow a float literal for it to end there -/
def FloatStop (l : FloatLit) (rest : List Char) : Prop :=
  if l.suffix ≠ .none then True
  else if l.exp.isSome then Stops isDigit10 rest
  else ∀ c ∈ rest.head?, isDigit10 c = false ∧ c ∉ ['i', 'I', 'j', 'J', 'e', 'E', 'f', 'F']

theorem floatStop_nil (l : FloatLit) : FloatStop l [] := by
  unfold FloatStop
  split
  · trivial
  · split
    · exact stops_nil _
    · nofun

def floatTok (l : FloatLit) : Token :=
  if l.suffix.isImag then .imagLit l.text else .floatLit l.text

theorem emitFloat_valid (t : List Char) (h : f64TextValid t = true) : emitFloat t = .floatLit t := by
  simp [emitFloat, h]
theorem emitImag_valid (t : List Char) (h : f64TextValid t = true) : emitImag t = .imagLit t := by
  simp [emitImag, h]

theorem stops_of_head (p : Char → Bool) (l : List Char) (h : ∀ c ∈ l.head?, p c = false) : Stops p l := h

theorem lexAfterFraction_exp (acc2 : List Char) (uE neg : Bool) (E rest : List Char) (hE : AllDig E)
    (hEne : E ≠ []) (hstop : Stops isDigit10 rest) :
    lexAfterFraction acc2 ((if uE then 'E' else 'e') :: ((if neg then ['-'] else []) ++ (E ++ rest))) =
      ⟨[emitFloat (acc2 ++ 'e' :: ((if neg then ['-'] else []) ++ E))], rest, false⟩ := by
  unfold lexAfterFraction
  rw [if_neg (by cases uE <;> simp), if_pos (by cases uE <;> simp)]
  exact lexExponent_digits acc2 neg E hE hEne rest hstop

/-- the letters after which the integer arm and the fraction arm of `lexNumber` run the same code -/
def floatLetters : List Char := ['i', 'I', 'j', 'J', 'e', 'E', 'f', 'F']

theorem floatLetters_not_digit : ∀ d ∈ floatLetters, isDigit10 d = false := by decide

theorem lexAfterFraction_plain (acc2 rest : List Char) (h : ∀ c ∈ rest.head?, c ∉ floatLetters) :
    lexAfterFraction acc2 rest = ⟨[emitFloat acc2], rest, false⟩ := by
  unfold lexAfterFraction
  cases rest with
  | nil => rfl
  | cons d cs =>
    have := h d (by simp)
    simp [floatLetters] at this
    simp [this]

theorem lexAfterInt_float (acc : List Char) (d : Char) (cs2 : List Char) (hd : d ∈ floatLetters) :
    lexAfterInt acc d cs2 = lexAfterFraction acc (d :: cs2) := by
  simp only [floatLetters, List.mem_cons, List.not_mem_nil, or_false] at hd
  rcases hd with rfl | rfl | rfl | rfl | rfl | rfl | rfl | rfl <;> simp [lexAfterInt, lexAfterFraction]

theorem suffix_letter (s : NumSuffix) (hs : s ≠ .none) : ∃ d, s.chars = [d] ∧ d ∈ floatLetters := by
  cases s with
  | none => exact absurd rfl hs
  | f u => exact ⟨_, rfl, by cases u <;> decide⟩
  | i u => exact ⟨_, rfl, by cases u <;> decide⟩
  | j u => exact ⟨_, rfl, by cases u <;> decide⟩

theorem lexAfterFraction_suffix (acc2 : List Char) (s : NumSuffix) (hs : s ≠ .none) (rest : List Char) :
    lexAfterFraction acc2 (s.chars ++ rest) =
      ⟨[if s.isImag then emitImag acc2 else emitFloat acc2], rest, false⟩ := by
  unfold lexAfterFraction
  cases s with
  | none => exact absurd rfl hs
  | f u => cases u <;> simp [NumSuffix.chars, NumSuffix.isImag]
  | i u => cases u <;> simp [NumSuffix.chars, NumSuffix.isImag]
  | j u => cases u <;> simp [NumSuffix.chars, NumSuffix.isImag]

/-- the text of a well-formed literal is one `str::parse::<f64>` accepts -/
theorem float_text_valid (l : FloatLit) (hwf : l.wf = true) : f64TextValid l.text = true := by
  obtain ⟨ip, frac, exp, suffix⟩ := l
  simp only [FloatLit.wf, Bool.and_eq_true, decide_eq_true_eq] at hwf
  obtain ⟨⟨⟨⟨⟨hipne, hip⟩, hfr⟩, hex⟩, _⟩, _⟩ := hwf
  have hm := f64TextValid_mantissa (decDigits ip) (decDigits_allDig ip hip)
    (decDigits_ne_nil ip (by simpa using hipne)) (frac.map decDigits) (frac_allDig hfr)
  cases exp with
  | none =>
    have := hm [] (stops_nil _) nofun
    cases frac <;> exact this
  | some p =>
    obtain ⟨uE, neg, es⟩ := p
    simp only [Bool.and_eq_true, decide_eq_true_eq] at hex
    have := (hm ('e' :: ((if neg then ['-'] else []) ++ decDigits es)) (stops_cons _ _ _ (by decide))
      (by intro r h; cases h)).trans
      (f64ExpValid_exp neg _ (decDigits_allDig es hex.2) (decDigits_ne_nil es (by simpa using hex.1)))
    cases frac <;> exact this

/-- whichever of `try_emit_float` / `try_emit_imaginary_float` runs on the text of a well-formed
literal, it succeeds -/
theorem floatTok_eq_emit (l : FloatLit) (hwf : l.wf = true) :
    floatTok l = if l.suffix.isImag then emitImag l.text else emitFloat l.text := by
  have hv := float_text_valid l hwf
  unfold floatTok
  split
  · rw [emitImag_valid _ hv]
  · rw [emitFloat_valid _ hv]

/-- a mantissa `M` = `I` or `I.F` followed by `T`, which does not continue it: whichever arm of
`lexNumber` reads `T` (the integer arm only if `T` starts with one of `floatLetters`), it is read as
after a fraction -/
theorem lex_mantissa (I : List Char) (hI : AllDig I) (hIne : I ≠ []) (frac : Option (List Char))
    (hF : ∀ F, frac = some F → AllDig F) (M : List Char)
    (hM : M = I ++ (match frac with | some F => '.' :: F | none => [])) (T : List Char) (hT : Stops isDigit10 T)
    (hnone : frac = none → ∃ d tl, T = d :: tl ∧ d ∈ floatLetters) (toks : List Token) (rest : List Char)
    (h : lexAfterFraction M T = ⟨toks, rest, false⟩) : lex (M ++ T) = toks ++ lex rest := by
  subst hM
  cases frac with
  | some F =>
    rw [List.append_assoc]
    exact lex_run I hI hIne ('.' :: (F ++ T)) (stops_cons _ _ _ (by decide)) _ _
      (by rw [afterRun_dot, takeWhile_run isDigit10 F T (hF F rfl) hT, dropWhile_run isDigit10 F T (hF F rfl) hT]; exact h)
  | none =>
    obtain ⟨d, tl, rfl, hd⟩ := hnone rfl
    rw [List.append_nil] at h ⊢
    exact lex_run_other I hI hIne d tl (hT d rfl) (by rintro rfl; revert hd; decide) _ _
      (by rw [lexAfterInt_float _ _ _ hd, h])

end Noulith.C15
