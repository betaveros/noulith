/-
The executable power functions of the model (`NInt.ipow`, `NNum.intPow`, `NNum.ratPow`,
`TowerSpec.qpow`) answer the bases 0, 1, −1 without iterating; `shortcut_eq` is the one shape they
share: the three shortcuts in front of the power `p`, with which they agree.
-/

namespace Noulith

theorem shortcut_eq {α : Type} [DecidableEq α] {zero one mone x p : α} {c0 cp : Prop}
    [Decidable c0] [Decidable cp] (h0 : x = zero → p = if c0 then one else zero)
    (h1 : x = one → p = one) (hm : x = mone → p = if cp then one else mone) :
    (if x = zero then (if c0 then one else zero) else if x = one then one
      else if x = mone then (if cp then one else mone) else p) = p := by
  by_cases a0 : x = zero
  · rw [if_pos a0, h0 a0]
  · rw [if_neg a0]
    by_cases a1 : x = one
    · rw [if_pos a1, h1 a1]
    · rw [if_neg a1]
      by_cases am : x = mone
      · rw [if_pos am, hm am]
      · rw [if_neg am]

theorem int_zero_pow (n : Nat) : (0 : Int) ^ n = if n = 0 then 1 else 0 := by
  split
  · rename_i h; subst h; rfl
  · rename_i h; exact Int.zero_pow h

theorem int_neg_one_pow (n : Nat) : (-1 : Int) ^ n = if n % 2 = 0 then 1 else -1 := by
  induction n with
  | zero => rfl
  | succ n ih => rw [Int.pow_succ, ih]; split <;> split <;> omega

end Noulith
