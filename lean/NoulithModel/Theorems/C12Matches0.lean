/-
C12 — the Spec's relations are what the executable reference computes:
`specArrange_iff_Arranged` (the arrangement of a sequence over its sub-patterns, from the normal
forms of `Lemmas/C12Arrange.lean`) and `destructure_iff_Inverts` (every destructuring builtin = the
inverse image of its constructor, sound and complete, including `k * n`; builtin by builtin in
`Theorems/C12Inverse.lean`), with the length facts of multi-slot comparison patterns.  The two
`…_statement`s of `Theorems/C12.lean` about them are discharged here (`…_holds`).
-/
import NoulithModel.Theorems.C12
import NoulithModel.Theorems.C12Inverse

namespace Noulith.C12

/-- **the arrangement in declarative form** (`specArrange_iff_Arranged_statement`): the executable
arrangement is exactly the relation `Arranged` of `Spec/Match.lean` — equal length except around
one splat, trailing defaults fill. -/
theorem specArrange_iff_Arranged (ps : List Pat) (items arr : List Val) :
    specArrange ps items = some arr ↔ Arranged ps items arr := by
  constructor
  · intro h
    rcases first_splat ps with hns | ⟨pre, s, rest, rfl, hs, h1⟩
    · rw [specArrange_flat ps items hns] at h
      obtain ⟨ds, hm, h⟩ := Option.bind_eq_some_iff.mp h
      split at h
      · next hl =>
        cases h
        exact Or.inl ⟨hns, ds, (mapM_defaultOf_iff _ ds).mp hm, rfl, hl⟩
      · cases h
    · rcases first_splat rest with h2 | ⟨mid, s', post, rfl, hs', h2⟩
      · rw [specArrange_one pre rest s items hs h1 h2] at h
        obtain ⟨ds, hm, h⟩ := Option.bind_eq_some_iff.mp h
        obtain ⟨a, mid, c, hF, ha, hc, harr⟩ := (cutAt_iff _ _ _ _).mp h
        exact Or.inr ⟨pre, s, rest, a, mid, c, ds, rfl, hs, h1, h2, (mapM_defaultOf_iff _ ds).mp hm,
          hF, ha, hc, harr⟩
      · rw [specArrange_many pre mid post s s' items hs hs' h1 h2] at h
        cases h
  · rintro (⟨hns, ds, hd, rfl, hl⟩ | ⟨pre, s, post, a, mid, c, ds, rfl, hs, h1, h2, hd, hF, ha, hc, harr⟩)
    · rw [specArrange_flat ps items hns, (mapM_defaultOf_iff _ ds).mpr hd]
      exact if_pos hl
    · rw [specArrange_one pre post s items hs h1 h2, (mapM_defaultOf_iff _ ds).mpr hd]
      exact (cutAt_iff _ _ _ _).mpr ⟨a, mid, c, hF, ha, hc, harr⟩

theorem specArrange_iff_Arranged_holds : specArrange_iff_Arranged_statement :=
  specArrange_iff_Arranged

/-! ### A multi-slot comparison takes exactly as many items as it has slots

`ComparisonOperator::destructure` hands the items of the value to the open slots in order; it raises
"ran out of ok rvalues" when an open slot finds no item and "too many rvalues" when an item is left
over.  `fillSlots` is that loop; these are its two length facts. -/

theorem fillSlots_length_exact : ∀ (known : List (Option Val)) (rvs parts : List Val),
    fillSlots known rvs = some parts →
      rvs.length = (known.filter Option.isNone).length ∧ parts.length = known.length
  | [], [], parts, h => by simp [fillSlots] at h; subst h; simp
  | [], _ :: _, parts, h => by simp [fillSlots] at h
  | some x :: lhs, rvs, parts, h => by
      simp only [fillSlots, Option.map_eq_some_iff] at h
      obtain ⟨ps, hps, rfl⟩ := h
      have := fillSlots_length_exact lhs rvs ps hps
      simp [this.1, this.2]
  | none :: _, [], parts, h => by simp [fillSlots] at h
  | none :: lhs, r :: rvs, parts, h => by
      simp only [fillSlots, Option.map_eq_some_iff] at h
      obtain ⟨ps, hps, rfl⟩ := h
      have := fillSlots_length_exact lhs rvs ps hps
      simp [this.1, this.2]

theorem fillSlots_wrong_length (known : List (Option Val)) (rvs : List Val)
    (h : rvs.length ≠ (known.filter Option.isNone).length) : fillSlots known rvs = none := by
  cases hf : fillSlots known rvs with
  | none => rfl
  | some parts => exact absurd (fillSlots_length_exact known rvs parts hf).1 h

theorem fillSlots_surplus (known : List (Option Val)) (rvs : List Val)
    (h : (known.filter Option.isNone).length < rvs.length) : fillSlots known rvs = none :=
  fillSlots_wrong_length known rvs (Nat.ne_of_gt h)

theorem fillSlots_short (known : List (Option Val)) (rvs : List Val)
    (h : rvs.length < (known.filter Option.isNone).length) : fillSlots known rvs = none :=
  fillSlots_wrong_length known rvs (Nat.ne_of_lt h)

/-- **`comparison_destructure_length_exact`**: when `ComparisonOperator::destructure` accepts a value
for a pattern with several open slots, the value is a sequence whose number of items EQUALS the
number of open slots (neither fewer nor more), and every operand position receives a value.  (With one
open slot the whole value goes to that slot and is not unpacked.) -/
theorem comparison_destructure_length_exact (ops : List CmpOp) (known : List (Option Val)) (v : Val)
    (parts : List Val) (h : destructure (.cmp ops) v known = .ok parts)
    (hs : (known.filter Option.isNone).length ≠ 1) :
    ∃ rvs, seqItems v = some rvs ∧ rvs.length = (known.filter Option.isNone).length ∧
      parts.length = known.length := by
  obtain ⟨_, rvs, hr, hf, _⟩ := (cmp_iff_Inverts ops known v parts).mp h
  rw [if_neg hs] at hr
  have := fillSlots_length_exact known rvs parts hf
  exact ⟨rvs, hr.2, this.1, this.2⟩

/-- Contrapositive, as the interpreter reports it: a sequence that is too long (or too short) for a
multi-slot comparison pattern is never accepted. -/
theorem comparison_destructure_wrong_length (ops : List CmpOp) (known : List (Option Val)) (v : Val)
    (rvs : List Val) (hv : seqItems v = some rvs)
    (hs : (known.filter Option.isNone).length ≠ 1)
    (hne : rvs.length ≠ (known.filter Option.isNone).length) (parts : List Val) :
    destructure (.cmp ops) v known ≠ .ok parts := by
  intro h
  obtain ⟨rvs', hv', hl, _⟩ := comparison_destructure_length_exact ops known v parts h hs
  rw [hv] at hv'; cases hv'; exact hne hl

/-- `a < b := [1, 2, 3]` raises; `a < b < c := [1, 2, 3]` binds all three. -/
example : (destructure (.cmp [.lt]) (.list [.int 1, .int 2, .int 3]) [none, none]) matches .throw := by
  decide +kernel
example : (destructure (.cmp [.lt, .lt]) (.list [.int 1, .int 2, .int 3]) [none, none, none])
    matches .ok [.int 1, .int 2, .int 3] := by decide +kernel
example : (destructure (.cmp [.lt, .lt]) (.list [.int 1, .int 9, .int 10]) [none, some (.int 5), none])
    matches .throw := by decide +kernel
/-- the same through `assign`: declaring `a < b := [1, 2, 3]` raises and binds nothing -/
example : (assign [[]] (.destr (.cmp [.lt]) [.ident 0 [], .ident 1 []]) (some .any)
    (.list [.int 1, .int 2, .int 3])).2 matches .throw := by decide +kernel

/-- **`destructure_iff_Inverts`**: every destructuring builtin computes exactly the inverse image
`Inverts` of its constructor — sound and complete, for every value and every literal/open-slot
layout (numbers are exact; float operands are outside the model and refused on both sides). -/
theorem destructure_iff_Inverts (f : Bi) (known : List (Option Val)) (v : Val) (parts : List Val) :
    destructure f v known = .ok parts ↔ Inverts f known v parts := by
  cases f with
  | plus => exact plus_iff_Inverts known v parts
  | minus => exact minus_iff_Inverts known v parts
  | times => exact times_iff_Inverts known v parts
  | divide => exact divide_iff_Inverts known v parts
  | append => exact append_iff_Inverts known v parts
  | prepend => exact prepend_iff_Inverts known v parts
  | cmp ops => exact cmp_iff_Inverts ops known v parts
  | other t => rw [other_refuses]; exact ⟨nofun, False.elim⟩

theorem destructure_iff_Inverts_holds : destructure_iff_Inverts_statement :=
  fun f known v parts _ => destructure_iff_Inverts f known v parts

end Noulith.C12
