/-
C06 (number theory part) — `is_prime` and `factorize` are correct for ALL integers.

Theorems about `NInt.lazyIsPrime` (transcribes `lazy_is_prime`, src/nint.rs) and
`NInt.lazyFactorize` (transcribes `lazy_factorize`, src/nnum.rs) of NoulithModel/Impl/NInt.lean.
No size bound: the statements quantify over every `Int`.

Trusted base: `BigInt::sqrt` is modelled as `Nat.sqrt` (only its specification
`sqrt n * sqrt n ≤ n < (sqrt n + 1) * (sqrt n + 1)` is used); the loops are modelled with fuel
(`n.toNat`, `a` resp. `|x|`), and the theorems below show that this fuel never runs out, i.e. the
fuel-indexed functions compute what the unbounded Rust `loop`s compute.

The primality specification `IsPrimeSpec` is stated in core Lean only; `isPrimeSpec_iff_natPrime`
connects it to Mathlib's `Nat.Prime`.
-/
import NoulithModel.Impl.NInt
import Mathlib.Data.Nat.Prime.Basic

namespace Noulith.C06Prime
open Noulith Noulith.NInt

/-! ## specification -/

/-- `n` is a prime number: at least 2 and no divisor strictly between 1 and `n` -/
def IsPrimeSpec (n : Int) : Prop :=
  2 ≤ n ∧ ∀ d : Nat, 2 ≤ d → d < n.toNat → ¬ d ∣ n.toNat

/-- `n` has no divisor `d` with `2 ≤ d < f` (the loop invariant of both algorithms) -/
def NoDivBelow (n f : Nat) : Prop := ∀ d : Nat, 2 ≤ d → d < f → ¬ d ∣ n

theorem isPrimeSpec_natCast (m : Nat) : IsPrimeSpec (m : Int) ↔ 2 ≤ m ∧ NoDivBelow m m := by
  unfold IsPrimeSpec NoDivBelow
  simp only [Int.toNat_natCast]
  constructor
  · rintro ⟨h, h'⟩; exact ⟨by omega, h'⟩
  · rintro ⟨h, h'⟩; exact ⟨by omega, h'⟩

theorem isPrimeSpec_iff_natPrime (n : Int) : IsPrimeSpec n ↔ Nat.Prime n.toNat ∧ 2 ≤ n := by
  unfold IsPrimeSpec
  rw [Nat.prime_def_lt]
  constructor
  · rintro ⟨h2, h⟩
    refine ⟨⟨by omega, fun m hm hdvd => ?_⟩, h2⟩
    by_cases h1 : 2 ≤ m
    · exact absurd hdvd (h m h1 hm)
    · have : m ≠ 0 := by
        rintro rfl
        have := Nat.eq_zero_of_zero_dvd hdvd
        omega
      omega
  · rintro ⟨⟨_, h⟩, h2⟩
    refine ⟨h2, fun d hd hlt hdvd => ?_⟩
    have := h d hlt hdvd
    omega

/-! ## the `NoDivBelow` invariant -/

theorem NoDivBelow.mono {n f g : Nat} (h : NoDivBelow n g) (hfg : f ≤ g) : NoDivBelow n f :=
  fun d h2 hd => h d h2 (by omega)

theorem NoDivBelow.of_dvd {n m f : Nat} (h : NoDivBelow n f) (hm : m ∣ n) : NoDivBelow m f :=
  fun d h2 hd hdm => h d h2 hd (Nat.dvd_trans hdm hm)

theorem NoDivBelow.step {n f : Nat} (h : NoDivBelow n f) (hf : ¬ f ∣ n) : NoDivBelow n (f + 1) := by
  intro d h2 hd hdvd
  by_cases hdf : d = f
  · subst hdf; exact hf hdvd
  · exact h d h2 (by omega) hdvd

theorem NoDivBelow.not_even {n f d : Nat} (h : NoDivBelow n f) (hf : 2 < f) (hd : d % 2 = 0) :
    ¬ d ∣ n := fun hdvd =>
  h 2 (by omega) hf (Nat.dvd_trans (Nat.dvd_of_mod_eq_zero hd) hdvd)

theorem NoDivBelow.not_mul3 {n f d : Nat} (h : NoDivBelow n f) (hf : 3 < f) (hd : d % 3 = 0) :
    ¬ d ∣ n := fun hdvd =>
  h 3 (by omega) hf (Nat.dvd_trans (Nat.dvd_of_mod_eq_zero hd) hdvd)

theorem NoDivBelow.two (n : Nat) : NoDivBelow n 2 := fun _ h2 hd => absurd hd (Nat.not_lt.2 h2)

theorem NoDivBelow.one (f : Nat) : NoDivBelow 1 f :=
  fun _ h2 _ hd => absurd (Nat.le_of_dvd Nat.one_pos hd) (Nat.not_le.2 h2)

/-- the candidates below the first wheel position -/
theorem NoDivBelow.five {n : Nat} (h2 : ¬ 2 ∣ n) (h3 : ¬ 3 ∣ n) : NoDivBelow n 5 :=
  have n4 := ((NoDivBelow.two n).step h2).step h3
  n4.step (n4.not_even (by decide) rfl)

theorem NoDivBelow.upto3 {m : Nat} (h : m ≤ 3) : NoDivBelow m m := by
  by_cases h2 : m ≤ 2
  · exact (NoDivBelow.two m).mono h2
  · obtain rfl : m = 3 := Nat.le_antisymm h (Nat.lt_of_not_le h2)
    exact (NoDivBelow.two 3).step (by decide)

theorem add_mod_of_mod {f m r d : Nat} (h : f % m = r) (hd : d ∣ m) (k : Nat) :
    (f + k) % d = (r + k) % d := by
  rw [Nat.add_mod, ← Nat.mod_mod_of_dvd f hd, h, ← Nat.add_mod]

/-- the wheel: once `f ≡ 5 (mod 6)` has been tried, `f + 1` is even and need not be -/
theorem NoDivBelow.skip5 {n f : Nat} (h : NoDivBelow n (f + 1)) (hf6 : f % 6 = 5) :
    NoDivBelow n (f + 2) :=
  have h2 : 2 < f := Nat.lt_of_lt_of_le (by decide) (hf6 ▸ Nat.mod_le f 6)
  h.step (h.not_even (Nat.lt_add_right 1 h2) (add_mod_of_mod hf6 ⟨3, rfl⟩ 1))

/-- once `f ≡ 1 (mod 6)`, `f ≥ 7`, has been tried, `f + 1, f + 2, f + 3` are multiples of 2 or 3 -/
theorem NoDivBelow.skip1 {n f : Nat} (h : NoDivBelow n (f + 1)) (hf6 : f % 6 = 1) (h7 : 3 < f) :
    NoDivBelow n (f + 4) := by
  have h2 : 2 < f := Nat.lt_of_succ_lt h7
  have n2 := h.step (h.not_even (Nat.lt_add_right 1 h2) (add_mod_of_mod hf6 ⟨3, rfl⟩ 1))
  have n3 := n2.step (n2.not_mul3 (Nat.lt_add_right 2 h7) (add_mod_of_mod hf6 ⟨2, rfl⟩ 2))
  exact n3.step (n3.not_even (Nat.lt_add_right 3 h2) (add_mod_of_mod hf6 ⟨3, rfl⟩ 3))

theorem NoDivBelow.of_sq_gt {n f : Nat} (h : NoDivBelow n f) (hff : n < f * f) :
    NoDivBelow n n := by
  intro d h2 hd hdvd
  by_cases hds : d < f
  · exact h d h2 hds hdvd
  · obtain ⟨k, rfl⟩ := hdvd
    have hk2 : 1 < k := Nat.lt_of_mul_lt_mul_left (a := d) (by rwa [Nat.mul_one])
    have hks : ¬ k < f := fun hlt => h k hk2 hlt (Nat.dvd_mul_left k d)
    exact Nat.not_lt.2 (Nat.mul_le_mul (Nat.le_of_not_lt hds) (Nat.le_of_not_lt hks)) hff

theorem NoDivBelow.of_sqrt {n : Nat} (h : NoDivBelow n (Nat.sqrt n + 1)) : NoDivBelow n n :=
  h.of_sq_gt (Nat.lt_succ_sqrt n)

/-! ## `lazy_is_prime` -/

/-- one candidate `f` of the trial division: past `s` the answer is yes, a divisor says no, and
otherwise the invariant moves past `f` -/
theorem tryCandidate {n s f : Nat} {rest : Bool} (hf : 2 ≤ f) (hnd : NoDivBelow n f)
    (hrest : f ≤ s → NoDivBelow n (f + 1) → (rest = true ↔ NoDivBelow n (s + 1))) :
    (if f > s then true else if n % f = 0 then false else rest) = true ↔ NoDivBelow n (s + 1) := by
  split
  · exact iff_of_true rfl (hnd.mono (by omega))
  · split
    next hdiv =>
      exact iff_of_false Bool.false_ne_true fun h => h f hf (by omega) (Nat.dvd_of_mod_eq_zero hdiv)
    next hdiv => exact hrest (by omega) (hnd.step fun hd => hdiv (Nat.mod_eq_zero_of_dvd hd))

/-- `s < f + 6 * fuel`: enough fuel to get past `s` -/
theorem isPrimeLoop_spec (n s : Nat) : ∀ fuel f, f % 6 = 5 → NoDivBelow n f → s < f + 6 * fuel →
    (isPrimeLoop n s fuel f = true ↔ NoDivBelow n (s + 1))
  | 0, f, _, hnd, hs => iff_of_true rfl (hnd.mono (by omega))
  | k + 1, f, hf, hnd, hs => by
    have h5 : 5 ≤ f := hf ▸ Nat.mod_le f 6
    unfold isPrimeLoop
    refine tryCandidate (Nat.le_trans (by decide) h5) hnd fun _ h1 => ?_
    refine tryCandidate (Nat.le_add_left 2 f) (h1.skip5 hf) fun _ h3 => ?_
    exact isPrimeLoop_spec n s k (f + 6) (add_mod_of_mod hf (Nat.dvd_refl 6) 6)
      (h3.skip1 (add_mod_of_mod hf (Nat.dvd_refl 6) 2) (Nat.lt_add_right 2 (Nat.lt_of_lt_of_le (by decide) h5)))
      (by rwa [Nat.add_right_comm, Nat.add_assoc f, ← Nat.mul_succ])

theorem tmod_natCast_eq_zero {m k : Nat} : Int.tmod (m : Int) (k : Int) = 0 ↔ k ∣ m :=
  ⟨fun h => Int.natCast_dvd_natCast.1 (Int.dvd_of_tmod_eq_zero h),
   fun h => Int.tmod_eq_zero_of_dvd (Int.natCast_dvd_natCast.2 h)⟩

theorem ite_false_eq_true {c : Prop} [Decidable c] {b : Bool} :
    (if c then false else b) = true ↔ ¬ c ∧ b = true := by
  split
  next h => exact iff_of_false Bool.false_ne_true fun h' => h'.1 h
  next h => exact (and_iff_right h).symm

/-- the `Nat` core of `lazy_is_prime` for `m ≥ 4` -/
theorem isPrime_nat (m : Nat) (h4 : 4 ≤ m) :
    ((¬ (Int.tmod m 2 = 0 ∨ Int.tmod m 3 = 0)) ∧ isPrimeLoop m (Nat.sqrt m) m 5 = true) ↔
      NoDivBelow m m := by
  have t2 : Int.tmod m 2 = 0 ↔ 2 ∣ m := tmod_natCast_eq_zero
  have t3 : Int.tmod m 3 = 0 ↔ 3 ∣ m := tmod_natCast_eq_zero
  rw [t2, t3]
  have hsq : Nat.sqrt m < m := Nat.sqrt_lt_self (Nat.lt_of_lt_of_le (by decide) h4)
  have loop (h2 : ¬ 2 ∣ m) (h3 : ¬ 3 ∣ m) :=
    isPrimeLoop_spec m (Nat.sqrt m) m 5 rfl (.five h2 h3) (by omega)
  constructor
  · rintro ⟨h23, hloop⟩
    exact ((loop (h23 ∘ .inl) (h23 ∘ .inr)).1 hloop).of_sqrt
  · intro h
    have h2 : ¬ 2 ∣ m := h 2 (Nat.le_refl 2) (Nat.lt_of_lt_of_le (by decide) h4)
    have h3 : ¬ 3 ∣ m := h 3 (by decide) (Nat.lt_of_lt_of_le (by decide) h4)
    exact ⟨fun h23 => h23.elim h2 h3, (loop h2 h3).2 (h.mono hsq)⟩

/-- **is_prime is correct** for every integer, in either representation -/
theorem is_prime_correct (x : NInt) : lazyIsPrime x = true ↔ IsPrimeSpec x.val := by
  unfold lazyIsPrime
  generalize x.val = n
  simp only []
  split
  next h1 => exact iff_of_false Bool.false_ne_true fun h => absurd (Int.le_trans h.1 h1) (by decide)
  next h1 =>
    obtain ⟨m, rfl⟩ := Int.eq_ofNat_of_zero_le (by omega : 0 ≤ n)
    have h2 : 2 ≤ m := by omega
    rw [isPrimeSpec_natCast, Int.toNat_natCast]
    split
    next h3 => exact iff_of_true rfl ⟨h2, .upto3 (Int.ofNat_le.1 h3)⟩
    next h3 =>
      have h4 : 4 ≤ m := Nat.lt_of_not_le (mt Int.ofNat_le.2 h3)
      exact ite_false_eq_true.trans ((isPrime_nat m h4).trans (and_iff_right h2).symm)

theorem is_prime_correct_mathlib (x : NInt) :
    lazyIsPrime x = true ↔ Nat.Prime x.val.toNat ∧ 2 ≤ x.val := by
  rw [is_prime_correct, isPrimeSpec_iff_natPrime]

theorem is_prime_repr_independent (a b : NInt) (h : a.val = b.val) :
    lazyIsPrime a = lazyIsPrime b := by
  unfold lazyIsPrime; rw [h]

/-! tests (non-vacuity): concrete evaluations -/
example : lazyIsPrime (small 97) = true := by decide +kernel
example : lazyIsPrime (big 97) = true := by decide +kernel
example : lazyIsPrime (small 91) = false := by decide +kernel
example : lazyIsPrime (small 25) = false := by decide +kernel
example : lazyIsPrime (small 49) = false := by decide +kernel
example : lazyIsPrime (small 2) = true := by decide +kernel
example : lazyIsPrime (small 1) = false := by decide +kernel
example : lazyIsPrime (small 0) = false := by decide +kernel
example : lazyIsPrime (small (-7)) = false := by decide +kernel
example : IsPrimeSpec 97 := (is_prime_correct (small 97)).1 (by decide +kernel)
example : ¬ IsPrimeSpec 91 := fun h => by
  have := (is_prime_correct (small 91)).2 h
  revert this; decide +kernel

/-! ## `lazy_factorize` -/

/-- the product `∏ p ^ e` of a factor list -/
def fprod : List (Int × Nat) → Int
  | [] => 1
  | pe :: l => pe.1 ^ pe.2 * fprod l

theorem fprod_append (l₁ l₂ : List (Int × Nat)) : fprod (l₁ ++ l₂) = fprod l₁ * fprod l₂ := by
  induction l₁ with
  | nil => simp [fprod]
  | cons a l ih => simp [fprod, ih, Int.mul_assoc]

theorem fprod_snoc (l : List (Int × Nat)) (p : Int) (e : Nat) :
    fprod (l ++ [(p, e)]) = fprod l * p ^ e := by
  rw [fprod_append]; simp [fprod]

theorem fprod_eq_prod (l : List (Int × Nat)) : fprod l = (l.map (fun pe => pe.1 ^ pe.2)).prod := by
  induction l with
  | nil => simp [fprod]
  | cons a l ih => simp [fprod, ih]

/-- the inner `while` loop: with fuel `≥ a` it strips the factor `f ≥ 2` completely -/
theorem stripFactor_spec (f : Nat) (hf : 2 ≤ f) : ∀ fuel a m, 1 ≤ a → a ≤ fuel →
    ∃ k, (stripFactor f fuel a m).2 = m + k ∧ (stripFactor f fuel a m).1 * f ^ k = a ∧
      1 ≤ (stripFactor f fuel a m).1 ∧ ¬ f ∣ (stripFactor f fuel a m).1 ∧
      (stripFactor f fuel a m).1 ≤ a := by
  intro fuel
  induction fuel with
  | zero => intro a m h1 h2; exact absurd (Nat.le_trans h1 h2) (by decide)
  | succ n ih =>
    intro a m h1 h2
    unfold stripFactor
    rw [if_neg (Nat.not_le.2 hf)]
    split
    next h =>
      have hdvd : f ∣ a := Nat.dvd_of_mod_eq_zero h.1
      have hlt : a / f < a := Nat.div_lt_self h1 hf
      have hpos : 1 ≤ a / f := Nat.div_pos (Nat.le_of_dvd h1 hdvd) (Nat.zero_lt_of_lt hf)
      obtain ⟨k, hk1, hk2, hk3, hk4, hk5⟩ :=
        ih (a / f) (m + 1) hpos (Nat.le_of_lt_succ (Nat.lt_of_lt_of_le hlt h2))
      refine ⟨1 + k, hk1.trans (Nat.add_assoc m 1 k), ?_, hk3, hk4, Nat.le_trans hk5 (Nat.le_of_lt hlt)⟩
      rw [Nat.pow_add, Nat.pow_one, Nat.mul_left_comm, hk2, Nat.mul_div_cancel' hdvd]
    next h =>
      exact ⟨0, rfl, Nat.mul_one a, h1, fun hdvd => h ⟨Nat.mod_eq_zero_of_dvd hdvd, Nat.ne_of_gt h1⟩,
        Nat.le_refl a⟩

/-- `factorTest` without the pattern-matching `let` -/
theorem factorTest_eq (st : FState) (f : Nat) : factorTest st f =
    if f * f > st.a then
      (true, if st.a > 1 then { st with acc := st.acc ++ [((st.a : Int), 1)] } else st)
    else
      (false, { a := (stripFactor f st.a st.a 0).1,
                acc := if (stripFactor f st.a st.a 0).2 > 0
                  then st.acc ++ [((f : Int), (stripFactor f st.a st.a 0).2)] else st.acc }) := by
  unfold factorTest; split <;> rfl

/-- what a finished factorisation of `x` satisfies -/
structure Good (x : Int) (l : List (Int × Nat)) : Prop where
  prod : fprod l = x
  sorted : l.Pairwise (fun p q => p.1 < q.1)
  prime : ∀ p ∈ l, (p = (-1, 1) ∧ x < 0) ∨ IsPrimeSpec p.1
  exp : ∀ p ∈ l, 1 ≤ p.2
  head : x < 0 → ∃ l', l = (-1, 1) :: l'

/-- the loop invariant of `lazy_factorize` before candidate `f` is tested -/
structure Inv (x : Int) (st : FState) (f : Nat) : Prop where
  apos : 1 ≤ st.a
  prod : fprod st.acc * (st.a : Int) = x
  nodiv : NoDivBelow st.a f
  sorted : st.acc.Pairwise (fun p q => p.1 < q.1)
  lt : ∀ p ∈ st.acc, p.1 < (f : Int)
  prime : ∀ p ∈ st.acc, (p = (-1, 1) ∧ x < 0) ∨ IsPrimeSpec p.1
  exp : ∀ p ∈ st.acc, 1 ≤ p.2
  head : x < 0 → ∃ l', st.acc = (-1, 1) :: l'

theorem Inv.weaken {x : Int} {st : FState} {f g : Nat} (h : Inv x st f) (hg : NoDivBelow st.a g)
    (hfg : f ≤ g) : Inv x st g :=
  { h with nodiv := hg, lt := fun p hp => Int.lt_of_lt_of_le (h.lt p hp) (Int.ofNat_le.2 hfg) }

theorem Inv.good {x : Int} {st : FState} {f : Nat} (h : Inv x st f) (ha : st.a = 1) : Good x st.acc :=
  ⟨by rw [← h.prod, ha, Int.natCast_one, Int.mul_one], h.sorted, h.prime, h.exp, h.head⟩

/-- a prime power `p ^ e`, `p` at least the current candidate, moves from the cofactor to the accumulator -/
theorem Inv.snoc {x : Int} {st : FState} {f : Nat} (h : Inv x st f) {p e a' : Nat} (hfp : f ≤ p)
    (hp : IsPrimeSpec (p : Int)) (he : 1 ≤ e) (ha' : 1 ≤ a') (hprod : a' * p ^ e = st.a)
    (hnd : NoDivBelow a' (p + 1)) :
    Inv x { a := a', acc := st.acc ++ [((p : Int), e)] } (p + 1) := by
  have snoc {P : Int × Nat → Prop} (hacc : ∀ q ∈ st.acc, P q) (hnew : P ((p : Int), e)) :
      ∀ q ∈ st.acc ++ [((p : Int), e)], P q :=
    List.forall_mem_append.2 ⟨hacc, List.forall_mem_singleton.2 hnew⟩
  refine ⟨ha', ?_, hnd, ?_, snoc (fun q hq => Int.lt_trans (h.lt q hq) (by omega)) (by simp only; omega),
    snoc h.prime (.inr hp), snoc h.exp he, fun hx => ?_⟩
  · simp only
    rw [fprod_snoc, ← h.prod, ← hprod, Int.natCast_mul, Int.natCast_pow, Int.mul_assoc,
      Int.mul_comm ((p : Int) ^ e)]
  · rw [List.pairwise_append]
    refine ⟨h.sorted, List.pairwise_singleton _ _, fun a ha b hb => ?_⟩
    rw [List.mem_singleton.1 hb]
    exact Int.lt_of_lt_of_le (h.lt a ha) (Int.ofNat_le.2 hfp)
  · obtain ⟨l', hl'⟩ := h.head hx
    exact ⟨l' ++ [((p : Int), e)], by simp only [hl']; rfl⟩

/-- one call of the closure `test` in front of the rest `K` of the computation: either the list is
finished, or `K` goes on from a state in which `f` has been stripped -/
theorem test_then {x : Int} {st : FState} {f : Nat} {K : FState → List (Int × Nat)} (h : Inv x st f)
    (hf : 2 ≤ f)
    (hK : ∀ st', Inv x st' (f + 1) → st'.a ≤ st.a → f * f ≤ st.a → Good x (K st')) :
    Good x (match factorTest st f with
      | (true, st1) => st1.acc
      | (false, st1) => K st1) := by
  rw [factorTest_eq]
  by_cases hff : f * f > st.a
  · -- `f * f > a`: the remaining cofactor is 1 or a prime
    rw [if_pos hff]
    simp only
    split
    next ha =>
      have hfa : f ≤ st.a := Nat.le_of_not_gt fun hlt => h.nodiv st.a ha hlt (Nat.dvd_refl _)
      have hp : IsPrimeSpec (st.a : Int) := (isPrimeSpec_natCast _).2 ⟨ha, h.nodiv.of_sq_gt hff⟩
      exact (h.snoc hfa hp (Nat.le_refl 1) (Nat.le_refl 1) (by rw [Nat.one_mul, Nat.pow_one]) (.one _)).good rfl
    next ha => exact h.good (Nat.le_antisymm (Nat.le_of_not_gt ha) h.apos)
  · -- `f * f ≤ a`: strip `f`; a positive multiplicity `m` makes `f` a divisor of `a`, hence a prime
    rw [if_neg hff]
    obtain ⟨k, hk1, hk2, hk3, hk4, hk5⟩ := stripFactor_spec f hf st.a st.a 0 h.apos (Nat.le_refl _)
    generalize stripFactor f st.a st.a 0 = r at *
    obtain ⟨a', m⟩ := r
    simp only at hk1 hk2 hk3 hk4 hk5 ⊢
    rw [Nat.zero_add] at hk1
    subst hk1
    have hnd' : NoDivBelow a' (f + 1) := (h.nodiv.of_dvd ⟨f ^ m, hk2.symm⟩).step hk4
    refine hK _ ?_ hk5 (Nat.le_of_not_gt hff)
    split
    next hm =>
      have hfdvd : f ∣ st.a := Nat.dvd_of_pow_dvd hm (hk2 ▸ Nat.dvd_mul_left (f ^ m) a')
      exact h.snoc (Nat.le_refl f) ((isPrimeSpec_natCast _).2 ⟨hf, h.nodiv.of_dvd hfdvd⟩) hm hk3 hk2 hnd'
    next hm =>
      obtain rfl : m = 0 := Nat.eq_zero_of_not_pos hm
      rw [Nat.pow_zero, Nat.mul_one] at hk2
      subst hk2
      exact h.weaken hnd' (Nat.le_succ f)

/-- two more candidates have been tried and `(f + 2)² ≤ a ≤ N`: the fuel goes down by one and
is not used up -/
theorem fuel_step {f n N a : Nat} (hfuel : f + 6 * (n + 1) = 5 + 6 * N)
    (ha : (f + 2) * (f + 2) ≤ a) (haN : a ≤ N) : f + 6 + 6 * n = 5 + 6 * N ∧ 1 ≤ n := by
  have := Nat.le_mul_self (f + 2)
  omega

/-- the main loop, from a candidate `f ≡ 5 (mod 6)`; `N = |x|` bounds the cofactor, and the fuel
bookkeeping `f + 6 * fuel = 5 + 6 * N` shows the fuel is never exhausted -/
theorem factorLoop_good (x : Int) (N : Nat) : ∀ fuel st f, Inv x st f → f % 6 = 5 → st.a ≤ N →
    f + 6 * fuel = 5 + 6 * N → 1 ≤ fuel → Good x (factorLoop fuel st f) := by
  intro fuel
  induction fuel with
  | zero => intro st f _ _ _ _ h; omega
  | succ n ih =>
    intro st f hinv hf6 haN hfuel _
    have h5 : 5 ≤ f := hf6 ▸ Nat.mod_le f 6
    unfold factorLoop
    refine test_then hinv (Nat.le_trans (by decide) h5) fun st1 hinv1 ha1 _ => ?_
    refine test_then (hinv1.weaken (hinv1.nodiv.skip5 hf6) (Nat.le_succ _)) (Nat.le_add_left 2 f)
      fun st2 hinv2 ha2 hff2 => ?_
    have hinv2' : Inv x st2 (f + 6) :=
      hinv2.weaken (hinv2.nodiv.skip1 (add_mod_of_mod hf6 (Nat.dvd_refl 6) 2)
        (Nat.lt_add_right 2 (Nat.lt_of_lt_of_le (by decide) h5))) (Nat.le_add_right (f + 2 + 1) 3)
    obtain ⟨hfuel', hn⟩ := fuel_step hfuel hff2 (Nat.le_trans ha1 haN)
    exact ih st2 (f + 6) hinv2' (add_mod_of_mod hf6 (Nat.dvd_refl 6) 6)
      (Nat.le_trans ha2 (Nat.le_trans ha1 haN)) hfuel' hn

theorem lazyFactorize_good (x : Int) (hx : x ≠ 0) : Good x (lazyFactorize x) := by
  unfold lazyFactorize
  rw [if_neg hx]
  simp only []
  have hpos : 1 ≤ x.natAbs := Int.natAbs_pos.2 hx
  have h0 : Inv x { a := x.natAbs, acc := if x < 0 then [(-1, 1)] else [] } 2 := by
    by_cases hneg : x < 0
    · rw [if_pos hneg]
      exact ⟨hpos, by simp only [fprod]; omega, .two _,
        List.pairwise_singleton _ _, List.forall_mem_singleton.2 (by decide),
        List.forall_mem_singleton.2 (.inl ⟨rfl, hneg⟩), List.forall_mem_singleton.2 (Nat.le_refl 1),
        fun _ => ⟨[], rfl⟩⟩
    · rw [if_neg hneg]
      exact ⟨hpos, by simp only [fprod]; omega, .two _,
        List.Pairwise.nil, nofun, nofun, nofun, fun h => absurd h hneg⟩
  refine test_then h0 (Nat.le_refl 2) fun st1 hinv1 (ha1 : st1.a ≤ x.natAbs) _ => ?_
  refine test_then hinv1 (by decide) fun st2 hinv2 ha2 _ => ?_
  have n5 := hinv2.nodiv.step (hinv2.nodiv.not_even (by decide) (rfl : (2 + 1 + 1) % 2 = 0))
  exact factorLoop_good x x.natAbs x.natAbs st2 5 (hinv2.weaken n5 (by decide)) rfl
    (Nat.le_trans ha2 ha1) rfl hpos

/-! ### the property statements -/

theorem factorize_zero : lazyFactorize 0 = [] := rfl

/-- for negatives the list starts with `(-1, 1)` (`factorize_neg_head`), which contributes the sign -/
theorem factorize_product (x : Int) (hx : x ≠ 0) : fprod (lazyFactorize x) = x :=
  (lazyFactorize_good x hx).prod

theorem factorize_product_mathlib (x : Int) (hx : x ≠ 0) :
    ((lazyFactorize x).map (fun pe => pe.1 ^ pe.2)).prod = x := by
  rw [← fprod_eq_prod]; exact factorize_product x hx

theorem factorize_sorted (x : Int) : (lazyFactorize x).Pairwise (fun p q => p.1 < q.1) := by
  by_cases hx : x = 0
  · subst hx; exact List.Pairwise.nil
  · exact (lazyFactorize_good x hx).sorted

theorem factorize_entry (x : Int) (p : Int × Nat) (hp : p ∈ lazyFactorize x) :
    (p = (-1, 1) ∧ x < 0) ∨ IsPrimeSpec p.1 := by
  by_cases hx : x = 0
  · subst hx; cases hp
  · exact (lazyFactorize_good x hx).prime p hp

theorem factorize_prime (x : Int) (p : Int × Nat) (hp : p ∈ lazyFactorize x) (h1 : p.1 ≠ -1) :
    IsPrimeSpec p.1 := by
  rcases factorize_entry x p hp with ⟨rfl, _⟩ | h
  · exact absurd rfl h1
  · exact h

theorem factorize_prime_mathlib (x : Int) (p : Int × Nat) (hp : p ∈ lazyFactorize x)
    (h1 : p.1 ≠ -1) : Nat.Prime p.1.toNat ∧ 2 ≤ p.1 :=
  (isPrimeSpec_iff_natPrime _).1 (factorize_prime x p hp h1)

theorem factorize_exp_pos (x : Int) (p : Int × Nat) (hp : p ∈ lazyFactorize x) : 1 ≤ p.2 := by
  by_cases hx : x = 0
  · subst hx; cases hp
  · exact (lazyFactorize_good x hx).exp p hp

theorem factorize_neg_head (x : Int) (hx : x < 0) : ∃ l, lazyFactorize x = (-1, 1) :: l :=
  (lazyFactorize_good x (by omega)).head hx

theorem factorize_pos_all_prime (x : Int) (hx : 0 < x) (p : Int × Nat)
    (hp : p ∈ lazyFactorize x) : IsPrimeSpec p.1 := by
  rcases factorize_entry x p hp with ⟨_, h⟩ | h
  · omega
  · exact h

/-- **factorize is correct** for every integer; a negative argument's list starts with the sign
entry `(-1, 1)` (`factorize_neg_head`), the only entry that is not a prime -/
theorem factorize_correct (x : Int) :
    (x = 0 → lazyFactorize x = []) ∧
    (x ≠ 0 → fprod (lazyFactorize x) = x) ∧
    (lazyFactorize x).Pairwise (fun p q => p.1 < q.1) ∧
    (∀ p ∈ lazyFactorize x, p.1 ≠ -1 → IsPrimeSpec p.1) ∧
    (∀ p ∈ lazyFactorize x, 1 ≤ p.2) :=
  ⟨fun h => by subst h; rfl, factorize_product x, factorize_sorted x,
   fun p hp => factorize_prime x p hp, fun p hp => factorize_exp_pos x p hp⟩

/-! tests (non-vacuity): concrete evaluations -/
example : lazyFactorize 360 = [(2, 3), (3, 2), (5, 1)] := by decide +kernel
example : lazyFactorize (-12) = [(-1, 1), (2, 2), (3, 1)] := by decide +kernel
example : lazyFactorize 1 = [] := by decide +kernel
example : lazyFactorize (-1) = [(-1, 1)] := by decide +kernel
example : lazyFactorize 97 = [(97, 1)] := by decide +kernel
example : lazyFactorize 1001 = [(7, 1), (11, 1), (13, 1)] := by decide +kernel
example : lazyFactorize 169 = [(13, 2)] := by decide +kernel
example : lazyFactorize 1849 = [(43, 2)] := by decide +kernel   -- 43 ≡ 1 (mod 6): second candidate
example : fprod (lazyFactorize 360) = 360 := factorize_product 360 (by decide)
example : fprod [(2, 3), (3, 2), (5, 1)] = 360 := by decide

end Noulith.C06Prime
