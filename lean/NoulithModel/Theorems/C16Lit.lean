/-
C16 — JSON text read as a Noulith literal (`literal_repr_json_agreement_statement` of Theorems/C16.lean,
at token level).  Ties the model of the JSON writer (Impl/JsonText.lean) to C15's model of the Noulith
lexer (Impl/Lex.lean) through C15's literal theorems, on the fragment `LitShaped`: `null`, non-negative
integers, strings of characters from U+0020 on plus `\n` `\r` `\t`, arrays and objects.

Not covered (C15 models parsing as a recogniser and evaluation for single literals only): the
evaluation of the bracket structure; negative numbers (`-5` is the operator `-` applied to `5`),
floats, `true` / `false` (identifiers in Noulith), strings with other control characters
(`\b` `\f` `\u00XX` are JSON-only spellings: a real difference between the two syntaxes,
`json_u_escape_differs`).
-/
import NoulithModel.Theorems.C15
import NoulithModel.Theorems.C16Json

namespace Noulith.C16
open Noulith Noulith.Codec Noulith.CodecSpec
open Noulith.Lex (Token lex lexStep)

def toChars (s : Str) : List Char := s.map Char.ofNat

theorem toChars_append (a b : Str) : toChars (a ++ b) = toChars a ++ toChars b := by simp [toChars]
theorem toChars_cons (c : Nat) (s : Str) : toChars (c :: s) = Char.ofNat c :: toChars s := rfl

theorem eq_toNat_of_ofNat_eq {c : Nat} (hv : c.isValidChar) {x : Char} (e : Char.ofNat c = x) : c = x.toNat := by
  rw [← e, C15.toNat_ofNat c hv]

/-! ## decimal digits: C15's and C16's positional notations are the same list -/

theorem litDigitsAux_eq (b : Nat) : ∀ (fuel n : Nat) (acc : List Nat), n < fuel →
    LitSpec.digitsAux b fuel n acc = digits b n ++ acc := by
  intro fuel
  induction fuel with
  | zero => intro n acc h; omega
  | succ fuel ih =>
    intro n acc h
    unfold LitSpec.digitsAux
    by_cases hn : n < b ∨ b < 2
    · rw [if_pos hn, digits, dif_pos (by omega)]; rfl
    · have hlt : n / b < n := Nat.div_lt_self (by omega) (by omega)
      rw [if_neg hn, ih (n / b) _ (by omega), digits_big (n := n) (by omega) (by omega)]
      simp

theorem litDigits_eq (b n : Nat) : LitSpec.digits b n = digits b n := by
  unfold LitSpec.digits
  rw [litDigitsAux_eq b (n + 1) n [] (by omega)]; simp

theorem decimal_eq (n : Nat) : LitSpec.decimal n = toChars (natRadix false 10 n) := by
  unfold LitSpec.decimal toChars
  rw [litDigits_eq 10 n, natRadix10_eq, digitText, List.map_map]
  apply List.map_congr_left
  intro d hd
  have := digits_lt (by decide : 2 ≤ 10) n d hd
  simp [LitSpec.digitChar, this]

/-! ## what may follow a value in compact JSON text -/

def LexStop (rest : List Char) : Prop := ∀ c ∈ rest.head?, c = ',' ∨ c = ']' ∨ c = '}'

theorem lexStop_nil : LexStop [] := by simp [LexStop]
theorem lexStop_comma (r : List Char) : LexStop (',' :: r) := by simp [LexStop]
theorem lexStop_rbracket (r : List Char) : LexStop (']' :: r) := by simp [LexStop]
theorem lexStop_rbrace (r : List Char) : LexStop ('}' :: r) := by simp [LexStop]

theorem intStop_of_lexStop (rest : List Char) (h : LexStop rest) : C15.IntStop .dec rest := by
  unfold C15.IntStop
  intro c hc
  rcases h c hc with rfl | rfl | rfl <;> decide

/-! ## single tokens: integers, brackets and punctuation, `null` -/

theorem lex_json_int (n : Nat) (rest : List Char) (h : LexStop rest) :
    lex (toChars (natRadix false 10 n) ++ rest) = .intLit n :: lex rest := by
  have := C15.int_literal_token .dec rfl n rest (intStop_of_lexStop rest h)
  rw [← decimal_eq]; exact this

theorem lex_lbracket (cs : List Char) : lex ('[' :: cs) = .leftBracket :: lex cs :=
  C15.lex_of_step '[' cs _ _ rfl
theorem lex_rbracket (cs : List Char) : lex (']' :: cs) = .rightBracket :: lex cs :=
  C15.lex_of_step ']' cs _ _ rfl
theorem lex_lbrace (cs : List Char) : lex ('{' :: cs) = .leftBrace :: lex cs :=
  C15.lex_of_step '{' cs _ _ rfl
theorem lex_rbrace (cs : List Char) : lex ('}' :: cs) = .rightBrace :: lex cs :=
  C15.lex_of_step '}' cs _ _ rfl
theorem lex_comma (cs : List Char) : lex (',' :: cs) = .comma :: lex cs :=
  C15.lex_of_step ',' cs _ _ rfl
theorem lex_colon (c : Char) (cs : List Char) (h : c ≠ ':') : lex (':' :: c :: cs) = .colon :: lex (c :: cs) := by
  have hstep : lexStep ':' (c :: cs) = ⟨[.colon], c :: cs, false⟩ := by
    show (match (c :: cs) with
      | ':' :: cs1 => (⟨[Token.doubleColon], cs1, false⟩ : Lex.Step)
      | _ => ⟨[.colon], c :: cs, false⟩) = _
    split
    · rename_i h2; injection h2 with h3; exact absurd h3 h
    · rfl
  have := C15.lex_of_step ':' (c :: cs) _ _ hstep
  simpa using this

theorem lex_null (rest : List Char) (h : LexStop rest) : lex ('n' :: 'u' :: 'l' :: 'l' :: rest) = .null :: lex rest := by
  suffices hstep : lexStep 'n' ('u' :: 'l' :: 'l' :: rest) = ⟨[.null], rest, false⟩ by
    have := C15.lex_of_step 'n' _ _ _ hstep
    simpa using this
  have hstop : C15.Stops Lex.isIdentCont rest := by
    intro c hc
    rcases h c hc with rfl | rfl | rfl <;> decide
  have hrun : ∀ c ∈ ['u', 'l', 'l'], Lex.isIdentCont c = true := by decide
  have e1 : ('u' :: 'l' :: 'l' :: rest).takeWhile Lex.isIdentCont = ['u', 'l', 'l'] :=
    C15.takeWhile_run Lex.isIdentCont ['u', 'l', 'l'] rest hrun hstop
  have e2 : ('u' :: 'l' :: 'l' :: rest).dropWhile Lex.isIdentCont = rest :=
    C15.dropWhile_run Lex.isIdentCont ['u', 'l', 'l'] rest hrun hstop
  show Lex.lexOther 'n' ('u' :: 'l' :: 'l' :: rest) = _
  have w : Unicode.isWhitespace 'n' = false := by decide
  have d : Lex.isDigit10 'n' = false := by decide
  have a : Unicode.isAlphabetic 'n' = true := by decide
  simp only [Lex.lexOther, w, d, a, Bool.false_eq_true, if_false, Bool.true_or, if_true, Lex.lexIdent, Lex.identSplit]
  have hse : Lex.identStopEarly 'n' ('u' :: 'l' :: 'l' :: rest) = false := by
    simp [Lex.identStopEarly]
  have hdr : ('n' = Lex.DRAGON) = False := by simp [Lex.DRAGON]
  simp only [hse, Bool.false_eq_true, if_false, hdr]
  rw [e1, e2]
  rfl

/-! ## strings -/

/-- characters whose JSON spelling is also their Noulith spelling: printable scalar values (the
writer copies them; `"` and `\` get a backslash in both syntaxes) and `\n` `\r` `\t` -/
def LitChar (c : Nat) : Prop := c = 10 ∨ c = 13 ∨ c = 9 ∨ (32 ≤ c ∧ c.isValidChar)

/-- the item of a Noulith string literal (C15's `StrItem`) that spells the character -/
def itemOf (c : Nat) : LitSpec.StrItem :=
  if c = 34 then .dquote else if c = 92 then .backslash else if c = 10 then .nl
  else if c = 13 then .cr else if c = 9 then .tab else .plain (Char.ofNat c)

/-- the five characters with a backslash spelling, and the rest -/
theorem litChar_cases {motive : Nat → Prop} (c : Nat) (h : LitChar c) (dq : motive 34) (bs : motive 92)
    (nl : motive 10) (cr : motive 13) (tab : motive 9)
    (plain : 32 ≤ c → c.isValidChar → c ≠ 34 → c ≠ 92 → itemOf c = .plain (Char.ofNat c) → motive c) : motive c := by
  by_cases h1 : c = 34
  · exact h1 ▸ dq
  by_cases h2 : c = 92
  · exact h2 ▸ bs
  rcases h with rfl | rfl | rfl | ⟨h32, hv⟩
  · exact nl
  · exact cr
  · exact tab
  · exact plain h32 hv h1 h2 (by unfold itemOf; rw [if_neg h1, if_neg h2, if_neg (by omega), if_neg (by omega),
      if_neg (by omega)])

theorem escapeChar_render (c : Nat) (h : LitChar c) : toChars (escapeChar c) = (itemOf c).render := by
  refine litChar_cases (motive := fun c => toChars (escapeChar c) = (itemOf c).render) c h rfl rfl rfl rfl rfl ?_
  intro h32 _ h1 h2 e
  unfold escapeChar
  rw [e, if_neg h1, if_neg h2, if_neg (by omega), if_neg (by omega), if_neg (by omega), if_neg (by omega),
    if_neg (by omega), if_neg (by omega)]
  rfl

theorem escapeStr_render (s : Str) (h : ∀ c ∈ s, LitChar c) :
    toChars (escapeStr s) = LitSpec.renderBody (s.map itemOf) := by
  induction s with
  | nil => rfl
  | cons c t ih =>
    simp only [escapeStr, toChars_append, List.map_cons, LitSpec.renderBody, List.flatMap_cons]
    rw [escapeChar_render c (h c (by simp))]
    have := ih (fun x hx => h x (by simp [hx]))
    simp only [LitSpec.renderBody] at this
    rw [this]

theorem itemOf_denote (c : Nat) (h : LitChar c) : (itemOf c).denote = some c := by
  refine litChar_cases (motive := fun c => (itemOf c).denote = some c) c h rfl rfl rfl rfl rfl ?_
  intro _ hv _ _ e
  rw [e, LitSpec.StrItem.denote, C15.toNat_ofNat c hv]

theorem denoteBody_items (s : Str) (h : ∀ c ∈ s, LitChar c) : LitSpec.denoteBody (s.map itemOf) = some s := by
  induction s with
  | nil => rfl
  | cons c t ih =>
    simp only [List.map_cons, LitSpec.denoteBody, itemOf_denote c (h c (by simp)),
      ih (fun x hx => h x (by simp [hx]))]

theorem itemOf_ok (c : Nat) (h : LitChar c) : C15.ItemOK '"' (itemOf c) ∧ ∀ ds, itemOf c ≠ .uni .none ds := by
  refine litChar_cases (motive := fun c => C15.ItemOK '"' (itemOf c) ∧ ∀ ds, itemOf c ≠ .uni .none ds) c h
    ⟨trivial, nofun⟩ ⟨trivial, nofun⟩ ⟨trivial, nofun⟩ ⟨trivial, nofun⟩ ⟨trivial, nofun⟩ ?_
  intro _ hv h1 h2 e
  rw [e]
  exact ⟨⟨fun e' => h1 (eq_toNat_of_ofNat_eq hv e'), fun e' => h2 (eq_toNat_of_ofNat_eq hv e')⟩, nofun⟩

theorem bodyOK_items (s : Str) (h : ∀ c ∈ s, LitChar c) : C15.BodyOK '"' (s.map itemOf) := by
  induction s with
  | nil => trivial
  | cons c t ih =>
    obtain ⟨h1, h2⟩ := itemOf_ok c (h c (by simp))
    refine ⟨h1, ih (fun x hx => h x (by simp [hx])), ?_⟩
    intro ds e; exact absurd e (h2 ds)

theorem lex_json_str (s : Str) (h : ∀ c ∈ s, LitChar c) (rest : List Char) :
    lex (toChars (writeStr s) ++ rest) = .stringLit (toChars s) :: lex rest := by
  have := C15.string_escape_exact '"' (Or.inr rfl) (s.map itemOf) (bodyOK_items s h) s (denoteBody_items s h) rest
  rw [← escapeStr_render s h] at this
  simp only [writeStr, toChars_cons, toChars_append, List.cons_append, List.append_assoc]
  exact this

/-! ## values -/

mutual
/-- the fragment: `null`, unsigned integers, strings of printable characters, arrays and objects of these -/
def LitShaped : JV → Prop
  | .null => True
  | .num (.posInt n) => n ≤ 18446744073709551615
  | .str s => ∀ c ∈ s, LitChar c
  | .arr xs => LitShapedL xs
  | .obj kvs => LitShapedKVs kvs
  | _ => False
def LitShapedL : List JV → Prop
  | [] => True
  | x :: xs => LitShaped x ∧ LitShapedL xs
def LitShapedKVs : List (Str × JV) → Prop
  | [] => True
  | (k, x) :: xs => (∀ c ∈ k, LitChar c) ∧ LitShaped x ∧ LitShapedKVs xs
end

mutual
/-- the token stream of the Noulith literal that denotes the value: the literal token of each leaf
inside the brackets, commas and colons of a list / dict literal -/
def jsonTokens : JV → List Token
  | .null => [.null]
  | .num (.posInt n) => [.intLit n]
  | .str s => [.stringLit (toChars s)]
  | .arr xs => .leftBracket :: (elemTokens xs ++ [.rightBracket])
  | .obj kvs => .leftBrace :: (memberTokens kvs ++ [.rightBrace])
  | _ => []
def elemTokens : List JV → List Token
  | [] => []
  | [x] => jsonTokens x
  | x :: y :: r => jsonTokens x ++ .comma :: elemTokens (y :: r)
def memberTokens : List (Str × JV) → List Token
  | [] => []
  | [(k, x)] => .stringLit (toChars k) :: .colon :: jsonTokens x
  | (k, x) :: y :: r => .stringLit (toChars k) :: .colon :: (jsonTokens x ++ .comma :: memberTokens (y :: r))
end

/-- a written value of the fragment does not start with `:` (so the `:` after a key is a colon,
not the start of `::`) -/
theorem writeJson_head_lit (ft : FloatText) (j : JV) (h : LitShaped j) (tail : List Char) :
    ∃ c cs, toChars (writeJson ft j) ++ tail = c :: cs ∧ c ≠ ':' := by
  cases j with
  | null => exact ⟨'n', _, rfl, by decide⟩
  | bool b => simp [LitShaped] at h
  | str s => exact ⟨'"', _, rfl, by decide⟩
  | arr xs => exact ⟨'[', _, rfl, by decide⟩
  | obj kvs => exact ⟨'{', _, rfl, by decide⟩
  | num n =>
    cases n with
    | negInt v => simp [LitShaped] at h
    | float f => simp [LitShaped] at h
    | posInt n =>
      obtain ⟨c, cs, e, hr⟩ := natRadix10_head n
      refine ⟨Char.ofNat c, toChars cs ++ tail, ?_, ?_⟩
      · simp only [writeJson, writeNum]; rw [e]; rfl
      · intro e2
        have : c = 58 := eq_toNat_of_ofNat_eq (by unfold Nat.isValidChar; omega) e2
        omega

mutual
/-- for every value of the fragment, lexing its JSON text with the Noulith lexer yields exactly the
token stream of the corresponding Noulith literal -/
theorem lex_json_text (ft : FloatText) : ∀ (j : JV), LitShaped j → ∀ rest, LexStop rest →
    lex (toChars (writeJson ft j) ++ rest) = jsonTokens j ++ lex rest
  | .null, _, rest, hs => by
    simp only [jsonTokens, List.cons_append, List.nil_append]
    exact lex_null rest hs
  | .bool _, h, _, _ => by simp [LitShaped] at h
  | .num (.negInt _), h, _, _ => by simp [LitShaped] at h
  | .num (.float _), h, _, _ => by simp [LitShaped] at h
  | .num (.posInt n), _, rest, hs => by
    simp only [jsonTokens, List.cons_append, List.nil_append, writeJson, writeNum]
    exact lex_json_int n rest hs
  | .str s, h, rest, _ => by
    simp only [jsonTokens, List.cons_append, List.nil_append, writeJson]
    exact lex_json_str s h rest
  | .arr xs, h, rest, _ => by
    have ih := lex_json_elems ft xs h rest
    simp only [writeJson, jsonTokens, toChars_cons, toChars_append, List.cons_append, List.append_assoc]
    rw [show Char.ofNat 91 = '[' from rfl, lex_lbracket]
    have e : Char.ofNat 93 :: (toChars [] ++ rest) = ']' :: rest := rfl
    rw [e, ih]
    simp
  | .obj kvs, h, rest, _ => by
    have ih := lex_json_members ft kvs h rest
    simp only [writeJson, jsonTokens, toChars_cons, toChars_append, List.cons_append, List.append_assoc]
    rw [show Char.ofNat 123 = '{' from rfl, lex_lbrace]
    have e : Char.ofNat 125 :: (toChars [] ++ rest) = '}' :: rest := rfl
    rw [e, ih]
    simp
theorem lex_json_elems (ft : FloatText) : ∀ (xs : List JV), LitShapedL xs → ∀ rest,
    lex (toChars (writeElems ft xs) ++ ']' :: rest) = elemTokens xs ++ .rightBracket :: lex rest
  | [], _, rest => by
    simp only [writeElems, elemTokens, List.nil_append]
    exact lex_rbracket rest
  | [x], h, rest => by
    simp only [writeElems, elemTokens]
    rw [lex_json_text ft x h.1 (']' :: rest) (lexStop_rbracket rest), lex_rbracket]
  | x :: y :: r, h, rest => by
    have ih := lex_json_elems ft (y :: r) h.2 rest
    simp only [writeElems, elemTokens, toChars_append, toChars_cons, List.append_assoc, List.cons_append]
    rw [show Char.ofNat 44 = ',' from rfl,
      lex_json_text ft x h.1 (',' :: (toChars (writeElems ft (y :: r)) ++ ']' :: rest)) (lexStop_comma _),
      lex_comma, ih]
theorem lex_json_members (ft : FloatText) : ∀ (kvs : List (Str × JV)), LitShapedKVs kvs → ∀ rest,
    lex (toChars (writeMembers ft kvs) ++ '}' :: rest) = memberTokens kvs ++ .rightBrace :: lex rest
  | [], _, rest => by
    simp only [writeMembers, memberTokens, List.nil_append]
    exact lex_rbrace rest
  | [(k, x)], h, rest => by
    obtain ⟨c, cs, e, hc⟩ := writeJson_head_lit ft x h.2.1 ('}' :: rest)
    simp only [writeMembers, memberTokens, toChars_append, toChars_cons, List.append_assoc, List.cons_append]
    rw [lex_json_str k h.1, show Char.ofNat 58 = ':' from rfl, e, lex_colon c cs hc, ← e,
      lex_json_text ft x h.2.1 ('}' :: rest) (lexStop_rbrace rest), lex_rbrace]
  | (k, x) :: y :: r, h, rest => by
    have ih := lex_json_members ft (y :: r) h.2.2 rest
    obtain ⟨c, cs, e, hc⟩ := writeJson_head_lit ft x h.2.1 (',' :: (toChars (writeMembers ft (y :: r)) ++ '}' :: rest))
    simp only [writeMembers, memberTokens, toChars_append, toChars_cons, List.append_assoc, List.cons_append]
    rw [lex_json_str k h.1, show Char.ofNat 58 = ':' from rfl, show Char.ofNat 44 = ',' from rfl, e,
      lex_colon c cs hc, ← e,
      lex_json_text ft x h.2.1 (',' :: (toChars (writeMembers ft (y :: r)) ++ '}' :: rest)) (lexStop_comma _),
      lex_comma, ih]
end

theorem lex_json_text_top (ft : FloatText) (j : JV) (h : LitShaped j) :
    lex (toChars (writeJson ft j)) = jsonTokens j := by
  have := lex_json_text ft j h [] lexStop_nil
  simpa [C15.lex_nil] using this

/-! ## leaves: lex + parse + evaluate (C15's `parseEvalLit`) against `json_decode` -/

/-- what a Noulith literal value is for a decoded JSON leaf -/
def litValOf : Val → Option Lex.LitVal
  | .int v => if 0 ≤ v then some (.int v.toNat (decide (v.toNat ≤ 9223372036854775807))) else none
  | .str s => some (.str (toChars s))
  | _ => none

/-- **integers**: the JSON text of a non-negative 64-bit integer, evaluated as a Noulith program,
is that integer (held as `Small`); `json_decode` of the same text is the same integer -/
theorem json_leaf_literal_int (ft : FloatText) (hft : FloatOK ft) (n : Nat) (hn : n ≤ 9223372036854775807) :
    jsonDecodeText ft (writeJson ft (.num (.posInt n))) = .ok (.int n) ∧
    Lex.parseEvalLit (toChars (writeJson ft (.num (.posInt n)))) = .ok (.int n true) ∧
    litValOf (.int n) = some (.int n true) := by
  refine ⟨?_, ?_, ?_⟩
  · have h := json_text_roundtrip ft hft (.num (.posInt n)) (by simp only [JWF, JNumOK]; omega) (by simp [jdepth])
    simp only [jsonDecodeText, h, decodeV]
    have : (n : Int) ≤ I64_MAX := by unfold I64_MAX; omega
    simp [this]
  · have h := C15.int_literal_exact .dec rfl n
    simp only [writeJson, writeNum, ← decimal_eq]
    rw [show LitSpec.renderInt .dec n = LitSpec.decimal n from rfl] at h
    rw [h]; simp [hn]
  · simp [litValOf, hn]

/-- **strings**: the JSON text of a string of printable characters, evaluated as a Noulith
program, is that string; `json_decode` of the same text is the same string -/
theorem json_leaf_literal_str (ft : FloatText) (hft : FloatOK ft) (s : Str) (hs : ∀ c ∈ s, LitChar c) :
    jsonDecodeText ft (writeJson ft (.str s)) = .ok (.str s) ∧
    Lex.parseEvalLit (toChars (writeJson ft (.str s))) = .ok (.str (toChars s)) ∧
    litValOf (.str s) = some (.str (toChars s)) := by
  refine ⟨?_, ?_, rfl⟩
  · have h := json_text_roundtrip ft hft (.str s) trivial (by simp [jdepth])
    simp only [jsonDecodeText, h, decodeV]
  · have h := C15.string_literal_exact '"' (Or.inr rfl) (s.map itemOf) (bodyOK_items s hs) s (denoteBody_items s hs)
    rw [← escapeStr_render s hs] at h
    simp only [writeJson, writeStr, toChars_cons, toChars_append]
    exact h

mutual
theorem litShaped_wf : ∀ j : JV, LitShaped j → JNums j
  | .null, _ => trivial
  | .bool _, h => by simp [LitShaped] at h
  | .num (.posInt n), h => h
  | .num (.negInt _), h => by simp [LitShaped] at h
  | .num (.float _), h => by simp [LitShaped] at h
  | .str _, _ => trivial
  | .arr xs, h => litShapedL_wf xs h
  | .obj kvs, h => litShapedKVs_wf kvs h
theorem litShapedL_wf : ∀ xs : List JV, LitShapedL xs → JNumsL xs
  | [], _ => trivial
  | x :: xs, h => ⟨litShaped_wf x h.1, litShapedL_wf xs h.2⟩
theorem litShapedKVs_wf : ∀ kvs : List (Str × JV), LitShapedKVs kvs → JNumsKVs kvs
  | [], _ => trivial
  | (_, x) :: xs, h => ⟨litShaped_wf x h.2.1, litShapedKVs_wf xs h.2.2⟩
end

/-- **literal / JSON agreement, token level**: one text, two readers.  For every value of the
fragment (sorted objects, nested less than 128 deep) serde_json's parser reads the text back as the
value, and the Noulith lexer reads the same text as the token stream of the literal that denotes
the value (`IntLit` / `StringLit` / `Null` leaves carrying the same numbers and strings, in the
same bracket structure). -/
theorem literal_json_agreement_tokens (ft : FloatText) (hft : FloatOK ft) (j : JV) (hl : LitShaped j)
    (hw : JWF j) (hd : jdepth j ≤ 127) :
    parseJson ft (writeJson ft j) = some j ∧ lex (toChars (writeJson ft j)) = jsonTokens j :=
  ⟨json_text_roundtrip ft hft j hw hd, lex_json_text_top ft j hl⟩

/-- the JSON-only spellings are a real difference: `"\u0001a"` is U+0001 `a` for JSON, but the
Noulith lexer reads `\u0001a` as the single escape U+001A (hex digits are taken greedily), so
strings with such control characters are outside the agreement -/
theorem json_u_escape_differs :
    parseStrBody [92, 117, 48, 48, 48, 49, 97, 34] = some ([1, 97], []) ∧
    Lex.lexStr '"' ['\\', 'u', '0', '0', '0', '1', 'a', '"'] = ⟨[], [Char.ofNat 26], []⟩ := by
  constructor
  · decide
  · have hok : C15.BodyOK '"' [.uni .none [⟨0, false⟩, ⟨0, false⟩, ⟨0, false⟩, ⟨1, false⟩, ⟨10, false⟩]] := by
      refine ⟨⟨by decide, by intro _; simp⟩, trivial, ?_⟩
      intro ds _ c hc
      simp [LitSpec.renderBody] at hc
      subst hc; decide
    have h := C15.lexStr_body '"' (by decide)
      [.uni .none [⟨0, false⟩, ⟨0, false⟩, ⟨0, false⟩, ⟨1, false⟩, ⟨10, false⟩]] hok [26] (by decide) []
    exact h

end Noulith.C16
