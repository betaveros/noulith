/-
C11 — the successor step lemma of `Permutations` (`perm_step_statement`).

An index vector without repetition is strictly descending or has the shape
`p ++ x :: (d1 ++ y :: d2)` — `x` the last entry with something larger behind it, `y` the last entry
behind it that is larger (`pivot_or_desc`, a fact about lists).  The scan of `Permutations::next` is
only asked to find that shape: its loop invariant holds (`scan_inv`), determines the result
(`ScanInv.unique`) and is satisfied by the two positions of `x` and `y` (`scanInv_of_decomp`).  So
the successor is `p ++ y :: reverse (d1 ++ x :: d2)` (`advance_decomposition`), which lowers the rank
in the factorial number system — the closed form of `Permutations::len` — by exactly one (`rk_step`).
Hence `PermT.stepOk`; with it `Permutations` is a `Counter` (`PermT.counter`), whence `perm_coherent`,
`perm_unfoldsB`, `perm_drop_len`, and the checker of C11Perm.lean succeeds (`permCheck_true`).
-/
import NoulithModel.Theorems.C11Perm
import NoulithModel.Theorems.C11Adapt

namespace Noulith.C11
open Noulith Noulith.Stream Noulith.StreamSpec

namespace PermT

/-! ### the closed form as a recursion over the list -/

def above (x : Nat) (l : List Nat) : Nat := (l.filter fun y => decide (y > x)).length

/-- rank from the end in the factorial number system -/
def rk : List Nat → Nat
  | [] => 0
  | x :: xs => above x xs * fact xs.length + rk xs

theorem rk_bridge (v : List Nat) : rk v = PermLex.rk v := by
  induction v with
  | nil => rfl
  | cons x xs ih =>
    simp only [rk, PermLex.rk, ih, fact_bridge]
    rfl

theorem filter_range_getD (xs : List Nat) (p : Nat → Bool) :
    ((List.range xs.length).filter fun j => p (xs.getD j 0)).length = (xs.filter p).length := by
  induction xs with
  | nil => rfl
  | cons x xs ih =>
    simp only [List.length_cons, List.range_succ_eq_map, List.filter_cons, List.filter_map,
      List.getD_cons_zero, Function.comp_def, List.getD_cons_succ]
    split <;> simpa [List.getD_eq_getElem?_getD] using ih

theorem laterLarger_cons_lt (x : Nat) (xs : List Nat) (i : Nat) (hi : i < xs.length) :
    Perm.laterLarger (x :: xs) i = Perm.laterLarger xs i := by
  unfold Perm.laterLarger
  have h1 : (x :: xs).length - i = 1 + (xs.length - i) := by
    rw [List.length_cons, Nat.succ_sub (Nat.le_of_lt hi), Nat.add_comm]
  have h2 : (x :: xs).length - 1 - i = (xs.length - 1 - i) + 1 := by
    rw [List.length_cons, Nat.add_sub_cancel, Nat.sub_right_comm, Nat.sub_add_cancel (Nat.sub_pos_of_lt hi)]
  rw [h1, h2, ← List.map_add_range', List.filter_map, List.length_map]
  congr 2
  funext j
  simp only [Function.comp, List.getD_cons_succ, Nat.add_comm 1 j]

theorem laterLarger_cons_top (x : Nat) (xs : List Nat) :
    Perm.laterLarger (x :: xs) xs.length = above x xs := by
  unfold Perm.laterLarger above
  have h1 : (x :: xs).length - xs.length = 1 + 0 := by simp
  have h2 : (x :: xs).length - 1 - xs.length = 0 := by simp
  rw [h1, h2, ← List.map_add_range', List.filter_map, List.length_map, ← filter_range_getD xs]
  congr 2
  · funext j
    simp only [Function.comp, List.getD_cons_zero, Nat.add_comm 1 j, List.getD_cons_succ]
  · exact (List.range_eq_range' ).symm

/-- the last term of the sum is the contribution of the head -/
theorem terms_cons (x : Nat) (xs : List Nat) :
    terms (x :: xs) (List.range' 1 xs.length) =
      terms xs (List.range' 1 (xs.length - 1)) + fact xs.length * above x xs := by
  cases hn : xs.length with
  | zero =>
    rw [List.eq_nil_of_length_eq_zero hn]
    rfl
  | succ m =>
    have : List.range' 1 (m + 1) = List.range' 1 m ++ [m + 1] := by
      rw [List.range'_concat]; simp [Nat.add_comm]
    rw [this]
    simp only [terms, List.map_append, List.sum_append, List.map_cons, List.map_nil, List.sum_cons,
      List.sum_nil, Nat.add_zero, Nat.add_sub_cancel]
    have htop := laterLarger_cons_top x xs
    rw [hn] at htop
    rw [htop]
    congr 2
    apply List.map_congr_left
    intro i hi
    have : i < xs.length := by
      rw [List.mem_range'_1] at hi; omega
    rw [laterLarger_cons_lt x xs i this]

theorem lenNat_eq_rk (v : List Nat) : Perm.lenNat v = 1 + rk v := by
  induction v with
  | nil => rfl
  | cons x xs ih =>
    rw [lenNat_eq_terms] at ih ⊢
    simp only [List.length_cons, Nat.add_sub_cancel, rk]
    rw [terms_cons, Nat.mul_comm]
    omega

/-! ### rank arithmetic -/

theorem above_append (x : Nat) (a b : List Nat) : above x (a ++ b) = above x a + above x b := by
  simp [above, List.filter_append]

theorem above_perm (x : Nat) {l1 l2 : List Nat} (h : l1.Perm l2) : above x l1 = above x l2 :=
  PermLex.above_perm x h

theorem above_all_gt (x : Nat) (l : List Nat) (h : ∀ a ∈ l, a > x) : above x l = l.length :=
  PermLex.above_all_gt x l h

theorem above_none_gt (x : Nat) (l : List Nat) (h : ∀ a ∈ l, ¬ a > x) : above x l = 0 := by
  unfold above
  rw [List.length_eq_zero_iff, List.filter_eq_nil_iff]
  intro a ha
  simpa using h a ha

theorem above_mid (z w : Nat) (d1 d2 : List Nat) (h1 : ∀ a ∈ d1, a > z) (h2 : ∀ b ∈ d2, ¬ b > z) :
    above z (d1 ++ w :: d2) = d1.length + above z [w] := by
  rw [above_append, above_all_gt z d1 h1, show w :: d2 = [w] ++ d2 from rfl, above_append,
    above_none_gt z d2 h2, Nat.add_zero]

/-- the contribution of a prefix depends on the rest only up to permutation -/
theorem rk_prefix (p : List Nat) {t t' : List Nat} (h : t.Perm t') :
    ∃ c, rk (p ++ t) = c + rk t ∧ rk (p ++ t') = c + rk t' := by
  induction p with
  | nil => exact ⟨0, by simp, by simp⟩
  | cons a p ih =>
    obtain ⟨c, h1, h2⟩ := ih
    refine ⟨(above a p + above a t) * fact (p.length + t.length) + c, ?_, ?_⟩
    · simp only [List.cons_append, rk, above_append, List.length_append, h1]; omega
    · simp only [List.cons_append, rk, above_append, List.length_append, h2, above_perm a h,
        h.length_eq]; omega

theorem rk_nonasc (l : List Nat) (h : l.Pairwise (· ≥ ·)) : rk l = 0 := by
  induction l with
  | nil => rfl
  | cons x xs ih =>
    rw [List.pairwise_cons] at h
    have : above x xs = 0 := above_none_gt x xs (fun a ha => by have := h.1 a ha; omega)
    simp [rk, this, ih h.2]

theorem rk_asc (l : List Nat) (h : l.Pairwise (· < ·)) : rk l + 1 = fact l.length := by
  induction l with
  | nil => rfl
  | cons x xs ih =>
    rw [List.pairwise_cons] at h
    have : above x xs = xs.length := above_all_gt x xs (fun a ha => h.1 a ha)
    have ih' := ih h.2
    simp only [rk, this, List.length_cons, fact]
    rw [Nat.add_mul, Nat.one_mul]
    omega

theorem exchange_perm (d1 d2 : List Nat) (x y : Nat) :
    (y :: (d1 ++ x :: d2).reverse).Perm (x :: (d1 ++ y :: d2)) := by
  have h1 : (d1 ++ x :: d2).reverse.Perm (x :: (d1 ++ d2)) := (List.reverse_perm _).trans List.perm_middle
  have h2 : (d1 ++ y :: d2).Perm (y :: (d1 ++ d2)) := List.perm_middle
  exact (h1.cons y).trans ((List.Perm.swap x y _).trans (h2.cons x).symm)

/-- the heart of the step lemma: replacing `x :: (d1 ++ y :: d2)` (descending tail, `y` the
smallest entry above `x`) by `y :: reverse (d1 ++ x :: d2)` lowers the rank by one -/
theorem rk_exchange (p d1 d2 : List Nat) (x y : Nat) (hyx : y > x) (hd2 : ∀ b ∈ d2, b < x)
    (hdesc : (d1 ++ y :: d2).Pairwise (· > ·)) :
    rk (p ++ x :: (d1 ++ y :: d2)) = rk (p ++ y :: (d1 ++ x :: d2).reverse) + 1 := by
  obtain ⟨c, e1, e2⟩ := rk_prefix p (exchange_perm d1 d2 x y).symm
  rw [e1, e2]
  -- the old tail is descending (rank 0), the new one ascending (rank `|tail|! - 1`);
  -- above the old head `x` there are `|d1| + 1` entries, above the new head `y` there are `|d1|`
  have hD : rk (d1 ++ y :: d2) = 0 := rk_nonasc _ (hdesc.imp Nat.le_of_lt)
  obtain ⟨hp1, hp2, hcross⟩ := List.pairwise_append.mp hdesc
  have hd1 : ∀ a ∈ d1, a > y := fun a ha => hcross a ha y List.mem_cons_self
  have hdesc' : (d1 ++ x :: d2).Pairwise (· > ·) := by
    rw [List.pairwise_append]
    refine ⟨hp1, List.pairwise_cons.mpr ⟨hd2, (List.pairwise_cons.mp hp2).2⟩, ?_⟩
    intro a ha b hb
    rcases List.mem_cons.mp hb with rfl | hb
    · exact Nat.lt_trans hyx (hd1 a ha)
    · exact hcross a ha b (List.mem_cons_of_mem _ hb)
  have hm : (d1 ++ x :: d2).reverse.length = (d1 ++ y :: d2).length := by
    rw [List.length_reverse, List.length_append, List.length_append]
    rfl
  have hA : above x (d1 ++ y :: d2) = d1.length + 1 := by
    rw [above_mid x y d1 d2 (fun a ha => Nat.lt_trans hyx (hd1 a ha)) (fun b hb => Nat.lt_asymm (hd2 b hb))]
    simp [above, hyx]
  have hB : above y (d1 ++ x :: d2).reverse = d1.length := by
    rw [above_perm y (List.reverse_perm _),
      above_mid y x d1 d2 hd1 (fun b hb => Nat.lt_asymm (Nat.lt_trans (hd2 b hb) hyx))]
    simp [above, Nat.lt_asymm hyx]
  have hAsc := rk_asc _ (List.pairwise_reverse.mpr hdesc')
  simp only [rk, hA, hB, hD, hm] at hAsc ⊢
  rw [Nat.add_mul, Nat.one_mul]
  omega

theorem rk_step (p d1 d2 : List Nat) (x y : Nat)
    (hd1 : ∀ a ∈ d1, a > y) (hyx : y > x) (hd2 : ∀ b ∈ d2, b < x)
    (hdesc : (d1 ++ y :: d2).Pairwise (· > ·)) :
    rk (p ++ x :: (d1 ++ y :: d2)) = rk (p ++ y :: (d1 ++ x :: d2).reverse) + 1 :=
  rk_exchange p d1 d2 x y hyx hd2 hdesc

/-! ### what the scan of `Permutations::next` finds -/

/-- loop invariant of `for i in 0..k`: `up` is the last ascent before `k` and the last position
up to `k` holding something larger than the ascent's left entry -/
def ScanInv (v : List Nat) (k : Nat) : Option (Nat × Nat) → Prop
  | none => ∀ i, i < k → ¬ v.getD i 0 < v.getD (i + 1) 0
  | some (inc, linc) =>
    inc < k ∧ v.getD inc 0 < v.getD (inc + 1) 0 ∧
    (∀ i, inc < i → i < k → ¬ v.getD i 0 < v.getD (i + 1) 0) ∧
    inc < linc ∧ linc ≤ k ∧ v.getD linc 0 > v.getD inc 0 ∧
    (∀ j, linc < j → j ≤ k → ¬ v.getD j 0 > v.getD inc 0)

theorem scan_inv (v : List Nat) : ∀ k, ScanInv v k ((List.range k).foldl (Perm.scanStep v) none) := by
  intro k
  induction k with
  | zero => exact fun i hi => absurd hi (Nat.not_lt_zero i)
  | succ k ih =>
    rw [List.range_succ, List.foldl_append, List.foldl_cons, List.foldl_nil]
    generalize (List.range k).foldl (Perm.scanStep v) none = S at ih
    unfold Perm.scanStep
    by_cases hasc : v.getD k 0 < v.getD (k + 1) 0
    · simp only [hasc, if_true]
      exact ⟨Nat.lt_succ_self k, hasc, fun i h1 h2 => absurd h1 (Nat.not_lt.mpr (Nat.le_of_lt_succ h2)),
        Nat.lt_succ_self k, Nat.le_refl _, hasc, fun j h1 h2 => absurd h1 (Nat.not_lt.mpr h2)⟩
    · simp only [hasc, if_false]
      cases S with
      | none =>
        intro i hi
        rcases Nat.lt_succ_iff_lt_or_eq.mp hi with hik | rfl
        · exact ih i hik
        · exact hasc
      | some pr =>
        obtain ⟨inc, linc⟩ := pr
        obtain ⟨h1, h2, h3, h4, h5, h6, h7⟩ := ih
        have h3' : ∀ i, inc < i → i < k + 1 → ¬ v.getD i 0 < v.getD (i + 1) 0 := by
          intro i hi1 hi2
          rcases Nat.lt_succ_iff_lt_or_eq.mp hi2 with hik | rfl
          · exact h3 i hi1 hik
          · exact hasc
        by_cases hgt : v.getD (k + 1) 0 > v.getD inc 0
        · simp only [hgt, if_true]
          exact ⟨Nat.lt_succ_of_lt h1, h2, h3', Nat.lt_succ_of_lt h1, Nat.le_refl _, hgt,
            fun j hj1 hj2 => absurd hj1 (Nat.not_lt.mpr hj2)⟩
        · simp only [hgt, if_false]
          refine ⟨Nat.lt_succ_of_lt h1, h2, h3', h4, Nat.le_succ_of_le h5, h6, ?_⟩
          intro j hj1 hj2
          rcases Nat.le_iff_lt_or_eq.mp hj2 with hjk | rfl
          · exact h7 j hj1 (Nat.le_of_lt_succ hjk)
          · exact hgt

theorem getD_append_len (p : List Nat) (x : Nat) (r : List Nat) : (p ++ x :: r).getD p.length 0 = x := by
  simp [List.getD_eq_getElem?_getD]

theorem getD_tail (p : List Nat) (x : Nat) (t : List Nat) (i : Nat) :
    (p ++ x :: t).getD (p.length + i + 1) 0 = t.getD i 0 := by
  simp only [List.getD_eq_getElem?_getD]
  rw [List.getElem?_append_right (by omega), Nat.add_assoc, Nat.add_sub_cancel_left, List.getElem?_cons_succ]

theorem desc_getD (t : List Nat) (h : t.Pairwise (· > ·)) (i j : Nat) (hij : i < j) (hj : j < t.length) :
    t.getD i 0 > t.getD j 0 := by
  have hi : i < t.length := by omega
  simp only [List.getD_eq_getElem?_getD, List.getElem?_eq_getElem hi, List.getElem?_eq_getElem hj, Option.getD_some]
  exact List.pairwise_iff_getElem.mp h i j hi hj hij

theorem right_getD (d1 : List Nat) (y : Nat) (d2 : List Nat) (i : Nat) (hi : d1.length < i)
    (hl : i < (d1 ++ y :: d2).length) : (d1 ++ y :: d2).getD i 0 ∈ d2 := by
  obtain ⟨k, rfl⟩ := Nat.exists_eq_add_of_lt hi
  have hk : k < d2.length := by simp only [List.length_append, List.length_cons] at hl; omega
  rw [getD_tail, List.getD_eq_getElem?_getD, List.getElem?_eq_getElem hk]
  exact List.getElem_mem hk

theorem ScanInv.unique {v : List Nat} {k : Nat} {r r' : Option (Nat × Nat)} (h : ScanInv v k r)
    (g : ScanInv v k r') : r = r' := by
  cases r with
  | none =>
    cases r' with
    | none => rfl
    | some q => exact absurd g.2.1 (h q.1 g.1)
  | some q =>
    cases r' with
    | none => exact absurd h.2.1 (g q.1 h.1)
    | some q' =>
      obtain ⟨i, l⟩ := q
      obtain ⟨i', l'⟩ := q'
      obtain ⟨h1, h2, h3, _, h5, h6, h7⟩ := h
      obtain ⟨g1, g2, g3, _, g5, g6, g7⟩ := g
      -- of two ascents the later one contradicts "last"; likewise for the larger entries
      obtain rfl : i = i' := Nat.le_antisymm (Nat.le_of_not_lt fun h => h2 |> g3 i h h1)
        (Nat.le_of_not_lt fun h => g2 |> h3 i' h g1)
      obtain rfl : l = l' := Nat.le_antisymm (Nat.le_of_not_lt fun h => h6 |> g7 l h h5)
        (Nat.le_of_not_lt fun h => g6 |> h7 l' h g5)
      rfl

theorem scan_desc (v : List Nat) (h : v.Pairwise (· > ·)) : Perm.scan v = none :=
  (scan_inv v (v.length - 1)).unique (r' := none) fun i hi =>
    Nat.lt_asymm (desc_getD v h i (i + 1) (Nat.lt_succ_self i) (by omega))

theorem getD_append_len_add (p : List Nat) (x : Nat) (d1 : List Nat) (y : Nat) (d2 : List Nat) :
    (p ++ x :: (d1 ++ y :: d2)).getD (p.length + 1 + d1.length) 0 = y := by
  rw [Nat.add_right_comm, getD_tail, getD_append_len]

theorem scanInv_of_decomp (p d1 d2 : List Nat) (x y : Nat)
    (hdesc : (d1 ++ y :: d2).Pairwise (· > ·)) (hB : y > x) (hC : ∀ b ∈ d2, b < x) :
    ScanInv (p ++ x :: (d1 ++ y :: d2)) (p.length + (d1 ++ y :: d2).length)
      (some (p.length, p.length + 1 + d1.length)) := by
  have hl : (d1 ++ y :: d2).length = d1.length + (d2.length + 1) := by simp
  refine ⟨by omega, ?_, fun i h1 h2 => ?_, by omega, by omega, ?_, fun j h1 h2 => ?_⟩
  · rw [getD_append_len, getD_tail p x _ 0]
    cases d1 with
    | nil => exact hB
    | cons a d1 =>
      exact Nat.lt_trans hB ((List.pairwise_append.mp hdesc).2.2 a List.mem_cons_self y List.mem_cons_self)
  · obtain ⟨j, rfl⟩ := Nat.exists_eq_add_of_lt h1
    rw [getD_tail, Nat.add_assoc p.length j 1, getD_tail]
    exact Nat.lt_asymm (desc_getD _ hdesc j (j + 1) (Nat.lt_succ_self j) (by omega))
  · rw [getD_append_len_add, getD_append_len]
    exact hB
  · obtain ⟨j', rfl⟩ := Nat.exists_eq_add_of_lt h1
    rw [getD_append_len, show p.length + 1 + d1.length + j' + 1 = p.length + (d1.length + j' + 1) + 1 by omega,
      getD_tail]
    exact Nat.lt_asymm (hC _ (right_getD d1 y d2 _ (by omega) (by omega)))

theorem scan_of_decomp (p d1 d2 : List Nat) (x y : Nat)
    (hdesc : (d1 ++ y :: d2).Pairwise (· > ·)) (hB : y > x) (hC : ∀ b ∈ d2, b < x) :
    Perm.scan (p ++ x :: (d1 ++ y :: d2)) = some (p.length, p.length + 1 + d1.length) := by
  have inv := scan_inv (p ++ x :: (d1 ++ y :: d2)) (p.length + (d1 ++ y :: d2).length)
  rw [Perm.scan, show (p ++ x :: (d1 ++ y :: d2)).length - 1 = p.length + (d1 ++ y :: d2).length by simp]
  exact inv.unique (scanInv_of_decomp p d1 d2 x y hdesc hB hC)

theorem swap_decomp (p d1 d2 : List Nat) (x y : Nat) :
    Perm.swap (p ++ x :: (d1 ++ y :: d2)) p.length (p.length + 1 + d1.length) =
      p ++ y :: (d1 ++ x :: d2) := by
  unfold Perm.swap
  rw [getD_append_len, getD_append_len_add]
  have h1 : (p ++ x :: (d1 ++ y :: d2)).set p.length y = p ++ y :: (d1 ++ y :: d2) := by
    simp
  rw [h1]
  have e : p ++ y :: (d1 ++ y :: d2) = (p ++ y :: d1) ++ y :: d2 := by simp
  have h : p.length + 1 + d1.length = (p ++ y :: d1).length := by simp; omega
  rw [e, h]
  simp

theorem advance_decomp (p d1 d2 : List Nat) (x y : Nat)
    (hs : Perm.scan (p ++ x :: (d1 ++ y :: d2)) = some (p.length, p.length + 1 + d1.length)) :
    Perm.advance (p ++ x :: (d1 ++ y :: d2)) = some (p ++ y :: (d1 ++ x :: d2).reverse) := by
  unfold Perm.advance
  rw [hs]
  simp only [swap_decomp]
  have e : p ++ y :: (d1 ++ x :: d2) = (p ++ [y]) ++ (d1 ++ x :: d2) := by simp
  have h : p.length + 1 = (p ++ [y]).length := by simp
  rw [e, h, List.take_left, List.drop_left]
  simp

/-! ### every index vector without repetition has that shape, or is descending -/

theorem split_above (a : Nat) : ∀ w : List Nat, w.Pairwise (· > ·) → a ∉ w → (∃ b ∈ w, b > a) →
    ∃ d1 y d2, w = d1 ++ y :: d2 ∧ y > a ∧ ∀ b ∈ d2, b < a := by
  intro w
  induction w with
  | nil => exact fun _ _ ⟨_, hb, _⟩ => nomatch hb
  | cons c w ih =>
    intro hp hn hex
    by_cases h : ∃ b ∈ w, b > a
    · obtain ⟨d1, y, d2, rfl, hy, hd2⟩ := ih (List.pairwise_cons.mp hp).2 (fun hm => hn (List.mem_cons_of_mem _ hm)) h
      exact ⟨c :: d1, y, d2, rfl, hy, hd2⟩
    · refine ⟨[], c, w, rfl, ?_, fun b hb => ?_⟩
      · obtain ⟨b, hb, hgt⟩ := hex
        rcases List.mem_cons.mp hb with rfl | hb
        · exact hgt
        · exact absurd ⟨b, hb, hgt⟩ h
      · exact Nat.lt_of_le_of_ne (Nat.le_of_not_lt fun hgt => h ⟨b, hb, hgt⟩)
          fun e => hn (e ▸ List.mem_cons_of_mem _ hb)

theorem pivot_or_desc : ∀ v : List Nat, v.Nodup → v.Pairwise (· > ·) ∨
    ∃ p d1 d2 x y, v = p ++ x :: (d1 ++ y :: d2) ∧
      y > x ∧ (∀ b ∈ d2, b < x) ∧ (d1 ++ y :: d2).Pairwise (· > ·) := by
  intro v
  induction v with
  | nil => exact fun _ => .inl .nil
  | cons a w ih =>
    intro hnd
    obtain ⟨ha, hw⟩ := List.nodup_cons.mp hnd
    rcases ih hw with hd | ⟨p, d1, d2, x, y, rfl, h⟩
    · by_cases h : ∃ b ∈ w, b > a
      · obtain ⟨d1, y, d2, rfl, hy, hd2⟩ := split_above a w hd ha h
        exact .inr ⟨[], d1, d2, a, y, rfl, hy, hd2, hd⟩
      · exact .inl (List.pairwise_cons.mpr ⟨fun b hb =>
          Nat.lt_of_le_of_ne (Nat.le_of_not_lt fun hgt => h ⟨b, hb, hgt⟩) fun e => ha (e ▸ hb), hd⟩)
    · exact .inr ⟨a :: p, d1, d2, x, y, rfl, h⟩

theorem advance_decomposition (v : List Nat) (hnd : v.Nodup) :
    (v.Pairwise (· > ·) ∧ Perm.advance v = none) ∨
    ∃ p d1 d2 x y, v = p ++ x :: (d1 ++ y :: d2) ∧
      Perm.advance v = some (p ++ y :: (d1 ++ x :: d2).reverse) ∧
      y > x ∧ (∀ b ∈ d2, b < x) ∧ (d1 ++ y :: d2).Pairwise (· > ·) := by
  rcases pivot_or_desc v hnd with hd | ⟨p, d1, d2, x, y, rfl, hB, hC, hdesc⟩
  · exact .inl ⟨hd, by rw [Perm.advance, scan_desc v hd]⟩
  · exact .inr ⟨p, d1, d2, x, y, rfl,
      advance_decomp p d1 d2 x y (scan_of_decomp p d1 d2 x y hdesc hB hC), hB, hC, hdesc⟩

theorem advance_perm (v : List Nat) (hnd : v.Nodup) (v' : List Nat) (hv' : Perm.advance v = some v') :
    v'.Perm v := by
  rcases advance_decomposition v hnd with ⟨_, hn⟩ | ⟨p, d1, d2, x, y, rfl, hadv, _⟩
  · exact nomatch hn.symm.trans hv'
  · obtain rfl := Option.some.inj (hadv.symm.trans hv')
    exact (exchange_perm d1 d2 x y).append_left p

/-- the successor step lemma (`perm_step_statement`) -/
theorem stepOk (v : List Nat) (hnd : v.Nodup) : StepOk v := by
  rcases advance_decomposition v hnd with ⟨hd, hn⟩ | ⟨p, d1, d2, x, y, rfl, hadv, hB, hC, hdesc⟩
  · exact ⟨fun v' hv' => (nomatch hn.symm.trans hv'),
      fun _ => by rw [lenNat_eq_rk, rk_nonasc v (hd.imp Nat.le_of_lt)]⟩
  · refine ⟨fun v' hv' => ?_, fun h => nomatch hadv.symm.trans h⟩
    obtain rfl := Option.some.inj (hadv.symm.trans hv')
    have hperm := (exchange_perm d1 d2 x y).append_left p
    refine ⟨?_, hperm.nodup_iff.mpr hnd, hperm.length_eq⟩
    rw [lenNat_eq_rk, lenNat_eq_rk, rk_exchange p d1 d2 x y hB hC hdesc]
    omega

theorem counter {α : Type} : Counter (Perm.ops (α := α)) WF cnt where
  step s v s' hw h := by
    obtain ⟨w, hw', -, rfl⟩ := next_some h
    have hs := stepOk w (hw w hw')
    refine ⟨fun v' hv' => ((hs.1 v' hv').2.1), ?_⟩
    simp only [cnt, hw']
    cases ha : Perm.advance w with
    | none => exact hs.2 ha
    | some w' => exact (hs.1 w' ha).1
  stop s _ h := by simp only [cnt, next_none h]
  bound s _ := bound_eq s

end PermT

open PermT in
theorem permCheckFrom_true : ∀ (fuel : Nat) (v : List Nat), v.Nodup → Perm.lenNat v ≤ fuel →
    permCheckFrom fuel (some v) (Perm.lenNat v) = true := by
  intro fuel
  induction fuel with
  | zero =>
    intro v _ h
    rw [lenNat_eq_rk] at h
    omega
  | succ fuel ih =>
    intro v hnd h
    obtain ⟨hsome, hnone⟩ := stepOk v hnd
    rw [permCheckFrom, beq_self_eq_true, Bool.true_and]
    cases ha : Perm.advance v with
    | none =>
      rw [hnone ha]
      cases fuel <;> rfl
    | some v' =>
      obtain ⟨e, hnd', _⟩ := hsome v' ha
      rw [e, Nat.add_sub_cancel]
      exact ih v' hnd' (by omega)

open PermT in
theorem permCheck_true (n : Nat) : permCheck n = true := by
  have h : Perm.lenNat (List.range n) = fact n := by
    have := rk_asc (List.range n) List.pairwise_lt_range
    rw [List.length_range] at this
    rw [lenNat_eq_rk]
    omega
  unfold permCheck
  rw [← h]
  exact permCheckFrom_true _ _ List.nodup_range (Nat.le_succ _)

theorem perm_len_is_count_upto5 : ∀ n, n ≤ 5 → permCheck n = true :=
  fun n _ => permCheck_true n

theorem perm_step : perm_step_statement := fun v hnd => PermT.stepOk v hnd

/-- **len_is_count for `Permutations`**: in every reachable state (base of length ≤ 20, any drop
position) `permutations(xs)` is coherent with the list it unfolds to, whose length is the closed
form `Permutations::len` computes -/
theorem perm_coherent {α : Type} (p : Idx α) (hwf : PermT.WF p) (hn : ∀ v, p.idx = some v → v.length ≤ 20) :
    ∃ l, Coherent Perm.ops p l ∧ l.length = PermT.cnt p :=
  (PermT.counter.and (PermT.length_next_of perm_step (· ≤ 20))).coherent perm_peekNext
    (fun s hs => PermT.len_eq s hs.2) ⟨hwf, hn⟩

theorem perm_len_is_count : perm_len_is_count_statement := by
  intro base hb
  refine perm_coherent (Perm.mk base) (PermT.mk_wf base) ?_
  intro v hv
  simp only [Perm.mk, Option.some.injEq] at hv
  subst hv
  simpa using hb

/-- permutations are hereditarily finite (what `lazy_map` / `lazy_filter` / `lazy_zip` over
`permutations(xs)` need) -/
theorem perm_unfoldsB {α : Type} (p : Idx α) (hwf : PermT.WF p) : ∃ l, UnfoldsB Perm.ops p l :=
  (PermT.counter.unfoldsB hwf).imp fun _ h => h.1

/-- example: `lazy_map(permutations(xs), f)` is coherent with the mapped list of permutations, in
every reachable state -/
theorem map_perm_coherent {α γ : Type} (f : List α → γ) (p : Idx α) (hwf : PermT.WF p) :
    ∃ l : List (List α), Coherent (mapOps Perm.ops f) p (l.map f) := by
  obtain ⟨l, h⟩ := perm_unfoldsB p hwf
  exact ⟨l, map_coherent perm_peekNext f h⟩

/-- **Permutations, every derived position**: `s drop k` has `len = len s - k` -/
theorem perm_drop_len {α : Type} (p : Idx α) (hwf : PermT.WF p)
    (hn : ∀ v, p.idx = some v → v.length ≤ 20) (l : List (List α)) (h : Coherent Perm.ops p l) (k : Nat) :
    Coherent Perm.ops (dropN Perm.next k p) (l.drop k) ∧
      Perm.ops.len (dropN Perm.next k p) = .ok (some (l.length - k)) :=
  coherent_drop_of_family _
    (PermT.counter.and (PermT.length_next_of perm_step (· ≤ 20))).closed
    (fun s hs => (perm_coherent s hs.1 hs.2).imp fun _ h => h.1) ⟨hwf, hn⟩ h k

end Noulith.C11
