/-
C17 — "cutting" the store: `cut n st` empties every frame older than `n` (keeping the parent links).
Evaluation that only touches variables with a declaration in a frame `≥ n` on its scope chain commutes with
`cut n` (`frozen_code_reads_only_local_frames`, Theorems/C17Insensitive.lean); this file has the commutation
lemmas for the store operations, and (in namespace `C17Insensitive`) `cut_eq_of_agree`: stores that agree from frame
`n` on are equal after `cut n`.
-/
import NoulithModel.Theorems.C17Frames

namespace Noulith.C17Cut
open Noulith Noulith.Core Noulith.C17Frames

def cutFrame (n i : Nat) (fr : Frame) : Frame := if i < n then { fr with vars := [], tys := [] } else fr

def cutF (n : Nat) (fs : Array Frame) : Array Frame := fs.mapIdx (cutFrame n)

/-- forget the contents of every frame older than `n` -/
def cut (n : Nat) (st : State) : State := { st with frames := cutF n st.frames }

theorem cutFrame_new {n i : Nat} (h : n ≤ i) (fr : Frame) : cutFrame n i fr = fr := if_neg (Nat.not_lt.mpr h)

theorem cutF_size (n : Nat) (fs : Array Frame) : (cutF n fs).size = fs.size := Array.size_mapIdx

theorem cutF_get (n : Nat) (fs : Array Frame) (i : Nat) : (cutF n fs)[i]? = fs[i]?.map (cutFrame n i) :=
  Array.getElem?_mapIdx

theorem cutF_get_new (n : Nat) (fs : Array Frame) (i : Nat) (h : n ≤ i) : (cutF n fs)[i]? = fs[i]? := by
  rw [cutF_get]
  cases fs[i]? with
  | none => rfl
  | some fr => exact congrArg some (cutFrame_new h fr)

theorem cutF_push (n : Nat) (fs : Array Frame) (fr : Frame) (h : n ≤ fs.size) :
    cutF n (fs.push fr) = (cutF n fs).push fr :=
  Array.mapIdx_push.trans (congrArg _ (cutFrame_new h fr))

theorem cutF_set (n : Nat) (fs : Array Frame) (j : Nat) (fr : Frame) (h : n ≤ j) :
    cutF n (fs.setIfInBounds j fr) = (cutF n fs).setIfInBounds j fr :=
  Array.mapIdx_setIfInBounds.trans (congrArg _ (cutFrame_new h fr))

theorem newFrame_cut (n : Nat) (st : State) (env : Nat) (h : n ≤ st.frames.size) :
    newFrame (cut n st) env = (cut n (newFrame st env).1, (newFrame st env).2) := by
  simp only [newFrame, cut, cutF_push n st.frames _ h, cutF_size]

/-- one step of a walk up the scope chain towards a declaration of `x` in a frame `≥ n`: the frame looked at is
not cut, and if it does not declare `x` it has a parent from which the declaration is still ahead -/
theorem declAbove_step {fs : Array Frame} (hwf : WFf fs) {env n : Nat} {x : String} (hd : DeclAbove fs env n x) :
    ∃ fr, fs[env]? = some fr ∧ (cutF n fs)[env]? = some fr ∧ n ≤ env ∧
      (lookupIn fr.vars x = none → ∃ p, fr.parent = some p ∧ DeclAbove fs p n x) := by
  obtain ⟨i, fri, hc, hni, hfri, hdi⟩ := hd
  have hge : n ≤ env := Nat.le_trans hni (hc.le hwf)
  cases hc with
  | here => exact ⟨fri, hfri, cutF_get_new n fs env hge ▸ hfri, hge, fun hl => by simp [hl] at hdi⟩
  | up hfr hp hc' => exact ⟨_, hfr, cutF_get_new n fs _ hge ▸ hfr, hge, fun _ => ⟨_, hp, i, fri, hc', hni, hfri, hdi⟩⟩

theorem lookupVar_cut (n : Nat) (fs : Array Frame) (hwf : WFf fs) (x : String) :
    ∀ (fuel env : Nat), DeclAbove fs env n x → lookupVar (cutF n fs) fuel env x = lookupVar fs fuel env x := by
  intro fuel
  induction fuel with
  | zero => intro env _; rfl
  | succ k ih =>
    intro env hd
    obtain ⟨fr, hfr, hcut, _, hup⟩ := declAbove_step hwf hd
    simp only [lookupVar, hfr, hcut]
    cases hl : lookupIn fr.vars x with
    | some v => rfl
    | none => obtain ⟨p, hp, hd'⟩ := hup hl; simp only [hp]; exact ih p hd'

theorem assignVar_cut (n : Nat) (fs : Array Frame) (hwf : WFf fs) (x : String) (v : Val) :
    ∀ (fuel env : Nat), DeclAbove fs env n x →
      assignVar (cutF n fs) fuel env x v = (assignVar fs fuel env x v).map (cutF n) := by
  intro fuel
  induction fuel with
  | zero => intro env _; rfl
  | succ k ih =>
    intro env hd
    obtain ⟨fr, hfr, hcut, hge, hup⟩ := declAbove_step hwf hd
    simp only [assignVar, hfr, hcut]
    cases hl : lookupIn fr.vars x with
    | some w =>
      dsimp only
      split
      · rw [Option.map_some, cutF_set n fs env _ hge]
      · rfl
    | none => obtain ⟨p, hp, hd'⟩ := hup hl; simp only [hp]; exact ih p hd'

theorem dropVar_cut (n : Nat) (fs : Array Frame) (hwf : WFf fs) (x : String) :
    ∀ (fuel env : Nat), DeclAbove fs env n x →
      dropVar (cutF n fs) fuel env x = (dropVar fs fuel env x).map (cutF n) := by
  intro fuel
  induction fuel with
  | zero => intro env _; rfl
  | succ k ih =>
    intro env hd
    obtain ⟨fr, hfr, hcut, hge, hup⟩ := declAbove_step hwf hd
    simp only [dropVar, hfr, hcut]
    cases hl : lookupIn fr.vars x with
    | some w => rw [Option.map_some, cutF_set n fs env _ hge]
    | none => obtain ⟨p, hp, hd'⟩ := hup hl; simp only [hp]; exact ih p hd'

theorem declareVar_cut (n : Nat) (fs : Array Frame) (env : Nat) (hge : n ≤ env) (x : String) (v : Val) :
    declareVar (cutF n fs) env x v = (declareVar fs env x v).map (cutF n) := by
  unfold declareVar
  rw [cutF_get_new n fs env hge]
  cases fs[env]? with
  | none => rfl
  | some fr =>
    dsimp only
    cases lookupIn fr.vars x with
    | some w => rfl
    | none => simp only [Option.map_some, cutF_set n fs env _ hge]

theorem cut_frames (n : Nat) (st : State) : (cut n st).frames = cutF n st.frames := rfl

theorem declarePat_cut (n env : Nat) (hge : n ≤ env) : ∀ (fuel : Nat) (st : State) (p : Pat) (v : Val),
    declarePat fuel (cut n st) env p v =
      ((declarePat fuel st env p v).1, cut n (declarePat fuel st env p v).2) := by
  intro fuel st p v
  refine declarePat_comm (cut n) (fun _ => True) env (fun k st x v _ => ?_) fuel st p v (fun _ _ => trivial)
  simp only [declarePat, cut_frames, declareVar_cut n st.frames env hge x v]
  cases declareVar st.frames env x v <;> rfl

end Noulith.C17Cut

namespace Noulith.C17Insensitive
open Noulith Noulith.Core Noulith.C17Frames
open Noulith.C17Cut

theorem cut_eq_of_agree (n : Nat) (st₁ st₂ : State) (hsz : st₁.frames.size = st₂.frames.size)
    (hnew : ∀ i, n ≤ i → st₁.frames[i]? = st₂.frames[i]?)
    (hold : ∀ i fr₁ fr₂, i < n → st₁.frames[i]? = some fr₁ → st₂.frames[i]? = some fr₂ → fr₁.parent = fr₂.parent)
    (hout : st₁.out = st₂.out) (htab : st₁.frozenTab = st₂.frozenTab) : cut n st₁ = cut n st₂ := by
  have hf : cutF n st₁.frames = cutF n st₂.frames := by
    apply Array.ext_getElem?
    intro i
    rw [cutF_get, cutF_get]
    by_cases hi : n ≤ i
    · rw [hnew i hi]
    · have hlt : i < n := by omega
      cases h1 : st₁.frames[i]? with
      | none =>
        have : st₂.frames[i]? = none := by
          apply Array.getElem?_eq_none
          have := Array.getElem?_eq_none_iff.mp h1
          omega
        rw [this]
      | some fr₁ =>
        have hlt1 := getElem?_lt_size h1
        cases h2 : st₂.frames[i]? with
        | none =>
          have := Array.getElem?_eq_none_iff.mp h2
          omega
        | some fr₂ =>
          simp only [Option.map_some, cutFrame, hlt, ↓reduceIte, Option.some.injEq]
          rw [hold i fr₁ fr₂ hlt h1 h2]
  obtain ⟨f1, o1, t1⟩ := st₁
  obtain ⟨f2, o2, t2⟩ := st₂
  simp only [cut] at hf ⊢
  simp only at hout htab
  subst hout htab
  rw [hf]

end Noulith.C17Insensitive
