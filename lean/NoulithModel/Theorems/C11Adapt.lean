/-
C11 — the lazy adaptors (`lazy_map`, `lazy_filter`, `lazy_zip`) over hereditarily finite inner
streams (`UnfoldsB`) are coherent, hereditarily finite streams, in every state; re-typing the
elements (`mapOut`) keeps coherence.
-/
import NoulithModel.Theorems.C11Iter

namespace Noulith.C11
open Noulith Noulith.Stream Noulith.StreamSpec

section
variable {σ τ β γ : Type}

/-! ### lazy_map -/

/-- a type whose `next` maps the elements of `o` and whose bound is that of `o` (`MappedStream`, and
the re-typing `mapOut`) -/
theorem unfoldsB_mapNext {o : Ops σ β} (o' : Ops σ γ) (f : β → γ) (hn : o'.next = mapNext o.next f)
    (hb : o'.bound = o.bound) {s : σ} {l : List β} (h : UnfoldsB o s l) : UnfoldsB o' s (l.map f) := by
  induction h with
  | done h hb' => exact .done (by simp [hn, mapNext, h]) (by rwa [hb])
  | step h hb' _ ih => exact .step (by simp [hn, mapNext, h]) (by simpa [hb] using hb') ih

theorem peekNext_mapNext {o : Ops σ β} (o' : Ops σ γ) (f : β → γ) (hn : o'.next = mapNext o.next f)
    (hpk : o'.peek = fun s => (o.peek s).map f) (hp : PeekNext o) : PeekNext o' := by
  intro s
  simp only [hn, hpk, hp s]
  unfold mapNext
  cases o.next s <;> rfl

theorem map_unfoldsB {o : Ops σ β} (f : β → γ) {s : σ} {l : List β} (h : UnfoldsB o s l) :
    UnfoldsB (mapOps o f) s (l.map f) :=
  unfoldsB_mapNext (mapOps o f) f rfl rfl h

/-- **lazy_map of a finite stream**: coherent with the mapped list, in every state.  Under a further adaptor, which asks its inner stream
for `UnfoldsB` and `PeekNext`, pass `map_unfoldsB f h` and `peekNext_mapNext _ f rfl rfl hp : PeekNext (mapOps o f)`. -/
theorem map_coherent {o : Ops σ β} (hp : PeekNext o) (f : β → γ) {s : σ} {l : List β}
    (h : UnfoldsB o s l) : Coherent (mapOps o f) s (l.map f) :=
  (map_unfoldsB f h).coherent_plain (peekNext_mapNext (mapOps o f) f rfl rfl hp)

/-! ### lazy_filter -/

/-- with fuel for the whole rest, the loop of `FilteredStream::next` stops at the end of the inner stream,
or at the first element that passes, with the inner stream standing behind it -/
theorem filterLoop_of_unfoldsB {o : Ops σ β} (p : β → Bool) {s : σ} {l : List β} (h : UnfoldsB o s l) :
    ∀ fuel, l.length ≤ fuel →
      (l.filter p = [] ∧ filterLoop o.next p fuel s = some none) ∨
      ∃ v s' l', l.filter p = v :: l'.filter p ∧ filterLoop o.next p fuel s = some (some (v, s')) ∧
        UnfoldsB o s' l' ∧ l'.length < l.length := by
  induction h with
  | done h _ => exact fun _ _ => .inl ⟨rfl, by unfold filterLoop; rw [h]⟩
  | @step s v s' l h _ t ih =>
    intro fuel hf
    unfold filterLoop
    cases hv : p v with
    | true => exact .inr ⟨v, s', l, List.filter_cons_of_pos hv, by simp only [h, hv, if_true], t, Nat.lt_succ_self _⟩
    | false =>
      have hne : ¬ p v = true := by simp [hv]
      obtain ⟨f, rfl⟩ := Nat.exists_eq_add_one_of_ne_zero (Nat.ne_of_gt (Nat.lt_of_lt_of_le (Nat.succ_pos _) hf))
      simp only [h, hv, List.filter_cons_of_neg hne, Bool.false_eq_true, if_false]
      rcases ih f (Nat.le_of_succ_le_succ hf) with h0 | ⟨w, s'', l', e, hl, t', hlt⟩
      · exact .inl h0
      · exact .inr ⟨w, s'', l', e, hl, t', Nat.lt_succ_of_lt hlt⟩

theorem filter_unfoldsB {o : Ops σ β} (p : β → Bool) {s : σ} {l : List β} (h : UnfoldsB o s l) :
    UnfoldsB (filterOps o p) s (l.filter p) := by
  induction hn : l.length using Nat.strongRecOn generalizing s l with
  | ind n ih =>
    -- the model runs the loop with the inner bound `b` as fuel, which covers the rest
    obtain ⟨b, hb1, hb2⟩ := h.bound
    have hnext : (filterOps o p).next s = (filterLoop o.next p b s).getD none := by
      show filterNext o p s = _
      unfold filterNext
      rw [hb1]
      rfl
    rcases filterLoop_of_unfoldsB p h b hb2 with ⟨e, hl⟩ | ⟨v, s', l', e, hl, h', hlt⟩
    · rw [e]
      exact .done (by rw [hnext, hl]; rfl) ⟨b, hb1⟩
    · have hle := Nat.le_trans (List.length_filter_le p l) hb2
      rw [e] at hle ⊢
      exact .step (by rw [hnext, hl]; rfl) ⟨b, hb1, hle⟩ (ih _ (hn ▸ hlt) h' rfl)

theorem filter_peekNext (o : Ops σ β) (p : β → Bool) : PeekNext (filterOps o p) := fun _ => rfl

/-- **lazy_filter of a finite stream**: coherent with the filtered list, in every state -/
theorem filter_coherent {o : Ops σ β} (p : β → Bool) {s : σ} {l : List β}
    (h : UnfoldsB o s l) : Coherent (filterOps o p) s (l.filter p) :=
  (filter_unfoldsB p h).coherent_plain (filter_peekNext o p)

/-! ### lazy_zip -/

theorem zip_unfoldsB {a : Ops σ β} {b : Ops τ (List β)} {s1 : σ} {l1 : List β}
    (h1 : UnfoldsB a s1 l1) : ∀ {s2 : τ} {l2 : List (List β)}, UnfoldsB b s2 l2 →
    UnfoldsB (zipOps a b) (s1, s2) (List.zipWith (· :: ·) l1 l2) := by
  have hbd : ∀ {s1 s2 b1 b2}, a.bound s1 = some b1 → b.bound s2 = some b2 →
      (zipOps a b).bound (s1, s2) = some (min b1 b2) := by
    intro s1 s2 b1 b2 e1 e2
    show zipBound (a.bound s1) (b.bound s2) = _
    rw [e1, e2]
    rfl
  induction h1 with
  | @done s1 h hb =>
    intro s2 l2 h2
    obtain ⟨b1, hb1⟩ := hb
    obtain ⟨b2, hb2, _⟩ := h2.bound
    rw [List.zipWith_nil_left]
    refine .done ?_ ⟨_, hbd hb1 hb2⟩
    show zipNext a.next b.next (s1, s2) = none
    simp only [zipNext, h]
  | @step s1 v s1' l1 h hb t ih =>
    intro s2 l2 h2
    obtain ⟨b1, hb1, hb1'⟩ := hb
    cases h2 with
    | @done s2 h' hb' =>
      obtain ⟨b2, hb2⟩ := hb'
      rw [List.zipWith_nil_right]
      refine .done ?_ ⟨_, hbd hb1 hb2⟩
      show zipNext a.next b.next (s1, s2) = none
      simp only [zipNext, h, h']
    | @step s2 w s2' l2 h' hb' t' =>
      obtain ⟨b2, hb2, hb2'⟩ := hb'
      rw [List.zipWith_cons_cons]
      refine .step ?_ ⟨_, hbd hb1 hb2, ?_⟩ (ih t')
      · show zipNext a.next b.next (s1, s2) = _
        simp only [zipNext, h, h']
      · rw [List.length_cons, List.length_zipWith]
        exact Nat.le_min.mpr ⟨Nat.le_trans (Nat.succ_le_succ (Nat.min_le_left _ _)) hb1',
          Nat.le_trans (Nat.succ_le_succ (Nat.min_le_right _ _)) hb2'⟩

theorem zip_peekNext {a : Ops σ β} {b : Ops τ (List β)} (ha : PeekNext a) (hb : PeekNext b) :
    PeekNext (zipOps a b) := by
  intro s
  show (match a.peek s.1, b.peek s.2 with
    | some x, some xs => some (x :: xs)
    | _, _ => none) = (zipNext a.next b.next s).map Prod.fst
  rw [ha s.1, hb s.2]
  unfold zipNext
  cases a.next s.1 with
  | none => rfl
  | some p1 =>
    cases b.next s.2 with
    | none => rfl
    | some p2 => rfl

/-- **lazy_zip of finite streams**: coherent with the zipped list (the shorter length) -/
theorem zip_coherent {a : Ops σ β} {b : Ops τ (List β)} (ha : PeekNext a) (hb : PeekNext b)
    {s1 : σ} {s2 : τ} {l1 : List β} {l2 : List (List β)} (h1 : UnfoldsB a s1 l1)
    (h2 : UnfoldsB b s2 l2) :
    Coherent (zipOps a b) (s1, s2) (List.zipWith (· :: ·) l1 l2) :=
  (zip_unfoldsB h1 h2).coherent_plain (zip_peekNext ha hb)

theorem zipOne_unfoldsB {o : Ops σ β} {s : σ} {l : List β} (h : UnfoldsB o s l) :
    UnfoldsB (zipOne o) s (l.map fun x => [x]) := map_unfoldsB _ h

/-! ### re-typing the elements (`mapOut`) keeps every override and keeps coherence -/

theorem pyIndex_map (f : β → γ) (l : List β) (i : Int) :
    pyIndex (l.map f) i = (pyIndex l i).map f := by
  unfold pyIndex
  simp only [List.length_map, List.getElem?_map]
  split
  · rfl
  · split <;> rfl

theorem idxRes_map (f : β → γ) (l : List β) (i : Int) :
    idxRes (l.map f) i = (idxRes l i).map f := by
  unfold idxRes
  rw [pyIndex_map]
  cases pyIndex l i <;> rfl

theorem pySliceSpec_map (f : β → γ) (l : List β) (lo hi : Option Int) :
    pySliceSpec (l.map f) lo hi = (pySliceSpec l lo hi).map f := by
  rw [← pySlice_spec, ← pySlice_spec]
  simp [sliceList, List.map_take, List.map_drop]

theorem mapOut_unfolds {o : Ops σ β} (f : β → γ) {s : σ} {l : List β} (h : Unfolds o.next s l) :
    Unfolds (mapOut f o).next s (l.map f) := by
  induction h with
  | done h => exact .done (by simp [mapOut, mapNext, h])
  | step h _ ih => exact .step (by simp [mapOut, mapNext, h]) ih

theorem mapOut_coherent {o : Ops σ β} (f : β → γ) {s : σ} {l : List β} (h : Coherent o s l) :
    Coherent (mapOut f o) s (l.map f) where
  unfolds := mapOut_unfolds f h.unfolds
  bound := by rw [List.length_map]; exact h.bound
  len := by rw [List.length_map]; exact h.len
  force := by
    show (o.force s).map (List.map f) = _
    rw [h.force]
    rfl
  peek := by
    show (o.peek s).map f = _
    rw [h.peek, List.head?_map]
  index := fun i => by
    show (o.index s i).map f = _
    rw [h.index i, idxRes_map]
  slice := by
    intro lo hi
    obtain ⟨r, hr, hok⟩ := h.slice lo hi
    have hr' : (mapOut f o).slice s lo hi = (R.ok r).map _ := congrArg (R.map _) hr
    rw [pySliceSpec_map]
    cases r with
    | list l' => exact ⟨_, hr', congrArg (List.map f) hok⟩
    | strm s' => exact ⟨_, hr', mapOut_unfolds f hok⟩
  reversed := by
    show (o.reversed s).map _ = _
    rw [h.reversed, ← List.map_reverse]
    rfl

theorem mapOut_unfoldsB {o : Ops σ β} (f : β → γ) {s : σ} {l : List β} (h : UnfoldsB o s l) :
    UnfoldsB (mapOut f o) s (l.map f) :=
  unfoldsB_mapNext (mapOut f o) f rfl rfl h

theorem mapOut_peekNext {o : Ops σ β} (hp : PeekNext o) (f : β → γ) : PeekNext (mapOut f o) :=
  peekNext_mapNext (mapOut f o) f rfl rfl hp

end

end Noulith.C11
