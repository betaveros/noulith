/-
C16 — Text and byte codecs round-trip and conversions are exact.  The theorems are in the four modules imported below
(integers as text; hex, `chr`/`ord`, UTF-8, base64; JSON at value level; `rational(s)`), about Impl/Codec.lean against
Spec/CodecSpec.lean.  Every statement quantifies over ALL inputs (integers of any size and sign in both representations,
every base, every string of the number grammar, every byte list, every list of scalar values, every nested JSON-shaped
value); none is a bounded enumeration.  The JSON text layer follows in Theorems/C16Json.lean and C16Lit.lean.
Here: gzip, the remaining no-panic lemmas, the injectivity corollaries and the statements not proved at full strength.
-/
import NoulithModel.Theorems.C16Int
import NoulithModel.Theorems.C16Bytes
import NoulithModel.Theorems.C16Value
import NoulithModel.Theorems.C16Rational

namespace Noulith.C16
open Noulith Noulith.Codec Noulith.CodecSpec

/-! ## 1. gzip: only the named hypothesis -/

/-- `decompress(compress(b)) == b`, GIVEN that the gzip library is an inverse pair (`h_gzip`;
no Lean model of DEFLATE — this law is checked by correspondence only) -/
theorem gzip_roundtrip (g : Gzip) (h_gzip : ∀ b, g.decompress (g.compress b) = some b) (b : Bytes) :
    decompressB g (g.compress b) = .ok b := by
  unfold decompressB; rw [h_gzip]

/-- invalid input to `decompress` is a Noulith error (after the fix of finding F16), never a panic -/
theorem decompress_no_panic (g : Gzip) (b : Bytes) : decompressB g b ≠ .panic := by
  unfold decompressB; split <;> simp

/-! ## 2. no conversion of this property panics -/

theorem intOfStr_no_panic (s : Str) : intOfStr s ≠ .panic := by unfold intOfStr; split <;> simp
theorem rationalOfStr_no_panic (s : Str) : rationalOfStr s ≠ .panic := by unfold rationalOfStr; split <;> simp
theorem strRadix_no_panic (a r : Int) : strRadix a r ≠ .panic := by
  unfold strRadix; split
  · split <;> simp
  · simp
theorem intRadix_no_panic (s : Str) (r : Int) : intRadix s r ≠ .panic := by
  unfold intRadix; split
  · split
    · split <;> simp
    · simp
  · simp
theorem utf8DecodeB_no_panic (b : Bytes) : utf8DecodeB b ≠ .panic := by unfold utf8DecodeB; split <;> simp
theorem chr_no_panic (n : Int) : chr n ≠ .panic := by
  unfold chr; split
  · split <;> simp
  · simp
theorem ord_no_panic (s : Str) : ord s ≠ .panic := by unfold ord; split <;> simp

/-! ## 3. corollaries: no codec loses information -/

theorem showNInt_injective (a b : NInt) (h : showNInt a = showNInt b) : a.val = b.val := by
  have ha := int_str_roundtrip a
  rw [h, int_str_roundtrip b] at ha; exact (Out.ok.inj ha).symm

theorem strRadix_injective (a b r : Int) (ha : 0 ≤ a) (hb : 0 ≤ b) (hr : 2 ≤ r ∧ r ≤ 36)
    (h : strRadix a r = strRadix b r) : a = b := by
  have h1 := radix_roundtrip a r ha hr
  rw [h, radix_roundtrip b r hb hr] at h1; exact (Out.ok.inj h1).symm

theorem utf8Encode_injective (s t : Str) (hs : ∀ c ∈ s, IsScalar c) (ht : ∀ c ∈ t, IsScalar c)
    (h : utf8Encode s = utf8Encode t) : s = t :=
  Option.some.inj (((utf8Decode_iff _ s).mpr ⟨hs, rfl⟩).symm.trans ((utf8Decode_iff _ t).mpr ⟨ht, h.symm⟩))

theorem hexEncode_injective (a b : Bytes) (ha : ∀ x ∈ a, x < 256) (hb : ∀ x ∈ b, x < 256)
    (h : hexEncode a = hexEncode b) : a = b := by
  have h1 := hex_decode_encode a ha
  rw [h, hex_decode_encode b hb] at h1; exact (Out.ok.inj h1).symm

theorem b64Encode_injective (a b : Bytes) (ha : ∀ x ∈ a, x < 256) (hb : ∀ x ∈ b, x < 256)
    (h : b64Encode a = b64Encode b) : a = b := by
  have h1 := base64_decode_encode a ha
  rw [h, base64_decode_encode b hb] at h1; exact (Out.ok.inj h1).symm

/-! ## 4. statements that are not proved at full strength (`unproved` in the evidence)

Kept as `Prop`s over abstract parameters.  What is not proved of them is checked by correspondence only. -/

/-- gzip is an inverse pair: no Lean model of DEFLATE, nothing proved (`gzip_roundtrip` only restates it) -/
def gzip_inverse_statement (g : Gzip) : Prop := ∀ b : Bytes, decompressB g (g.compress b) = .ok b

/-- serde_json reads back what it writes, for everything `json_encode` can produce.  Proved for the
model of serde_json's writer and parser as `json_text_roundtrip_holds` (Theorems/C16Json.lean), for
JSON-shaped inputs nested less than 128 deep and under the float hypothesis `FloatOK` -/
def json_text_roundtrip_statement (print : JV → Str) (parse : Str → Option JV) : Prop :=
  ∀ (v : Val) (j : JV), encodeV v = .ok j → parse (print j) = some j

/-- JSON-shaped data written as a Noulith literal (or by `repr`) evaluates to what `json_decode`
gives for the same text; `evalLiteral` is the interpreter's literal evaluation (C15's subject).
Proved at token level and for leaves (Theorems/C16Lit.lean: `lex_json_text`, `json_leaf_literal_int`,
`json_leaf_literal_str`) -/
def literal_repr_json_agreement_statement (text : Val → Str) (evalLiteral : Str → Option Val)
    (jsonDecodeText : Str → Option Val) : Prop :=
  ∀ v : Val, JsonShaped v → evalLiteral (text v) = some v ∧ jsonDecodeText (text v) = some v

end Noulith.C16
