/-
C10 (continued) — the builtin accessors agree with the index / slice expression the property names;
a string's element and its width-1 slice classify every byte alike (`str_index_eq_unit_slice`).
Continues NoulithModel/Theorems/C10.lean (same namespace).
-/
import NoulithModel.Theorems.C10

namespace Noulith.C10
open Noulith Noulith.Index Noulith.PyIndex

/-! ## `accessors_agree`: first … only, take/drop n, `!!`, `!?`, `!%` are the index / slice
expression the property names -/

/-- lib.rs `linear_index_isize` is `index` with that integer (every kind, also the infinite streams) -/
theorem linear_is_index (s : Val) (k : Int) (hk : inI64 k) :
    linearIndexIsize s k = Index.index s (.int k) := by
  cases s <;> simp [linearIndexIsize, Index.index, pythonicIndex, isNum, toIsize, hk,
    weirdStringAsBytesIndex]

theorem first_is_index (s : Val) (h : isSeq s = true) :
    Index.accessor1 "first" s = Index.index s (.int 0) := by
  simp [Index.accessor1, h, linear_is_index s 0 (by decide)]
theorem second_is_index (s : Val) (h : isSeq s = true) :
    Index.accessor1 "second" s = Index.index s (.int 1) := by
  simp [Index.accessor1, h, linear_is_index s 1 (by decide)]
theorem third_is_index (s : Val) (h : isSeq s = true) :
    Index.accessor1 "third" s = Index.index s (.int 2) := by
  simp [Index.accessor1, h, linear_is_index s 2 (by decide)]
theorem last_is_index (s : Val) (h : isSeq s = true) :
    Index.accessor1 "last" s = Index.index s (.int (-1)) := by
  simp [Index.accessor1, h, linear_is_index s (-1) (by decide)]
theorem tail_is_slice (s : Val) (h : isSeq s = true) :
    Index.accessor1 "tail" s = Index.slice s (some (.int 1)) none := by
  simp [Index.accessor1, h]
theorem butlast_is_slice (s : Val) (h : isSeq s = true) :
    Index.accessor1 "butlast" s = Index.slice s none (some (.int (-1))) := by
  simp [Index.accessor1, h]
theorem take_is_slice (s n : Val) : Index.accessor2 "take" s n = Index.slice s none (some n) := rfl
theorem drop_is_slice (s n : Val) : Index.accessor2 "drop" s n = Index.slice s (some n) none := rfl
theorem bangbang_is_index (s i : Val) : Index.accessor2 "!!" s i = Index.index s i := rfl

theorem isSeq_of_finite {s : Val} (h : isFinite s = true) : isSeq s = true := by
  cases s <;> first | rfl | cases h

@[simp] theorem bound_none : bound none = .ok none := rfl
@[simp] theorem bound_one : bound (some (.int 1)) = .ok (some 1) := bound_int (by decide)
@[simp] theorem bound_negone : bound (some (.int (-1))) = .ok (some (-1)) := bound_int (by decide)

theorem validUtf8_ascii (bs : List Nat) (h : ∀ b ∈ bs, b < 128) : validUtf8 bs = true := by
  induction bs with
  | nil => rfl
  | cons b rest ih =>
    have hb : b < 128 := h b (by simp)
    unfold validUtf8
    simp [hb]
    exact ih fun x hx => h x (by simp [hx])

theorem soft_ascii (bs : List Nat) (h : ∀ b ∈ bs, b < 128) : softFromUtf8 bs = .str bs := by
  rw [softFromUtf8, validUtf8_ascii bs h, if_pos rfl]

/-- strings whose bytes are all ASCII (then bytes and chars coincide) -/
def asciiIfStr (s : Val) : Prop := ∀ bs, s = .str bs → ∀ b ∈ bs, b < 128

/-- `uncons(s) = [s[0], s[1:]]` on every finite kind (strings: ASCII) -/
theorem uncons_refines (s : Val) (hfin : isFinite s = true) (hstr : asciiIfStr s) :
    Index.uncons s = (PyIndex.index s (.int 0)).bind fun h =>
      (PyIndex.slice s (some (.int 1)) none).bind fun t => .ok (.list [h, t]) := by
  cases s with
  | list xs | vec xs | bytes xs | stream xs =>
    cases xs with
    | nil => rfl
    | cons a t =>
      simp [uncons, removeAt, PyIndex.index, asInt, items, elemOf_zero, ofOpt, PyIndex.slice,
        sliceOf_suffix]
  | str bs =>
    have hb := hstr bs rfl
    cases bs with
    | nil => rfl
    | cons a t =>
      have ha : a < 128 := hb a (List.mem_cons_self ..)
      have hl : leadLen a = 1 := if_pos ha
      have h1 := soft_ascii [a] fun x hx => List.eq_of_mem_singleton hx ▸ ha
      have ht := soft_ascii t fun x hx => hb x (List.mem_cons_of_mem _ hx)
      simp [uncons, hl, PyIndex.index, asInt, items, elemOf_zero, ofOpt, PyIndex.slice,
        sliceOf_suffix, byteItem, h1, ht]
  | _ => cases hfin

theorem popLast_eq {α} (xs : List α) :
    popLast xs = (xs.getLast?).map fun e => (xs.dropLast, e) := by
  unfold popLast; cases xs.getLast? <;> rfl

theorem lastCharLen_ascii (bs : List Nat) (h : ∀ b ∈ bs, b < 128) :
    lastCharLen bs = 1 := by
  unfold lastCharLen
  have : bs.reverse.takeWhile isCont = [] := by
    cases hr : bs.reverse with
    | nil => simp
    | cons b rest =>
      have : b ∈ bs := by rw [← List.mem_reverse, hr]; simp
      have hb := h b this
      have hc : isCont b = false := by simp [isCont]; omega
      simp [List.takeWhile, hc]
  simp [this]

/-- `unsnoc(s) = [s[:-1], s[-1]]` on every finite kind (strings: ASCII) -/
theorem unsnoc_refines (s : Val) (hfin : isFinite s = true) (hstr : asciiIfStr s) :
    Index.unsnoc s = (PyIndex.slice s none (some (.int (-1)))).bind fun t =>
      (PyIndex.index s (.int (-1))).bind fun e => .ok (.list [t, e]) := by
  cases s with
  | list xs | vec xs | stream xs | bytes xs =>
    simp only [unsnoc, popLast_eq, PyIndex.slice, PyIndex.index, asInt, items, bound_none, bound_negone,
      bind_ok, sliceOf_butlast, elemOf_last, List.getLast?_map]
    cases xs.getLast? <;> simp [ofOpt]
  | str bs =>
    have hb := hstr bs rfl
    rcases List.eq_nil_or_concat bs with rfl | ⟨L, e, rfl⟩
    · rfl
    · rw [List.concat_eq_append] at hb ⊢
      have hL := soft_ascii L fun x hx => hb x (List.mem_append_left _ hx)
      have he := soft_ascii [e] fun x hx => hb x (List.mem_append_right _ hx)
      simp [unsnoc, lastCharLen_ascii _ hb, PyIndex.slice, PyIndex.index, asInt, items,
        sliceOf_butlast, elemOf_last, ofOpt, byteItem, hL, he]
  | _ => cases hfin

/-- `only(s) = s[0]` when `len(s) = 1`, an error otherwise -/
theorem only_refines (s : Val) (hs : seqOk s) (hfin : isFinite s = true) :
    (match seqLen s with
      | some 1 => linearIndexIsize s 0
      | _ => .throw) = (match items s with
      | some xs => if xs.length = 1 then PyIndex.index s (.int 0) else .throw
      | none => .throw) := by
  obtain ⟨ys, h⟩ := Option.isSome_iff_exists.1 hfin
  have hlen : seqLen s = some ys.length := by
    cases s <;> cases h <;> first | rfl | exact congrArg some (List.length_map ..).symm
  rw [h, hlen]
  dsimp only
  by_cases h1 : ys.length = 1
  · rw [h1, if_pos rfl]; exact (linear_is_index s 0 (by decide)).trans (index_refines s _ hs hfin)
  · rw [if_neg h1]
    split
    · rename_i heq; exact absurd (Option.some.inj heq) h1
    · rfl

/-- two dispatches on the name of a one-argument accessor agree when their arms do -/
theorem accessor1_arms {β} (name : String) (d : β)
    {a1 a2 a3 a4 a5 a6 a7 a8 a9 b1 b2 b3 b4 b5 b6 b7 b8 b9 : β}
    (h1 : a1 = b1) (h2 : a2 = b2) (h3 : a3 = b3) (h4 : a4 = b4) (h5 : a5 = b5) (h6 : a6 = b6)
    (h7 : a7 = b7) (h8 : a8 = b8) (h9 : a9 = b9) :
    (match name with
      | "first" => a1
      | "second" => a2
      | "third" => a3
      | "last" => a4
      | "tail" => a5
      | "butlast" => a6
      | "uncons" => a7
      | "unsnoc" => a8
      | "only" => a9
      | _ => d)
    = (match name with
      | "first" => b1
      | "second" => b2
      | "third" => b3
      | "last" => b4
      | "tail" => b5
      | "butlast" => b6
      | "uncons" => b7
      | "unsnoc" => b8
      | "only" => b9
      | _ => d) := by
  rw [h1, h2, h3, h4, h5, h6, h7, h8, h9]

/-- **accessors_agree** (one-argument accessors): on every finite sequence — for strings: ASCII
strings, see `uncons_charwise_differs` — each of first, second, third, last, tail, butlast, uncons,
unsnoc, only equals the index / slice expression the property names for it. -/
theorem accessor1_refines (name : String) (s : Val) (hs : seqOk s) (hfin : isFinite s = true)
    (hstr : asciiIfStr s) :
    Index.accessor1 name s = PyIndex.accessor1 name s := by
  have lin : ∀ k : Int, inI64 k → linearIndexIsize s k = PyIndex.index s (.int k) := fun k hk =>
    (linear_is_index s k hk).trans (index_refines s _ hs hfin)
  unfold Index.accessor1
  rw [isSeq_of_finite hfin, Bool.not_true, if_neg Bool.false_ne_true]
  -- both sides are one match on the name: compare them arm by arm
  exact accessor1_arms name .throw (lin 0 (by decide)) (lin 1 (by decide)) (lin 2 (by decide))
    (lin (-1) (by decide)) (slice_refines s _ _ hs hfin) (slice_refines s _ _ hs hfin)
    (uncons_refines s hfin hstr) ((unsnoc_refines s hfin hstr).trans (if_pos hfin).symm)
    (only_refines s hs hfin)

/-- the recorded deviation: on a string whose first char is not ASCII, `uncons` splits off the
whole char (`String::remove(0)`) while `s[0]` / `s[1:]` are byte-based -/
theorem uncons_charwise_differs :
    Index.accessor1 "uncons" (.str [0xC3, 0xA9]) = .ok (.list [.str [0xC3, 0xA9], .str []])
    ∧ PyIndex.accessor1 "uncons" (.str [0xC3, 0xA9]) = .ok (.list [.bytes [0xC3], .bytes [0xA9]]) :=
  ⟨rfl, rfl⟩
theorem unsnoc_charwise_differs :
    Index.accessor1 "unsnoc" (.str [0x61, 0xC3, 0xA9]) = .ok (.list [.str [0x61], .str [0xC3, 0xA9]])
    ∧ PyIndex.accessor1 "unsnoc" (.str [0x61, 0xC3, 0xA9])
        = .ok (.list [.bytes [0x61, 0xC3], .bytes [0xA9]]) :=
  ⟨rfl, rfl⟩

theorem safe_eq (len : Int) (i : Val) (hl : lenOk len) :
    safeIndexInner len i = (asInt i).bind fun n => if 0 ≤ n ∧ n < len then some n else none := by
  unfold lenOk at hl
  cases i with
  | int n =>
    simp only [safeIndexInner, isNum, toUsize, asInt, Option.bind, if_true]
    by_cases hu : inUsize n
    · simp only [hu, if_true, hu.1, true_and]
    · rw [if_neg hu, if_neg fun c => hu ⟨c.1, by omega⟩]
  | num t => rfl
  | _ => rfl

/-- the generic safe read of `!?`, on the elements `ys` a kind exposes through its access `F`: it is
what the Spec's `safeAt` computes where `items` gives `ys` -/
theorem safe_pick {ys : List Val} {len : Int} {F : Int → Out Val} (A : Access ys len F) (i : Val) :
    (match safeIndexInner len i with
      | some k => F k
      | none => .ok .null) = (match some ys, asInt i with
      | some xs, some n => if 0 ≤ n ∧ n < xs.length then ofOpt xs[n.toNat]? else .ok .null
      | _, _ => .ok .null) := by
  obtain ⟨rfl, hl, hF⟩ := A
  rw [safe_eq _ i hl]
  cases asInt i with
  | none => rfl
  | some n =>
    show (match (if _ then some n else none) with
      | some k => F k
      | none => .ok .null) = if _ then _ else _
    by_cases h : 0 ≤ n ∧ n < (ys.length : Int)
    · rw [if_pos h, if_pos h]; exact hF n h.1 h.2
    · rw [if_neg h, if_neg h]

/-- **`!?`**: `s !? i` is `s[i]` for `0 ≤ i < len` and null for every other index object -/
theorem safeIndex_refines (s i : Val) (hs : seqOk s) : safeIndex s i = safeAt s i := by
  cases s with
  | list xs | vec xs => exact safe_pick (.vals hs) i
  | bytes bs => exact safe_pick (.bytes hs) i
  | str bs => exact safe_pick (.str hs) i
  | _ => rfl

theorem cyclic_eq (len : Int) (i : Val) (hl : lenOk len) :
    cyclicIndex len i = (match asInt i with
      | some n => if inI64 n ∧ len ≠ 0 then .ok (n % len) else .throw
      | none => .throw) := by
  refine (isize_arg i _).trans ?_
  cases asInt i with
  | none => rfl
  | some n =>
    show (if inI64 n then (if len = 0 then Out.throw else .ok (asUsize (n % len))) else .throw)
      = if inI64 n ∧ len ≠ 0 then .ok (n % len) else .throw
    by_cases hn : inI64 n
    · by_cases h0 : len = 0
      · rw [if_pos hn, if_pos h0, if_neg (fun c => c.2 h0)]
      · have h2 := Int.emod_lt_of_pos n (by unfold lenOk at hl; omega : 0 < len)
        rw [if_pos hn, if_neg h0, if_pos ⟨hn, h0⟩,
          asUsize_eq (Int.emod_nonneg n h0) (by unfold lenOk at hl; omega)]
    · rw [if_neg hn, if_neg (fun c => hn c.1)]

/-- the generic cyclic read of `!%`: what the Spec computes where `items` gives `ys` -/
theorem cyclic_pick {ys : List Val} {len : Int} {F : Int → Out Val} (A : Access ys len F) (i : Val) :
    (cyclicIndex len i).bind F = (match some ys, asInt i with
      | some xs, some n =>
        if inI64 n ∧ xs.length ≠ 0 then ofOpt xs[(n % (xs.length : Int)).toNat]? else .throw
      | _, _ => .throw) := by
  obtain ⟨rfl, hl, hF⟩ := A
  rw [cyclic_eq _ i hl]
  cases asInt i with
  | none => rfl
  | some n =>
    show Out.bind (if _ then _ else _) F = if _ then _ else _
    by_cases h : inI64 n ∧ (ys.length : Int) ≠ 0
    · have h0 : ys.length ≠ 0 := fun c => h.2 (by omega)
      rw [if_pos h, if_pos ⟨h.1, h0⟩, bind_ok]
      exact hF _ (Int.emod_nonneg n h.2) (Int.emod_lt_of_pos n (by omega))
    · rw [if_neg h, if_neg (fun c => h ⟨c.1, fun e => c.2 (by omega)⟩)]; rfl

/-- **`!%`**: `s !% i` is `s[i mod len]` -/
theorem cyclicIndex_refines (s i : Val) (hs : seqOk s) :
    objCyclicIndex s i = if isStrict s then
      (match items s, asInt i with
      | some xs, some n =>
        if inI64 n ∧ xs.length ≠ 0 then ofOpt xs[(n % (xs.length : Int)).toNat]? else .throw
      | _, _ => .throw) else .throw := by
  cases s with
  | list xs | vec xs => exact cyclic_pick (.vals hs) i
  | bytes bs => exact cyclic_pick (.bytes hs) i
  | str bs => exact cyclic_pick (.str hs) i
  | _ => rfl

theorem accessor2_refines_all (name : String) (s a : Val) (hs : seqOk s) :
    Index.accessor2 name s a = PyIndex.accessor2 name s a := by
  unfold Index.accessor2
  split
  · exact index_refines_all s a hs
  · exact index_refines_all s a hs
  · exact safeIndex_refines s a hs
  · exact safeIndex_refines s a hs
  · exact cyclicIndex_refines s a hs
  · exact slice_refines_all s _ _ hs
  · exact slice_refines_all s _ _ hs
  · unfold PyIndex.accessor2
    split <;> first | rfl | exact absurd rfl ‹_›

/-- **accessors_agree** (two-argument accessors) on every finite sequence kind -/
theorem accessor2_refines (name : String) (s a : Val) (hs : seqOk s) (hfin : isFinite s = true) :
    Index.accessor2 name s a = PyIndex.accessor2 name s a := accessor2_refines_all name s a hs

/-! ### strings, byte by byte -/

/-- the element of a string at one byte: a one-char string exactly for an ASCII byte (`< 0x80`),
a one-byte `bytes` value for every other byte (0x80 itself included) -/
theorem byteItem_eq (b : Nat) : byteItem b = if b < 0x80 then .str [b] else .bytes [b] := by
  unfold byteItem softFromUtf8
  by_cases h : b < 0x80
  · have : validUtf8 [b] = true := validUtf8_ascii [b] (by simp; omega)
    simp [h, this]
  · have : validUtf8 [b] = false := by
      unfold validUtf8
      simp only [h, if_false]
      split
      · rfl
      · split
        · rfl
        · split <;> rfl
    simp [h, this]

example : byteItem 0x7F = .str [0x7F] ∧ byteItem 0x80 = .bytes [0x80] ∧ byteItem 0xBF = .bytes [0xBF]
    ∧ byteItem 0xC2 = .bytes [0xC2] ∧ byteItem 0xF4 = .bytes [0xF4] := ⟨rfl, rfl, rfl, rfl, rfl⟩

/-- what `s[i]` is on a string: the byte at `pyIndex len i`, ASCII-or-not decided at `0x80` -/
theorem str_index_byte (bs : List Nat) (n k : Int) (hl : lenOk bs.length)
    (hk : pyIndex bs.length n = some k) :
    ∃ b, bs[k.toNat]? = some b ∧
      Index.index (.str bs) (.int n) = .ok (if b < 0x80 then .str [b] else .bytes [b]) := by
  have hr := pyIndex_range hk
  have hkl := pos_toNat hr.1 hr.2
  refine ⟨bs[k.toNat], List.getElem?_eq_getElem hkl, ?_⟩
  rw [index_refines (.str bs) _ hl rfl]
  simp [PyIndex.index, asInt, items, elemOf, hk, hkl, ofOpt, byteItem_eq]

/-- **string index = width-1 slice**: for every string and every index that addresses a position,
`s[i]` is `s[k:k+1]` for that position `k` (so the two code paths — `weird_string_as_bytes_index`
and `slice_seq` — must classify every byte value alike) -/
theorem str_index_eq_unit_slice (bs : List Nat) (n k : Int) (hl : lenOk bs.length)
    (hk : pyIndex bs.length n = some k) :
    Index.index (.str bs) (.int n) = Index.slice (.str bs) (some (.int k)) (some (.int (k + 1))) := by
  have hr := pyIndex_range hk
  have hl' := hl
  unfold lenOk at hl'
  have i1 : inI64 k := by unfold inI64; omega
  have i2 : inI64 (k + 1) := by unfold inI64; omega
  -- both sides are `soft_from_utf8` of the bytes `k..k+1`
  refine Eq.trans ?_ (cut_eq bs _ _ softFromUtf8 hl).symm
  rw [bound_int i1, bound_int i2, bind_ok, bind_ok, sliceOf_nonneg bs k (k + 1) hr.1 (by omega)]
  show (pythonicIndex _ (.int n)).bind (weirdStringAsBytesIndex bs) = _
  rw [pythonicIndex_eq _ _ hl, show (asInt (.int n)).bind (pyIndex bs.length) = some k from hk]
  exact congrArg (Out.map softFromUtf8) (subRange_eq bs k (k + 1) hr.1 (by omega) (by omega))

/-- … and the builtin accessors `first/second/third/last` (lib.rs `linear_index_isize`, which has
its own copy of the byte extraction) return the same element as `s[i]` -/
theorem str_linear_eq_index (bs : List Nat) (k : Int) (hk : inI64 k) :
    linearIndexIsize (.str bs) k = Index.index (.str bs) (.int k) := linear_is_index _ k hk

end Noulith.C10
