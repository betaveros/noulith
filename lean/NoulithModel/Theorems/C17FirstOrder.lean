/-
C17 — the headline theorems of the preservation proof for first-order code
(side condition `ScopeOK` and invariants: Theorems/C17Preserve.lean; induction: Theorems/C17PreserveEval.lean;
all three in the namespace `C17Preserve`).
-/
import NoulithModel.Theorems.C17PreserveEval

namespace Noulith.C17Preserve
open Noulith Noulith.Core Noulith.C17Closed Noulith.C17Frames

theorem pres_scopeOK {look : String → Option Val} (hB : HBuiltins look) {s s' : FState Val} {e e' : Expr}
    {st : State} {env : Nat} (fuel : Nat) (hf : freezeExpr look s e = .ok (e', s')) (hok : ScopeOK s.bound e)
    (hp : Pre look s.bound st env) (htab : s'.tab <+: st.frozenTab) :
    eval fuel st env e' = eval fuel st env e ∧
      ∃ S', Post look s.bound st env s'.bound S' (IsVal (eval fuel st env e).1) (eval fuel st env e).2 := by
  obtain ⟨S', hS'⟩ := Option.isSome_iff_exists.mp hok
  have h := ((pres_all (Tf := s'.tab) hB fuel).ev hf hS' (List.prefix_refl _)).sim ⟨hp, htab, fun _ h => h⟩
  exact ⟨h.eq, S', h.inv.1⟩

/-- **Semantic preservation of freeze for first-order code.**  Let `e'` be the frozen form of `e` (frozen
under the bound set `s.bound`, against the lookup function `look` in which no builtin is shadowed).  Take
ANY later moment — any state `st` with a well-formed store, any scope `env` — at which every name that
freeze treated as free still resolves to the value freeze saw (`Agree`), and whose table of frozen values
extends the one the freeze produced.  If `e` satisfies `ScopeOK`, then for every fuel the frozen code
evaluates to exactly what the original evaluates to: the same result (value, break, continue, return,
raised error or out-of-fuel) AND the same final state. -/
theorem freeze_preserves_first_order (look : String → Option Val) (hB : HBuiltins look)
    (s s' : FState Val) (e e' : Expr) (st : State) (env fuel : Nat)
    (hf : freezeExpr look s e = .ok (e', s')) (hok : ScopeOK s.bound e)
    (hwf : WF st) (henv : env < st.frames.size) (hag : Agree look s.bound st env)
    (htab : s'.tab <+: st.frozenTab) :
    eval fuel st env e' = eval fuel st env e :=
  (pres_scopeOK hB fuel hf hok ⟨hwf, henv, hag⟩ htab).1

/-- …and the invariants survive: afterwards the store is still well-formed, it only grew, and the free
names still agree — so the theorem can be applied again to whatever frozen code runs next in that scope -/
theorem freeze_preserves_first_order_invariants (look : String → Option Val) (hB : HBuiltins look)
    (s s' : FState Val) (e e' : Expr) (st : State) (env fuel : Nat)
    (hf : freezeExpr look s e = .ok (e', s')) (hok : ScopeOK s.bound e)
    (hwf : WF st) (henv : env < st.frames.size) (hag : Agree look s.bound st env)
    (htab : s'.tab <+: st.frozenTab) :
    WF (eval fuel st env e).2 ∧ Ext st (eval fuel st env e).2 ∧ Agree look s'.bound (eval fuel st env e).2 env := by
  obtain ⟨_, _, h⟩ := pres_scopeOK hB fuel hf hok ⟨hwf, henv, hag⟩ htab
  exact ⟨h.wf, h.ext, h.agree⟩

theorem hbuiltins_lookOf (st : State) (env : Nat)
    (h : ∀ f, f ∈ builtinNames → (st.lookup env f).isNone = true) : HBuiltins (lookOf st env) := by
  intro f hf
  have := h f hf
  simp only [lookOf]
  cases hl : st.lookup env f with
  | some v => simp [hl] at this
  | none =>
    have hc : builtinNames.contains f = true := by simpa using hf
    simp only [hc, ↓reduceIte]

theorem agree_lookOf (st : State) (T : List Val) (env : Nat) (b : List String) :
    Agree (lookOf st env) b { st with frozenTab := T } env := fun _ _ => rfl

/-- **the `freeze` expression itself**: evaluating `freeze e` (first-order `e`, in a scope that shadows no
builtin) is evaluating `e` — in the same store, the table of frozen values having grown by the values of
the free names of `e` -/
theorem freeze_node_preserves_first_order (st : State) (env fuel : Nat) (e : Expr)
    (hok : ScopeOK [] e) (hwf : WF st) (henv : env < st.frames.size)
    (hb : ∀ f, f ∈ builtinNames → (st.lookup env f).isNone = true)
    (hns : ¬ Stuck (lookOf st env) [] e) :
    ∃ T, st.frozenTab <+: T ∧
      eval (fuel + 1) st env (.freeze e) = eval fuel { st with frozenTab := T } env e := by
  obtain ⟨e', s', hf⟩ := (freeze_succeeds_iff (lookOf st env) { bound := [], tab := st.frozenTab } e).mpr hns
  refine ⟨s'.tab, (freezeExpr_froze hf).tab, ?_⟩
  rw [eval_freeze_unfold, hf]
  exact freeze_preserves_first_order (lookOf st env) (hbuiltins_lookOf st env hb) _ s' e e'
    { st with frozenTab := s'.tab } env fuel hf hok hwf henv (agree_lookOf st _ env _) (List.prefix_refl _)

/-! ## non-vacuity -/

section Examples

example : ScopeOK [] prog := by decide

example : ∃ T, stO.frozenTab <+: T ∧
    eval (40 + 1) stO 0 (.freeze prog) = eval 40 { stO with frozenTab := T } 0 prog :=
  freeze_node_preserves_first_order stO 0 40 prog (by decide) wf_stO (by decide) (by decide +kernel)
    (by decide +kernel)

/-- both sides of that equation really compute something: `[30, 2, 35, 1]` -/
example : (eval 41 stO 0 (.freeze prog)).1 matches .val (.list [.int 30, .int 2, .int 35, .int 1]) := by
  decide +kernel
example : (eval 40 stO 0 prog).1 matches .val (.list [.int 30, .int 2, .int 35, .int 1]) := by
  decide +kernel

/-- what `ScopeOK` excludes.  F32: a loop body assigns to a name whose declaration sits in a branch that
is not taken — at run time the assignment reaches the outer variable, after the loop freeze reads the
value captured at freeze time:
`(for (i <- [1]) ((if (0) (o := 5)); o = 7)); o` -/
example : ¬ ScopeOK [] (.seq [
    .for_ [.iter .normal (.ident "i") (.list [.int 1])]
      (.exec (.seq [.ite (.int 0) (.declare (.ident "o") (.int 5)) none, .assign "o" (.int 7)] false)),
    .ident "o"] false) := by decide
/-- the same body is fine when the declaration is sure -/
example : ScopeOK [] (.seq [
    .for_ [.iter .normal (.ident "i") (.list [.int 1])]
      (.exec (.seq [.declare (.ident "o") (.int 5), .assign "o" (.int 7)] false)),
    .ident "o"] false) := by decide
/-- F30 and its variants: a declaration in the part of a `for` header that runs in the enclosing scope -/
example : ¬ ScopeOK [] (.for_ [.iter .normal (.ident "x")
    (.list [.seq [.declare (.ident "y") (.int 5), .ident "y"] false])] (.exec (.int 0))) := by decide
example : ¬ ScopeOK [] (.for_ [.guard (.int 1)] (.exec (.declare (.ident "y") (.int 5)))) := by decide
/-- …a declaration in the iteratee of a LATER clause is fine (it lands in the previous clause's scope) -/
example : ScopeOK [] (.for_ [.iter .normal (.ident "a") (.list [.int 1]), .iter .normal (.ident "x")
    (.list [.seq [.declare (.ident "y") (.int 5), .ident "y"] false])] (.exec (.ident "y"))) := by decide

end Examples

end Noulith.C17Preserve
