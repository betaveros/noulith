/-
C10 (continued) — the state a write leaves behind, in particular a write that RAISES:
`failed_write_preserves`, `failed_modify_preserves` (a failed `x<path> = v` / `pop x<path>` /
`remove x<path>[j]` leaves the variable exactly as it was), and the agreement of the
state-returning model `setIndexS` with the outcome model `setIndex` the other theorems are about.
Continues NoulithModel/Theorems/C10Write.lean (same namespace).
-/
import NoulithModel.Theorems.C10Write

namespace Noulith.C10
open Noulith Noulith.Index Noulith.PyIndex

/-! ## `setIndexS` (state + ending) agrees with `setIndex` (outcome) -/

/-- "S says done exactly when the outcome model says ok, and then with the same value" -/
def Agrees (o : Out Val) (s : Val × WEnd) : Prop :=
  (s.2 = .done → o = .ok s.1) ∧ (s.2 ≠ .done → ∀ v, o ≠ .ok v)

/-- `Agrees` at any result type (the `every` loop returns a list); the lemmas below are about this
one, and `Agrees o s` unfolds to it -/
def AgreesAt {α} (o : Out α) (s : α × WEnd) : Prop :=
  (s.2 = .done → o = .ok s.1) ∧ (s.2 ≠ .done → ∀ v, o ≠ .ok v)

theorem agreesAt_fail {α} {o : Out α} (a : α) {e : WEnd}
    (ho : match o with
      | .ok _ => False
      | _ => True)
    (he : e ≠ .done) : AgreesAt o (a, e) :=
  ⟨fun h => absurd h he, fun _ v h => by rw [h] at ho; exact ho⟩

theorem agreesAt_bind_ok {α β} {o : Out α} {s : α × WEnd} (h : AgreesAt o s) (g : α → β) :
    AgreesAt (o.bind fun a => .ok (g a)) (g s.1, s.2) := by
  refine ⟨fun hd => by rw [h.1 hd]; rfl, fun hd v => ?_⟩
  cases ho : o with
  | ok a => exact absurd ho (h.2 hd a)
  | _ => nofun

/-- a leaf writes last: `done` with the outcome's value, or any ending `s` that is not `done` -/
theorem agrees_of_leaf (o : Out Val) (s : Val × WEnd) (he : s.2 ≠ .done) :
    AgreesAt o (match o with
      | .ok v' => (v', WEnd.done)
      | _ => s) := by
  cases o
  · exact ⟨fun _ => rfl, fun h => absurd rfl h⟩
  · exact agreesAt_fail s.1 ⟨⟩ he
  · exact agreesAt_fail s.1 ⟨⟩ he

theorem isDone_iff (e : WEnd) : e.isDone = true ↔ e = .done := by cases e <;> decide

theorem mapS_agrees (f : Val → Out Val) (g : Val → Val × WEnd) (l : List Val)
    (h : ∀ e ∈ l, AgreesAt (f e) (g e)) : AgreesAt (mapOut f l) (mapS g l) := by
  induction l with
  | nil => exact ⟨fun _ => rfl, fun h => absurd rfl h⟩
  | cons a t ih =>
    have ha := h a (List.mem_cons_self ..)
    have iht := ih fun e he => h e (List.mem_cons_of_mem _ he)
    unfold mapS mapOut
    by_cases hd : (g a).2 = .done
    · rw [if_pos ((isDone_iff _).2 hd), ha.1 hd]
      exact agreesAt_bind_ok iht fun ys => (g a).1 :: ys
    · rw [if_neg fun c => hd ((isDone_iff _).1 c)]
      refine ⟨fun c => absurd c hd, fun _ v => ?_⟩
      cases hf : f a with
      | ok y => exact absurd hf (ha.2 hd y)
      | _ => nofun

theorem setIndexS_stream (xs : List Val) (fi : Ix) (rest : List Ix) (value : Option Val) (every : Bool) :
    setIndexS (.stream xs) (fi :: rest) value every = setIndexS (.list xs) (fi :: rest) value every :=
  rfl

theorem setIndexS_list_index (xs : List Val) (i : Val) (rest : List Ix) (value : Option Val)
    (every : Bool) :
    setIndexS (.list xs) (.index i :: rest) value every =
      (match (pythonicIndex xs.length i).bind fun k => (elemAt xs k).map fun old => (k, old) with
      | .ok (k, old) =>
        (.list (xs.set k.toNat (setIndexS old rest value every).1), (setIndexS old rest value every).2)
      | _ => (.list xs, .failed)) := rfl

theorem setIndexS_list_slice (xs : List Val) (lo hi : Option Val) (rest : List Ix)
    (value : Option Val) :
    setIndexS (.list xs) (.slice lo hi :: rest) value true =
      (match (pythonicSliceObj xs.length lo hi).bind fun p =>
          (subRange xs p.1 p.2).map fun mid => (p, mid) with
      | .ok (p, mid) =>
        (.list (xs.take p.1.toNat ++ (mapS (fun e => setIndexS e rest value true) mid).1
            ++ xs.drop p.2.toNat), (mapS (fun e => setIndexS e rest value true) mid).2)
      | _ => (.list xs, .failed)) := rfl

theorem elemAt_ok {α} {xs : List α} {k : Int} {a : α} (h : elemAt xs k = .ok a) :
    0 ≤ k ∧ ∃ hk : k.toNat < xs.length, xs[k.toNat] = a := by
  unfold elemAt at h
  split at h
  · cases h
  · cases h2 : xs[k.toNat]? with
    | none => rw [h2] at h; cases h
    | some x =>
      rw [h2] at h; cases h
      obtain ⟨hk, hx⟩ := List.getElem?_eq_some_iff.1 h2
      exact ⟨Int.not_lt.1 ‹_›, hk, hx⟩

/-- the agreement needs no length invariant: it holds on every value -/
theorem setIndexS_agrees_all (ixs : List Ix) (lhs : Val) (value : Option Val) (every : Bool) :
    AgreesAt (setIndex lhs ixs value every) (setIndexS lhs ixs value every) := by
  induction ixs generalizing lhs with
  | nil => exact ⟨fun _ => rfl, fun h => absurd rfl h⟩
  | cons fi rest ih =>
    have list_case : ∀ xs : List Val, AgreesAt (setIndex (.list xs) (fi :: rest) value every)
        (setIndexS (.list xs) (fi :: rest) value every) := by
      intro xs
      cases fi with
      | index i =>
        rw [setIndex_list_index, setIndexS_list_index]
        cases pythonicIndex (xs.length : Int) i with
        | ok k =>
          dsimp only [bind_ok]
          cases h2 : elemAt xs k with
          | ok old =>
            obtain ⟨h0, hk, _⟩ := elemAt_ok h2
            simp only [bind_ok, map_ok, setAt_eq xs k _ h0 ((Int.toNat_lt h0).1 hk)]
            exact agreesAt_bind_ok (ih old) fun new => Val.list (xs.set k.toNat new)
          | _ => exact agreesAt_fail _ ⟨⟩ nofun
        | _ => exact agreesAt_fail _ ⟨⟩ nofun
      | slice lo hi =>
        cases every with
        | false => exact agreesAt_fail _ ⟨⟩ nofun
        | true =>
          rw [setIndexS_list_slice]
          show AgreesAt ((pythonicSliceObj xs.length lo hi).bind _) _
          cases pythonicSliceObj (xs.length : Int) lo hi with
          | ok p =>
            dsimp only [bind_ok]
            cases subRange xs p.1 p.2 with
            | ok mid =>
              exact agreesAt_bind_ok (mapS_agrees _ _ mid fun e _ => ih e)
                fun mid' => Val.list (xs.take p.1.toNat ++ mid' ++ xs.drop p.2.toNat)
            | _ => exact agreesAt_fail _ ⟨⟩ nofun
          | _ => exact agreesAt_fail _ ⟨⟩ nofun
    cases lhs with
    | list xs => exact list_case xs
    | stream xs => exact list_case xs
    | str bs =>
      cases fi with
      | index i =>
        -- `corrupted` and `failed` both only arise when the outcome is not a value
        refine agrees_of_leaf _ _ ?_
        split
        · split <;> nofun
        · nofun
      | slice lo hi => exact agrees_of_leaf _ _ nofun
    | rep x => exact agreesAt_fail _ ⟨⟩ nofun
    | cyc xs pos => exact agreesAt_fail _ ⟨⟩ nofun
    | _ => exact agrees_of_leaf _ _ nofun

/-- **setIndexS_agrees** — the state-returning transcription of `set_index` ends `done` exactly when
the outcome transcription returns a value, and then both give the same value. -/
theorem setIndexS_agrees (ixs : List Ix) (lhs : Val) (value : Option Val) (every : Bool)
    (hok : DeepOk lhs) :
    Agrees (setIndex lhs ixs value every) (setIndexS lhs ixs value every) :=
  setIndexS_agrees_all ixs lhs value every

/-! ## `failed_write_preserves` -/

/-- no stream anywhere inside (a stream that is indexed on the left is forced into a list — same
elements — before anything else happens, see `failed_write_forces_stream`) -/
inductive StreamFree : Val → Prop
  | null : StreamFree .null
  | int (v) : StreamFree (.int v)
  | num (t) : StreamFree (.num t)
  | other (t) : StreamFree (.other t)
  | rep (x) : StreamFree (.rep x)
  | cyc (xs pos) : StreamFree (.cyc xs pos)
  | str (bs) : StreamFree (.str bs)
  | bytes (bs) : StreamFree (.bytes bs)
  | vec (xs) : StreamFree (.vec xs)
  | list (xs) : (∀ x ∈ xs, StreamFree x) → StreamFree (.list xs)

/-- an index step into a list, in either state-returning walk (`bad` is its failed ending): the
list is kept when the step stops at the read, and when the recursive call `r` keeps the element the
read has found -/
theorem kept_step {γ} {xs : List Val} (x : Out Int) (r : Val → Val × γ) (bad : γ)
    (ih : ∀ e ∈ xs, (r e).2 = bad → (r e).1 = e) (s : Val × γ)
    (hs : s = match x.bind fun k => (elemAt xs k).map fun old => (k, old) with
      | .ok (k, old) => (.list (xs.set k.toNat (r old).1), (r old).2)
      | _ => (.list xs, bad))
    (hf : s.2 = bad) : s.1 = .list xs := by
  subst hs
  cases x with
  | ok j =>
    cases h2 : elemAt xs j with
    | ok e =>
      obtain ⟨_, hk, rfl⟩ := elemAt_ok h2
      simp only [bind_ok, h2, map_ok] at hf ⊢
      rw [ih _ (List.getElem_mem hk) hf, List.set_getElem_self]
    | _ => simp only [bind_ok, h2]; rfl
  | _ => rfl

/-- a leaf writes last: unless the outcome model returns a value the state is that of the
fallback `t` -/
theorem kept_leaf {v : Val} {o : Out Val} {t s : Val × WEnd}
    (hs : s = match o with
      | .ok v' => (v', .done)
      | _ => t)
    (ht : t.1 = v) (hf : s.2 = .failed) : s.1 = v := by
  subst hs
  cases o <;> first | exact ht | cases hf

/-- **failed_write_preserves** — an index assignment `x[i₁]…[iₙ] = v` (any path, any value, also the
"drop" write of an operator assignment) that raises — index out of range at any level, wrong index
kind, wrong value kind or length, a slice step without `every` — leaves `x` exactly as it was: on
every sequence kind, strings included.  (The one other ending, `corrupted`, is the UTF-8 failure of
the string arm, a recorded finding.) -/
theorem failed_write_preserves (ixs : List Ix) (lhs : Val) (value : Option Val)
    (hsf : StreamFree lhs) (hf : (setIndexS lhs ixs value false).2 = .failed) :
    (setIndexS lhs ixs value false).1 = lhs := by
  induction ixs generalizing lhs with
  | nil => cases hf
  | cons fi rest ih =>
    cases hsf with
    | list xs hx =>
      cases fi with
      | index i =>
        exact kept_step _ _ .failed (fun e he => ih e (hx e he)) _
          (setIndexS_list_index xs i rest value false) hf
      | slice lo hi => rfl
    | str bs =>
      cases fi with
      | index i =>
        refine kept_leaf (o := setIndex (.str bs) (.index i :: rest) value false) rfl ?_ hf
        split
        · split <;> rfl
        · rfl
      | slice lo hi => exact kept_leaf (o := setIndex (.str bs) (.slice lo hi :: rest) value false) rfl rfl hf
    | vec xs | bytes xs =>
      -- these leaves write last, after every check
      exact kept_leaf (o := setIndex _ (fi :: rest) value false) rfl rfl hf
    | _ => rfl

/-- a stream variable that is indexed on the left is a list of the same elements afterwards, also
when the write raises -/
theorem failed_write_forces_stream (xs : List Val) (fi : Ix) (rest : List Ix) (value : Option Val)
    (hx : ∀ x ∈ xs, StreamFree x)
    (hf : (setIndexS (.stream xs) (fi :: rest) value false).2 = .failed) :
    (setIndexS (.stream xs) (fi :: rest) value false).1 = .list xs := by
  rw [setIndexS_stream] at hf ⊢
  exact failed_write_preserves _ _ _ (.list xs hx) hf

/-- on a string: `s[i] = v` with an index that is rejected (out of range however large,
non-integer, non-numeric) leaves `s` unchanged and is a plain failure -/
theorem failed_string_write_preserves (bs : List Nat) (i v : Val) (hl : lenOk bs.length)
    (hi : ∀ k, pythonicIndex bs.length i ≠ .ok k) :
    setIndexS (.str bs) [.index i] (some v) false = (.str bs, .failed) := by
  have hthrow : pythonicIndex (bs.length : Int) i = .throw := by
    cases h : pythonicIndex (bs.length : Int) i with
    | ok k => exact absurd h (hi k)
    | throw => rfl
    | panic => exact absurd h (index_never_panics _ i hl)
  have hset : setIndex (.str bs) [.index i] (some v) false = .throw := by
    by_cases hv : ∃ b, v = .str [b]
    · obtain ⟨b, rfl⟩ := hv
      show (pythonicIndex (bs.length : Int) i).bind _ = _
      rw [hthrow]; rfl
    · exact setIndex_str_bad bs i v false hv
  simp only [setIndexS, forceHack, hset, hthrow, bind_throw]
  split <;> rfl

example : setIndexS (.str [0x61, 0x62, 0x63]) [.index (.int 3)] (some (.str [0x78])) false
    = (.str [0x61, 0x62, 0x63], .failed) := by rfl

theorem modPathS_list_index (xs : List Val) (i : Val) (rest : List Ix) (f : Val → Out (Val × Val)) :
    modPathS (.list xs) (.index i :: rest) f =
      (match (pythonicIndex xs.length i).bind fun k => (elemAt xs k).map fun old => (k, old) with
      | .ok (k, old) => (.list (xs.set k.toNat (modPathS old rest f).1), (modPathS old rest f).2)
      | _ => (.list xs, none)) := rfl

/-- `pop x<path>` / `remove x<path>[j]` that raises leaves `x` as it was -/
theorem failed_modify_preserves (ixs : List Ix) (lhs : Val) (f : Val → Out (Val × Val))
    (hsf : StreamFree lhs) (hf : (modPathS lhs ixs f).2 = none) :
    (modPathS lhs ixs f).1 = lhs := by
  induction ixs generalizing lhs with
  | nil =>
    unfold modPathS at hf ⊢
    generalize f lhs = o at hf ⊢
    cases o <;> first | rfl | cases hf
  | cons fi rest ih =>
    cases hsf with
    | list xs hx =>
      cases fi with
      | index i =>
        exact kept_step _ _ none (fun e he => ih e (hx e he)) _ (modPathS_list_index xs i rest f) hf
      | slice lo hi => rfl
    | _ => cases fi <;> rfl

end Noulith.C10
