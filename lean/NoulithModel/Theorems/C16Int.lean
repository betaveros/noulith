/-
C16, integers as text — positional notation (`digits`, `IsNotation` and its uniqueness), the rendering of integers by
`str`, `$`, `print` and the format-string flags in both representations (`fmtNInt_eq_spec`, `render_repr_independent`),
`int(str(n)) == n` through the grammar `IntLit` (`parseBigInt_intLit`, `int_str_roundtrip`), and `str_radix` / `int_radix`
(`strRadix_eq_spec`, `intRadix_eq_spec`, `radix_roundtrip`).  Impl/Codec.lean §1–§3, §5, §6 against Spec/CodecSpec.lean.
-/
import NoulithModel.Spec.CodecSpec

namespace Noulith.C16
open Noulith Noulith.Codec Noulith.CodecSpec

/-! ## 1. positional notation -/

theorem digitChar_eq (d : Nat) : digitChar d = digitSym false d := by
  unfold digitChar digitSym; split <;> simp
theorem digitCharUpper_eq (d : Nat) : digitCharUpper d = digitSym true d := by
  unfold digitCharUpper digitSym; split <;> simp

theorem digitsLE_zero (b : Nat) : digitsLE b 0 = [] := by
  rw [digitsLE]; simp

theorem digitsLE_pos {b n : Nat} (hb : 2 ≤ b) (hn : 0 < n) :
    digitsLE b n = (n % b) :: digitsLE b (n / b) := by
  rw [digitsLE]; simp; omega

theorem digitsLE_eq_nil {b n : Nat} (hb : 2 ≤ b) : digitsLE b n = [] ↔ n = 0 := by
  constructor
  · intro h
    rcases Nat.eq_zero_or_pos n with h0 | h0
    · exact h0
    · rw [digitsLE_pos hb h0] at h; cases h
  · intro h; subst h; exact digitsLE_zero b

theorem digits_small {b n : Nat} (h : n < b) : digits b n = [n] := by
  rw [digits]; simp [h]

theorem digits_big {b n : Nat} (hb : 2 ≤ b) (h : b ≤ n) : digits b n = digits b (n / b) ++ [n % b] := by
  rw [digits]; simp; omega

theorem digitsLE_reverse {b : Nat} (hb : 2 ≤ b) : ∀ n, 0 < n → (digitsLE b n).reverse = digits b n := by
  intro n
  induction n using Nat.strongRecOn with
  | _ n ih =>
    intro hn
    rw [digitsLE_pos hb hn]
    by_cases h : n < b
    · have : n / b = 0 := Nat.div_eq_of_lt h
      rw [this, digitsLE_zero, digits_small h, Nat.mod_eq_of_lt h]; rfl
    · have h' : b ≤ n := Nat.le_of_not_lt h
      have hq : 0 < n / b := Nat.div_pos h' (by omega)
      have hlt : n / b < n := Nat.div_lt_self hn (by omega)
      rw [digits_big hb h', List.reverse_cons, ih (n / b) hlt hq]

theorem ofDigits_append (b : Nat) (ds : List Nat) (d : Nat) : ofDigits b (ds ++ [d]) = b * ofDigits b ds + d := by
  simp [ofDigits, List.foldl_append]

theorem ofDigits_digits (b n : Nat) : ofDigits b (digits b n) = n := by
  fun_induction digits b n with
  | case1 n h => simp [ofDigits]
  | case2 n h ih => rw [ofDigits_append, ih]; exact Nat.div_add_mod n b

theorem digits_lt {b : Nat} (hb : 2 ≤ b) (n : Nat) : ∀ d ∈ digits b n, d < b := by
  fun_induction digits b n with
  | case1 n h => intro d hd; simp at hd; omega
  | case2 n h ih =>
    intro d hd
    rcases List.mem_append.mp hd with hd | hd
    · exact ih d hd
    · simp at hd; subst hd; exact Nat.mod_lt _ (by omega)

theorem digits_ne_nil (b n : Nat) : digits b n ≠ [] := by
  rw [digits]; split <;> simp

theorem digits_head (b n : Nat) (hn : 0 < n) : ∃ d rest, digits b n = d :: rest ∧ 0 < d := by
  fun_induction digits b n with
  | case1 n h => exact ⟨n, [], rfl, hn⟩
  | case2 n h ih =>
    obtain ⟨d, rest, e, hd⟩ := ih (Nat.div_pos (by omega) (by omega))
    exact ⟨d, rest ++ [n % b], by rw [e]; rfl, hd⟩

theorem digits_length_one {b : Nat} (hb : 2 ≤ b) {n : Nat} (h : b ≤ n) : (digits b n).length > 1 := by
  rw [digits_big hb h]
  have := digits_ne_nil b (n / b)
  cases hx : digits b (n / b) with
  | nil => exact absurd hx this
  | cons a t => simp

theorem digits_isNotation {b : Nat} (hb : 2 ≤ b) (n : Nat) : IsNotation b (digits b n) n := by
  refine ⟨digits_ne_nil b n, digits_lt hb n, ?_, ofDigits_digits b n⟩
  intro hlen
  rcases Nat.eq_zero_or_pos n with h0 | h0
  · subst h0; rw [digits_small (by omega)] at hlen; simp at hlen
  · obtain ⟨d, rest, e, hd⟩ := digits_head b n h0
    rw [e]; simp; omega

theorem digits_pack {b m d : Nat} (hb : 2 ≤ b) (hm : 0 < m) (hd : d < b) :
    digits b (b * m + d) = digits b m ++ [d] := by
  have : b * 1 ≤ b * m := Nat.mul_le_mul_left b hm
  rw [digits_big hb (by omega), Nat.mul_add_div (by omega), Nat.div_eq_of_lt hd, Nat.mul_add_mod, Nat.mod_eq_of_lt hd,
    Nat.add_zero]

/-- Horner's rule read backwards: digits pushed onto a positive number are appended to its notation -/
theorem digits_foldl {b : Nat} (hb : 2 ≤ b) : ∀ (ds : List Nat) (acc : Nat), 0 < acc → (∀ d ∈ ds, d < b) →
    digits b (ds.foldl (fun acc d => b * acc + d) acc) = digits b acc ++ ds
  | [], _, _, _ => (List.append_nil _).symm
  | d :: t, acc, h0, h => by
    have hd := h d List.mem_cons_self
    rw [List.foldl_cons, digits_foldl hb t _ (by have := Nat.mul_pos (show 0 < b by omega) h0; omega)
      fun x hx => h x (List.mem_cons_of_mem _ hx), digits_pack hb h0 hd, List.append_assoc]
    rfl

theorem isNotation_unique {b : Nat} (hb : 2 ≤ b) (ds : List Nat) (n : Nat) (h : IsNotation b ds n) :
    ds = digits b n := by
  obtain ⟨hne, hlt, hlead, rfl⟩ := h
  match ds, hne with
  | [a], _ => simp [ofDigits, digits_small (hlt a List.mem_cons_self)]
  | a :: d :: t, _ =>
    have ha : 0 < a := Nat.pos_of_ne_zero fun e => hlead (by simp) (e ▸ rfl)
    have := digits_foldl hb (d :: t) a ha fun x hx => hlt x (List.mem_cons_of_mem _ hx)
    rw [digits_small (hlt a List.mem_cons_self)] at this
    simpa [ofDigits] using this.symm

theorem natRadix_eq_spec {b : Nat} (hb : 2 ≤ b) (upper : Bool) (n : Nat) :
    natRadix upper b n = showNat upper b n := by
  unfold natRadix showNat
  by_cases h0 : n = 0
  · subst h0; rw [digits_small (by omega)]; simp [digitSym]
  · simp only [h0, if_false]
    rw [digitsLE_reverse hb n (Nat.pos_of_ne_zero h0)]
    cases upper
    · simp only [Bool.false_eq_true, if_false]
      exact List.map_congr_left (fun d _ => digitChar_eq d)
    · simp only [if_true]
      exact List.map_congr_left (fun d _ => digitCharUpper_eq d)

/-! ## 2. rendering of integers: `str`, `$`, `print`, format-string flags -/

theorem fmtBig_eq_spec (base : FmtBase) (v : Int) : fmtBig base v = showFmt base v := by
  have hb : 2 ≤ base.radix := by cases base <;> decide
  unfold fmtBig showFmt showInt
  rw [natRadix_eq_spec hb]

theorem fmtI64_decimal_eq_spec (v : Int) : fmtI64 .decimal v = showFmt .decimal v := by
  unfold fmtI64 showFmt showInt
  simp only [FmtBase.upper, FmtBase.radix]
  rw [natRadix_eq_spec (by decide)]

theorem fmtI64_nonneg_eq_spec (base : FmtBase) (v : Int) (hv : 0 ≤ v) : fmtI64 base v = showFmt base v := by
  rw [← fmtBig_eq_spec]
  have h : ¬ v < 0 := Int.not_lt.mpr hv
  have e : v.toNat = v.natAbs := by omega
  cases base <;> simp only [fmtI64, fmtBig, if_neg h, e, FmtBase.upper, FmtBase.radix]

/-- the model of nint.rs `forward_display!` prints, in every base and BOTH representations, the
Spec's sign-and-magnitude positional notation of the value -/
theorem fmtNInt_eq_spec (base : FmtBase) (n : NInt) : fmtNInt base n = showFmt base n.val := by
  cases n with
  | small v =>
    cases base
    · exact fmtI64_decimal_eq_spec v
    all_goals
      simp only [fmtNInt, NInt.val]
      split
      · exact fmtBig_eq_spec _ v
      · exact fmtI64_nonneg_eq_spec _ v (by omega)
  | big v => exact fmtBig_eq_spec base v

/-- **render_repr_independent**: the rendering of an integer in base 2 / 8 / 10 / 16 (`str`, `$`,
`print`, `F"{n}"`, `#x #X #b #o #d`) depends only on its value, never on the representation.
No well-formedness hypothesis is needed. -/
theorem render_repr_independent (base : FmtBase) (a b : NInt) (h : a.val = b.val) :
    fmtNInt base a = fmtNInt base b := by
  rw [fmtNInt_eq_spec, fmtNInt_eq_spec, h]

theorem render_repr_independent_small_big (base : FmtBase) (v : Int) :
    fmtNInt base (.small v) = fmtNInt base (.big v) := render_repr_independent base _ _ rfl

theorem fmtNumWith_repr_independent (fl : Flags) (a b : NInt) (h : a.val = b.val) :
    fmtNumWith fl a = fmtNumWith fl b := by
  unfold fmtNumWith; rw [render_repr_independent fl.base a b h]

theorem fmtNumWith_eq_spec (fl : Flags) (n : NInt) :
    fmtNumWith fl n = padTo fl.align fl.pad fl.padLength (showFmt fl.base n.val) := by
  unfold fmtNumWith padTo
  rw [fmtNInt_eq_spec]
  generalize (showFmt fl.base n.val) = s
  have hk : (if s.length < fl.padLength then fl.padLength - s.length else 0) = fl.padLength - s.length := by
    split <;> omega
  simp only [hk]
  cases fl.align <;> simp

/-- what the unfixed code did (finding F8): `i64`'s own `{:x}` of a negative number is not the
sign-and-magnitude text, so routing a negative `Small` to it made the rendering depend on the
representation.  (Witness −1: the two texts have different lengths.) -/
theorem fmtI64_hex_negative_differs : fmtI64 .lowerHex (-1) ≠ fmtBig .lowerHex (-1) := by
  intro h
  have h2 := congrArg List.length h
  have e1 : fmtBig .lowerHex (-1) = [45, 49] := by
    simp [fmtBig, natRadix, FmtBase.radix, FmtBase.upper, digitsLE, digitChar]
  have e2 : (fmtI64 .lowerHex (-1)).length = 16 := by
    simp [fmtI64, natRadix, FmtBase.radix, FmtBase.upper, digitsLE]
  rw [e1, e2] at h2
  simp at h2

/-! ### integers inside lists and dicts -/

theorem reprNInt_eq_spec (n : NInt) : reprNInt n = showInt false 10 n.val := by
  unfold reprNInt; rw [fmtNInt_eq_spec]; rfl

theorem fmtIntList_go_eq (xs : List NInt) :
    fmtIntList.go xs = List.intercalate [44, 32] (xs.map fun x => showInt false 10 x.val) := by
  induction xs with
  | nil => rfl
  | cons x t ih =>
    cases t with
    | nil => simp [fmtIntList.go, reprNInt_eq_spec, List.intercalate]
    | cons y t' =>
      rw [fmtIntList.go, ih, reprNInt_eq_spec]
      · simp [List.intercalate]
      · intro h; cases h

/-- a list of integers prints as `[a, b, c]` with every element in decimal sign-and-magnitude
notation, whatever the representation of each element (and whatever the base flag) -/
theorem fmtIntList_eq_spec (xs : List NInt) :
    fmtIntList xs = [91] ++ List.intercalate [44, 32] (xs.map fun x => showInt false 10 x.val) ++ [93] := by
  unfold fmtIntList; rw [fmtIntList_go_eq]

theorem fmtIntList_repr_independent (xs ys : List NInt) (h : xs.map NInt.val = ys.map NInt.val) :
    fmtIntList xs = fmtIntList ys := by
  rw [fmtIntList_eq_spec, fmtIntList_eq_spec]
  have : (xs.map fun x => showInt false 10 x.val) = (ys.map fun x => showInt false 10 x.val) := by
    have h1 : (xs.map fun x => showInt false 10 x.val) = (xs.map NInt.val).map (showInt false 10) := by simp
    have h2 : (ys.map fun x => showInt false 10 x.val) = (ys.map NInt.val).map (showInt false 10) := by simp
    rw [h1, h2, h]
  rw [this]

theorem fmtDict1_eq_spec (key : Str) (v : NInt) :
    fmtDict1 key v = [123, 34] ++ key ++ [34, 58, 32] ++ showInt false 10 v.val ++ [125] := by
  unfold fmtDict1; rw [reprNInt_eq_spec]

/-! ### format strings with several interpolations: flags are per slot -/

/-- a format string renders as the concatenation of the single-slot renderings (each with its own
flags, defaults where none are written) and the literal text in between — flags of one
interpolation never leak into the next -/
theorem fmtSlots_eq_spec (sl : List (Flags × NInt × Str)) :
    fmtSlots sl = sl.flatMap fun (fl, x, lit) => padTo fl.align fl.pad fl.padLength (showFmt fl.base x.val) ++ lit := by
  induction sl with
  | nil => rfl
  | cons a t ih =>
    obtain ⟨fl, n, lit⟩ := a
    simp only [fmtSlots, List.flatMap_cons, ih, fmtNumWith_eq_spec, List.append_assoc]

theorem fmtSlots_default_after (fl : Flags) (a b : NInt) (lit : Str) :
    fmtSlots [(fl, a, lit), ({}, b, [])] = fmtNumWith fl a ++ lit ++ showInt false 10 b.val := by
  simp only [fmtSlots, List.append_nil]
  congr 1
  rw [fmtNumWith_eq_spec]
  simp [padTo, showFmt, FmtBase.upper, FmtBase.radix]

theorem fmtSlots_repr_independent (fl : Flags) (a b : NInt) (lit : Str) (rest : List (Flags × NInt × Str))
    (h : a.val = b.val) : fmtSlots ((fl, a, lit) :: rest) = fmtSlots ((fl, b, lit) :: rest) := by
  simp only [fmtSlots, fmtNumWith_repr_independent fl a b h]

/-- re-evaluating every interpolated expression (`g`: to any representation of the same VALUE) while
keeping each slot's flags (taken from the literal) and the literal text renders identically.
This is what `freeze` relies on: it rebuilds each interpolated expression and must keep the
literal's flags (a rebuilt slot with fresh default flags would print `255` for `F"{n #x}"`). -/
theorem fmtSlots_flags_value_only (g : NInt → NInt) (hg : ∀ n, (g n).val = n.val) :
    ∀ (sl : List (Flags × NInt × Str)),
    fmtSlots (sl.map fun s => (s.1, g s.2.1, s.2.2)) = fmtSlots sl
  | [] => rfl
  | (fl, n, lit) :: t => by
    simp only [List.map_cons, fmtSlots, fmtNumWith_repr_independent fl (g n) n (hg n),
      fmtSlots_flags_value_only g hg t]

/-- dropping a slot's flags changes the text (witness: 255 with `#x`), so the flags are needed -/
theorem fmtSlots_flags_matter :
    fmtSlots [({ base := .lowerHex }, .small 255, [])] ≠ fmtSlots [({}, .small 255, [])] := by
  intro h
  have h1 : fmtSlots [({ base := .lowerHex }, .small 255, [])] = [102, 102] := by
    simp [fmtSlots, fmtNumWith, fmtNInt, fmtI64, natRadix, FmtBase.radix, FmtBase.upper, digitsLE, digitChar]
  have h2 : fmtSlots [({}, .small 255, [])] = [50, 53, 53] := by
    simp [fmtSlots, fmtNumWith, fmtNInt, fmtI64, natRadix, digitsLE, digitChar]
  rw [h1, h2] at h
  simp at h

/-! ## 3. `int(str(n)) == n`, `number(str(n)) == n` -/

theorem ofDigitsBE_eq (ds : List Nat) : ofDigitsBE ds = ofDigits 10 ds := rfl

theorem bigDigits_digitText (ds : List Nat) (h : ∀ x ∈ ds, x < 10) : bigDigits (digitText ds) = some ds := by
  induction ds with
  | nil => rfl
  | cons d t ih =>
    have hd : d < 10 := h d (by simp)
    have ht := ih (fun x hx => h x (by simp [hx]))
    simp only [digitText, List.map_cons] at ht ⊢
    unfold bigDigits
    have h1 : ¬ (48 + d = 95) := by omega
    have h2 : 48 ≤ 48 + d ∧ 48 + d ≤ 57 := by omega
    simp only [h1, h2, if_false, and_self, if_true, ht, Option.map_some]
    congr 2; omega

theorem isAsciiDigit_iff (c : Nat) : isAsciiDigit c = true ↔ 48 ≤ c ∧ c ≤ 57 := by
  simp [isAsciiDigit]

theorem asciiDigits_digitText (ds : List Nat) (h : ∀ x ∈ ds, x < 10) : asciiDigits (digitText ds) = some ds := by
  induction ds with
  | nil => rfl
  | cons d t ih =>
    have hd : d < 10 := h d (by simp)
    have ht := ih (fun x hx => h x (by simp [hx]))
    simp only [digitText, List.map_cons] at ht ⊢
    unfold asciiDigits
    have h2 : isAsciiDigit (48 + d) = true := (isAsciiDigit_iff _).mpr (by omega)
    simp only [h2, if_true, ht, Option.map_some]
    congr 2; omega

theorem digitText_head {ds : List Nat} (hne : ds ≠ []) (h : ∀ x ∈ ds, x < 10) :
    ∃ c r, digitText ds = c :: r ∧ 48 ≤ c ∧ c ≤ 57 := by
  cases ds with
  | nil => exact absurd rfl hne
  | cons d t => exact ⟨48 + d, digitText t, rfl, by have := h d (by simp); omega⟩

theorem digitText_range (ds : List Nat) (h : ∀ x ∈ ds, x < 10) : ∀ c ∈ digitText ds, 48 ≤ c ∧ c ≤ 57 := by
  intro c hc
  simp only [digitText, List.mem_map] at hc
  obtain ⟨d, hd, rfl⟩ := hc
  have := h d hd; omega

theorem digitText_length (ds : List Nat) : (digitText ds).length = ds.length := by simp [digitText]

theorem digitText_eq_nil (ds : List Nat) : digitText ds = [] ↔ ds = [] := by simp [digitText]

theorem digitText_all_ascii (ds : List Nat) (h : ∀ x ∈ ds, x < 10) : (digitText ds).all isAsciiDigit = true := by
  rw [List.all_eq_true]
  intro c hc
  exact (isAsciiDigit_iff c).mpr (digitText_range ds h c hc)

theorem parseBigUint_digitText (ds : List Nat) (hne : ds ≠ []) (h : ∀ x ∈ ds, x < 10) :
    parseBigUint (digitText ds) = some (ofDigits 10 ds) := by
  obtain ⟨c, r, e, hc⟩ := digitText_head hne h
  have hb := bigDigits_digitText ds h
  rw [e] at hb ⊢
  have e1 : stripPlus (c :: r) = c :: r := by simp [stripPlus]; omega
  have e2 : startsWith 95 (c :: r) = false := by simp [startsWith]; omega
  simp [parseBigUint, e1, e2, hb, ofDigitsBE_eq]

theorem parseBigUint_plus (c : Nat) (r : Str) (hc : c ≠ 43) : parseBigUint (43 :: c :: r) = parseBigUint (c :: r) := by
  have e1 : stripPlus (43 :: c :: r) = c :: r := by simp [stripPlus, startsWith, hc]
  have e0 : stripPlus (c :: r) = c :: r := by simp [stripPlus, hc]
  unfold parseBigUint
  rw [e1, e0]

theorem parseBigInt_intLit (l : IntLit) (hl : l.WF) : parseBigInt l.render = some l.value := by
  obtain ⟨sign, ds⟩ := l
  obtain ⟨c, r, e, hc⟩ := digitText_head hl.1 hl.2
  have hu := parseBigUint_digitText ds hl.1 hl.2
  simp only [IntLit.render, IntLit.value]
  rw [e] at hu ⊢
  rcases sign with _ | _ | _
  · simp only [signText, List.nil_append, signNeg, parseBigInt, if_neg (show ¬ c = 45 by omega), hu]; rfl
  · simp only [signText, signNeg, List.cons_append, List.nil_append, parseBigInt, if_neg (show ¬ (43 : Nat) = 45 by decide),
      parseBigUint_plus c r (by omega), hu]; rfl
  · have e : startsWith 43 (c :: r) = false := by simp [startsWith]; omega
    simp [signText, signNeg, parseBigInt, e, hu]

theorem showNat10_eq_digitText (m : Nat) : showNat false 10 m = digitText (digits 10 m) := by
  unfold showNat digitText
  apply List.map_congr_left
  intro d hd
  have := digits_lt (by decide : 2 ≤ 10) m d hd
  simp [digitSym, this]

theorem natRadix10_eq (n : Nat) : natRadix false 10 n = digitText (digits 10 n) := by
  rw [natRadix_eq_spec (by decide), showNat10_eq_digitText]

theorem natRadix10_head (n : Nat) : ∃ c cs, natRadix false 10 n = c :: cs ∧ 48 ≤ c ∧ c ≤ 57 := by
  rw [natRadix10_eq]
  exact digitText_head (digits_ne_nil 10 n) (digits_lt (by decide) n)

theorem showInt10_eq_render (v : Int) :
    showInt false 10 v = IntLit.render { sign := if v < 0 then some true else none, ds := digits 10 v.natAbs } := by
  unfold showInt IntLit.render
  rw [showNat10_eq_digitText]
  split <;> simp [signText]

/-- **int_str_roundtrip**: `int(str(n)) == n` for every integer of any size and sign in either
representation (`str`, `$`, `repr`, `F"{n}"` all print `showNInt`) -/
theorem int_str_roundtrip (n : NInt) : intOfStr (showNInt n) = .ok n.val := by
  unfold intOfStr showNInt
  rw [fmtNInt_eq_spec]
  show (match parseBigInt (showInt false 10 n.val) with | some v => Out.ok v | none => Out.throw) = _
  rw [showInt10_eq_render, parseBigInt_intLit _ ⟨digits_ne_nil _ _, digits_lt (by decide) _⟩]
  simp only [IntLit.value, ofDigits_digits]
  congr 1
  split <;> simp [signNeg] <;> omega

/-- `number(str(n)) == n`: the integer parser already succeeds, the float parser is never consulted -/
theorem number_str_roundtrip (n : NInt) : numberOfStr (showNInt n) = .int n.val := by
  have h := int_str_roundtrip n
  unfold intOfStr at h
  unfold numberOfStr
  cases hp : parseBigInt (showNInt n) with
  | none => rw [hp] at h; cases h
  | some v => rw [hp] at h; injection h with h; simp [h]

theorem int_of_literal (l : IntLit) (hl : l.WF) : intOfStr l.render = .ok l.value := by
  unfold intOfStr; rw [parseBigInt_intLit l hl]

example : intOfStr [45, 48, 48, 55] = .ok (-7) := by decide

/-! ## 4. `str_radix` / `int_radix` -/

/-- for a valid base, `str_radix(a, b)` is the Spec's text: the positional notation of `|a|` in base
`b` with digits `0-9a-z`, `-` prefixed for negatives, `"0"` for zero -/
theorem strRadix_eq_spec (a r : Int) (h : 2 ≤ r ∧ r ≤ 36) :
    strRadix a r = .ok (showInt false r.toNat a) := by
  have hb : 2 ≤ r.toNat := by omega
  have hu : inU32 r := by unfold inU32; omega
  unfold strRadix
  simp only [hu, h, and_self, if_true]
  congr 1
  unfold showInt
  have key : (let ret := (digitsLE r.toNat a.natAbs).map digitChar
              (if ret.isEmpty then [48] else ret)).reverse = showNat false r.toNat a.natAbs := by
    rw [← natRadix_eq_spec hb]
    unfold natRadix
    by_cases h0 : a.natAbs = 0
    · rw [h0, digitsLE_zero]; simp
    · have : digitsLE r.toNat a.natAbs ≠ [] := fun hx => h0 ((digitsLE_eq_nil hb).mp hx)
      cases hx : digitsLE r.toNat a.natAbs with
      | nil => exact absurd hx this
      | cons d t => simp [h0]
  by_cases hneg : a < 0
  · simp only [hneg, if_true] at key ⊢
    rw [List.reverse_append]
    simp only [List.reverse_cons, List.reverse_nil, List.nil_append, List.singleton_append]
    congr 1
  · simp only [hneg, if_false] at key ⊢
    exact key

theorem strRadix_bad_base (a r : Int) (h : ¬ (2 ≤ r ∧ r ≤ 36)) : strRadix a r = .throw := by
  unfold strRadix; rw [if_neg h, ite_self]

/-! ### `int_radix` on arbitrary text -/

theorem toDigit_digitSym {base d : Nat} (hd : d < base) (hb : base ≤ 36) :
    toDigit (digitSym false d) base = some d := by
  unfold toDigit charDigit36 digitSym
  by_cases h10 : d < 10
  · have h1 : 48 ≤ 48 + d ∧ 48 + d ≤ 57 := by omega
    simp [h10, h1, hd]
  · have h1 : ¬ (48 ≤ 87 + d ∧ 87 + d ≤ 57) := by omega
    have h2 : 97 ≤ 87 + d ∧ 87 + d ≤ 122 := by omega
    simp [h10, h1, h2, hd]

/-- Spec of `int_radix`: every character must be a digit below the base (either case); the result is
the positional value -/
def specIntRadix (s : Str) (b : Int) : Out Int :=
  if 2 ≤ b ∧ b ≤ 36 then
    match s.mapM fun c => toDigit c b.toNat with
    | some ds => .ok (ofDigits b.toNat ds)
    | none => .throw
  else .throw

theorem radixLoop_eq (base : Nat) : ∀ (s : Str) (x : Nat),
    radixLoop base x s = (s.mapM fun c => toDigit c base).map fun ds => ds.foldl (fun acc d => base * acc + d) x := by
  intro s
  induction s with
  | nil => intro x; simp [radixLoop]
  | cons c t ih =>
    intro x
    simp only [radixLoop, List.mapM_cons]
    cases hd : toDigit c base with
    | none => simp
    | some d =>
      simp only [ih, Option.pure_def, Option.bind_eq_bind, Option.bind_some]
      cases (t.mapM fun c => toDigit c base) <;> simp

/-- `int_radix(s, b)` on EVERY string: the positional value when all characters are digits of the
base (upper or lower case, leading zeros, the empty string is 0), a Noulith error otherwise -/
theorem intRadix_eq_spec (s : Str) (r : Int) : intRadix s r = specIntRadix s r := by
  unfold intRadix specIntRadix
  by_cases h : 2 ≤ r ∧ r ≤ 36
  · have hu : inU32 r := by unfold inU32; omega
    simp only [hu, h, and_self, if_true, radixLoop_eq]
    cases (s.mapM fun c => toDigit c r.toNat) <;> simp [ofDigits]
  · simp only [h, if_false]
    split <;> rfl

theorem mapM_toDigit_digitSym {base : Nat} (hb : base ≤ 36) : ∀ ds : List Nat, (∀ d ∈ ds, d < base) →
    (ds.map (digitSym false)).mapM (fun c => toDigit c base) = some ds
  | [], _ => rfl
  | d :: t, h => by
    rw [List.map_cons, List.mapM_cons, toDigit_digitSym (h d (by simp)) hb,
      mapM_toDigit_digitSym hb t fun y hy => h y (by simp [hy])]
    rfl

theorem intRadix_showNat (n : Nat) (r : Int) (h : 2 ≤ r ∧ r ≤ 36) :
    intRadix (showNat false r.toNat n) r = .ok (n : Int) := by
  rw [intRadix_eq_spec, specIntRadix, if_pos h, showNat,
    mapM_toDigit_digitSym (by omega) _ (digits_lt (by omega) n)]
  exact congrArg (fun m : Nat => Out.ok (m : Int)) (ofDigits_digits r.toNat n)

/-- **radix_roundtrip**: `int_radix(str_radix(n, b), b) == n` for every `n ≥ 0` and every base 2..36 -/
theorem radix_roundtrip (n r : Int) (hn : 0 ≤ n) (h : 2 ≤ r ∧ r ≤ 36) :
    (strRadix n r).bind (fun s => intRadix s r) = .ok n := by
  rw [strRadix_eq_spec n r h]
  simp only [Out.bind, showInt]
  have : ¬ n < 0 := by omega
  simp only [this, if_false]
  rw [intRadix_showNat _ r h]
  congr 1; omega

/-- `str_radix` output is THE positional notation: its digit values form the unique digit list
without leading zero whose value is `|a|` -/
theorem strRadix_positional (a r : Int) (h : 2 ≤ r ∧ r ≤ 36) (ds : List Nat)
    (hds : IsNotation r.toNat ds a.natAbs) :
    strRadix a r = .ok ((if a < 0 then [45] else []) ++ ds.map (digitSym false)) := by
  rw [strRadix_eq_spec a r h, isNotation_unique (by omega) ds _ hds]
  unfold showInt showNat
  split <;> simp

/-- negative numbers get a `-`, which `int_radix` does not read: the round trip is stated for `n ≥ 0` only -/
theorem intRadix_rejects_sign (s : Str) (r : Int) : intRadix (45 :: s) r = .throw := by
  unfold intRadix
  split
  · split
    · simp [radixLoop, toDigit, charDigit36]
    · rfl
  · rfl

example : strRadix 0 2 = .ok [48] := by
  simp [strRadix, inU32, digitsLE]
example : strRadix (-255) 16 = .ok [45, 102, 102] := by
  simp [strRadix, inU32, digitsLE, digitChar]

end Noulith.C16
