/-
C10 (continued) — writes address the positions reads do (`x[i] = v`, `pop`, `remove`, `|..`,
`x[i] += d`).
Continues NoulithModel/Theorems/C10.lean (same namespace).
-/
import NoulithModel.Theorems.C10Access

namespace Noulith.C10
open Noulith Noulith.Index Noulith.PyIndex

theorem setAt_eq {α} (xs : List α) (k : Int) (v : α) (h0 : 0 ≤ k) (h1 : k < xs.length) :
    setAt xs k v = .ok (xs.set k.toNat v) := if_pos ⟨h0, h1⟩

/-- the generic write of one element: position `pyIndex len i`, the position `x[i]` reads -/
theorem write_at {α} (xs : List α) (i : Val) (a : α) (w : List α → Val) (hl : lenOk xs.length) :
    ((pythonicIndex xs.length i).bind fun k => (setAt xs k a).map w)
      = (match (asInt i).bind (pyIndex xs.length) with
        | some k => .ok (w (xs.set k.toNat a))
        | none => .throw) :=
  bind_pythonicIndex _ i hl _ _ fun k h0 h1 => by rw [setAt_eq xs k a h0 h1]; rfl

/-- one index step into a list, as `set_index` and `modify_existing_index` take it: normalise,
read the old element, recurse (`r`; in the Spec `r'`, the same on the elements), write the result
back -/
theorem list_step {β γ} (xs : List Val) (i : Val) (hl : lenOk xs.length) (r r' : Val → Out β)
    (hr : ∀ x ∈ xs, r x = r' x) (put : β → Val) (w : β → List Val → γ) :
    ((pythonicIndex xs.length i).bind fun k => (elemAt xs k).bind fun old =>
        (r old).bind fun p => (setAt xs k (put p)).map (w p))
      = (match (asInt i).bind (pyIndex xs.length) with
        | some k => (ofOpt xs[k.toNat]?).bind fun old =>
            (r' old).bind fun p => .ok (w p (xs.set k.toNat (put p)))
        | none => .throw) :=
  bind_pythonicIndex _ i hl _ _ fun k h0 h1 => by
    have hk := pos_toNat h0 h1
    rw [elemAt_eq xs k h0 h1, List.getElem?_eq_getElem hk]
    simp only [ofOpt, bind_ok, hr _ (List.getElem_mem hk), setAt_eq xs k _ h0 h1, map_ok]

/-! equations of `set_index` and of the Spec's `setPath`, by the kind of the place and of the step -/

theorem setIndex_stream (xs : List Val) (fi : Ix) (rest : List Ix) (value : Option Val) (every : Bool) :
    setIndex (.stream xs) (fi :: rest) value every = setIndex (.list xs) (fi :: rest) value every := rfl

theorem setIndex_list_index (xs : List Val) (i : Val) (rest : List Ix) (value : Option Val)
    (every : Bool) :
    setIndex (.list xs) (.index i :: rest) value every =
      (pythonicIndex xs.length i).bind fun k => (elemAt xs k).bind fun old =>
        (setIndex old rest value every).bind fun new => (setAt xs k new).map .list := rfl

theorem setPath_stream (xs : List Val) (fi : Ix) (rest : List Ix) (v : Val) (every : Bool) :
    setPath (.stream xs) (fi :: rest) v every = setPath (.list xs) (fi :: rest) v every := by
  cases fi with
  | index i => unfold setPath; generalize asInt i = o; cases o <;> rfl
  | slice lo hi => rfl

theorem setPath_list_index (xs : List Val) (i : Val) (rest : List Ix) (v : Val) (every : Bool) :
    setPath (.list xs) (.index i :: rest) v every =
      (match (asInt i).bind (pyIndex xs.length) with
      | some k => (ofOpt xs[k.toNat]?).bind fun old =>
          (setPath old rest v every).bind fun new => .ok (.list (xs.set k.toNat new))
      | none => .throw) := by
  cases i <;> rfl

/-- the Rust length invariant for a value and for every list nested in it -/
inductive DeepOk : Val → Prop
  | null : DeepOk .null
  | int (v) : DeepOk (.int v)
  | num (t) : DeepOk (.num t)
  | other (t) : DeepOk (.other t)
  | rep (x) : DeepOk (.rep x)
  | cyc (xs pos) : lenOk xs.length → xs.length ≠ 0 → pos < xs.length → DeepOk (.cyc xs pos)
  | str (bs) : lenOk bs.length → DeepOk (.str bs)
  | bytes (bs) : lenOk bs.length → DeepOk (.bytes bs)
  | vec (xs) : lenOk xs.length → DeepOk (.vec xs)
  | list (xs) : lenOk xs.length → (∀ x ∈ xs, DeepOk x) → DeepOk (.list xs)
  | stream (xs) : lenOk xs.length → (∀ x ∈ xs, DeepOk x) → DeepOk (.stream xs)

example : DeepOk (.list [.list [.int 1, .int 2], .list [.int 3]]) := by
  refine .list _ (by decide) ?_
  intro x hx
  simp at hx
  rcases hx with rfl | rfl
  · exact .list _ (by decide) (by intro y hy; simp at hy; rcases hy with rfl | rfl <;> exact .int _)
  · exact .list _ (by decide) (by intro y hy; simp at hy; subst hy; exact .int _)

theorem mapOut_congr {α β} (f g : α → Out β) (l : List α) (h : ∀ e ∈ l, f e = g e) :
    mapOut f l = mapOut g l := by
  induction l with
  | nil => rfl
  | cons a t ih =>
    simp only [mapOut, h a (List.mem_cons_self ..)]
    rw [ih fun e he => h e (List.mem_cons_of_mem _ he)]

/-- a vector takes a number at a valid position and is not indexed any deeper -/
theorem set_vec (xs : List Val) (i v : Val) (rest : List Ix) (every : Bool) (hl : lenOk xs.length) :
    setIndex (.vec xs) (.index i :: rest) (some v) every
      = setPath (.vec xs) (.index i :: rest) v every := by
  have spec : setPath (.vec xs) (.index i :: rest) v every =
      if rest.isEmpty ∧ isNum v then (match (asInt i).bind (pyIndex xs.length) with
        | some k => .ok (.vec (xs.set k.toNat v))
        | none => .throw) else .throw := by
    unfold setPath
    cases asInt i with
    | some n => rfl
    | none => exact (ite_self _).symm
  show (if rest.isEmpty then (if isNum v then
      (pythonicIndex xs.length i).bind fun k => (setAt xs k v).map Val.vec else .throw) else .throw) = _
  rw [spec, write_at xs i v .vec hl]
  by_cases hr : rest.isEmpty = true
  · by_cases hv : isNum v = true
    · rw [if_pos hr, if_pos hv, if_pos ⟨hr, hv⟩]
    · rw [if_pos hr, if_neg hv, if_neg fun c => hv c.2]
  · rw [if_neg hr, if_neg fun c => hr c.1]

theorem toU8_isNum {v : Val} {b : Nat} (h : toU8 v = some b) : isNum v = true := by
  cases v <;> first | rfl | cases h

/-- a byte string takes an integer `0..255` at a valid position -/
theorem set_bytes (bs : List Nat) (i v : Val) (rest : List Ix) (every : Bool) (hl : lenOk bs.length) :
    setIndex (.bytes bs) (.index i :: rest) (some v) every
      = setPath (.bytes bs) (.index i :: rest) v every := by
  cases rest with
  | cons _ _ => unfold setPath; cases asInt i <;> rfl
  | nil =>
    have spec : setPath (.bytes bs) [.index i] v every =
        (match toU8 v, (asInt i).bind (pyIndex bs.length) with
        | some b, some k => .ok (.bytes (bs.set k.toNat b))
        | _, _ => .throw) := by
      unfold setPath
      cases asInt i with
      | some n => dsimp only [Option.bind]; cases toU8 v <;> cases pyIndex (bs.length : Int) n <;> rfl
      | none => cases toU8 v <;> rfl
    rw [spec]
    show (if isNum v then (pythonicIndex bs.length i).bind fun k => (match toU8 v with
        | some b => (setAt bs k b).map Val.bytes
        | none => .throw) else .throw) = _
    cases hb : toU8 v with
    | some b =>
      rw [if_pos (toU8_isNum hb)]
      refine (write_at bs i b .bytes hl).trans ?_
      cases (asInt i).bind (pyIndex (bs.length : Int)) <;> rfl
    | none =>
      split
      · rw [pythonicIndex_eq _ i hl]; cases (asInt i).bind (pyIndex (bs.length : Int)) <;> rfl
      · rfl

theorem setIndex_str_bad (bs : List Nat) (i v : Val) (every : Bool) (hv : ¬ ∃ b, v = .str [b]) :
    setIndex (.str bs) [.index i] (some v) every = .throw := by
  cases v with
  | str w =>
    refine if_neg fun hw => hv ?_
    match w, hw with
    | [b], _ => exact ⟨b, rfl⟩
  | _ => rfl

/-- a string takes a one-byte string at a valid position, and must stay UTF-8 -/
theorem set_str (bs : List Nat) (i v : Val) (rest : List Ix) (every : Bool) (hl : lenOk bs.length) :
    setIndex (.str bs) (.index i :: rest) (some v) every
      = setPath (.str bs) (.index i :: rest) v every := by
  cases rest with
  | cons _ _ => unfold setPath; cases asInt i <;> rfl
  | nil =>
    by_cases hv : ∃ b, v = .str [b]
    · obtain ⟨b, rfl⟩ := hv
      show ((pythonicIndex bs.length i).bind fun k => (setAt bs k b).bind fun bs' =>
        if validUtf8 bs' then Out.ok (Val.str bs') else .throw) = _
      rw [bind_pythonicIndex _ i hl _
        (fun k => if validUtf8 (bs.set k.toNat b) then .ok (.str (bs.set k.toNat b)) else .throw)
        fun k h0 h1 => by rw [setAt_eq bs k b h0 h1]; rfl]
      unfold setPath
      generalize asInt i = o
      cases o with
      | none => rfl
      | some n => dsimp only [Option.bind]; cases pyIndex (bs.length : Int) n <;> rfl
    · -- a value of another kind or length: a type error on both sides
      rw [setIndex_str_bad bs i v every hv]
      unfold setPath
      generalize asInt i = o
      cases o with
      | none => rfl
      | some n =>
        dsimp only
        split
        · exact absurd ⟨_, rfl⟩ hv
        · rfl

theorem set_step_slice (xs : List Val) (lo hi : Option Val) (v : Val) (rest : List Ix)
    (hl : lenOk xs.length)
    (ih : ∀ x ∈ xs, setIndex x rest (some v) true = setPath x rest v true) :
    setIndex (.list xs) (.slice lo hi :: rest) (some v) true
      = setPath (.list xs) (.slice lo hi :: rest) v true := by
  refine (sliceObj_bind _ lo hi hl _).trans (bounds_bind lo hi _ _ fun l h _ _ => ?_)
  rw [subRange_pySlice, bind_ok,
    mapOut_congr _ (fun e => setPath e rest v true) (sliceOf xs l h) fun e he =>
      ih e (List.mem_of_mem_drop (List.mem_of_mem_take he))]

/-- **set_index_refines** — for every lvalue path (any mix of index steps, and slice steps under
`every`) into any nesting of lists, `set_index` of the code computes what the Spec's `setPath`
computes: each index step addresses `pyIndex len i`, each slice step the clamped Python range;
a slice step without `every` raises. -/
theorem set_index_refines (ixs : List Ix) (lhs v : Val) (every : Bool) (hok : DeepOk lhs) :
    setIndex lhs ixs (some v) every = setPath lhs ixs v every := by
  induction ixs generalizing lhs with
  | nil => rfl
  | cons fi rest ih =>
    have list_case : ∀ xs : List Val, lenOk xs.length → (∀ x ∈ xs, DeepOk x) →
        setIndex (.list xs) (fi :: rest) (some v) every = setPath (.list xs) (fi :: rest) v every := by
      intro xs hl hx
      cases fi with
      | index i =>
        rw [setPath_list_index]
        exact list_step xs i hl _ _ (fun x hxm => ih x (hx x hxm)) id fun _ l => Val.list l
      | slice lo hi =>
        cases every with
        | true => exact set_step_slice xs lo hi v rest hl fun x hxm => ih x (hx x hxm)
        | false => rfl    -- plain slice assignment is not part of the language
    cases hok with
    | list xs hl hx => exact list_case xs hl hx
    | stream xs hl hx => rw [setIndex_stream, setPath_stream]; exact list_case xs hl hx
    | vec xs hl =>
      cases fi with
      | index i => exact set_vec xs i v rest every hl
      | slice lo hi => cases every <;> rfl
    | bytes bs hl =>
      cases fi with
      | index i => exact set_bytes bs i v rest every hl
      | slice lo hi => cases every <;> rfl
    | str bs hl =>
      cases fi with
      | index i => exact set_str bs i v rest every hl
      | slice lo hi => cases every <;> rfl
    | _ =>
      -- not a sequence that can be assigned into: a type error on both sides
      cases fi with
      | index i => unfold setPath; cases asInt i <;> rfl
      | slice lo hi => cases every <;> rfl

/-- `x[i] = v` on a list writes position `pyIndex len i` — the position `x[i]` reads — and raises
exactly when the read raises (`value = none` is the "drop the LHS" write of null) -/
theorem set_list_one (xs : List Val) (i : Val) (value : Option Val) (every : Bool)
    (hl : lenOk xs.length) :
    setIndex (.list xs) [.index i] value every = (match (asInt i).bind (pyIndex xs.length) with
      | some k => .ok (.list (xs.set k.toNat (value.getD .null)))
      | none => .throw) := by
  rw [setIndex_list_index]
  refine bind_pythonicIndex _ i hl _ _ fun k h0 h1 => ?_
  rw [elemAt_eq xs k h0 h1, List.getElem?_eq_getElem (pos_toNat h0 h1)]
  exact congrArg (Out.map Val.list) (setAt_eq xs k _ h0 h1)

theorem setPath_list_one (xs : List Val) (i v : Val) (every : Bool) :
    setPath (.list xs) [.index i] v every = (match (asInt i).bind (pyIndex xs.length) with
      | some k => .ok (.list (xs.set k.toNat v))
      | none => .throw) := by
  rw [setPath_list_index]
  cases hp : (asInt i).bind (pyIndex (xs.length : Int)) with
  | none => rfl
  | some k =>
    have hk := pos_range hp
    dsimp only
    rw [List.getElem?_eq_getElem (pos_toNat hk.1 hk.2)]; rfl

theorem index_list_eq (xs : List Val) (i : Val) (hl : lenOk xs.length) :
    Index.index (.list xs) i = (match (asInt i).bind (pyIndex xs.length) with
      | some k => ofOpt xs[k.toNat]?
      | none => .throw) :=
  bind_pythonicIndex _ i hl _ _ (elemAt_eq xs)

theorem index_list_int (xs : List Val) (n k : Int) (hl : lenOk xs.length)
    (hk : pyIndex xs.length n = some k) : Index.index (.list xs) (.int n) = ofOpt xs[k.toNat]? := by
  rw [index_list_eq xs _ hl, show (asInt (.int n)).bind (pyIndex xs.length) = some k from hk]

/-- **read_write_same_position**: after `x[n] = v` the read `x[n]` returns `v`, every read that
addresses another position is unchanged, and the length is unchanged -/
theorem read_write_same_position (xs : List Val) (n k : Int) (v : Val) (hl : lenOk xs.length)
    (hk : pyIndex xs.length n = some k) :
    setIndex (.list xs) [.index (.int n)] (some v) false = .ok (.list (xs.set k.toNat v))
    ∧ Index.index (.list (xs.set k.toNat v)) (.int n) = .ok v
    ∧ (∀ m k', pyIndex xs.length m = some k' → k' ≠ k →
        Index.index (.list (xs.set k.toNat v)) (.int m) = Index.index (.list xs) (.int m)) := by
  have hr := pyIndex_range hk
  have hl' : lenOk ((xs.set k.toNat v).length : Int) := by rwa [List.length_set]
  have hpos : (asInt (.int n)).bind (pyIndex xs.length) = some k := hk
  refine ⟨?_, ?_, ?_⟩
  · rw [set_list_one xs _ _ false hl, hpos]; rfl
  · rw [index_list_int _ n k hl' (by rwa [List.length_set]), List.getElem?_set_self (pos_toNat hr.1 hr.2)]; rfl
  · intro m k' hm hne
    have hr' := pyIndex_range hm
    rw [index_list_int _ m k' hl' (by rwa [List.length_set]), index_list_int xs m k' hl hm,
      List.getElem?_set_ne (by omega)]

example : pyIndex 3 (-1) = some 2 ∧ lenOk ([Val.int 1, .int 2, .int 3].length : Int) := by decide

/-- `pop x` returns `x[-1]` and leaves `x[:-1]` -/
theorem pop_refines (s : Val) : Index.tryPop s = PyIndex.pop s := by
  cases s <;> try rfl
  rename_i xs
  show (match popLast xs with
    | some (t, e) => Out.ok (e, Val.list t)
    | none => .throw) = (match elemOf xs (-1) with
    | some e => Out.ok (e, Val.list (sliceOf xs none (some (-1))))
    | none => .throw)
  rw [popLast_eq, elemOf_last, sliceOf_butlast]
  cases xs.getLast? <;> rfl

theorem removeAt_eq {α} (xs : List α) (k : Int) (h0 : 0 ≤ k) (h1 : k < xs.length) :
    removeAt xs k = (ofOpt xs[k.toNat]?).map fun x => (x, xs.eraseIdx k.toNat) := by
  rw [removeAt, if_neg (Int.not_lt.2 h0), List.getElem?_eq_getElem (pos_toNat h0 h1)]; rfl

/-- `remove x[i]` returns `x[i]` and deletes position `pyIndex len i` -/
theorem removeIndex_refines (s i : Val) (hs : seqOk s) :
    Index.tryRemoveIndex s i = PyIndex.removeIndex s i := by
  cases s with
  | list xs =>
    refine (bind_pythonicIndex _ i hs _
      (fun k => (ofOpt xs[k.toNat]?).map fun e => (e, Val.list (xs.eraseIdx k.toNat)))
      fun k h0 h1 => ?_).trans ?_
    · rw [removeAt_eq xs k h0 h1]; cases xs[k.toNat]? <;> rfl
    · unfold PyIndex.removeIndex
      generalize asInt i = o
      cases o with
      | none => rfl
      | some n => dsimp only [Option.bind]; cases pyIndex (xs.length : Int) n <;> rfl
  | _ => rfl

/-- `remove x[a:b]` returns `x[a:b]` and leaves `x[:a] ++ x[b:]` (clamped like the read) -/
theorem removeSlice_refines (s : Val) (lo hi : Option Val) (hs : seqOk s) :
    Index.tryRemoveSlice s lo hi = PyIndex.removeSlice s lo hi := by
  cases s with
  | list xs =>
    refine (sliceObj_bind _ lo hi hs _).trans (bounds_bind lo hi _ _ fun l h _ _ => ?_)
    rw [subRange_pySlice]; rfl
  | _ => rfl

/-- `a |.. [k, v]` writes position `pyIndex len k` -/
theorem updateAt_refines (a k v : Val) (hs : seqOk a) :
    Index.updateAt a k v = PyIndex.updateAt a k v := by
  cases a with
  | list xs =>
    exact (write_at xs k v .list hs).trans (setPath_list_one xs k v false).symm
  | _ => rfl

theorem modPath_stream (xs : List Val) (fi : Ix) (rest : List Ix) (f : Val → Out (Val × Val)) :
    modPath (.stream xs) (fi :: rest) f = modPath (.list xs) (fi :: rest) f := rfl

theorem atPath_stream (xs : List Val) (fi : Ix) (rest : List Ix) (g : Val → Out (Val × Val)) :
    atPath (.stream xs) (fi :: rest) g = atPath (.list xs) (fi :: rest) g := by
  cases fi with
  | index i => unfold atPath; generalize asInt i = o; cases o <;> rfl
  | slice lo hi => rfl

theorem atPath_list_index (xs : List Val) (i : Val) (rest : List Ix) (g : Val → Out (Val × Val)) :
    atPath (.list xs) (.index i :: rest) g =
      (match (asInt i).bind (pyIndex xs.length) with
      | some k => (ofOpt xs[k.toNat]?).bind fun old =>
          (atPath old rest g).bind fun p => .ok (p.1, .list (xs.set k.toNat p.2))
      | none => .throw) := by
  cases i <;> rfl

/-- **mod_path_refines** — `modify_existing_index` (behind `pop x[i]…`, `remove x[i]…[j]`) walks
the same positions: every index step addresses `pyIndex len i`. -/
theorem mod_path_refines (ixs : List Ix) (lhs : Val) (f g : Val → Out (Val × Val))
    (hfg : ∀ v, DeepOk v → f v = g v) (hok : DeepOk lhs) :
    modPath lhs ixs f = atPath lhs ixs g := by
  induction ixs generalizing lhs with
  | nil => exact hfg lhs hok
  | cons fi rest ih =>
    have list_case : ∀ xs : List Val, lenOk xs.length → (∀ x ∈ xs, DeepOk x) →
        modPath (.list xs) (fi :: rest) f = atPath (.list xs) (fi :: rest) g := by
      intro xs hl hx
      cases fi with
      | index i =>
        rw [atPath_list_index]
        exact list_step xs i hl _ _ (fun x hxm => ih x (hx x hxm)) (fun p => p.2)
          fun p l => (p.1, Val.list l)
      | slice lo hi => rfl
    cases hok with
    | list xs hl hx => exact list_case xs hl hx
    | stream xs hl hx => rw [modPath_stream, atPath_stream]; exact list_case xs hl hx
    | _ => cases fi <;> rfl

/-- `pop x[i₁]…[iₙ]` pops the list at the place the read `x[i₁]…[iₙ]` returns -/
theorem pop_path_refines (ixs : List Ix) (lhs : Val) (hok : DeepOk lhs) :
    modPath lhs ixs tryPop = atPath lhs ixs PyIndex.pop :=
  mod_path_refines ixs lhs _ _ (fun v _ => pop_refines v) hok

theorem seqOk_of_deepOk {v : Val} (h : DeepOk v) : seqOk v := by
  cases h <;> first | trivial | assumption | exact ⟨‹_›, ‹_›, ‹_›⟩

/-- `remove x[i₁]…[iₙ][j]` removes position `pyIndex len j` of the list at that place -/
theorem remove_path_refines (ixs : List Ix) (lhs j : Val) (hok : DeepOk lhs) :
    modPath lhs ixs (fun v => tryRemoveIndex v j) = atPath lhs ixs (fun v => PyIndex.removeIndex v j) :=
  mod_path_refines ixs lhs _ _ (fun v hv => removeIndex_refines v j (seqOk_of_deepOk hv)) hok

/-- `x[i] += d` reads and writes the same position: it is `x[pyIndex] := x[pyIndex] + d` -/
theorem opAssignAdd_refines (xs : List Val) (i : Val) (d : Int) (hl : lenOk xs.length) :
    opAssignAdd (.list xs) i d = addAt (.list xs) i d := by
  unfold opAssignAdd addAt
  rw [← index_refines (.list xs) i hl rfl, index_list_eq xs i hl, set_list_one xs i none false hl]
  cases hp : (asInt i).bind (pyIndex (xs.length : Int)) with
  | none => rfl
  | some k =>
    dsimp only
    cases xs[k.toNat]? with
    | none => rfl
    | some e =>
      cases e with
      | int o =>
        dsimp only [ofOpt, bind_ok]
        rw [set_list_one _ i _ false (by rwa [List.length_set]), setPath_list_one, List.length_set, hp]
        dsimp only
        rw [List.set_set]; rfl
      | _ => rfl

end Noulith.C10
