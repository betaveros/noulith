/-
C05 — the arms of the evaluator (Impl/CoreEval.lean) as chains of `onVal` / `onOk`: "go on with the value of a
normal outcome, anything else is final".  An arm restated this way shows which sub-evaluations it makes, in which
order, and what is done with their values; a statement about all outcomes of an arm (soundness and the agreement of
two fuels, Theorems/C05RelSound.lean; the simulations of Theorems/C17Sim.lean) is then put together from statements
about its sub-evaluations by one rule for `onVal` and one for `onOk`.  The two combinators are defined in
Theorems/C05Eval.lean, with the arms whose store operations the rules name differently.

The end of a `for` (`forEnd`) and the key of `yield k: v` (`itemStep`) are stated with `loopEnd` and `Val.isFunc`, as
the rules state them.  `Noulith.Core` (Theorems/C05Eval.lean) has lemmas of its own called `eval_assign`,
`eval_opassign`, on the store operations of the rules where these are on the frames: hence the namespace.

An arm that returns at once or hands over to one call is not restated (`evalSeq` on `[]` and `[x]`, `evalList`, `evalSwitch`,
`forItems` on `[]`, `evalInto` on `none`; of `eval`, the literals, `while_`, `evalSrc`): `simp only [evalSeq]` and the like give it.
-/
import NoulithModel.Theorems.C05Eval

namespace Noulith.Core.Arms
open Noulith Noulith.Core

/-! ### the arms of the evaluator -/

variable (k : Nat) (st : State) (env : Nat)

theorem eval_list (xs : List Expr) : eval (k + 1) st env (.list xs) =
    onOk (evalList k st env xs) (fun vs s => (.val (.list vs), s)) Prod.mk := by
  simp only [eval]; rfl

/-- a rule for `onVal` (`Settled.onVal`, `Sim.bind`) applies to it as it stands: unification unfolds it -/
def evalTwo (f : Val → Val → OpRes) (a b : Expr) : Res × State :=
  onVal (eval k st env a) (fun va s => onVal (eval k s env b)
    (fun vb s => match f va vb with | .ok v => (.val v, s) | .raise => (.thrown .err, s)) Prod.mk) Prod.mk

theorem eval_op (name : String) (a b : Expr) :
    eval (k + 1) st env (.op name a b) = evalTwo k st env (applyOp name) a b := by
  simp only [eval, evalTwo, onVal_mk]; rfl

theorem eval_index (a b : Expr) : eval (k + 1) st env (.index a b) = evalTwo k st env indexVal a b := by
  simp only [eval, evalTwo, onVal_mk]; rfl

theorem eval_call (f : Expr) (args : List Expr) : eval (k + 1) st env (.call f args) =
    onVal (eval k st env f) (fun vf s => onOk (evalList k s env args) (fun vs s => callVal k s env vf vs) Prod.mk)
      Prod.mk := by
  simp only [eval, onVal_mk]; rfl

/-- as `evalTwo`.  Where `skip` is a `fun` (`eval_and`) the test `skip va` is a β-redex: `cases ht : va.truthy` while it
still is one, then `simp only [ht, …]`, which reduces and rewrites it.  `dsimp only` before that reduces the condition of the
`if` and not its `Decidable` instance, and `cases ht : va.truthy` fails ("`generalize` failed: result is not type correct"). -/
def evalCond (skip : Val → Bool) (a b : Expr) : Res × State :=
  onVal (eval k st env a) (fun va s => if skip va then (.val va, s) else eval k s env b) Prod.mk

theorem eval_and (a b : Expr) : eval (k + 1) st env (.and_ a b) = evalCond k st env (fun v => !v.truthy) a b := by
  simp only [eval, evalCond, onVal_mk]
  rcases eval k st env a with ⟨r, s⟩
  cases r with
  | val v => cases h : v.truthy <;> simp only [andThen, h] <;> rfl
  | _ => rfl

theorem eval_or (a b : Expr) : eval (k + 1) st env (.or_ a b) = evalCond k st env Val.truthy a b := by
  simp only [eval, evalCond, onVal_mk]; rfl

theorem eval_coalesce (a b : Expr) : eval (k + 1) st env (.coalesce a b) =
    evalCond k st env (fun v => match v with | .null => false | _ => true) a b := by
  simp only [eval, evalCond]
  rcases eval k st env a with ⟨r, s⟩
  cases r with
  | val v => cases v <;> rfl
  | _ => rfl

theorem eval_ite (c t : Expr) (e : Option Expr) : eval (k + 1) st env (.ite c t e) =
    onVal (eval k st env c) (fun vc s =>
      if vc.truthy then eval k s env t else match e with | some e => eval k s env e | none => (.val .null, s))
      Prod.mk := by
  simp only [eval, onVal_mk]; rfl

theorem eval_seq (xs : List Expr) (semi : Bool) : eval (k + 1) st env (.seq xs semi) =
    onVal (evalSeq k st env xs) (fun v s => (.val (if semi then .null else v), s)) Prod.mk := by
  simp only [eval, onVal_mk]; rfl

theorem eval_declare (p : Pat) (rhs : Expr) : eval (k + 1) st env (.declare p rhs) =
    onVal (eval k st env rhs) (fun v s =>
      match declarePat (patDepth p + 1) s env p v with
      | (true, s') => (.val .null, s')
      | (false, s') => (.thrown .err, s')) Prod.mk := by
  simp only [eval, onVal_mk]; rfl

theorem eval_assign (x : String) (rhs : Expr) : eval (k + 1) st env (.assign x rhs) =
    onVal (eval k st env rhs) (fun v s =>
      match assignVar s.frames (s.frames.size + 1) env x v with
      | some fs => (.val .null, { s with frames := fs })
      | none => (.thrown .err, s)) Prod.mk := by
  simp only [eval, onVal_mk]; rfl

theorem eval_opassign (x opn : String) (rhs : Expr) : eval (k + 1) st env (.opassign x opn rhs) =
    match st.lookup env x with
    | none => (.thrown .err, st)
    | some old =>
      onVal (eval k st env rhs) (fun v s =>
        match dropVar s.frames (s.frames.size + 1) env x with
        | none => (.thrown .err, s)
        | some fs =>
          match applyOp opn old v with
          | .raise => (.thrown .err, { s with frames := fs })
          | .ok nv =>
            match assignVar fs (fs.size + 1) env x nv with
            | some fs2 => (.val .null, { s with frames := fs2 })
            | none => (.thrown .err, { s with frames := fs })) Prod.mk := by
  simp only [eval, onVal_mk]; rfl

theorem eval_brk (j : Nat) (e : Expr) : eval (k + 1) st env (.brk j (some e)) =
    onVal (eval k st env e) (fun v s => (.brk j (some v), s)) Prod.mk := by
  simp only [eval, onVal_mk]; rfl

theorem eval_ret (e : Expr) : eval (k + 1) st env (.ret (some e)) =
    onVal (eval k st env e) (fun v s => (.ret v, s)) Prod.mk := by
  simp only [eval, onVal_mk]; rfl

theorem eval_throw (e : Expr) : eval (k + 1) st env (.throw_ e) =
    onVal (eval k st env e) (fun v s => (.thrown v, s)) Prod.mk := by
  simp only [eval, onVal_mk]; rfl

theorem eval_switch (sc : Expr) (arms : List SwitchArm) : eval (k + 1) st env (.switch_ sc arms) =
    onVal (eval k st env sc) (fun v s => evalSwitch k s env v arms) Prod.mk := by
  simp only [eval, onVal_mk]; rfl

theorem evalSeq_cons (x y : Expr) (ys : List Expr) : evalSeq (k + 1) st env (x :: y :: ys) =
    onVal (eval k st env x) (fun _ s => evalSeq k s env (y :: ys)) Prod.mk := by
  simp only [evalSeq, onVal_mk]; rfl

theorem evalList_cons (x : Expr) (xs : List Expr) : evalList (k + 1) st env (x :: xs) =
    onVal (eval k st env x)
      (fun v s => onOk (evalList k s env xs) (fun vs s => (.ok (v :: vs), s)) fun r s => (.stop r, s))
      fun r s => (.stop r, s) := by
  simp only [evalList]
  rcases eval k st env x with ⟨r, s⟩
  cases r with
  | val v =>
    dsimp only [onVal]
    rcases evalList k s env xs with ⟨rl, s2⟩
    cases rl <;> rfl
  | _ => rfl

def whileNext (again : State → Res × State) (x : Res × State) : Res × State :=
  match x with
  | (.val _, s) => again s
  | (.brk 0 v, s) => (.val (v.getD .null), s)
  | (.cont 0, s) => again s
  | (.brk (n + 1) v, s) => (.brk n v, s)
  | (.cont (n + 1), s) => (.cont n, s)
  | r => r

theorem evalWhile_succ (c b : Expr) : evalWhile (k + 1) st env c b =
    onVal (eval k (newFrame st env).1 (newFrame st env).2 c)
      (fun vc s =>
        if !vc.truthy then (.val .null, s)
        else whileNext (fun s => evalWhile k s env c b) (eval k s (newFrame st env).2 b)) Prod.mk := by
  simp only [evalWhile, onVal_mk]; rfl

theorem forBody_exec (e : Expr) (acc : ForAcc) : forBody (k + 1) st env (.exec e) acc =
    onVal (eval k st env e) (fun _ s => (.val .null, s, acc)) fun r s => (r, s, acc) := by
  simp only [forBody]; rfl

theorem forBody_yield (e : Expr) (into : Option Expr) (acc : ForAcc) : forBody (k + 1) st env (.yield e into) acc =
    onVal (eval k st env e) (fun v s =>
      match acc.cata.give v with
      | .ok c => (.val .null, s, { acc with cata := c })
      | .brk v => (.brk 0 (some v), s, acc)
      | .raise => (.thrown .err, s, acc)) fun r s => (r, s, acc) := by
  simp only [forBody]; rfl

/-- what `forBody` does with `yield k: v` once the key has evaluated to `vk` in `st1`; `rv` is the outcome of
the value expression evaluated in `st1` (not looked at when the key is rejected or its entry has broken out) -/
def itemStep (vk : Val) (acc : ForAcc) (st1 : State) (rv : Res × State) : Res × State × ForAcc :=
  if vk.isFunc then (.thrown .err, st1, acc)
  else match dictFind acc.dict vk with
    | some (.inr _) => (.val .null, st1, acc)
    | some (.inl c) =>
      match rv with
      | (.val vv, st) =>
        match c.give vv with
        | .ok c' => (.val .null, st, { acc with dict := dictSet acc.dict vk (.inl c') })
        | .brk b => (.val .null, st, { acc with dict := dictSet acc.dict vk (.inr b) })
        | .raise => (.thrown .err, st, acc)
      | (r, st) => (r, st, acc)
    | none =>
      match rv with
      | (.val vv, st) =>
        match acc.cata.give vv with
        | .ok c' => (.val .null, st, { acc with dict := acc.dict ++ [(vk, .inl c')] })
        | .brk b => (.val .null, st, { acc with dict := acc.dict ++ [(vk, .inr b)] })
        | .raise => (.thrown .err, st, acc)
      | (r, st) => (r, st, acc)

theorem forBody_yieldItem (key v : Expr) (into : Option Expr) (acc : ForAcc) :
    forBody (k + 1) st env (.yieldItem key v into) acc =
      onVal (eval k st env key) (fun vk s => itemStep vk acc s (eval k s env v)) fun r s => (r, s, acc) := by
  rw [forBody]
  rcases eval k st env key with ⟨r, s⟩
  cases r with
  | val vk => cases vk <;> rfl
  | _ => rfl

theorem evalFor_nil (body : ForBody) (acc : ForAcc) : evalFor (k + 1) st env [] body acc =
    match forBody k st env body acc with
    | (.cont 0, s, acc) => (.val .null, s, acc)
    | r => r := by
  simp only [evalFor]; rfl

theorem evalFor_guard (g : Expr) (rest : List ForIt) (body : ForBody) (acc : ForAcc) :
    evalFor (k + 1) st env (.guard g :: rest) body acc =
      onVal (eval k st env g) (fun v s => if v.truthy then evalFor k s env rest body acc else (.val .null, s, acc))
        fun r s => (r, s, acc) := by
  simp only [evalFor]; rfl

/-! ### fresh scopes -/

def inFresh {β : Type} (st : State) (env : Nat) (p : Pat) (v : Val) (yes : State → Nat → β) (no : State → β) : β :=
  let (st1, ee) := newFrame st env
  match declarePat (patDepth p + 1) st1 ee p v with
  | (true, st2) => yes st2 ee
  | (false, st2) => no st2

theorem eval_try (b c : Expr) (p : Pat) : eval (k + 1) st env (.try_ b p c) =
    match eval k st env b with
    | (.thrown v, s) => inFresh s env p v (fun s2 ee => eval k s2 ee c) fun s2 => (.thrown v, s2)
    | r => r := by
  simp only [eval]; rfl

theorem evalSwitch_cons (v : Val) (p : Pat) (body : Expr) (rest : List SwitchArm) :
    evalSwitch (k + 1) st env v (.mk p body :: rest) =
      inFresh st env p v (fun s2 ee => eval k s2 ee body) fun s2 => evalSwitch k s2 env v rest := by
  simp only [evalSwitch]; rfl

theorem forItems_cons (p : Pat) (x : Val) (xs : List Val) (rest : List ForIt) (body : ForBody) (acc : ForAcc) :
    forItems (k + 1) st env p (x :: xs) rest body acc =
      inFresh st env p x
        (fun s2 ee => match evalFor k s2 ee rest body acc with
          | (.val _, s3, acc) => forItems k s3 env p xs rest body acc
          | r => r)
        fun s2 => (.thrown .err, s2, acc) := by
  simp only [forItems, inFresh]
  rcases declarePat (patDepth p + 1) (newFrame st env).1 (newFrame st env).2 p x with ⟨ok, s⟩
  cases ok <;> rfl

theorem evalFor_iter (kind : IterKind) (p : Pat) (e : Expr) (rest : List ForIt) (body : ForBody) (acc : ForAcc) :
    evalFor (k + 1) st env (.iter kind p e :: rest) body acc =
      onVal (eval k st env e) (fun v s =>
        match kind with
        | .declare => inFresh s env p v (fun s2 ee => evalFor k s2 ee rest body acc) fun s2 => (.thrown .err, s2, acc)
        | .normal =>
          match iterValues v with
          | some items => forItems k s env p items rest body acc
          | none => (.thrown .err, s, acc)
        | .item =>
          match iterPairs v with
          | some items => forItems k s env p items rest body acc
          | none => (.thrown .err, s, acc)) fun r s => (r, s, acc) := by
  simp only [evalFor]; rfl

/-! ### the end of a `for`

What `eval` does with the outcome of the iteration: translate `break` / `continue` levels (`loopEnd`), finish the
catamorphism(s), apply the `into` function. -/

def forEnd (completed : State → ForAcc → Res × State) (x : Res × State × ForAcc) : Res × State :=
  match x with
  | (r, st, acc) =>
    match loopEnd r with
    | .completed => completed st acc
    | .broke v => (.val v, st)
    | .exit r' => (r', st)

def applyPost (k env : Nat) (post : Option Val) (fin : Res × State) : Res × State :=
  match post, fin with
  | some f, (.val v, st) => callVal k st env f [v]
  | _, r => r

/-- an exit that travels on out of a loop is not a value: the `into` function is not applied to it -/
theorem applyPost_of_exit {r r' : Res} (h : loopEnd r = .exit r') (k env : Nat) (post : Option Val) (s : State) :
    applyPost k env post (r', s) = (r', s) := by
  cases post with
  | none => rfl
  | some f => rcases r with _ | ⟨_ | _, _ | _⟩ | ⟨_ | _⟩ | _ | _ | _ <;> cases h <;> rfl

theorem itemCata_congr {into into' : Option Expr} (h : into.isSome = into'.isSome) (post : Option Val)
    (cata0 : Cata) : itemCata into cata0 post = itemCata into' cata0 post := by
  cases into with
  | none =>
    cases into' with
    | none => rfl
    | some _ => cases h
  | some _ =>
    cases into' with
    | none => cases h
    | some _ => cases post <;> rfl

theorem eval_for_exec (its : List ForIt) (e : Expr) : eval (k + 1) st env (.for_ its (.exec e)) =
    forEnd (fun s _ => (.val .null, s)) (evalFor k st env its (.exec e) default) := by
  simp only [eval, forEnd]
  rcases evalFor k st env its (.exec e) default with ⟨r, s, acc⟩
  rcases r with _ | ⟨_ | _, _ | _⟩ | ⟨_ | _⟩ | _ | _ | _ <;> rfl

def yieldDone (s : State) (acc : ForAcc) : Res × State :=
  (match acc.cata.finish with | .ok v => .val v | .raise => .thrown .err, s)

theorem eval_for_yield (its : List ForIt) (e : Expr) (into : Option Expr) :
    eval (k + 1) st env (.for_ its (.yield e into)) =
      match evalInto k st env into with
      | (.inr r, s) => (r, s)
      | (.inl (cata0, post), s) =>
        applyPost k env post (forEnd yieldDone (evalFor k s env its (.yield e into) { cata := cata0, dict := [] })) := by
  simp only [eval, forEnd]
  rcases evalInto k st env into with ⟨⟨c0, post⟩ | r, s⟩
  · dsimp only
    rcases evalFor k s env its (.yield e into) { cata := c0, dict := [] } with ⟨r, s, acc⟩
    rcases r with _ | ⟨_ | _, _ | _⟩ | ⟨_ | _⟩ | _ | _ | _ <;> rfl
  · rfl

theorem eval_for_item (its : List ForIt) (key v : Expr) (into : Option Expr) :
    eval (k + 1) st env (.for_ its (.yieldItem key v into)) =
      match evalInto k st env into with
      | (.inr r, s) => (r, s)
      | (.inl (cata0, post), s) =>
        forEnd (fun s acc => finishDict k s env post acc.dict [])
          (evalFor k s env its (.yieldItem key v into) { cata := itemCata into cata0 post, dict := [] }) := by
  simp only [eval, forEnd, itemCata]
  rcases evalInto k st env into with ⟨⟨c0, post⟩ | r, s⟩
  · dsimp only
    generalize evalFor k s env its _ _ = x
    obtain ⟨r, s, acc⟩ := x
    rcases r with _ | ⟨_ | _, _ | _⟩ | ⟨_ | _⟩ | _ | _ | _ <;> rfl
  · rfl

end Noulith.Core.Arms
