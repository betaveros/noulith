/-
C17 — the rules of a simulation `eval (φ st) e' ~ φ (eval st e)` (`Sim`, Theorems/C17Sim.lean), one per construct of
the evaluator, proved once.  The three inductions over the fuel (Theorems/C17PreserveEval.lean, C17Insensitive.lean,
C17ClosuresEval.lean) each invert their own checker, arm by arm, and apply the rule.  `.lambda`, `.evalSrc`, `.freeze`
and a call whose callee is not a builtin have no rule: a checker rejects them, or its induction proves the arm from its
own invariant (the local functions of C17ClosuresEval.lean).

A rule says: if the sub-expressions of the two sides are related (`Ev`), so are the two constructs.  What it needs to
know of the invariant is collected in `PLogic`: a precondition `Pre c st env` (`c`: what the checker has established
so far, e.g. the names surely declared), a postcondition `Post c st env c' nm s` (from `c`, `st` the step has reached
`c'`, `s`; `nm`: it ended normally) with its composition laws, and what the store operations do under `φ`.
`le c1 c2` and `rst c1 c2` serve the sub-expressions that may not run: a rule asks for `le c1 c2` where the step from
`c1` to `c2` can be skipped.  Skipped only by an abnormal exit (`op`, `index`, `list_cons`, `seq_cons`, `declare`,
`call_builtin`, `opassign`), the rule ends in `c2` all the same (field `abort`); skipped by a normal run (`and_`, `or_`,
`coalesce`, `ite`), it ends in `rst c1 c2`, what is known of `c2` whether or not the step ran (field `weaken`).  `try_`
and the `for` rules end in some `rst c _`, `c` their own start (field `keep`).

Every rule is stated at fuel `k + 1`, the leaves and the `nil`s too.  At fuel 0 the `X.zero` forms take their place;
those that end in a `c1` other than `c` ask for `le c c1`, so for a rule that ends in `rst c c1` it is `le c (rst c c1)`,
which is no law of `PLogic`.  Nothing carries an `Ev` from one fuel to another: the hypotheses of a derived rule sit at
the very fuels its arms use.

`EvBuiltin` — both sides evaluate to one builtin and leave the store alone — is what the rules ask of a callee
(`call_builtin`) and of an `into` function (`IntoOk.builtin`).

`Logic` is the common special case — a relation `Step` between stores that `Pre` survives — with `Logic.toP`.

`Ev` and its companions are structures with the one field `sim` (not definitions that unfold to `∀ {st env}, … → Sim …`):
a rule is then applied to a goal `L.Ev …` by plain unification, which reads `L` and the contexts off the goal.
-/
import NoulithModel.Theorems.C17Sim
import NoulithModel.Theorems.C17Frames

namespace Noulith.C17Sim
open Noulith Noulith.Core
open Noulith.C17Preserve (IsVal IsOk PostFn isVal_val isOk_ok not_isVal_thrown not_isVal_brk not_isVal_ret
  not_isVal_fuelOut not_isOk_stop evalList_stop_not_val callVal_builtin_frames)

structure PLogic (φ : State → State) (C : Type) where
  Pre : C → State → Nat → Prop
  Post : C → State → Nat → C → Prop → State → Prop
  /-- which patterns may be bound, and what is established once one is -/
  PatOk : C → Pat → C → Prop
  /-- which variables may be read and written -/
  Var : C → String → Prop
  le : C → C → Prop
  rst : C → C → C
  /-- `φ` changes the frames only -/
  f : Array Frame → Array Frame
  frames : ∀ st, φ st = { st with frames := f st.frames }
  le_refl : ∀ c, le c c
  /-- all that the rules know of a call of a builtin (`call_builtin`, `finish`): frames and table stay.  So no `Post` can
  constrain `State.out` -/
  still : ∀ {c st env nm s}, Pre c st env → s.frames = st.frames → s.frozenTab = st.frozenTab → Post c st env c nm s
  toPre : ∀ {c st env c' nm s}, Pre c st env → Post c st env c' nm s → nm → Pre c' s env
  /-- a step that did not end normally has reached every `c2` with `le c1 c2`: `Pre c2` is owed to a normal end only (`toPre`) -/
  abort : ∀ {c st env c1 c2 nm nm' s}, Post c st env c1 nm s → ¬ nm' → le c1 c2 → Post c st env c2 nm' s
  imp : ∀ {c st env c1 nm nm' s}, Post c st env c1 nm s → (nm' → nm) → Post c st env c1 nm' s
  seq : ∀ {c st env c1 c2 nm1 nm2 s s2}, nm1 → Post c st env c1 nm1 s → Post c1 s env c2 nm2 s2 →
    Post c st env c2 nm2 s2
  weaken : ∀ {c st env c1 c2 nm s}, Post c st env c1 nm s → le c1 c2 → Post c st env (rst c1 c2) nm s
  /-- whatever happened, what was known at the start still is -/
  keep : ∀ {c st env c1 c2 nm nm' s}, Pre c st env → Post c st env c1 nm s → le c1 c2 →
    Post c st env (rst c c2) nm' s
  /-- the fresh child scope of `env`, and the way back out of it -/
  fresh : ∀ {c st env}, Pre c st env →
    newFrame (φ st) env = (φ (newFrame st env).1, (newFrame st env).2) ∧
      Pre c (newFrame st env).1 (newFrame st env).2 ∧
      ∀ {ci nmI s nm}, Post c (newFrame st env).1 (newFrame st env).2 ci nmI s → Post c st env c nm s
  bind : ∀ {c c' st env p} (d : Nat) (v : Val), Pre c st env → PatOk c p c' →
    declarePat d (φ st) env p v = ((declarePat d st env p v).1, φ (declarePat d st env p v).2) ∧
      ∀ {nm : Prop}, (nm → (declarePat d st env p v).1 = true) → Post c st env c' nm (declarePat d st env p v).2
  lookup : ∀ {c st env x}, Pre c st env → Var c x → (φ st).lookup env x = st.lookup env x
  /-- with it `assign_` and `opassign` make of a successful `assignVar`, `dropVar` the `WriteStep` that `write` takes
  (`C17Frames.assignVar_step`, `dropVar_step`).  Together with `fresh` it puts `env < st.frames.size` into `Pre` as well -/
  wf : ∀ {c st env}, Pre c st env → C17Frames.WF st
  assign : ∀ {c st env x} (v : Val), Pre c st env → Var c x →
    assignVar (f st.frames) ((f st.frames).size + 1) env x v =
      (assignVar st.frames (st.frames.size + 1) env x v).map f
  drop : ∀ {c st env x}, Pre c st env → Var c x →
    dropVar (f st.frames) ((f st.frames).size + 1) env x = (dropVar st.frames (st.frames.size + 1) env x).map f
  write : ∀ {c st env x fs nm}, Pre c st env → Var c x → C17Frames.WriteStep st.frames fs env x →
    Post c st env c nm { st with frames := fs }

variable {φ : State → State} {C : Type} (L : PLogic φ C)

/-- `e'`, run in the mapped store, does what `e` does; `c`, `c'`: what the checker knows before and after -/
structure PLogic.Ev (k : Nat) (c : C) (e' e : Expr) (c' : C) : Prop where
  sim : ∀ {st env}, L.Pre c st env →
    Sim φ (fun r s => L.Post c st env c' (IsVal r) s) (eval k (φ st) env e') (eval k st env e)

structure PLogic.EvList (k : Nat) (c : C) (es' es : List Expr) (c' : C) : Prop where
  sim : ∀ {st env}, L.Pre c st env →
    Sim φ (fun r s => L.Post c st env c' (IsOk r) s) (evalList k (φ st) env es') (evalList k st env es)

structure PLogic.EvSeq (k : Nat) (c : C) (es' es : List Expr) (c' : C) : Prop where
  sim : ∀ {st env}, L.Pre c st env →
    Sim φ (fun r s => L.Post c st env c' (IsVal r) s) (evalSeq k (φ st) env es') (evalSeq k st env es)

structure PLogic.EvWhile (k : Nat) (c : C) (cnd' b' cnd b : Expr) : Prop where
  sim : ∀ {st env}, L.Pre c st env →
    Sim φ (fun r s => L.Post c st env c (IsVal r) s) (evalWhile k (φ st) env cnd' b') (evalWhile k st env cnd b)

structure PLogic.EvSwitch (k : Nat) (c : C) (arms' arms : List SwitchArm) : Prop where
  sim : ∀ {st env} (v : Val), L.Pre c st env →
    Sim φ (fun r s => L.Post c st env c (IsVal r) s) (evalSwitch k (φ st) env v arms') (evalSwitch k st env v arms)

structure PLogic.EvBody (k : Nat) (c : C) (body' body : ForBody) (c' : C) : Prop where
  sim : ∀ {st env} (acc : ForAcc), L.Pre c st env →
    Sim3 φ (fun r s => L.Post c st env c' (IsVal r) s) (forBody k (φ st) env body' acc) (forBody k st env body acc)

structure PLogic.EvFor (k : Nat) (c : C) (its' : List ForIt) (body' : ForBody) (its : List ForIt) (body : ForBody)
    (c' : C) : Prop where
  sim : ∀ {st env} (acc : ForAcc), L.Pre c st env →
    Sim3 φ (fun r s => L.Post c st env c' (IsVal r) s) (evalFor k (φ st) env its' body' acc)
      (evalFor k st env its body acc)

structure PLogic.EvItems (k : Nat) (c : C) (p : Pat) (its' : List ForIt) (body' : ForBody) (its : List ForIt)
    (body : ForBody) : Prop where
  sim : ∀ {st env} (items : List Val) (acc : ForAcc), L.Pre c st env →
    Sim3 φ (fun r s => L.Post c st env c (IsVal r) s) (forItems k (φ st) env p items its' body' acc)
      (forItems k st env p items its body acc)

/-- `e'` and `e` evaluate, without touching the store, to one and the same builtin (or the fuel does not suffice):
what the rules ask of a callee and of an `into` function -/
def PLogic.EvBuiltin (k : Nat) (c : C) (e' e : Expr) : Prop :=
  ∀ {st env}, L.Pre c st env →
    (eval k (φ st) env e' = (.fuelOut, φ st) ∧ eval k st env e = (.fuelOut, st)) ∨
      ∃ fn, eval k (φ st) env e' = (.val (.builtin fn), φ st) ∧ eval k st env e = (.val (.builtin fn), st)

variable {L} {c c1 c2 c3 : C} {st s s2 : State} {env : Nat} {nm nm' : Prop} {k : Nat} {a a' b b' e e' : Expr}

namespace PLogic

theorem refl (g : L.Pre c st env) : L.Post c st env c nm st := L.still g rfl rfl

/-- composition after a step of any outcome -/
theorem seqExt (g : L.Pre c st env) (h1 : L.Post c st env c1 nm s) (h2 : L.Post (L.rst c c1) s env c2 nm' s2) :
    L.Post c st env c2 nm' s2 := L.seq trivial (L.keep (nm' := True) g h1 (L.le_refl _)) h2

theorem preW (g : L.Pre c st env) (h1 : L.Post c st env c1 nm s) : L.Pre (L.rst c c1) s env :=
  L.toPre g (L.keep (nm' := True) g h1 (L.le_refl _)) trivial

theorem frames_eq (st : State) : (φ st).frames = L.f st.frames := by rw [L.frames]

theorem upd (s : State) (fs : Array Frame) : { φ s with frames := L.f fs } = φ { s with frames := fs } := by
  rw [L.frames, L.frames]

theorem framesOnly (L : PLogic φ C) : FramesOnly φ := ⟨L.f, L.frames⟩

/-! ### leaves, exits -/

theorem final (h12 : L.le c1 c2) (r : Res) (s : State) (hr : ¬ IsVal r) (h : L.Post c st env c1 (IsVal r) s) :
    Sim φ (fun r s => L.Post c st env c2 (IsVal r) s) (r, φ s) (r, s) := ⟨rfl, L.abort h hr h12⟩

theorem leaf (g : L.Pre c st env) (r : Res) : Sim φ (fun r s => L.Post c st env c (IsVal r) s) (r, φ st) (r, st) :=
  ⟨rfl, refl g⟩

theorem const {r : Res} (h : ∀ st env, eval (k + 1) st env e = (r, st)) : L.Ev (k + 1) c e e c := ⟨fun g => by
  rw [h, h]
  exact leaf g r⟩

theorem null : L.Ev (k + 1) c .null .null c := const (r := .val .null) fun _ _ => by simp only [eval]

theorem int (j : Int) : L.Ev (k + 1) c (.int j) (.int j) c := const (r := .val (.int j)) fun _ _ => by simp only [eval]

theorem str (x : String) : L.Ev (k + 1) c (.str x) (.str x) c :=
  const (r := .val (.str x)) fun _ _ => by simp only [eval]

theorem cont (j : Nat) : L.Ev (k + 1) c (.cont j) (.cont j) c := const (r := .cont j) fun _ _ => by simp only [eval]

theorem brk_none (j : Nat) : L.Ev (k + 1) c (.brk j none) (.brk j none) c :=
  const (r := .brk j none) fun _ _ => by simp only [eval]

theorem ret_none : L.Ev (k + 1) c (.ret none) (.ret none) c := const (r := .ret .null) fun _ _ => by simp only [eval]

theorem frozen (i : Nat) : L.Ev (k + 1) c (.frozen i) (.frozen i) c := ⟨fun {st env} g => by
  have : (φ st).frozenTab = st.frozenTab := by rw [L.frames]
  simp only [eval, this]
  exact leaf g _⟩

theorem Ev.zero (h : L.le c c1) : L.Ev 0 c e' e c1 := ⟨fun g => by
  simp only [eval]
  exact ⟨rfl, L.abort (refl (nm := True) g) not_isVal_fuelOut h⟩⟩

theorem EvList.zero {es es' : List Expr} (h : L.le c c1) : L.EvList 0 c es' es c1 := ⟨fun g => by
  simp only [evalList]
  exact ⟨rfl, L.abort (refl (nm := True) g) (not_isOk_stop _) h⟩⟩

theorem EvSeq.zero {es es' : List Expr} (h : L.le c c1) : L.EvSeq 0 c es' es c1 := ⟨fun g => by
  simp only [evalSeq]
  exact ⟨rfl, L.abort (refl (nm := True) g) not_isVal_fuelOut h⟩⟩

theorem EvSwitch.zero {arms arms' : List SwitchArm} : L.EvSwitch 0 c arms' arms := ⟨fun _ g => by
  simp only [evalSwitch]
  exact ⟨rfl, refl g⟩⟩

theorem EvWhile.zero {cnd cnd' : Expr} : L.EvWhile 0 c cnd' b' cnd b := ⟨fun g => by
  simp only [evalWhile]
  exact ⟨rfl, refl g⟩⟩

theorem EvFor.zero {its its' : List ForIt} {body body' : ForBody} (h : L.le c c1) :
    L.EvFor 0 c its' body' its body c1 := ⟨fun _ g => by
  simp only [evalFor]
  exact ⟨rfl, L.abort (refl (nm := True) g) not_isVal_fuelOut h⟩⟩

theorem EvItems.zero {p : Pat} {its its' : List ForIt} {body body' : ForBody} :
    L.EvItems 0 c p its' body' its body := ⟨fun _ _ g => by
  simp only [forItems]
  exact ⟨rfl, refl g⟩⟩

theorem EvBody.zero {body body' : ForBody} (h : L.le c c1) : L.EvBody 0 c body' body c1 := ⟨fun _ g => by
  simp only [forBody]
  exact ⟨rfl, L.abort (refl (nm := True) g) not_isVal_fuelOut h⟩⟩

/-- `break e`, `return e`, `throw e` -/
theorem exit (he : L.Ev k c e' e c1) (w : Val → Res) (hw : ∀ v, ¬ IsVal (w v)) (g : L.Pre c st env) :
    Sim φ (fun r s => L.Post c st env c1 (IsVal r) s) (onVal (eval k (φ st) env e') (fun v s => (w v, s)) Prod.mk)
      (onVal (eval k st env e) (fun v s => (w v, s)) Prod.mk) :=
  (he.sim g).bind (fun v _ p => ⟨rfl, L.abort p (hw v) (L.le_refl _)⟩) (final (L.le_refl _))

theorem throw_ (he : L.Ev k c e' e c1) : L.Ev (k + 1) c (.throw_ e') (.throw_ e) c1 := ⟨fun g => by
  rw [eval_throw, eval_throw]
  exact exit he _ not_isVal_thrown g⟩

theorem brk (j : Nat) (he : L.Ev k c e' e c1) : L.Ev (k + 1) c (.brk j (some e')) (.brk j (some e)) c1 := ⟨fun g => by
  rw [eval_brk, eval_brk]
  exact exit he _ (fun v => not_isVal_brk j (some v)) g⟩

theorem ret (he : L.Ev k c e' e c1) : L.Ev (k + 1) c (.ret (some e')) (.ret (some e)) c1 := ⟨fun g => by
  rw [eval_ret, eval_ret]
  exact exit he _ not_isVal_ret g⟩

/-! ### two operands -/

theorem two (f : Val → Val → OpRes) (ha : L.Ev k c a' a c1) (hb : L.Ev k c1 b' b c2) (h12 : L.le c1 c2)
    (g : L.Pre c st env) :
    Sim φ (fun r s => L.Post c st env c2 (IsVal r) s) (evalTwo k (φ st) env f a' b') (evalTwo k st env f a b) := by
  refine (ha.sim g).bind (fun va s pa => ?_) (final h12)
  refine (hb.sim (L.toPre g pa (isVal_val va))).bind (fun vb s2 pb => ?_)
    fun r s2 hr pb => ⟨rfl, L.seq (isVal_val va) pa pb⟩
  cases f va vb with
  | ok v => exact ⟨rfl, L.imp (L.seq (isVal_val va) pa pb) fun _ => isVal_val vb⟩
  | raise => exact ⟨rfl, L.abort (L.seq (isVal_val va) pa pb) (not_isVal_thrown _) (L.le_refl _)⟩

theorem op (name : String) (ha : L.Ev k c a' a c1) (hb : L.Ev k c1 b' b c2) (h12 : L.le c1 c2) :
    L.Ev (k + 1) c (.op name a' b') (.op name a b) c2 := ⟨fun g => by
  rw [eval_op, eval_op]
  exact two _ ha hb h12 g⟩

theorem index (ha : L.Ev k c a' a c1) (hb : L.Ev k c1 b' b c2) (h12 : L.le c1 c2) :
    L.Ev (k + 1) c (.index a' b') (.index a b) c2 := ⟨fun g => by
  rw [eval_index, eval_index]
  exact two _ ha hb h12 g⟩

/-! ### an operand or branch that may not run: what it establishes is forgotten -/

theorem Ev.after {va : Val} (hb : L.Ev k c1 b' b c2) (g : L.Pre c st env)
    (pa : L.Post c st env c1 (IsVal (.val va)) s) :
    Sim φ (fun r s => L.Post c st env (L.rst c1 c2) (IsVal r) s) (eval k (φ s) env b') (eval k s env b) :=
  (hb.sim (L.toPre g pa (isVal_val va))).mono fun _ _ pb =>
    L.seq (isVal_val va) pa (L.keep (L.toPre g pa (isVal_val va)) pb (L.le_refl _))

/-- `and`, `or`, `coalesce` -/
theorem cond (skip : Val → Bool) (ha : L.Ev k c a' a c1) (hb : L.Ev k c1 b' b c2) (h12 : L.le c1 c2)
    (g : L.Pre c st env) :
    Sim φ (fun r s => L.Post c st env (L.rst c1 c2) (IsVal r) s) (Arms.evalCond k (φ st) env skip a' b')
      (Arms.evalCond k st env skip a b) := by
  refine (ha.sim g).bind (fun va s pa => ?_) fun r s _ pa => ⟨rfl, L.weaken pa h12⟩
  cases skip va with
  | true => exact ⟨rfl, L.weaken pa h12⟩
  | false => exact hb.after g pa

theorem and_ (ha : L.Ev k c a' a c1) (hb : L.Ev k c1 b' b c2) (h12 : L.le c1 c2) :
    L.Ev (k + 1) c (.and_ a' b') (.and_ a b) (L.rst c1 c2) := ⟨fun g => by
  rw [eval_and, eval_and]
  exact cond _ ha hb h12 g⟩

theorem or_ (ha : L.Ev k c a' a c1) (hb : L.Ev k c1 b' b c2) (h12 : L.le c1 c2) :
    L.Ev (k + 1) c (.or_ a' b') (.or_ a b) (L.rst c1 c2) := ⟨fun g => by
  rw [eval_or, eval_or]
  exact cond _ ha hb h12 g⟩

theorem coalesce (ha : L.Ev k c a' a c1) (hb : L.Ev k c1 b' b c2) (h12 : L.le c1 c2) :
    L.Ev (k + 1) c (.coalesce a' b') (.coalesce a b) (L.rst c1 c2) := ⟨fun g => by
  rw [eval_coalesce, eval_coalesce]
  exact cond _ ha hb h12 g⟩

/-- the branches are checked one after the other: the second from what is known of the first whether or not it ran.
Without an `else` nothing constrains `c3` but `h23`: `rst c1 c2` itself will do (`le_refl`) -/
theorem ite {cnd cnd' t t' : Expr} {eo eo' : Option Expr} (hc : L.Ev k c cnd' cnd c1) (ht : L.Ev k c1 t' t c2)
    (h12 : L.le c1 c2) (h23 : L.le (L.rst c1 c2) c3)
    (he : ∀ x, eo = some x → ∃ x', eo' = some x' ∧ L.Ev k (L.rst c1 c2) x' x c3) (hn : eo = none → eo' = none) :
    L.Ev (k + 1) c (.ite cnd' t' eo') (.ite cnd t eo) (L.rst (L.rst c1 c2) c3) := ⟨fun g => by
  rw [eval_ite, eval_ite]
  refine (hc.sim g).bind (fun vc s pc => ?_) fun r s _ pc => ⟨rfl, L.weaken (L.weaken pc h12) h23⟩
  cases vc.truthy with
  | true => exact (ht.after g pc).mono fun _ _ p => L.weaken p h23
  | false =>
    cases eo with
    | none => rw [hn rfl]; exact ⟨rfl, L.imp (L.weaken (L.weaken pc h12) h23) fun _ => isVal_val vc⟩
    | some x =>
      obtain ⟨x', rfl, hx⟩ := he x rfl
      have pc2 := L.weaken pc h12
      exact (hx.sim (L.toPre g pc2 (isVal_val vc))).mono fun _ _ pe =>
        L.seq (isVal_val vc) pc2 (L.keep (L.toPre g pc2 (isVal_val vc)) pe (L.le_refl _))⟩

/-! ### lists and sequences -/

theorem list_nil : L.EvList (k + 1) c [] [] c := ⟨fun g => by
  simp only [evalList]
  exact ⟨rfl, refl g⟩⟩

theorem list_cons {x x' : Expr} {xs xs' : List Expr} (hx : L.Ev k c x' x c1) (hxs : L.EvList k c1 xs' xs c2)
    (h12 : L.le c1 c2) : L.EvList (k + 1) c (x' :: xs') (x :: xs) c2 := ⟨fun g => by
  rw [evalList_cons, evalList_cons]
  refine (hx.sim g).bind (fun v s px => ?_) fun r s _ px => ⟨rfl, L.abort px (not_isOk_stop _) h12⟩
  exact (hxs.sim (L.toPre g px (isVal_val v))).bindOk
    (fun vs s2 pl => ⟨rfl, L.imp (L.seq (isVal_val v) px pl) fun _ => isOk_ok vs⟩)
    fun r s2 _ pl => ⟨rfl, L.seq (isVal_val v) px pl⟩⟩

theorem seq_nil : L.EvSeq (k + 1) c [] [] c := ⟨fun g => by
  simp only [evalSeq]
  exact ⟨rfl, refl g⟩⟩

theorem seq_one {x x' : Expr} (hx : L.Ev k c x' x c1) : L.EvSeq (k + 1) c [x'] [x] c1 := ⟨fun g => by
  simp only [evalSeq]
  exact hx.sim g⟩

theorem seq_cons {x x' y y' : Expr} {ys ys' : List Expr} (hx : L.Ev k c x' x c1)
    (hxs : L.EvSeq k c1 (y' :: ys') (y :: ys) c2) (h12 : L.le c1 c2) :
    L.EvSeq (k + 1) c (x' :: y' :: ys') (x :: y :: ys) c2 := ⟨fun g => by
  rw [evalSeq_cons, evalSeq_cons]
  exact (hx.sim g).bind (fun v s px => (hxs.sim (L.toPre g px (isVal_val v))).mono fun _ _ pl => L.seq (isVal_val v) px pl)
    (final h12)⟩

theorem list {xs xs' : List Expr} (h : L.EvList k c xs' xs c1) : L.Ev (k + 1) c (.list xs') (.list xs) c1 :=
  ⟨fun g => by
  rw [eval_list, eval_list]
  exact (h.sim g).bindOk (fun vs _ pl => ⟨rfl, L.imp pl fun _ => isOk_ok vs⟩)
    fun r _ hl pl => ⟨rfl, L.imp pl fun hv => absurd hv (evalList_stop_not_val _ _ _ _ _ _ hl)⟩⟩

theorem seq_ {xs xs' : List Expr} (semi : Bool) (h : L.EvSeq k c xs' xs c1) :
    L.Ev (k + 1) c (.seq xs' semi) (.seq xs semi) c1 := ⟨fun g => by
  rw [eval_seq, eval_seq]
  exact (h.sim g).bind (fun v _ p => ⟨rfl, L.imp p fun _ => isVal_val v⟩) (final (L.le_refl _))⟩

/-! ### a builtin called: the frames are left alone -/

/-- a `Frozen` node that holds a builtin, against whatever evaluates as the node does -/
theorem builtin_frozen {i : Nat} (he : ∀ j, L.Ev (j + 1) c e' (.frozen i) c1)
    (hb : ∀ {st env}, L.Pre c st env → ∃ fn, st.frozenTab[i]? = some (.builtin fn)) :
    L.EvBuiltin k c e' (.frozen i) := fun {st env} g => by
  obtain ⟨fn, hget⟩ := hb g
  cases k with
  | zero => exact .inl ⟨by simp only [eval], by simp only [eval]⟩
  | succ j =>
    refine .inr ⟨fn, ?_, by simp only [eval, hget]⟩
    rw [((he j).sim g).eq]
    simp only [eval, hget]

theorem call_builtin {f f' : Expr} {args args' : List Expr} (hf : L.EvBuiltin k c f' f)
    (ha : L.EvList k c args' args c1) (h01 : L.le c c1) :
    L.Ev (k + 1) c (.call f' args') (.call f args) c1 := ⟨fun {st env} g => by
  rw [eval_call, eval_call]
  rcases hf g with ⟨h', h⟩ | ⟨fn, h', h⟩
  · rw [h', h]
    exact ⟨rfl, L.abort (refl (nm := True) g) not_isVal_fuelOut h01⟩
  · rw [h', h]
    refine (ha.sim g).bindOk (fun vs s pl => ?_)
      fun r s hl pl => ⟨rfl, L.imp pl fun hv => absurd hv (evalList_stop_not_val _ _ _ _ _ _ hl)⟩
    obtain ⟨hfr, htb⟩ := callVal_builtin_frames k s env fn vs
    exact ⟨L.framesOnly.callVal _ _ _ _ _, L.seq (isOk_ok vs) pl (L.still (L.toPre g pl (isOk_ok vs)) hfr htb)⟩⟩

/-! ### variables -/

theorem ident {x : String} (hx : L.Var c x) : L.Ev (k + 1) c (.ident x) (.ident x) c := ⟨fun {st env} g => by
  simp only [eval, L.lookup g hx]
  cases st.lookup env x with
  | some v => exact leaf g _
  | none => dsimp only; split <;> exact leaf g _⟩

theorem assign_ {x : String} {rhs rhs' : Expr} (hr : L.Ev k c rhs' rhs c1) (hx : L.Var c1 x) :
    L.Ev (k + 1) c (.assign x rhs') (.assign x rhs) c1 := ⟨fun {st env} g => by
  rw [eval_assign, eval_assign]
  refine (hr.sim g).bind (fun v s pr => ?_) (final (L.le_refl _))
  have g1 := L.toPre g pr (isVal_val v)
  rw [frames_eq, L.assign v g1 hx]
  cases hav : assignVar s.frames (s.frames.size + 1) env x v with
  | some fs =>
    exact ⟨congrArg (Prod.mk _) (upd s fs),
      L.seq (isVal_val v) pr (L.write g1 hx (C17Frames.assignVar_step _ (L.wf g1) _ _ _ _ _ hav))⟩
  | none => exact ⟨rfl, L.abort pr (not_isVal_thrown _) (L.le_refl _)⟩⟩

theorem opassign {x : String} (opn : String) {rhs rhs' : Expr} (hx0 : L.Var c x) (hr : L.Ev k c rhs' rhs c1)
    (h01 : L.le c c1) (hx : L.Var c1 x) : L.Ev (k + 1) c (.opassign x opn rhs') (.opassign x opn rhs) c1 := ⟨fun {st env} g => by
  rw [eval_opassign, eval_opassign, L.lookup g hx0]
  cases st.lookup env x with
  | none => exact ⟨rfl, L.abort (refl (nm := True) g) (not_isVal_thrown _) h01⟩
  | some old =>
    refine (hr.sim g).bind (fun v s pr => ?_) (final (L.le_refl _))
    have g1 := L.toPre g pr (isVal_val v)
    rw [frames_eq, L.drop g1 hx]
    cases hdv : dropVar s.frames (s.frames.size + 1) env x with
    | none => exact ⟨rfl, L.abort pr (not_isVal_thrown _) (L.le_refl _)⟩
    | some fs =>
      have pd : L.Post c st env c1 True { s with frames := fs } :=
        L.seq (isVal_val v) pr (L.write g1 hx (C17Frames.dropVar_step _ (L.wf g1) _ _ _ _ hdv))
      dsimp only [Option.map_some]
      cases applyOp opn old v with
      | raise => exact ⟨congrArg (Prod.mk _) (upd s fs), L.abort pd (not_isVal_thrown _) (L.le_refl _)⟩
      | ok nv =>
        have g2 := L.toPre g pd trivial
        have ha := L.assign nv g2 hx
        dsimp only at ha ⊢
        rw [ha]
        cases hav : assignVar fs (fs.size + 1) env x nv with
        | none => exact ⟨congrArg (Prod.mk _) (upd s fs), L.abort pd (not_isVal_thrown _) (L.le_refl _)⟩
        | some fs2 =>
          exact ⟨congrArg (Prod.mk _) (upd s fs2),
            L.seq trivial pd (L.write g2 hx (C17Frames.assignVar_step _ (L.wf g2) _ _ _ _ _ hav))⟩⟩

/-! ### scopes -/

/-- the rule for `inFresh`: in the fresh child scope of `env` with `p` bound, `Pre` holds there and what happens inside
is a step of `env` (`hyes`); an attempt that failed is a step of `env` as well (`hno`) -/
theorem inScope {β' β : Type} {R : β' → β → Prop} {p : Pat} {yes' : State → Nat → β'} {yes : State → Nat → β}
    {no' : State → β'} {no : State → β} (hp : L.PatOk c p c1) (v : Val) (g : L.Pre c st env)
    (hyes : ∀ s2, L.Pre c1 s2 (newFrame st env).2 →
      (∀ {ci nmI s3 nm}, L.Post c1 s2 (newFrame st env).2 ci nmI s3 → L.Post c st env c nm s3) →
      R (yes' (φ s2) (newFrame st env).2) (yes s2 (newFrame st env).2))
    (hno : ∀ s2, (∀ {nm}, L.Post c st env c nm s2) → R (no' (φ s2)) (no s2)) :
    R (Arms.inFresh (φ st) env p v yes' no') (Arms.inFresh st env p v yes no) := by
  obtain ⟨hφ, gN, out⟩ := L.fresh g
  obtain ⟨hd, hB⟩ := L.bind (patDepth p + 1) v gN hp
  simp only [Arms.inFresh, hφ, hd]
  rcases hdp : declarePat (patDepth p + 1) (newFrame st env).1 (newFrame st env).2 p v with ⟨ok, s2⟩
  rw [hdp] at hB
  cases ok with
  | true =>
    have pb := hB (nm := True) fun _ => rfl
    exact hyes s2 (L.toPre gN pb trivial) fun pi => out (L.seq trivial pb pi)
  | false => exact hno s2 (out (hB (nm := False) False.elim))

theorem while_step {cnd cnd' : Expr} (hc : L.Ev k c cnd' cnd c1) (hb : L.Ev k c1 b' b c2)
    (ih : L.EvWhile k c cnd' b' cnd b) : L.EvWhile (k + 1) c cnd' b' cnd b := ⟨fun {st env} g => by
  obtain ⟨hφ, gN, out⟩ := L.fresh g
  rw [evalWhile_succ, evalWhile_succ, hφ]
  refine (hc.sim gN).bind (fun vc s pc => ?_) fun r s _ pc => ⟨rfl, out pc⟩
  cases vc.truthy with
  | false => exact ⟨rfl, out pc⟩
  | true =>
    refine ((hb.sim (L.toPre gN pc (isVal_val vc))).mono fun _ _ pb => L.seq (isVal_val vc) pc pb).whileNext
      (fun r s2 pcb => ?_) fun r s2 r' pcb => out pcb
    have pout : L.Post c st env c True s2 := out pcb
    exact (ih.sim (L.toPre g pout trivial)).mono fun _ _ pr => L.seq trivial pout pr⟩

theorem while_ {cnd cnd' : Expr} (h : L.EvWhile k c cnd' b' cnd b) :
    L.Ev (k + 1) c (.while_ cnd' b') (.while_ cnd b) c := ⟨fun g => by
  simp only [eval]
  exact h.sim g⟩

theorem switch_nil : L.EvSwitch (k + 1) c [] [] := ⟨fun _ g => by
  simp only [evalSwitch]
  exact ⟨rfl, refl g⟩⟩

theorem switch_cons {p : Pat} {body body' : Expr} {rest rest' : List SwitchArm} (hp : L.PatOk c p c1)
    (hb : L.Ev k c1 body' body c2) (ih : L.EvSwitch k c rest' rest) :
    L.EvSwitch (k + 1) c (.mk p body' :: rest') (.mk p body :: rest) := ⟨fun {st env} v g => by
  rw [evalSwitch_cons, evalSwitch_cons]
  refine inScope hp v g (fun s2 g2 out => (hb.sim g2).mono fun _ _ pb => out pb) fun s2 pf => ?_
  exact (ih.sim v (L.toPre g (pf (nm := True)) trivial)).mono fun _ _ pr => L.seq trivial pf pr⟩

theorem switch_ {sc sc' : Expr} {arms arms' : List SwitchArm} (hs : L.Ev k c sc' sc c1)
    (ha : L.EvSwitch k c1 arms' arms) : L.Ev (k + 1) c (.switch_ sc' arms') (.switch_ sc arms) c1 := ⟨fun g => by
  rw [eval_switch, eval_switch]
  exact (hs.sim g).bind (fun v s ps => (ha.sim v (L.toPre g ps (isVal_val v))).mono fun _ _ pa => L.seq (isVal_val v) ps pa)
    (final (L.le_refl _))⟩

/-- the handler runs from what is known of the body whether or not it ran to its end -/
theorem try_ {p : Pat} {cb cb' : Expr} (hb : L.Ev k c b' b c1) (hp : L.PatOk (L.rst c c1) p c2)
    (hc : L.Ev k c2 cb' cb c3) : L.Ev (k + 1) c (.try_ b' p cb') (.try_ b p cb) (L.rst c c1) := ⟨fun {st env} g => by
  obtain ⟨rb, s, h1, h2, pb⟩ := (hb.sim g).elim
  rw [eval_try, eval_try, h1, h2]
  cases rb with
  | thrown v =>
    have g1 := preW g pb
    exact inScope hp v g1 (fun s2 g2 out => (hc.sim g2).mono fun _ _ pc => seqExt g pb (out pc))
      fun s2 pf => ⟨rfl, seqExt g pb pf⟩
  | _ => exact ⟨rfl, L.keep g pb (L.le_refl _)⟩⟩

theorem declare {p : Pat} {rhs rhs' : Expr} (hr : L.Ev k c rhs' rhs c1) (hp : L.PatOk c1 p c2) (h12 : L.le c1 c2) :
    L.Ev (k + 1) c (.declare p rhs') (.declare p rhs) c2 := ⟨fun {st env} g => by
  rw [eval_declare, eval_declare]
  refine (hr.sim g).bind (fun v s pr => ?_) (final h12)
  · obtain ⟨hd, hB⟩ := L.bind (patDepth p + 1) v (L.toPre g pr (isVal_val v)) hp
    rw [hd]
    rcases hdp : declarePat (patDepth p + 1) s env p v with ⟨ok, s2⟩
    rw [hdp] at hB
    cases ok with
    | true => exact ⟨rfl, L.seq (isVal_val v) pr (hB fun _ => rfl)⟩
    | false => exact ⟨rfl, L.seq (isVal_val v) pr (hB fun h => absurd h (not_isVal_thrown _))⟩⟩

/-! ### `for` -/

theorem body_exec (he : L.Ev k c e' e c1) : L.EvBody (k + 1) c (.exec e') (.exec e) (L.rst c c1) := ⟨fun acc g => by
  rw [forBody_exec, forBody_exec]
  exact (he.sim g).bind (fun _ _ pe => ⟨rfl, L.keep g pe (L.le_refl _)⟩) fun _ _ _ pe => ⟨rfl, L.keep g pe (L.le_refl _)⟩⟩

/-- `c2`: what is known after the `into` clause, which is not run here -/
theorem body_yield (into into' : Option Expr) (he : L.Ev k c e' e c1) (h12 : L.le c1 c2) :
    L.EvBody (k + 1) c (.yield e' into') (.yield e into) (L.rst c c2) := ⟨fun acc g => by
  rw [forBody_yield, forBody_yield]
  refine (he.sim g).bind (fun v s pe => ?_) fun _ _ _ pe => ⟨rfl, L.keep g pe h12⟩
  cases acc.cata.give v <;> exact ⟨rfl, L.keep g pe h12⟩⟩

theorem body_item {key key' v v' : Expr} (into into' : Option Expr) (hk : L.Ev k c key' key c1)
    (hv : L.Ev k c1 v' v c2) (h13 : L.le c1 c3) (h23 : L.le c2 c3) :
    L.EvBody (k + 1) c (.yieldItem key' v' into') (.yieldItem key v into) (L.rst c c3) := ⟨fun acc g => by
  rw [forBody_yieldItem, forBody_yieldItem]
  refine (hk.sim g).bind (fun vk s pk => ?_) fun _ _ _ pk => ⟨rfl, L.keep g pk (h13)⟩
  exact itemStep_sim vk acc (hv.sim (L.toPre g pk (isVal_val vk))) (fun _ => L.keep g pk (h13))
    fun _ _ _ pv => L.keep g (L.seq (isVal_val vk) pk pv) h23⟩

theorem items_step {p : Pat} {its its' : List ForIt} {body body' : ForBody} (hp : L.PatOk c p c1)
    (hf : L.EvFor k c1 its' body' its body c2) (ih : L.EvItems k c p its' body' its body) :
    L.EvItems (k + 1) c p its' body' its body := ⟨fun {st env} items acc g => by
  cases items with
  | nil =>
    simp only [forItems]
    exact ⟨rfl, refl g⟩
  | cons x xs =>
    rw [forItems_cons, forItems_cons]
    refine inScope hp x g (fun s2 g2 out => ?_) fun s2 pf => ⟨rfl, pf⟩
    obtain ⟨rf, s3, acc3, h1, h2, pf⟩ := (hf.sim acc g2).elim
    rw [h1, h2]
    have pout : L.Post c st env c True s3 := out pf
    cases rf with
    | val v => exact (ih.sim xs acc3 (L.toPre g pout trivial)).mono fun _ _ pr => L.seq trivial pout pr
    | _ => exact ⟨rfl, out pf⟩⟩

theorem for_nil {body body' : ForBody} (hb : L.EvBody k c body' body c1) :
    L.EvFor (k + 1) c [] body' [] body (L.rst c c1) := ⟨fun acc g => by
  obtain ⟨rb, s, acc1, h1, h2, pb⟩ := (hb.sim acc g).elim
  rw [evalFor_nil, evalFor_nil, h1, h2]
  cases rb with
  | cont j => cases j <;> exact ⟨rfl, L.keep g pb (L.le_refl _)⟩
  | _ => exact ⟨rfl, L.keep g pb (L.le_refl _)⟩⟩

theorem for_guard {gd gd' : Expr} {its its' : List ForIt} {body body' : ForBody} (hg : L.Ev k c gd' gd c1)
    (hf : L.EvFor k c1 its' body' its body c2) (h12 : L.le c1 c2) :
    L.EvFor (k + 1) c (.guard gd' :: its') body' (.guard gd :: its) body (L.rst c c2) := ⟨fun acc g => by
  rw [evalFor_guard, evalFor_guard]
  refine (hg.sim g).bind (fun v s pg => ?_) fun _ _ _ pg => ⟨rfl, L.keep g pg h12⟩
  cases v.truthy with
  | false => exact ⟨rfl, L.keep g pg h12⟩
  | true =>
    exact (hf.sim acc (L.toPre g pg (isVal_val v))).mono fun _ _ pr => L.keep g (L.seq (isVal_val v) pg pr) (L.le_refl _)⟩

theorem for_iter (kind : IterKind) {p : Pat} {its its' : List ForIt} {body body' : ForBody}
    (he : L.Ev k c e' e c1) (hp : L.PatOk c1 p c2) (hf : L.EvFor k c2 its' body' its body c3)
    (hi : L.EvItems k c1 p its' body' its body) :
    L.EvFor (k + 1) c (.iter kind p e' :: its') body' (.iter kind p e :: its) body (L.rst c c1) := ⟨fun {st env} acc g => by
  rw [evalFor_iter, evalFor_iter]
  refine (he.sim g).bind (fun v s pe => ?_) fun _ _ _ pe => ⟨rfl, L.keep g pe (L.le_refl _)⟩
  have g1 := L.toPre g pe (isVal_val v)
  have back : ∀ {nm nm' s2}, L.Post c1 s env c1 nm s2 → L.Post c st env (L.rst c c1) nm' s2 :=
    fun p => L.keep g (L.seq (isVal_val v) pe p) (L.le_refl _)
  have hitems : ∀ items : List Val, Sim3 φ (fun r s => L.Post c st env (L.rst c c1) (IsVal r) s)
      (forItems k (φ s) env p items its' body' acc) (forItems k s env p items its body acc) :=
    fun items => (hi.sim items acc g1).mono fun _ _ pi => back pi
  cases kind with
  | declare =>
    exact inScope hp v g1 (fun s2 g2 out => (hf.sim acc g2).mono fun _ _ pr => back (nm := True) (out pr))
      fun s2 pf => ⟨rfl, back (nm := True) pf⟩
  | normal =>
    cases iterValues v with
    | some items => exact hitems items
    | none => exact ⟨rfl, L.keep g pe (L.le_refl _)⟩
  | item =>
    cases iterPairs v with
    | some items => exact hitems items
    | none => exact ⟨rfl, L.keep g pe (L.le_refl _)⟩⟩

/-- what the rules ask of an `into` clause: it evaluates, without touching the store, to nothing or to a builtin -/
def IntoOk (L : PLogic φ C) (k : Nat) (c : C) (into' into : Option Expr) : Prop :=
  into'.isSome = into.isSome ∧ ∀ {st env}, L.Pre c st env →
    evalInto k (φ st) env into' = ((evalInto k st env into).1, φ (evalInto k st env into).2) ∧
      (evalInto k st env into = (.inr .fuelOut, st) ∨
        ∃ cata post, evalInto k st env into = (.inl (cata, post), st) ∧ PostFn post)

theorem IntoOk.absent : IntoOk L k c none none :=
  ⟨rfl, fun {st _} _ => by
    cases k with
    | zero => simp only [evalInto]; exact ⟨trivial, .inl trivial⟩
    | succ j => simp only [evalInto]; exact ⟨trivial, .inr ⟨.list [], none, rfl, .inl rfl⟩⟩⟩

theorem IntoOk.builtin (h : ∀ k, L.EvBuiltin k c e' e) : IntoOk L k c (some e') (some e) :=
  ⟨rfl, fun {st env} g => by
    cases k with
    | zero => simp only [evalInto]; exact ⟨trivial, .inl trivial⟩
    | succ j =>
      simp only [evalInto]
      rcases h j g with ⟨h', h⟩ | ⟨fn, h', h⟩
      · rw [h', h]; exact ⟨rfl, .inl rfl⟩
      · rw [h', h]
        dsimp only
        cases cataOfBuiltin fn with
        | some ct => exact ⟨rfl, .inr ⟨ct, none, rfl, .inl rfl⟩⟩
        | none => exact ⟨rfl, .inr ⟨_, _, rfl, .inr ⟨fn, rfl⟩⟩⟩⟩

/-- after the iteration: builtins only, which leave the frames alone -/
theorem finish {its its' : List ForIt} {body body' : ForBody} (hf : L.EvFor k c its' body' its body c1)
    {fin : Res × State × ForAcc → Res × State} (hfin : Finishes φ fin) (acc : ForAcc) (g : L.Pre c st env) :
    Sim φ (fun r s => L.Post c st env (L.rst c c1) (IsVal r) s) (fin (evalFor k (φ st) env its' body' acc))
      (fin (evalFor k st env its body acc)) :=
  (hf.sim acc g).finish hfin fun _ _ p _ _ hfr htb =>
    L.seq trivial (L.keep (nm' := True) g p (L.le_refl _)) (L.still (preW g p) hfr htb)

theorem for_exec {its its' : List ForIt} (hf : L.EvFor k c its' (.exec e') its (.exec e) c1) :
    L.Ev (k + 1) c (.for_ its' (.exec e')) (.for_ its (.exec e)) (L.rst c c1) := ⟨fun g => by
  rw [eval_for_exec, eval_for_exec]
  exact finish hf execFinish_finishes default g⟩

theorem for_yield {its its' : List ForIt} {into into' : Option Expr} (hi : IntoOk L k c into' into)
    (hf : L.EvFor k c its' (.yield e' into') its (.yield e into) c1) (h01 : L.le c c1) :
    L.Ev (k + 1) c (.for_ its' (.yield e' into')) (.for_ its (.yield e into)) (L.rst c c1) := ⟨fun {st env} g => by
  obtain ⟨eI, hcase⟩ := hi.2 g
  rw [eval_for_yield, eval_for_yield, eI]
  rcases hcase with h0 | ⟨cata, post, h1, hpf⟩
  · rw [h0]
    exact ⟨rfl, L.keep g (refl (nm := True) g) h01⟩
  · rw [h1]
    exact finish hf (yieldOut_finishes L.framesOnly k env hpf) _ g⟩

theorem for_item {key key' v v' : Expr} {its its' : List ForIt} {into into' : Option Expr}
    (hi : IntoOk L k c into' into)
    (hf : L.EvFor k c its' (.yieldItem key' v' into') its (.yieldItem key v into) c1) (h01 : L.le c c1) :
    L.Ev (k + 1) c (.for_ its' (.yieldItem key' v' into')) (.for_ its (.yieldItem key v into)) (L.rst c c1) :=
  ⟨fun {st env} g => by
  obtain ⟨eI, hcase⟩ := hi.2 g
  rw [eval_for_item, eval_for_item, eI]
  rcases hcase with h0 | ⟨cata, post, h1, hpf⟩
  · rw [h0]
    exact ⟨rfl, L.keep g (refl (nm := True) g) h01⟩
  · rw [h1]
    dsimp only
    rw [itemCata_congr hi.1]
    exact finish hf (itemFinish_finishes L.framesOnly k env hpf) _ g⟩

end PLogic

/-! ### the common case: a relation between stores that the precondition survives -/

structure Logic (φ : State → State) (C : Type) where
  Pre : C → State → Nat → Prop
  Step : State → State → Prop
  PatOk : C → Pat → C → Prop
  Var : C → String → Prop
  f : Array Frame → Array Frame
  frames : ∀ st, φ st = { st with frames := f st.frames }
  still : ∀ {c st env s}, Pre c st env → s.frames = st.frames → s.frozenTab = st.frozenTab → Step st s
  trans : ∀ {s1 s2 s3}, Step s1 s2 → Step s2 s3 → Step s1 s3
  /-- not `PLogic.keep`, which `toP` derives from it (`Post.ofStep`) -/
  keep : ∀ {c st s env}, Pre c st env → Step st s → Pre c s env
  fresh : ∀ {c st env}, Pre c st env →
    newFrame (φ st) env = (φ (newFrame st env).1, (newFrame st env).2) ∧ Step st (newFrame st env).1 ∧
      Pre c (newFrame st env).1 (newFrame st env).2
  bind : ∀ {c c' st env p} (d : Nat) (v : Val), Pre c st env → PatOk c p c' →
    declarePat d (φ st) env p v = ((declarePat d st env p v).1, φ (declarePat d st env p v).2) ∧
      Step st (declarePat d st env p v).2 ∧
      ((declarePat d st env p v).1 = true → Pre c' (declarePat d st env p v).2 env)
  lookup : ∀ {c st env x}, Pre c st env → Var c x → (φ st).lookup env x = st.lookup env x
  wf : ∀ {c st env}, Pre c st env → C17Frames.WF st
  assign : ∀ {c st env x} (v : Val), Pre c st env → Var c x →
    assignVar (f st.frames) ((f st.frames).size + 1) env x v =
      (assignVar st.frames (st.frames.size + 1) env x v).map f
  drop : ∀ {c st env x}, Pre c st env → Var c x →
    dropVar (f st.frames) ((f st.frames).size + 1) env x = (dropVar st.frames (st.frames.size + 1) env x).map f
  write : ∀ {c st env x fs}, Pre c st env → Var c x → C17Frames.WriteStep st.frames fs env x →
    Step st { st with frames := fs }

/-- the `Post` of `L.toP`, less the context of the start: off a `Sim` of a `toP` instance one reads `.inv.step` and `.inv.pre` -/
structure Logic.Post (L : Logic φ C) (c' : C) (st : State) (env : Nat) (nm : Prop) (s : State) : Prop where
  step : L.Step st s
  pre : nm → L.Pre c' s env

theorem Logic.Post.ofStep {L : Logic φ C} {c : C} {st s : State} {env : Nat} {nm : Prop} (g : L.Pre c st env)
    (h : L.Step st s) : L.Post c st env nm s := ⟨h, fun _ => L.keep g h⟩

/-- nothing is lost when a step is skipped (`le` is trivial, `rst c1 c2 = c1`) -/
def Logic.toP (L : Logic φ C) : PLogic φ C where
  Pre := L.Pre
  Post _ st env c' nm s := L.Post c' st env nm s
  PatOk := L.PatOk
  Var := L.Var
  le _ _ := True
  rst c _ := c
  f := L.f
  frames := L.frames
  le_refl _ := trivial
  still g hf ht := .ofStep g (L.still g hf ht)
  toPre _ p hn := p.pre hn
  abort p hn _ := ⟨p.step, fun h => absurd h hn⟩
  imp p h := ⟨p.step, fun hn => p.pre (h hn)⟩
  seq _ p1 p2 := ⟨L.trans p1.step p2.step, p2.pre⟩
  weaken p _ := p
  keep g p _ := .ofStep g p.step
  fresh g :=
    ⟨(L.fresh g).1, (L.fresh g).2.2, fun p => .ofStep g (L.trans (L.fresh g).2.1 p.step)⟩
  bind d v g hp :=
    ⟨(L.bind d v g hp).1, fun hnm => ⟨(L.bind d v g hp).2.1, fun hn => (L.bind d v g hp).2.2 (hnm hn)⟩⟩
  lookup := L.lookup
  wf := L.wf
  assign := L.assign
  drop := L.drop
  write g hx ws := .ofStep g (L.write g hx ws)

end Noulith.C17Sim
