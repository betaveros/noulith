/-
C17 — semantic preservation of `freeze` on the binder-free, call-free fragment `pureExpr` (`null`, integer and string
literals, identifiers, list displays, builtin operators, indexing, `and` / `or` / `??`, two-armed `if`), against
Impl/CoreEval: evaluating `freeze e` gives exactly what evaluating `e` gives, with ONE extra unit of fuel for the
`freeze` node itself.  (Namespace `C17Closed`.)

The frozen form runs on the store with a longer table, the original on the store as it was, and the original leaves
it alone: a `Sim` (Theorems/C17Sim.lean) with the store map "set the table" and the invariant "the store is the one we
started from", put together arm by arm from the arm equations of Theorems/C05Arms.lean (`PresE.two`, `PresE.cond` …
`PresL.cons`).  `pres_pure_all` is the induction over the fragment: an arm inverts the successful freeze and hands its
parts to the arm's lemma; the table a part was frozen against is a prefix of the final one (`Froze.tab`).
-/
import NoulithModel.Theorems.C17Sim
import NoulithModel.Theorems.C17Closed

namespace Noulith.C17Closed
open Noulith Noulith.Core Noulith.C17Sim

mutual
  /-- the fragment: no binder, no call, no assignment, no control transfer -/
  def pureExpr : Expr → Bool
    | .null => true
    | .int _ => true
    | .str _ => true
    | .ident _ => true
    | .list xs => pureList xs
    | .op _ a b => pureExpr a && pureExpr b
    | .index a b => pureExpr a && pureExpr b
    | .and_ a b => pureExpr a && pureExpr b
    | .or_ a b => pureExpr a && pureExpr b
    | .coalesce a b => pureExpr a && pureExpr b
    | .ite c t (some e) => pureExpr c && pureExpr t && pureExpr e
    | _ => false
  def pureList : List Expr → Bool
    | [] => true
    | x :: xs => pureExpr x && pureList xs
end

/-- the frozen run, on the store with the table `T`, against the original run on `st`: same outcome, and the
original leaves `st` alone -/
abbrev PresS {α : Type} (T : List Val) (st : State) (x' x : α × State) : Prop :=
  Sim (fun s => { s with frozenTab := T }) (fun _ s => s = st) x' x

theorem PresS.stop {α : Type} {T : List Val} {st : State} (r : α) :
    PresS T st (r, { st with frozenTab := T }) (r, st) := ⟨rfl, rfl⟩

def PresE (st : State) (env : Nat) (e e' : Expr) (tab : List Val) : Prop :=
  ∀ fuel T, tab <+: T → PresS T st (eval fuel { st with frozenTab := T } env e') (eval fuel st env e)

def PresL (st : State) (env : Nat) (es es' : List Expr) (tab : List Val) : Prop :=
  ∀ fuel T, tab <+: T → PresS T st (evalList fuel { st with frozenTab := T } env es') (evalList fuel st env es)

theorem PresE.mono {st : State} {env : Nat} {e e' : Expr} {tab tab' : List Val} (h : PresE st env e e' tab)
    (ht : tab <+: tab') : PresE st env e e' tab' := fun fuel T hT => h fuel T (ht.trans hT)

theorem PresE.of_succ {st : State} {env : Nat} {e e' : Expr} {tab : List Val}
    (h : ∀ n T, tab <+: T → PresS T st (eval (n + 1) { st with frozenTab := T } env e') (eval (n + 1) st env e)) :
    PresE st env e e' tab := by
  intro fuel T hT
  cases fuel with
  | zero => simp only [eval]; exact .stop _
  | succ n => exact h n T hT

variable {st : State} {env : Nat} {a a' b b' : Expr} {tab : List Val}

theorem PresE.two (f : Val → Val → OpRes) {mk : Expr → Expr → Expr}
    (hmk : ∀ n st a b, eval (n + 1) st env (mk a b) = evalTwo n st env f a b)
    (pa : PresE st env a a' tab) (pb : PresE st env b b' tab) : PresE st env (mk a b) (mk a' b') tab := by
  refine .of_succ fun n T hT => ?_
  rw [hmk, hmk]
  refine (pa n T hT).bind (fun va s hs => ?_) fun r s _ hs => hs ▸ .stop r
  subst hs
  refine (pb n T hT).bind (fun vb s hs => ?_) fun r s _ hs => hs ▸ .stop r
  subst hs
  cases f va vb <;> exact .stop _

/-- `and`, `or`, `coalesce`: the second operand is evaluated or not, in both runs alike -/
theorem PresE.cond (skip : Val → Bool) {mk : Expr → Expr → Expr}
    (hmk : ∀ n st a b, eval (n + 1) st env (mk a b) = Arms.evalCond n st env skip a b)
    (pa : PresE st env a a' tab) (pb : PresE st env b b' tab) : PresE st env (mk a b) (mk a' b') tab := by
  refine .of_succ fun n T hT => ?_
  rw [hmk, hmk]
  refine (pa n T hT).bind (fun va s hs => ?_) fun r s _ hs => hs ▸ .stop r
  subst hs
  cases skip va
  · exact pb n T hT
  · exact .stop _

theorem PresE.ite {c c' t t' e e' : Expr} (pc : PresE st env c c' tab) (pt : PresE st env t t' tab)
    (pe : PresE st env e e' tab) : PresE st env (.ite c t (some e)) (.ite c' t' (some e')) tab := by
  refine .of_succ fun n T hT => ?_
  rw [eval_ite, eval_ite]
  refine (pc n T hT).bind (fun vc s hs => ?_) fun r s _ hs => hs ▸ .stop r
  subst hs
  split
  · exact pt n T hT
  · exact pe n T hT

theorem PresE.list {xs xs' : List Expr} (pl : PresL st env xs xs' tab) : PresE st env (.list xs) (.list xs') tab := by
  refine .of_succ fun n T hT => ?_
  rw [eval_list, eval_list]
  exact (pl n T hT).bindOk (fun vs s hs => hs ▸ .stop _) fun r s _ hs => hs ▸ .stop r

theorem PresL.cons {x x' : Expr} {xs xs' : List Expr} (px : PresE st env x x' tab) (pl : PresL st env xs xs' tab) :
    PresL st env (x :: xs) (x' :: xs') tab := by
  intro fuel T hT
  cases fuel with
  | zero => simp only [evalList]; exact .stop _
  | succ n =>
    rw [evalList_cons, evalList_cons]
    refine (px n T hT).bind (fun v s hs => ?_) fun r s _ hs => hs ▸ .stop _
    subst hs
    exact (pl n T hT).bindOk (fun vs s hs => hs ▸ .stop _) fun r s _ hs => hs ▸ .stop _


theorem PresE.leaf {e : Expr} {r : Res} (h : ∀ n st, eval (n + 1) st env e = (r, st)) : PresE st env e e tab :=
  .of_succ fun n T _ => by rw [h, h]; exact .stop _

def PresFrozen (st : State) (env : Nat) (e : Expr) : Prop :=
  ∀ (s : FState Val) e' s', s.bound = [] →
    freezeExpr (lookOf st env) s e = .ok (e', s') → s'.bound = [] ∧ PresE st env e e' s'.tab

theorem PresFrozen.two {a b : Expr} (mk : Expr → Expr → Expr)
    (ha : PresFrozen st env a) (hb : PresFrozen st env b)
    (hfz : ∀ {s e' s'}, freezeExpr (lookOf st env) s (mk a b) = .ok (e', s') →
      ∃ a' s1 b', freezeExpr (lookOf st env) s a = .ok (a', s1) ∧
        freezeExpr (lookOf st env) s1 b = .ok (b', s') ∧ e' = mk a' b')
    (hmk : ∀ {a' b' tab}, PresE st env a a' tab → PresE st env b b' tab → PresE st env (mk a b) (mk a' b') tab) :
    PresFrozen st env (mk a b) := by
  intro s e' s' h0 h
  obtain ⟨a', s1, b', fa, fb, rfl⟩ := hfz h
  obtain ⟨h1, pa⟩ := ha s a' s1 h0 fa
  obtain ⟨h2, pb⟩ := hb s1 b' s' h1 fb
  exact ⟨h2, hmk (pa.mono ((freezeExpr_froze fb).tab)) pb⟩

theorem pres_pure_all (st : State) (env : Nat) :
    (∀ e, pureExpr e = true → PresFrozen st env e) ∧
    (∀ es, pureList es = true → ∀ (s : FState Val) es' s', s.bound = [] →
      freezeList (lookOf st env) s es = .ok (es', s') → s'.bound = [] ∧ PresL st env es es' s'.tab) := by
  refine pureExpr.mutual_induct
    (motive_1 := fun e => pureExpr e = true → PresFrozen st env e)
    (motive_2 := fun es => pureList es = true → ∀ (s : FState Val) es' s', s.bound = [] →
      freezeList (lookOf st env) s es = .ok (es', s') → s'.bound = [] ∧ PresL st env es es' s'.tab)
    ?null ?int ?str ?ident ?list ?op ?index ?and_ ?or_ ?coalesce ?ite ?other ?nil ?cons
  case null | int | str =>
    intros
    intro s e' s' hb h
    obtain ⟨rfl, rfl⟩ := Prod.mk.inj (Except.ok.inj h)
    exact ⟨hb, .leaf fun n st => by simp only [eval]; rfl⟩
  case ident =>
    intro x _ s e' s' hb h
    rcases freeze_ident_inv h with ⟨hx, _⟩ | ⟨_, v, hv, rfl, rfl⟩
    · cases hb ▸ hx
    · refine ⟨hb, .of_succ fun n T hT => ?_⟩
      rw [eval_ident_lookOf, hv]
      simp only [eval, tab_get hT]
      exact .stop _
  case list =>
    intro xs ih hp s e' s' hb h
    simp only [pureExpr] at hp
    simp only [freezeExpr] at h
    -- the `list` arm of `freezeExpr` has its branches the other way round: `fz_bindL` does not fit
    split at h
    · rename_i xs' s1 hxs
      obtain ⟨rfl, rfl⟩ := Prod.mk.inj (Except.ok.inj h)
      obtain ⟨hb1, pl⟩ := ih hp s xs' s1 hb hxs
      exact ⟨hb1, .list pl⟩
    · cases h
  case op =>
    intro name a b iha ihb hp
    simp only [pureExpr, Bool.and_eq_true] at hp
    refine PresFrozen.two (Expr.op name) (iha hp.1) (ihb hp.2) (fun h => ?_)
      (PresE.two (applyOp name) (eval_op · · env name))
    simp only [freezeExpr] at h
    exact freeze_two_inv _ _ _ _ _ (Expr.op name) _ h
  case index =>
    intro a b iha ihb hp
    simp only [pureExpr, Bool.and_eq_true] at hp
    refine PresFrozen.two Expr.index (iha hp.1) (ihb hp.2) (fun h => ?_) (PresE.two indexVal (eval_index · · env))
    simp only [freezeExpr] at h
    exact freeze_two_inv _ _ _ _ _ Expr.index _ h
  case and_ =>
    intro a b iha ihb hp
    simp only [pureExpr, Bool.and_eq_true] at hp
    refine PresFrozen.two Expr.and_ (iha hp.1) (ihb hp.2) (fun h => ?_) (PresE.cond _ (eval_and · · env))
    simp only [freezeExpr] at h
    exact freeze_two_inv _ _ _ _ _ Expr.and_ _ h
  case or_ =>
    intro a b iha ihb hp
    simp only [pureExpr, Bool.and_eq_true] at hp
    refine PresFrozen.two Expr.or_ (iha hp.1) (ihb hp.2) (fun h => ?_) (PresE.cond _ (eval_or · · env))
    simp only [freezeExpr] at h
    exact freeze_two_inv _ _ _ _ _ Expr.or_ _ h
  case coalesce =>
    intro a b iha ihb hp
    simp only [pureExpr, Bool.and_eq_true] at hp
    refine PresFrozen.two Expr.coalesce (iha hp.1) (ihb hp.2) (fun h => ?_) (PresE.cond _ (eval_coalesce · · env))
    simp only [freezeExpr] at h
    exact freeze_two_inv _ _ _ _ _ Expr.coalesce _ h
  case ite =>
    intro c t e ihc iht ihe hp s e' s' hb h
    simp only [pureExpr, Bool.and_eq_true] at hp
    simp only [freezeExpr] at h
    obtain ⟨c', s1, hc, h⟩ := fz_bindE h
    obtain ⟨t', s2, ht, h⟩ := fz_bindE h
    obtain ⟨eo, s3, heo, h⟩ := fz_bindO h
    obtain ⟨rfl, rfl⟩ := Prod.mk.inj (Except.ok.inj h)
    obtain ⟨x', he, rfl⟩ := freezeOpt_some_inv heo
    obtain ⟨hb1, pc⟩ := ihc hp.1.1 s c' s1 hb hc
    obtain ⟨hb2, pt⟩ := iht hp.1.2 s1 t' s2 hb1 ht
    obtain ⟨hb3, pe⟩ := ihe hp.2 s2 x' s3 hb2 he
    have hT2 := (freezeExpr_froze he).tab
    exact ⟨hb3, .ite (pc.mono ((freezeExpr_froze ht).tab.trans hT2)) (pt.mono hT2) pe⟩
  case other =>
    intro t h1 h2 h3 h4 h5 h6 h7 h8 h9 h10 h11 hp
    rw [pureExpr] at hp
    · exact absurd hp (by simp)
    all_goals assumption
  case nil =>
    intro _ s es' s' hb h
    obtain ⟨rfl, rfl⟩ := Prod.mk.inj (Except.ok.inj h)
    refine ⟨hb, fun fuel T _ => ?_⟩
    cases fuel <;> (simp only [evalList]; exact .stop _)
  case cons =>
    intro x xs ihx ihxs hp s es' s' hb h
    simp only [pureList, Bool.and_eq_true] at hp
    obtain ⟨x', s1, xs', hx, hxs, rfl⟩ := freezeList_cons_inv h
    obtain ⟨hb1, px⟩ := ihx hp.1 s x' s1 hb hx
    obtain ⟨hb2, pxs⟩ := ihxs hp.2 s1 xs' s' hb1 hxs
    exact ⟨hb2, .cons (px.mono (freezeList_froze hxs).tab) pxs⟩

/-- **freeze preserves meaning on the pure fragment**, result AND state: the same result (a value, a raised error or
`fuelOut`), frames and output untouched by both runs; only the table of frozen values has grown (by appending).
`¬ Stuck` here: every identifier of `e` is known to the scope chain or is a builtin. -/
theorem freeze_preserves_pure_full (fuel : Nat) (st : State) (env : Nat) (e : Expr)
    (hp : pureExpr e = true) (hs : ¬ Stuck (lookOf st env) [] e) :
    ∃ T, st.frozenTab <+: T ∧
      eval (fuel + 1) st env (.freeze e) = ((eval fuel st env e).1, { st with frozenTab := T }) ∧
      (eval fuel st env e).2 = st := by
  obtain ⟨e', s', h⟩ := (freeze_succeeds_iff (lookOf st env) ⟨[], st.frozenTab⟩ e).2 hs
  obtain ⟨_, pe⟩ := (pres_pure_all st env).1 e hp _ e' s' rfl h
  obtain ⟨h1, h2⟩ := pe fuel s'.tab (List.prefix_refl _)
  refine ⟨s'.tab, (freezeExpr_froze h).tab, ?_, h2⟩
  rw [eval_freeze_unfold, h]
  exact h1.trans (by rw [h2])

/-- the result alone: the `freeze` node costs one unit of fuel -/
theorem freeze_preserves_pure (fuel : Nat) (st : State) (env : Nat) (e : Expr)
    (hp : pureExpr e = true) (hs : ¬ Stuck (lookOf st env) [] e) :
    (eval (fuel + 1) st env (.freeze e)).1 = (eval fuel st env e).1 := by
  obtain ⟨T, _, h, _⟩ := freeze_preserves_pure_full fuel st env e hp hs
  rw [h]

theorem pure_eval_state (fuel : Nat) (st : State) (env : Nat) (e : Expr)
    (hp : pureExpr e = true) (hs : ¬ Stuck (lookOf st env) [] e) : (eval fuel st env e).2 = st :=
  (freeze_preserves_pure_full fuel st env e hp hs).choose_spec.2.2

mutual
  /-- the identifiers of a pure expression (all of them are free: the fragment has no binder) -/
  def pureIdents : Expr → List String
    | .ident x => [x]
    | .list xs => pureIdentsList xs
    | .op _ a b => pureIdents a ++ pureIdents b
    | .index a b => pureIdents a ++ pureIdents b
    | .and_ a b => pureIdents a ++ pureIdents b
    | .or_ a b => pureIdents a ++ pureIdents b
    | .coalesce a b => pureIdents a ++ pureIdents b
    | .ite c t (some e) => pureIdents c ++ pureIdents t ++ pureIdents e
    | _ => []
  def pureIdentsList : List Expr → List String
    | [] => []
    | x :: xs => pureIdents x ++ pureIdentsList xs
end

theorem pure_stuck_iff_all (look : String → Option V) :
    (∀ e, pureExpr e = true → afterExpr [] e = [] ∧
      (stuckExpr look [] e = true ↔ ∃ x ∈ pureIdents e, look x = none)) ∧
    (∀ es, pureList es = true → afterList [] es = [] ∧
      (stuckList look [] es = true ↔ ∃ x ∈ pureIdentsList es, look x = none)) := by
  refine pureExpr.mutual_induct
    (motive_1 := fun e => pureExpr e = true → afterExpr [] e = [] ∧
      (stuckExpr look [] e = true ↔ ∃ x ∈ pureIdents e, look x = none))
    (motive_2 := fun es => pureList es = true → afterList [] es = [] ∧
      (stuckList look [] es = true ↔ ∃ x ∈ pureIdentsList es, look x = none))
    ?null ?int ?str ?ident ?list ?op ?index ?and_ ?or_ ?coalesce ?ite ?other ?nil ?cons
  case other =>
    intro t h1 h2 h3 h4 h5 h6 h7 h8 h9 h10 h11 hp
    rw [pureExpr] at hp
    · exact absurd hp (by simp)
    all_goals assumption
  all_goals
    intros
    simp_all only [pureExpr, pureList, afterExpr, afterList, afterOpt, stuckExpr, stuckList, stuckOpt,
      pureIdents, pureIdentsList, Bool.and_eq_true, Bool.or_eq_true, Bool.false_eq_true, Bool.not_false,
      Bool.true_and, decide_false, List.contains_eq_mem, List.not_mem_nil, List.mem_cons, List.mem_append,
      List.append_assoc, Option.isNone_iff_eq_none, or_and_right, exists_or, or_assoc, or_false, false_and,
      and_self, exists_const, exists_eq_left]

theorem freeze_preserves_pure_of_idents (fuel : Nat) (st : State) (env : Nat) (e : Expr)
    (hp : pureExpr e = true)
    (hid : ∀ x ∈ pureIdents e, (st.lookup env x).isSome ∨ builtinNames.contains x = true) :
    (eval (fuel + 1) st env (.freeze e)).1 = (eval fuel st env e).1 := by
  apply freeze_preserves_pure fuel st env e hp
  intro hs
  obtain ⟨x, hx, hn⟩ := (((pure_stuck_iff_all (lookOf st env)).1 e hp).2).1 hs
  simp only [lookOf] at hn
  rcases hid x hx with h | h
  · cases hl : st.lookup env x with
    | none => rw [hl] at h; exact absurd h (by simp)
    | some v => rw [hl] at hn; exact absurd hn (by simp)
  · cases hl : st.lookup env x with
    | none => rw [hl] at hn; simp only [h, ↓reduceIte] at hn; exact absurd hn (by simp)
    | some v => rw [hl] at hn; exact absurd hn (by simp)

/-! ## non-vacuity -/
section Examples

/-- a scope in which `o = 5` -/
def stO : State := { frames := #[{ vars := [("o", .int 5)], parent := none }], out := [] }

/-- `len and o + [1, 2][1]`  (a builtin name, an identifier from the scope, list display, index, `and`) -/
def pureSample : Expr :=
  .and_ (.ident "len") (.op "+" (.ident "o") (.index (.list [.int 1, .int 2]) (.int 1)))

example : pureExpr pureSample = true := by decide
example : ¬ Stuck (lookOf stO 0) [] pureSample := by decide +kernel
example : ∀ x ∈ pureIdents pureSample, (stO.lookup 0 x).isSome ∨ builtinNames.contains x = true := by
  decide +kernel
/-- both sides of the theorem really compute a value here (not `fuelOut`, not an error) -/
example : (eval 11 stO 0 (.freeze pureSample)).1 matches .val (.int 7) := by decide +kernel
example : (eval 10 stO 0 pureSample).1 matches .val (.int 7) := by decide +kernel
/-- with an unknown name the freeze raises although plain evaluation would short-circuit past it -/
example : Stuck (lookOf stO 0) [] (.and_ (.int 0) (.ident "zz")) := by decide +kernel
example : (eval 5 stO 0 (.freeze (.and_ (.int 0) (.ident "zz")))).1 matches .thrown .err := by decide +kernel
example : (eval 5 stO 0 (.and_ (.int 0) (.ident "zz"))).1 matches .val (.int 0) := by decide +kernel

end Examples

end Noulith.C17Closed
