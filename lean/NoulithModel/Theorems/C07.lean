/-
C07 — Rationals are exact and the numeric tower coerces upward only as needed.

Property theorems about the Impl model `NNum` / `Vectorize` (NoulithModel/Impl/NNumArith.lean)
against the Spec `TowerSpec` (NoulithModel/Spec/TowerSpec.lean).  Every statement is for ALL
operands: integers of any size, arbitrary rationals, and floats / complex numbers over an ARBITRARY
float structure `O : FloatOps F C` (so in particular for IEEE-754 binary64 with Rust's operations,
and for the free term algebra the driver uses).
-/
import NoulithModel.Spec.TowerSpec
import NoulithModel.Lemmas.Out
import NoulithModel.Lemmas.PowShortcut

namespace Noulith.C07
open Noulith NNum TowerSpec

/-! ## 1. rounding a quotient of integers: the bridge between `Int` division and `Rat` rounding -/

theorem floor_bounds (x : Rat) : (x.floor : Rat) ≤ x ∧ x < (x.floor : Rat) + 1 := by
  have h := Rat.lt_floor_add_one x
  rw [Rat.intCast_add] at h
  exact ⟨Rat.floor_le x, h⟩

theorem floor_div_pos (N D : Int) (hD : 0 < D) : ((N : Rat) / (D : Rat)).floor = N / D := by
  -- the two integers have the same strict upper bounds
  have key (k : Int) : ((N : Rat) / (D : Rat)).floor < k ↔ N / D < k := by
    rw [Rat.floor_lt_iff, Rat.div_lt_iff (Rat.intCast_pos.mpr hD), ← Rat.intCast_mul,
      Rat.intCast_lt_intCast, Int.ediv_lt_iff_lt_mul hD]
  have h1 := (key (N / D + 1)).mpr (Int.lt_succ _)
  have h2 := (key (((N : Rat) / (D : Rat)).floor + 1)).mp (Int.lt_succ _)
  omega

theorem cast_div_neg_neg (N D : Int) : ((-N : Int) : Rat) / ((-D : Int) : Rat) = (N : Rat) / (D : Rat) := by
  rw [← Rat.divInt_eq_div, ← Rat.divInt_eq_div, Rat.neg_divInt_neg]

theorem floor_div_int (N D : Int) : ((N : Rat) / (D : Rat)).floor = Int.fdiv N D := by
  rcases Int.lt_trichotomy D 0 with h | h | h
  · rw [← cast_div_neg_neg, floor_div_pos _ _ (by omega : 0 < -D), ← Int.neg_fdiv_neg,
      Int.fdiv_eq_ediv_of_nonneg _ (by omega : 0 ≤ -D)]
  · subst h; simp [Rat.div_def, Rat.inv_zero, Rat.mul_zero]; exact Rat.floor_intCast 0
  · rw [floor_div_pos _ _ h, Int.fdiv_eq_ediv_of_nonneg _ (Int.le_of_lt h)]

theorem trunc_div_pos (N D : Int) (hD : 0 < D) : trunc ((N : Rat) / (D : Rat)) = Int.tdiv N D := by
  have hq : (0 : Rat) ≤ (N : Rat) / (D : Rat) ↔ 0 ≤ N := by
    rw [← Rat.divInt_eq_div]; exact Rat.divInt_nonneg_iff_of_pos_right hD
  unfold trunc
  by_cases hN : 0 ≤ N
  · rw [if_pos (hq.mpr hN), floor_div_pos _ _ hD, Int.tdiv_eq_ediv_of_nonneg hN]
  · rw [if_neg (fun h => hN (hq.mp h)), Rat.ceil_eq_neg_floor_neg]
    have e : -((N : Rat) / (D : Rat)) = ((-N : Int) : Rat) / (D : Rat) := by
      rw [Rat.intCast_neg, Rat.div_def, Rat.div_def, Rat.neg_mul]
    rw [e, floor_div_pos _ _ hD, ← Int.tdiv_eq_ediv_of_nonneg (by omega : 0 ≤ -N), Int.neg_tdiv]
    omega

theorem trunc_div_int (N D : Int) : trunc ((N : Rat) / (D : Rat)) = Int.tdiv N D := by
  rcases Int.lt_trichotomy D 0 with h | h | h
  · rw [← cast_div_neg_neg, trunc_div_pos _ _ (by omega : 0 < -D), Int.neg_tdiv_neg]
  · subst h; simp [Rat.div_def, Rat.inv_zero, Rat.mul_zero, trunc]; exact Rat.floor_intCast 0
  · exact trunc_div_pos _ _ h

theorem rat_eq_num_div_den (q : Rat) : q = (q.num : Rat) / ((q.den : Int) : Rat) := by
  have := Rat.mkRat_eq_div q.num q.den
  rw [Rat.mkRat_self] at this
  exact this

theorem ratTrunc_eq (q : Rat) : ratTrunc q = trunc q := by
  conv => rhs; rw [rat_eq_num_div_den q]
  rw [trunc_div_int]; rfl

theorem den_cast_ne_zero (a : Rat) : ((a.den : Int) : Rat) ≠ 0 := by
  intro h; exact a.den_nz (by exact_mod_cast (Rat.intCast_eq_zero_iff.mp h))

theorem div_eq_cross (a b : Rat) :
    a / b = ((a.num * b.den : Int) : Rat) / ((b.num * a.den : Int) : Rat) := by
  have ha := rat_eq_num_div_den a
  have hb := rat_eq_num_div_den b
  have had := den_cast_ne_zero a
  have hbd := den_cast_ne_zero b
  rw [Rat.intCast_mul, Rat.intCast_mul]
  generalize (a.num : Rat) = an at *
  generalize ((a.den : Int) : Rat) = ad at *
  generalize (b.num : Rat) = bn at *
  generalize ((b.den : Int) : Rat) = bd at *
  subst ha hb
  by_cases hbn : bn = 0
  · subst hbn; simp [Rat.div_def, Rat.zero_mul, Rat.mul_zero, Rat.inv_zero]
  · grind

theorem ratRem_eq (a b : Rat) : ratRem a b = ratOp .rem a b := by
  unfold ratRem
  simp only [ratOp]
  rw [Rat.mkRat_eq_div, div_eq_cross a b, trunc_div_int, Int.tmod_def]
  have ha := rat_eq_num_div_den a
  have hb := rat_eq_num_div_den b
  have had := den_cast_ne_zero a
  have hbd := den_cast_ne_zero b
  have e : (((a.den * b.den : Nat) : Int) : Rat) = ((a.den : Int) : Rat) * ((b.den : Int) : Rat) := by
    rw [← Rat.intCast_mul]; congr 1
  rw [show ((a.den * b.den : Nat) : Rat) = (((a.den * b.den : Nat) : Int) : Rat) from rfl, e]
  generalize (Int.tdiv (a.num * b.den) (b.num * a.den)) = t
  rw [Rat.intCast_sub, Rat.intCast_mul, Rat.intCast_mul, Rat.intCast_mul]
  generalize (a.num : Rat) = an at *
  generalize ((a.den : Int) : Rat) = ad at *
  generalize (b.num : Rat) = bn at *
  generalize ((b.den : Int) : Rat) = bd at *
  subst ha hb
  grind

/-! ### `Ratio::round` is rounding half away from zero -/

theorem half_ediv (m d : Int) (hd : 0 < d) :
    (2 * m + d) / (2 * d) = if d ≤ 2 * (m % d) then m / d + 1 else m / d := by
  have h1 := Int.mul_ediv_add_emod m d
  have h2 := Int.emod_nonneg m (Int.ne_of_gt hd)
  have h3 := Int.emod_lt_of_pos m hd
  generalize m / d = u at *
  generalize m % d = r at *
  subst h1
  split
  · rw [Int.ediv_eq_iff_of_pos (by omega)]; constructor <;> grind
  · rw [Int.ediv_eq_iff_of_pos (by omega)]; constructor <;> grind

theorem half_cast (q : Rat) (s : Int) (n : Int) (hn : (n : Rat) / ((q.den : Int) : Rat) = q * s) :
    q * s + 1 / 2 = ((2 * n + q.den : Int) : Rat) / ((2 * q.den : Int) : Rat) := by
  have hdr := den_cast_ne_zero q
  rw [Rat.intCast_add, Rat.intCast_mul, Rat.intCast_mul, ← hn]
  generalize (n : Rat) = n' at *
  generalize ((q.den : Int) : Rat) = d at *
  have : ((2 : Int) : Rat) = 2 := rfl
  grind

theorem ratRound_eq (q : Rat) : ratRound q = roundHalfAway q := by
  have hd : (0 : Int) < (q.den : Int) := by exact_mod_cast q.den_pos
  have hq := rat_eq_num_div_den q
  unfold ratRound roundHalfAway
  by_cases hn : 0 ≤ q.num
  · have hq0 : 0 ≤ q := Rat.num_nonneg.mp hn
    have e := half_cast q 1 q.num (by rw [← hq]; simp [Rat.mul_one])
    simp only [Rat.intCast_one, Rat.mul_one] at e
    rw [if_pos hq0, e, floor_div_pos _ _ (by omega), half_ediv _ _ hd]
    simp only [Int.tdiv_eq_ediv_of_nonneg hn, Int.tmod_eq_emod_of_nonneg hn, if_pos hn]
    have h2 := Int.emod_nonneg q.num (Int.ne_of_gt hd)
    have h3 : ((q.num % (q.den : Int)).natAbs : Int) = q.num % (q.den : Int) := Int.natAbs_of_nonneg h2
    have h4 : ((q.den : Nat) ≤ 2 * (q.num % (q.den : Int)).natAbs) ↔ ((q.den : Int) ≤ 2 * (q.num % (q.den : Int))) := by omega
    simp only [h4]
  · have hq0 : ¬ 0 ≤ q := fun h => hn (Rat.num_nonneg.mpr h)
    have hm : 0 ≤ -q.num := by omega
    rw [if_neg hq0, Rat.ceil_eq_neg_floor_neg]
    have e := half_cast q (-1) (-q.num) (by
      rw [Rat.intCast_neg, Rat.div_def, Rat.neg_mul, ← Rat.div_def, ← hq]; simp [Rat.mul_neg, Rat.mul_one])
    have e' : -(q - 1 / 2) = q * ((-1 : Int) : Rat) + 1 / 2 := by
      have : ((-1 : Int) : Rat) = -1 := rfl
      grind
    rw [e', e, floor_div_pos _ _ (by omega), half_ediv _ _ hd]
    have t1 : Int.tdiv q.num q.den = -((-q.num) / (q.den : Int)) := by
      rw [← Int.tdiv_eq_ediv_of_nonneg hm, Int.neg_tdiv]; omega
    have t2 : Int.tmod q.num q.den = -((-q.num) % (q.den : Int)) := by
      rw [← Int.tmod_eq_emod_of_nonneg hm, Int.neg_tmod]; omega
    simp only [t1, t2, if_neg hn]
    have h2 := Int.emod_nonneg (-q.num) (Int.ne_of_gt hd)
    have h4 : ((q.den : Nat) ≤ 2 * (-((-q.num) % (q.den : Int))).natAbs) ↔ ((q.den : Int) ≤ 2 * ((-q.num) % (q.den : Int))) := by omega
    simp only [h4]
    split <;> omega

variable {F C : Type}

/-! ## 2. the exact levels: the code's integer and rational operations are the operations of ℚ -/

/-- the integer operation `binary_match!` is instantiated with, per operator -/
def implInt : AOp → Int → Int → Int
  | .add => (· + ·)
  | .sub => (· - ·)
  | .mul => (· * ·)
  | .rem => Int.tmod
  | .divFloor => Int.fdiv
  | .modFloor => Int.fmod

/-- the rational operation `binary_match!` is instantiated with, per operator -/
def implRat : AOp → Rat → Rat → Rat
  | .add => (· + ·)
  | .sub => (· - ·)
  | .mul => (· * ·)
  | .rem => ratRem
  | .divFloor => ratDivFloor
  | .modFloor => ratModFloor

/-- the six level-rule operators as the code defines them -/
def implOp (O : FloatOps F C) (op : AOp) : NNum F C → NNum F C → Out (NNum F C) :=
  binaryMatch O (implInt op) (implRat op) (fOp O op) (cOp O op)

theorem implOp_add (O : FloatOps F C) : NNum.add O = implOp O .add := rfl
theorem implOp_sub (O : FloatOps F C) : NNum.sub O = implOp O .sub := rfl
theorem implOp_mul (O : FloatOps F C) : NNum.mul O = implOp O .mul := rfl
theorem implOp_rem (O : FloatOps F C) : NNum.rem O = implOp O .rem := rfl
theorem implOp_divFloor (O : FloatOps F C) : NNum.divFloor O = implOp O .divFloor := rfl
theorem implOp_modFloor (O : FloatOps F C) : NNum.modFloor O = implOp O .modFloor := rfl

/-- **rat_ops_exact (rational arm)**: `+ - * % // %%` on rationals are the operations of ℚ -/
theorem implRat_eq (op : AOp) (a b : Rat) : implRat op a b = ratOp op a b := by
  cases op <;> first | rfl | exact ratRem_eq a b

/-- **rat_ops_exact (integer arm)**: on the embedded integers `Int.tmod` / `fdiv` / `fmod` are the
truncated remainder / floor quotient / floored remainder of the rational quotient -/
theorem implInt_eq (op : AOp) (a b : Int) : ((implInt op a b : Int) : Rat) = ratOp op (a : Rat) (b : Rat) := by
  cases op <;> simp only [implInt, ratOp]
  · exact Rat.intCast_add a b
  · exact Rat.intCast_sub a b
  · exact Rat.intCast_mul a b
  · rw [trunc_div_int, Int.tmod_def, Rat.intCast_sub, Rat.intCast_mul]
  · rw [floor_div_int]
  · rw [floor_div_int, Int.fmod_def, Rat.intCast_sub, Rat.intCast_mul]

/-- an operation on two integers, carried out in ℚ, is an integer: reading it back loses nothing -/
theorem floor_ratOp_intCast (op : AOp) (a b : Int) :
    (ratOp op (a : Rat) (b : Rat)).floor = implInt op a b := by
  rw [← implInt_eq, Rat.floor_intCast]

/-! ## 3. the level rule: `binary_match!` = "both exact → ℚ; else both real → float; else complex" -/

/-- **level_rule (refinement)**: for each of `+ - * % // %%` the code's dispatch computes exactly
what the Spec's level rule says, for all sixteen combinations of levels, and never panics -/
theorem implOp_eq_arith (O : FloatOps F C) (op : AOp) (a b : NNum F C) :
    implOp O op a b = .ok (arith O op a b) := by
  -- with a float or complex operand both sides run the same float / complex operation
  cases a <;> cases b <;> try rfl
  all_goals simp [implOp, binaryMatch, arith, exact, ofExact, level, implRat_eq, floor_ratOp_intCast]

theorem level_arith (O : FloatOps F C) (op : AOp) (a b : NNum F C) :
    (arith O op a b).level = max a.level b.level := by
  cases a <;> cases b <;> rfl

/-- the float arm of the level rule: both operands real, at least one of them a float -/
theorem arith_float (O : FloatOps F C) (op : AOp) (a b : NNum F C) (fa fb : F)
    (ha : toF O a = some fa) (hb : toF O b = some fb) (hfl : exact a = none ∨ exact b = none) :
    arith O op a b = .float (fOp O op fa fb) := by
  cases a <;> cases b <;> simp_all [arith, exact, toF]

theorem divide_float (O : FloatOps F C) (a b : NNum F C) (fa fb : F)
    (ha : toF O a = some fa) (hb : toF O b = some fb) (hfl : exact a = none ∨ exact b = none) :
    divide O a b = .float (O.div fa fb) := by
  cases a <;> cases b <;> simp_all [divide, inexactDiv, exact, toF]

/-! ## 4. the operators as registered (`/`, the zero-divisor guards, `^`): Impl = Spec -/

theorem toRational_eq_exact (a : NNum F C) : toRational a = exact a := by cases a <;> rfl

theorem isNonzero_eq (O : FloatOps F C) (b : NNum F C) : isNonzero O b = !isZero O b := by
  cases b <;> simp [isNonzero, isZero, bne]

theorem div_eq_divide (O : FloatOps F C) (a b : NNum F C) : NNum.div O a b = divide O a b := by
  cases a <;> cases b <;> rfl

/-! ### the executable shortcuts for the bases 0, 1, −1 are the power function -/

theorem intPow_eq (a : Int) (n : Nat) : intPow a n = a ^ n :=
  shortcut_eq (fun h => by rw [h, int_zero_pow]) (fun h => by rw [h, Int.one_pow])
    (fun h => by rw [h, int_neg_one_pow])

/-! the bases 0, 1, −1 are integers: their powers in ℚ are the casts of their powers in ℤ -/

theorem rat_one_pow (n : Nat) : (1 : Rat) ^ n = 1 := by
  rw [← Rat.intCast_one, ← Rat.intCast_pow, Int.one_pow]

theorem rat_zero_pow (n : Nat) : (0 : Rat) ^ n = if n = 0 then 1 else 0 := by
  rw [← Rat.intCast_zero, ← Rat.intCast_pow, int_zero_pow]; split <;> rfl

theorem rat_neg_one_pow (n : Nat) : (-1 : Rat) ^ n = if n % 2 = 0 then 1 else -1 := by
  rw [show (-1 : Rat) = ((-1 : Int) : Rat) from rfl, ← Rat.intCast_pow, int_neg_one_pow]; split <;> rfl

theorem ratPow_eq (q : Rat) (n : Nat) : ratPow q n = q ^ n :=
  shortcut_eq (fun h => by rw [h, rat_zero_pow]) (fun h => by rw [h, rat_one_pow])
    (fun h => by rw [h, rat_neg_one_pow])

theorem zpow_of_nonneg (x : Rat) (b : Int) (hb : 0 ≤ b) : x ^ b = x ^ b.toNat := by
  have : b = (b.toNat : Int) := by omega
  conv => lhs; rw [this]
  exact Rat.zpow_natCast x b.toNat

theorem zpow_intCast (i e : Int) (he : 0 ≤ e) : (i : Rat) ^ e = ((i ^ e.toNat : Int) : Rat) := by
  rw [zpow_of_nonneg _ _ he, Rat.intCast_pow]

theorem zpow_of_neg (x : Rat) (b : Int) (hb : b < 0) : x ^ b = (x ^ (-b).toNat)⁻¹ := by
  have : b = -((-b).toNat : Int) := by omega
  conv => lhs; rw [this]
  rw [Rat.zpow_neg, Rat.zpow_natCast]

/-- for a base that is its own inverse (0, 1, −1) the sign of the exponent does not matter -/
theorem zpow_natAbs (x : Rat) (hx : x⁻¹ = x) (e : Int) : x ^ e = x ^ e.natAbs := by
  have hinv : ∀ n : Nat, (x ^ n)⁻¹ = x ^ n := by
    intro n
    induction n with
    | zero => rw [Rat.pow_zero]; decide +kernel
    | succ n ih => rw [Rat.pow_succ, Rat.inv_mul_rev, hx, ih, Rat.mul_comm]
  rcases Int.lt_trichotomy e 0 with he | rfl | he
  · rw [zpow_of_neg x e he, hinv]; congr 1; omega
  · rfl
  · rw [zpow_of_nonneg x e (Int.le_of_lt he)]; congr 1; omega

theorem qpow_eq (x : Rat) (e : Int) : qpow x e = x ^ e := by
  refine shortcut_eq (fun h => ?_) (fun h => ?_) (fun h => ?_)
  · rw [h, zpow_natAbs 0 Rat.inv_zero, rat_zero_pow]
    simp only [Int.natAbs_eq_zero]
  · rw [h, zpow_natAbs 1 (by decide +kernel), rat_one_pow]
  · rw [h, zpow_natAbs (-1) (by decide +kernel), rat_neg_one_pow]
    have : e.natAbs % 2 = 0 ↔ e % 2 = 0 := by omega
    simp only [this]

theorem ratPowInt_eq (x : Rat) (b : Int) : ratPowInt x b = x ^ b := by
  unfold ratPowInt
  simp only [ratPow_eq]
  by_cases h0 : b = 0
  · subst h0; simp [Rat.zpow_zero]
  · by_cases hn : b < 0
    · simp [h0, hn, zpow_of_neg x b hn]
    · simp [h0, hn, zpow_of_nonneg x b (by omega)]

theorem powBigInts_eq (O : FloatOps F C) (a b : Int) :
    powBigInts O a b = power O (.int a) (.int b) := by
  unfold powBigInts power
  simp only [exact, level, intPow_eq, qpow_eq]
  by_cases h0 : b = 0
  · subst h0
    have : ((1 : Rat)).floor = 1 := Rat.floor_intCast 1
    simp [Rat.zpow_zero, this]
  · by_cases hp : 0 < b
    · have hn : ¬ b < 0 := by omega
      have hnn : 0 ≤ b := by omega
      have e : ((a : Rat) ^ b).floor = a ^ b.toNat := by
        rw [zpow_intCast _ _ hnn, Rat.floor_intCast]
      simp [h0, hp, hn, hnn, e]
    · have hn : b < 0 := by omega
      have hnn : ¬ 0 ≤ b := by omega
      have hpos : (-b).toNat ≠ 0 := by omega
      by_cases ha : a = 0
      · subst ha
        simp [h0, hp, hn, Int.zero_pow hpos]
      · have hr : a ^ (-b).toNat ≠ 0 := Int.pow_ne_zero ha
        have hx : ¬ ((a : Rat) = 0) := fun h => ha (Rat.intCast_eq_zero_iff.mp h)
        simp [h0, hp, hn, hnn, hr, hx, zpow_of_neg _ _ hn, Rat.intCast_pow]

/-- **pow_int_exact (refinement)**: `pow_num` is the Spec's `^`: exact `x ^ e` in ℚ for an exact
base and an integer exponent (incl. negative ones), float +∞ for `0 ^ negative` -/
theorem powNum_eq_power (O : FloatOps F C) (a b : NNum F C) : powNum O a b = power O a b := by
  -- outside an exact base with an integer exponent the Spec is `powNum` by definition
  cases a <;> cases b <;> try rfl
  · rw [← powBigInts_eq]; rfl
  · rename_i r e
    simp only [powNum, power, exact, level]
    by_cases h : r = 0 ∧ e < 0
    · simp [h]
    · simp [h, ratPowInt_eq, qpow_eq]

/-- **C07 main refinement (binary operators)**: for every operator name and every pair of numbers
of any levels the code's result (value or error) is the Spec's; in particular no panic -/
theorem binop_refines (O : FloatOps F C) (op : String) (a b : NNum F C) :
    NNum.binop O op a b = TowerSpec.binop O op a b := by
  -- the two definitions are one match on the name: compare them arm by arm
  unfold NNum.binop TowerSpec.binop
  congr 1 <;> funext _
  · exact implOp_eq_arith O .add a b
  · exact implOp_eq_arith O .sub a b
  · exact implOp_eq_arith O .mul a b
  · exact congrArg Out.ok (div_eq_divide O a b)
  · rw [implOp_rem, implOp_eq_arith, isNonzero_eq, toRational_eq_exact, toRational_eq_exact]
    cases exact a <;> cases exact b <;> cases isZero O b <;> rfl
  · rw [implOp_divFloor, implOp_eq_arith, isNonzero_eq]
    cases isZero O b <;> rfl
  · rw [implOp_modFloor, implOp_eq_arith, isNonzero_eq]
    cases isZero O b <;> rfl
  · exact congrArg Out.ok (powNum_eq_power O a b)

theorem binop_no_panic (O : FloatOps F C) (op : String) (a b : NNum F C) :
    NNum.binop O op a b ≠ .panic := by
  rw [binop_refines]
  unfold TowerSpec.binop
  split <;> (try split) <;> simp


/-! ## 5. unary operators: rounding family, conversions, numerator / denominator -/

theorem trunc_intCast (i : Int) : trunc (i : Rat) = i := by
  rw [← ratTrunc_eq]; simp [ratTrunc, Rat.num_intCast, Rat.den_intCast]

theorem roundHalfAway_intCast (i : Int) : roundHalfAway (i : Rat) = i := by
  rw [← ratRound_eq]; simp [ratRound, Rat.num_intCast, Rat.den_intCast]

theorem coerce_eq_roundWith (O : FloatOps F C) (r r' : Rat → Int) (h : ∀ q, r q = r' q)
    (hint : ∀ i : Int, r' (i : Rat) = i) (a : NNum F C) : coerce O r a = roundWith O r' a := by
  cases a with
  | int i => simp [coerce, roundWith, realView, hint]
  | rat q => simp [coerce, roundWith, realView, h]
  | float f =>
    simp only [coerce, roundWith, realView, floatCoerce]
    cases O.view f <;> simp [h]
  | complex z => rfl

/-- **rounding_exact / conversions (refinement)**: unary `-`, `floor`, `ceil`, `round`, `int`,
`rational`, `float`, `numerator`, `denominator` compute what the Spec says: the rounding of the
exact value (`round` = half away from zero, `int` = toward zero), the exact fraction of a finite
float, the numerator / denominator of the lowest-terms fraction -/
theorem unop_refines (O : FloatOps F C) (op : String) (a : NNum F C) :
    NNum.unop O op a = TowerSpec.unop O op a := by
  -- as for `binop_refines`, arm by arm
  unfold NNum.unop TowerSpec.unop
  congr 1 <;> funext _
  · cases a <;> rfl
  · exact coerce_eq_roundWith O Rat.floor Rat.floor (fun _ => rfl) Rat.floor_intCast a
  · exact coerce_eq_roundWith O Rat.ceil Rat.ceil (fun _ => rfl) Rat.ceil_intCast a
  · exact coerce_eq_roundWith O ratRound roundHalfAway ratRound_eq roundHalfAway_intCast a
  · rw [coerce_eq_roundWith O ratTrunc trunc ratTrunc_eq trunc_intCast]
    cases a <;> try rfl
    simp only [roundWith, realView]; cases O.view _ <;> rfl
  · cases a <;> try rfl
    simp only [toRationalExact, realView]; cases O.view _ <;> rfl
  · cases a <;> rfl
  · cases a <;> rfl
  · cases a <;> rfl

theorem unop_no_panic (O : FloatOps F C) (op : String) (a : NNum F C) :
    NNum.unop O op a ≠ .panic := by
  rw [unop_refines]
  unfold TowerSpec.unop roundWith
  split <;> (repeat' split) <;> simp

/-! ## 6. vectors: element-wise, equal lengths, scalars broadcast -/

theorem mapOut_eq_sequence {α β : Type} (f : α → Out β) (xs : List α) :
    Vectorize.mapOut f xs = sequence (xs.map f) := by
  induction xs with
  | nil => rfl
  | cons x xs ih =>
    simp only [Vectorize.mapOut, List.map, sequence, ih]
    cases f x <;> rfl

theorem zipOut_eq_sequence {α β γ : Type} (f : α → β → Out γ) (xs : List α) (ys : List β) :
    Vectorize.zipOut f xs ys = sequence (List.zipWith f xs ys) := by
  induction xs generalizing ys with
  | nil => cases ys <;> rfl
  | cons x xs ih =>
    cases ys with
    | nil => rfl
    | cons y ys =>
      simp only [Vectorize.zipOut, List.zipWith, sequence, ih]
      cases f x y <;> rfl

theorem zipWith_replicate_left {α β γ : Type} (f : α → β → γ) (a : α) (ys : List β) :
    List.zipWith f (List.replicate ys.length a) ys = ys.map (f a) := by
  rw [← List.map_const', List.zipWith_map_left, List.zipWith_self]

theorem zipWith_replicate_right {α β γ : Type} (f : α → β → γ) (xs : List α) (b : β) :
    List.zipWith f xs (List.replicate xs.length b) = xs.map (fun x => f x b) := by
  rw [← List.map_const', List.zipWith_map_right, List.zipWith_self]

/-- **vectorize_shape (refinement)**: the wrappers compute the Spec's element-wise operation: a
scalar operand behaves as a vector of copies of itself, vectors of different lengths are rejected,
the first failing element fails the whole operation -/
theorem vec2_refines (body body' : NNum F C → NNum F C → Out (NNum F C))
    (h : ∀ a b, body a b = body' a b) (A B : VObj F C) :
    Vectorize.vec2 body A B = TowerSpec.vec2 body' A B := by
  have hb : body = body' := funext fun a => funext fun b => h a b
  subst hb
  cases A <;> cases B <;>
    simp [Vectorize.vec2, TowerSpec.vec2, mapOut_eq_sequence, zipOut_eq_sequence,
      zipWith_replicate_left, zipWith_replicate_right]

theorem vec1_refines (body body' : NNum F C → Out (NNum F C)) (h : ∀ a, body a = body' a)
    (A : VObj F C) : Vectorize.vec1 body A = TowerSpec.vec1 body' A := by
  have hb : body = body' := funext h
  subst hb
  cases A <;> simp [Vectorize.vec1, TowerSpec.vec1, mapOut_eq_sequence]

/-- **C07 main refinement, objects**: every binary arithmetic builtin on numbers / vectors /
anything else -/
theorem vbinop_refines (O : FloatOps F C) (op : String) (A B : VObj F C) :
    Vectorize.binop O op A B = TowerSpec.vbinop O op A B :=
  vec2_refines _ _ (binop_refines O op) A B

theorem vunop_refines (O : FloatOps F C) (op : String) (A : VObj F C) :
    Vectorize.unop O op A = TowerSpec.vunop O op A := by
  unfold Vectorize.unop TowerSpec.vunop
  split
  · cases A <;> simp [unop_refines]
  · exact vec1_refines _ _ (unop_refines O op) A


/-! ## 7. the laws the property names, on the Spec (and through the refinements on the code) -/

/-! ### `/` -/

/-- **div_exact**: `/` on int / rational operands with a non-zero divisor is the exact fraction -/
theorem div_exact (O : FloatOps F C) (a b : NNum F C) (x y : Rat)
    (ha : exact a = some x) (hb : exact b = some y) (hy : y ≠ 0) :
    NNum.binop O "/" a b = .ok (.rat (x / y)) := by
  rw [binop_refines]; simp [TowerSpec.binop, divide, ha, hb, hy]

/-- … which is in lowest terms with a positive denominator (an invariant of `Rat`, so of every
rational the model produces) -/
theorem rat_lowest_terms (q : Rat) : Nat.gcd q.num.natAbs q.den = 1 ∧ 0 < q.den :=
  ⟨q.reduced, q.den_pos⟩

theorem div_int_int (a b : Int) :
    ((a : Rat) / (b : Rat)).num = b.sign * a / (b.gcd a : Int) ∧
    ((a : Rat) / (b : Rat)).den = if b = 0 then 1 else b.natAbs / b.gcd a := by
  rw [← Rat.divInt_eq_div]; exact ⟨Rat.num_divInt a b, Rat.den_divInt a b⟩

/-- **div_exact (zero divisor)**: an exact zero divisor falls back to float division of the
converted operands (±∞ or NaN in IEEE arithmetic) -/
theorem div_zero_fallback (O : FloatOps F C) (a b : NNum F C) (x : Rat) (fa fb : F)
    (ha : exact a = some x) (hb : exact b = some 0) (hfa : toF O a = some fa) (hfb : toF O b = some fb) :
    NNum.binop O "/" a b = .ok (.float (O.div fa fb)) := by
  rw [binop_refines]; simp [TowerSpec.binop, divide, ha, hb, inexactDiv, hfa, hfb]

/-! ### `+ - * % // %%` on exact operands -/

theorem exact_arith (O : FloatOps F C) (op : AOp) (a b : NNum F C) (x y : Rat)
    (ha : exact a = some x) (hb : exact b = some y) :
    exact (arith O op a b) = some (ratOp op x y) := by
  cases a <;> cases b <;> simp [exact] at ha hb <;> subst ha hb <;>
    simp [arith, exact, ofExact, level, floor_ratOp_intCast, implInt_eq]

theorem isZero_of_exact (O : FloatOps F C) (b : NNum F C) (y : Rat) (hb : exact b = some y) :
    isZero O b = true ↔ y = 0 := by
  cases b <;> simp [exact] at hb <;> subst hb <;> simp [isZero, Rat.intCast_eq_zero_iff]

/-- **rat_ops_exact**: on int / rational operands `+ - * % // %%` return the exact value of the
operation in ℚ (given a non-zero divisor for the last three) -/
theorem rat_ops_exact (O : FloatOps F C) (a b : NNum F C) (x y : Rat)
    (ha : exact a = some x) (hb : exact b = some y) :
    (∃ r, NNum.binop O "+" a b = .ok r ∧ exact r = some (x + y)) ∧
    (∃ r, NNum.binop O "-" a b = .ok r ∧ exact r = some (x - y)) ∧
    (∃ r, NNum.binop O "*" a b = .ok r ∧ exact r = some (x * y)) ∧
    (y ≠ 0 → ∃ r, NNum.binop O "%" a b = .ok r ∧ exact r = some (x - y * (trunc (x / y) : Int))) ∧
    (y ≠ 0 → ∃ r, NNum.binop O "//" a b = .ok r ∧ exact r = some (((x / y).floor : Int) : Rat)) ∧
    (y ≠ 0 → ∃ r, NNum.binop O "%%" a b = .ok r ∧ exact r = some (x - y * ((x / y).floor : Int))) := by
  have hz : y ≠ 0 → isZero O b = false := fun hy =>
    Bool.eq_false_iff.mpr (mt (isZero_of_exact O b y hb).mp hy)
  simp only [binop_refines, TowerSpec.binop]
  refine ⟨⟨_, rfl, exact_arith O .add a b x y ha hb⟩, ⟨_, rfl, exact_arith O .sub a b x y ha hb⟩,
    ⟨_, rfl, exact_arith O .mul a b x y ha hb⟩, ?_, ?_, ?_⟩
  · intro hy; simp [hz hy]; exact exact_arith O .rem a b x y ha hb
  · intro hy; simp [hz hy]; exact exact_arith O .divFloor a b x y ha hb
  · intro hy; simp [hz hy]; exact exact_arith O .modFloor a b x y ha hb

theorem exact_zero_divisor_throws (O : FloatOps F C) (a b : NNum F C) (x : Rat)
    (ha : exact a = some x) (hb : exact b = some 0) :
    NNum.binop O "%" a b = .throw ∧ NNum.binop O "//" a b = .throw ∧ NNum.binop O "%%" a b = .throw := by
  simp [binop_refines, TowerSpec.binop, ha, hb, (isZero_of_exact O b 0 hb).mpr rfl]

theorem floor_div_identity_rat (x y : Rat) :
    ratOp .divFloor x y * y + ratOp .modFloor x y = x := by
  simp only [ratOp]; grind

theorem divFloor_floors (x y : Rat) :
    ∃ n : Int, ratOp .divFloor x y = (n : Rat) ∧ (n : Rat) ≤ x / y ∧ x / y < ((n + 1 : Int) : Rat) :=
  ⟨(x / y).floor, rfl, Rat.floor_le _, Rat.lt_floor_add_one _⟩

/-- `%%` takes the divisor's sign (with `modFloor_range_neg`) -/
theorem modFloor_range_pos (x y : Rat) (hy : 0 < y) :
    0 ≤ ratOp .modFloor x y ∧ ratOp .modFloor x y < y := by
  simp only [ratOp]
  have ⟨h1, h2⟩ := floor_bounds (x / y)
  have e : x / y * y = x := Rat.div_mul_cancel (Rat.ne_of_gt hy)
  have h1' := Rat.mul_le_mul_of_nonneg_right h1 (Rat.le_of_lt hy)
  have h2' := Rat.mul_lt_mul_of_pos_right h2 hy
  rw [e] at h1' h2'
  constructor <;> grind

/-- negating both operands negates `%%` (the quotient, so its floor, is the same) -/
theorem modFloor_neg_neg (x y : Rat) : ratOp .modFloor (-x) (-y) = -ratOp .modFloor x y := by
  have e : -x / -y = x / y := by grind
  simp only [ratOp, e]; grind

theorem modFloor_range_neg (x y : Rat) (hy : y < 0) :
    y < ratOp .modFloor x y ∧ ratOp .modFloor x y ≤ 0 := by
  have h := modFloor_range_pos (-x) (-y) (by grind)
  rw [modFloor_neg_neg] at h
  constructor <;> grind

/-- **floor_div_identity_rat through the code**: for exact operands and a non-zero divisor the
interpreter's own `(a // b) * b + (a %% b)` evaluates (no error) to a number with the value of `a` -/
theorem floor_div_identity (O : FloatOps F C) (a b : NNum F C) (x y : Rat)
    (ha : exact a = some x) (hb : exact b = some y) (hy : y ≠ 0) :
    ∃ q m p s, NNum.binop O "//" a b = .ok q ∧ NNum.binop O "%%" a b = .ok m ∧
      NNum.binop O "*" q b = .ok p ∧ NNum.binop O "+" p m = .ok s ∧ exact s = some x := by
  have H := rat_ops_exact O a b x y ha hb
  obtain ⟨q, hq, hqe⟩ := H.2.2.2.2.1 hy
  obtain ⟨m, hm, hme⟩ := H.2.2.2.2.2 hy
  obtain ⟨_, _, ⟨p, hp, hpe⟩, _⟩ := rat_ops_exact O q b _ y hqe hb
  obtain ⟨⟨s, hs, hse⟩, _⟩ := rat_ops_exact O p m _ _ hpe hme
  refine ⟨q, m, p, s, hq, hm, hp, hs, ?_⟩
  rw [hse]; congr 1
  have := floor_div_identity_rat x y
  simp only [ratOp] at this
  exact this

/-- the defect the pinned snapshot had (finding F7): with the truncated remainder in the place of
`%%` the identity fails, e.g. at `(-7/2)` and `2`: `-2 * 2 + (-3/2) ≠ -7/2` -/
theorem truncated_remainder_breaks_identity :
    ratDivFloor (mkRat (-7) 2) 2 * 2 + ratRem (mkRat (-7) 2) 2 ≠ mkRat (-7) 2 := by decide +kernel

theorem trunc_identity_rat (x y : Rat) :
    ((trunc (x / y) : Int) : Rat) * y + ratOp .rem x y = x := by
  simp only [ratOp]; grind

/-! ### the level rule -/

/-- the operator names of the level rule -/
def aopOfName : String → Option AOp
  | "+" => some .add
  | "-" => some .sub
  | "*" => some .mul
  | "%" => some .rem
  | "//" => some .divFloor
  | "%%" => some .modFloor
  | _ => none

/-- **level_rule**: for `+ - * % // %%`, whenever the code returns a number, that number has the
higher of the operands' levels and is the operation of that level on the converted operands
(`arith`: ℚ for the exact levels, `fOp` on `toF` for floats, `cOp` on `toC` for complex) -/
theorem level_rule (O : FloatOps F C) (name : String) (op : AOp) (hop : aopOfName name = some op)
    (a b r : NNum F C) (h : NNum.binop O name a b = .ok r) :
    r = arith O op a b ∧ r.level = max a.level b.level := by
  have hr : r = arith O op a b := by
    rw [binop_refines] at h
    unfold aopOfName at hop
    split at hop <;> cases hop <;> simp only [TowerSpec.binop] at h
    -- `+ - *` always return; `% // %%` return unless the zero-divisor guard throws
    iterate 3 exact (Out.ok.inj h).symm
    all_goals
      split at h <;> cases h
      rfl
  exact ⟨hr, hr ▸ level_arith O op a b⟩

/-- coercion is upward only as needed: an exact result stays exact, ints stay ints -/
theorem int_ops_stay_int (O : FloatOps F C) (op : AOp) (a b : Int) :
    arith O op (.int a : NNum F C) (.int b) = .int (implInt op a b) := by
  simp [arith, exact, ofExact, level, floor_ratOp_intCast]


/-! ### `^` with an integer exponent -/

/-- **pow_int_exact**: an exact base to an integer exponent (negative ones included, base non-zero
then) is the exact power `x ^ e` in ℚ -/
theorem pow_int_exact (O : FloatOps F C) (a : NNum F C) (x : Rat) (e : Int)
    (ha : exact a = some x) (hne : ¬ (x = 0 ∧ e < 0)) :
    ∃ r, NNum.binop O "^" a (.int e) = .ok r ∧ exact r = some (x ^ e) := by
  rw [binop_refines]
  refine ⟨_, rfl, ?_⟩
  simp only [power, ha, if_neg hne, qpow_eq]
  split
  · rename_i h
    have hl : a.level = 0 := h.1
    cases a <;> simp [level] at hl
    simp [exact] at ha; subst ha
    rename_i i
    show some ((((i : Rat) ^ e).floor : Int) : Rat) = some ((i : Rat) ^ e)
    rw [zpow_intCast i e h.2, Rat.floor_intCast]
  · rfl

/-- `0 ^ negative` is `1 / 0`: float +∞, like `/` by zero -/
theorem pow_zero_neg (O : FloatOps F C) (a : NNum F C) (e : Int)
    (ha : exact a = some 0) (he : e < 0) :
    NNum.binop O "^" a (.int e) = .ok (.float O.posInf) := by
  rw [binop_refines]; simp [TowerSpec.binop, power, ha, he]

/-- what `x ^ e` means for a negative exponent: the inverse of the positive power -/
theorem zpow_neg_mul (x : Rat) (e : Int) (hx : x ≠ 0) (he : e < 0) :
    x ^ e * x ^ (-e).toNat = 1 := by
  rw [zpow_of_neg x e he]
  apply Rat.inv_mul_cancel
  intro h
  have : ∀ n : Nat, x ^ n ≠ 0 := by
    intro n; induction n with
    | zero => rw [Rat.pow_zero]; decide
    | succ n ih => rw [Rat.pow_succ]; intro h; rcases Rat.mul_eq_zero.mp h with h | h; exact ih h; exact hx h
  exact this _ h

/-! ### rounding family -/

/-- the exact (real) value of a number where it has one -/
def value (O : FloatOps F C) (a : NNum F C) : Option Rat :=
  match realView O a with
  | some (.fin q) => some q
  | _ => none

theorem realView_of_value (O : FloatOps F C) (a : NNum F C) (q : Rat) (hq : value O a = some q) :
    realView O a = some (.fin q) := by
  unfold value at hq
  split at hq <;> simp at hq
  subst hq; assumption

/-- **rounding_exact**: on every number with an exact value `q` (ints, rationals, finite floats)
`floor`, `ceil`, `round`, `int` return the integer obtained by rounding `q` down / up / to nearest
with ties away from zero / toward zero -/
theorem rounding_exact (O : FloatOps F C) (a : NNum F C) (q : Rat) (hq : value O a = some q) :
    NNum.unop O "floor" a = .ok (.int q.floor) ∧
    NNum.unop O "ceil" a = .ok (.int q.ceil) ∧
    NNum.unop O "round" a = .ok (.int (roundHalfAway q)) ∧
    NNum.unop O "int" a = .ok (.int (trunc q)) := by
  simp [unop_refines, TowerSpec.unop, roundWith, realView_of_value O a q hq]

/-- `floor`, `ceil`, `round` leave a non-finite float what it is -/
theorem rounding_nonfinite (O : FloatOps F C) (f : F) (h : ∀ q, O.view f ≠ .fin q) :
    NNum.unop O "floor" (.float f : NNum F C) = .ok (.float f) ∧
    NNum.unop O "ceil" (.float f : NNum F C) = .ok (.float f) ∧
    NNum.unop O "round" (.float f : NNum F C) = .ok (.float f) := by
  simp only [unop_refines, TowerSpec.unop, roundWith, realView]
  cases hv : O.view f <;> simp_all

/-- **the `int` conversion**: of a finite float (as of an int or a rational) it is the truncation
of the exact value; of a non-finite float (NaN, ±∞) it RAISES (since /repo commit 48f3e57; before,
the float came back unchanged and `int(x) is int` could be false) -/
theorem int_conversion (O : FloatOps F C) (f : F) :
    (∀ q, O.view f = .fin q → NNum.unop O "int" (.float f : NNum F C) = .ok (.int (trunc q))) ∧
    ((∀ q, O.view f ≠ .fin q) → NNum.unop O "int" (.float f : NNum F C) = .throw) := by
  simp only [unop_refines, TowerSpec.unop, realView]
  refine ⟨fun q hq => by simp [hq], fun h => ?_⟩
  cases hv : O.view f <;> simp
  exact absurd hv (h _)

theorem int_conversion_is_int (O : FloatOps F C) (a r : NNum F C)
    (h : NNum.unop O "int" a = .ok r) : r.level = 0 := by
  rw [unop_refines] at h
  simp only [TowerSpec.unop] at h
  split at h <;> simp at h
  subst h; rfl

theorem rounding_complex_throws (O : FloatOps F C) (z : C) :
    NNum.unop O "floor" (.complex z : NNum F C) = .throw ∧
    NNum.unop O "round" (.complex z : NNum F C) = .throw ∧
    NNum.unop O "int" (.complex z : NNum F C) = .throw := by
  simp [unop_refines, TowerSpec.unop, roundWith, realView]

theorem ceil_spec (q : Rat) : q ≤ (q.ceil : Rat) ∧ ((q.ceil - 1 : Int) : Rat) < q := by
  refine ⟨Rat.le_ceil, ?_⟩
  have : q.ceil - 1 < q.ceil := by omega
  exact Rat.lt_ceil_iff.mp this

/-- `round` is the nearest integer, half-way cases away from zero -/
theorem round_spec (q : Rat) :
    (0 ≤ q → q - 1 / 2 < (roundHalfAway q : Rat) ∧ (roundHalfAway q : Rat) ≤ q + 1 / 2) ∧
    (q < 0 → q - 1 / 2 ≤ (roundHalfAway q : Rat) ∧ (roundHalfAway q : Rat) < q + 1 / 2) := by
  unfold roundHalfAway
  constructor
  · intro h
    rw [if_pos h]
    have ⟨h1, h2⟩ := floor_bounds (q + 1 / 2)
    constructor <;> grind
  · intro h
    rw [if_neg (Rat.not_le.mpr h)]
    have ⟨h1, h2⟩ := ceil_spec (q - 1 / 2)
    rw [Rat.intCast_sub] at h2
    have : ((1 : Int) : Rat) = 1 := rfl
    constructor <;> grind

/-- `int` rounds toward zero -/
theorem trunc_spec (q : Rat) :
    (0 ≤ q → (trunc q : Rat) ≤ q ∧ q < ((trunc q + 1 : Int) : Rat)) ∧
    (q < 0 → q ≤ (trunc q : Rat) ∧ ((trunc q - 1 : Int) : Rat) < q) := by
  unfold trunc
  constructor
  · intro h; rw [if_pos h]; exact ⟨Rat.floor_le q, Rat.lt_floor_add_one q⟩
  · intro h; rw [if_neg (Rat.not_le.mpr h)]; exact ceil_spec q

/-! ### numerator / denominator, `rational`, `float` -/

/-- **numerator / denominator** are those of the lowest-terms fraction with positive denominator
(for an integer: itself and 1); floats and complex numbers are rejected -/
theorem numer_denom (O : FloatOps F C) (a : NNum F C) (q : Rat) (ha : exact a = some q) :
    NNum.unop O "numerator" a = .ok (.int q.num) ∧
    NNum.unop O "denominator" a = .ok (.int q.den) ∧
    q = (q.num : Rat) / ((q.den : Int) : Rat) ∧ Nat.gcd q.num.natAbs q.den = 1 ∧ 0 < q.den := by
  refine ⟨?_, ?_, rat_eq_num_div_den q, q.reduced, q.den_pos⟩ <;>
    simp [unop_refines, TowerSpec.unop, ha]

theorem numer_denom_inexact (O : FloatOps F C) (a : NNum F C) (ha : exact a = none) :
    NNum.unop O "numerator" a = .throw ∧ NNum.unop O "denominator" a = .throw := by
  simp [unop_refines, TowerSpec.unop, ha]

/-- **rational(x)** is exact: the value itself for ints, rationals and every finite float -/
theorem rational_exact (O : FloatOps F C) (a : NNum F C) (q : Rat) (hq : value O a = some q) :
    NNum.unop O "rational" a = .ok (.rat q) := by
  simp only [unop_refines, TowerSpec.unop, realView_of_value O a q hq]

/-- **float(x)** is the conversion of the structure (`BigInt::to_f64` / `BigRational::to_f64`,
abstract here), the identity on floats, an error on complex numbers -/
theorem float_conv (O : FloatOps F C) (i : Int) (r : Rat) (f : F) (z : C) :
    NNum.unop O "float" (.int i : NNum F C) = .ok (.float (O.ofInt i)) ∧
    NNum.unop O "float" (.rat r : NNum F C) = .ok (.float (O.ofRat r)) ∧
    NNum.unop O "float" (.float f : NNum F C) = .ok (.float f) ∧
    NNum.unop O "float" (.complex z : NNum F C) = .throw := by
  simp [unop_refines, TowerSpec.unop, toF]

/-! ### the IEEE-754 decoding used for float literals, at particular bit patterns
(Theorems/C07Float.lean uses `viewBits_zeros` and `viewBits_inf` as lemmas) -/
theorem viewBits_one : F64.viewBits 0x3FF0000000000000 = .fin 1 := by decide +kernel
theorem viewBits_neg_half3 : F64.viewBits 0xBFF8000000000000 = .fin (mkRat (-3) 2) := by decide +kernel
theorem viewBits_tenth :
    F64.viewBits 0x3FB999999999999A = .fin (mkRat 3602879701896397 36028797018963968) := by decide +kernel
theorem viewBits_min_subnormal : F64.viewBits 1 = .fin (mkRat 1 (2 ^ 1074)) := by decide +kernel
theorem viewBits_zeros : F64.viewBits 0 = .fin 0 ∧ F64.viewBits 0x8000000000000000 = .fin 0 := by decide +kernel
theorem viewBits_inf : F64.viewBits 0x7FF0000000000000 = .inf false ∧
    F64.viewBits 0xFFF0000000000000 = .inf true ∧ F64.viewBits 0x7FF8000000000000 = .nan := by decide +kernel
theorem viewBits_2p63 : F64.viewBits 0x43E0000000000000 = .fin 9223372036854775808 := by decide +kernel

/-! ### vectors -/

theorem sequence_ok {α : Type} (xs : List (Out α)) (ys : List α) (h : sequence xs = .ok ys) :
    xs = ys.map .ok := by
  induction xs generalizing ys with
  | nil => simp [sequence] at h; subst h; rfl
  | cons x xs ih =>
    cases x with
    | ok y =>
      obtain ⟨zs, hs, rfl⟩ := Out.map_eq_ok h
      rw [ih zs hs]; rfl
    | throw => simp [sequence] at h
    | panic => simp [sequence] at h

/-- **vectorize_shape**: vectors of different lengths are rejected -/
theorem vec_length_mismatch (O : FloatOps F C) (op : String) (as bs : List (NNum F C))
    (h : as.length ≠ bs.length) : Vectorize.binop O op (.vec as) (.vec bs) = .throw := by
  simp [Vectorize.binop, Vectorize.vec2, h]

/-- **vectorize_shape**: on equal lengths every arithmetic operator acts element-wise: a result
vector has the operands' length and its `i`-th entry is the scalar operator on the `i`-th entries -/
theorem vec_elementwise (O : FloatOps F C) (op : String) (as bs rs : List (NNum F C))
    (h : Vectorize.binop O op (.vec as) (.vec bs) = .ok (.vec rs)) :
    rs.length = as.length ∧ rs.length = bs.length ∧
    ∀ i (h1 : i < as.length) (h2 : i < bs.length) (h3 : i < rs.length),
      NNum.binop O op as[i] bs[i] = .ok rs[i] := by
  rw [vbinop_refines] at h
  simp only [vbinop, TowerSpec.vec2] at h
  split at h
  · rename_i hl
    obtain ⟨zs, hs, hzs⟩ := Out.map_eq_ok h
    cases hzs
    have hz := sequence_ok _ _ hs
    have hlen : rs.length = (List.zipWith (TowerSpec.binop O op) as bs).length := by rw [hz]; simp
    simp at hlen
    refine ⟨by omega, by omega, ?_⟩
    intro i h1 h2 h3
    have := congrArg (fun l => l[i]?) hz
    simp [List.getElem?_zipWith, h1, h2, h3] at this
    rw [binop_refines]; exact this
  · simp at h

/-- **vectorize_shape**: a scalar operand is broadcast: it behaves as the vector of its copies -/
theorem vec_broadcast (O : FloatOps F C) (op : String) (a : NNum F C) (bs : List (NNum F C)) :
    Vectorize.binop O op (.num a) (.vec bs) =
      Vectorize.binop O op (.vec (List.replicate bs.length a)) (.vec bs) ∧
    Vectorize.binop O op (.vec bs) (.num a) =
      Vectorize.binop O op (.vec bs) (.vec (List.replicate bs.length a)) := by
  simp [vbinop_refines, vbinop, TowerSpec.vec2]

theorem vec_other_throws (O : FloatOps F C) (op : String) (B : VObj F C) :
    Vectorize.binop O op .other B = .throw ∧ Vectorize.binop O op B .other = .throw := by
  cases B <;> simp [Vectorize.binop, Vectorize.vec2]

theorem sequence_zipWith_no_panic {α β γ : Type} (f : α → β → Out γ) (hf : ∀ a b, f a b ≠ .panic)
    (xs : List α) (ys : List β) : sequence (List.zipWith f xs ys) ≠ .panic := by
  induction xs generalizing ys with
  | nil => simp [sequence]
  | cons x xs ih =>
    cases ys with
    | nil => simp [sequence]
    | cons y ys =>
      simp only [List.zipWith, sequence]
      cases h : f x y with
      | ok z => exact Out.map_ne_panic (ih ys)
      | throw => simp
      | panic => exact absurd h (hf x y)

theorem vbinop_no_panic (O : FloatOps F C) (op : String) (A B : VObj F C) :
    Vectorize.binop O op A B ≠ .panic := by
  have hb : ∀ a b, TowerSpec.binop O op a b ≠ .panic :=
    fun a b => binop_refines O op a b ▸ binop_no_panic O op a b
  have hs := sequence_zipWith_no_panic _ hb
  rw [vbinop_refines]
  cases A <;> cases B <;> simp only [vbinop, TowerSpec.vec2] <;> (try split) <;>
    simp [Out.map_eq_panic, hb, hs]


/-! ## 8. non-vacuity: concrete instances of the hypotheses and of the results

`trivOps` is a degenerate float structure (one float, one complex number), enough to evaluate the
exact levels and the dispatch concretely in the kernel. -/

def trivOps : FloatOps Unit Unit where
  view _ := .nan
  ofInt _ := ()
  ofRat _ := ()
  posInf := ()
  add _ _ := ()
  sub _ _ := ()
  mul _ _ := ()
  div _ _ := ()
  rem _ _ := ()
  divEuclid _ _ := ()
  remEuclid _ _ := ()
  neg _ := ()
  cOfF _ := ()
  cre _ := ()
  cim _ := ()
  cadd _ _ := ()
  csub _ _ := ()
  cmul _ _ := ()
  cdiv _ _ := ()
  crem _ _ := ()
  cfloorParts _ := ()
  cdivF _ _ := ()
  fdivC _ _ := ()
  cneg _ := ()
  powfPd _ _ := .float ()
  powifPd _ _ := .float ()
  cpowf _ _ := ()
  cpowif _ _ := ()
  cpowc _ _ := ()

abbrev N0 := NNum Unit Unit

-- hypotheses of `div_exact`, `rat_ops_exact`, `floor_div_identity` are satisfiable with non-integers
example : exact (.rat (mkRat (-7) 2) : N0) = some (mkRat (-7) 2) ∧ exact (.int 2 : N0) = some 2 ∧
    (2 : Rat) ≠ 0 := by decide +kernel
-- `6 / 4` is `3/2`; `2 / 2` is the RATIONAL `1/1`
example : NNum.binop trivOps "/" (.int 6) (.int 4) = .ok (.rat (mkRat 3 2)) := by decide +kernel
example : NNum.binop trivOps "/" (.int 2) (.int 2) = .ok (.rat 1) := by decide +kernel
example : NNum.binop trivOps "/" (.int 1) (.int 0) = .ok (.float ()) := by decide +kernel
-- the failing input of finding F7 now satisfies the identity: (-7/2) // 2 = -2, (-7/2) %% 2 = 1/2
example : NNum.binop trivOps "//" (.rat (mkRat (-7) 2)) (.int 2) = .ok (.rat (-2)) := by decide +kernel
example : NNum.binop trivOps "%%" (.rat (mkRat (-7) 2)) (.int 2) = .ok (.rat (mkRat 1 2)) := by decide +kernel
example : NNum.binop trivOps "%" (.rat (mkRat (-7) 2)) (.int 2) = .ok (.rat (mkRat (-3) 2)) := by decide +kernel
example : NNum.binop trivOps "%%" (.int 6) (.rat (-12)) = .ok (.rat (-6)) := by decide +kernel
example : NNum.binop trivOps "%" (.int 5) (.int 0) = .throw := by decide +kernel
-- level rule: int + rational is rational, rational + float is float, anything + complex is complex
example : NNum.binop trivOps "+" (.int 1) (.rat (mkRat 2 3)) = .ok (.rat (mkRat 5 3)) := by decide +kernel
example : NNum.binop trivOps "+" (.rat (mkRat 2 3)) (.float ()) = .ok (.float ()) := by decide +kernel
example : NNum.binop trivOps "*" (.complex ()) (.int 3) = .ok (.complex ()) := by decide +kernel

example : NNum.binop trivOps "^" (.int 2) (.int (-2)) = .ok (.rat (mkRat 1 4)) := by decide +kernel
example : NNum.binop trivOps "^" (.rat (mkRat 2 3)) (.int (-2)) = .ok (.rat (mkRat 9 4)) := by decide +kernel
example : NNum.binop trivOps "^" (.int 0) (.int (-1)) = .ok (.float ()) := by decide +kernel
-- rounding: halves go away from zero
example : NNum.unop trivOps "round" (.rat (mkRat 5 2)) = .ok (.int 3) ∧
    NNum.unop trivOps "round" (.rat (mkRat (-5) 2)) = .ok (.int (-3)) ∧
    NNum.unop trivOps "floor" (.rat (mkRat (-5) 2)) = .ok (.int (-3)) ∧
    NNum.unop trivOps "ceil" (.rat (mkRat (-5) 2)) = .ok (.int (-2)) ∧
    NNum.unop trivOps "int" (.rat (mkRat (-5) 2)) = .ok (.int (-2)) := by decide +kernel
example : NNum.unop trivOps "numerator" (.rat (mkRat 4 (6))) = .ok (.int 2) ∧
    NNum.unop trivOps "denominator" (.rat (mkRat (-4) 6)) = .ok (.int 3) := by decide +kernel

example : Vectorize.binop trivOps "+" (.vec [.int 1, .rat (mkRat 2 3)]) (.num (.int 1)) =
    .ok (.vec [.int 2, .rat (mkRat 5 3)]) := by decide +kernel
example : Vectorize.binop trivOps "+" (.vec [.int 1]) (.vec [.int 1, .int 2]) = .throw := by decide +kernel
example : Vectorize.binop trivOps "//" (.vec [.int 1, .int 2]) (.vec [.int 1, .int 0]) = .throw := by
  decide +kernel

/-! ## 9. the property, assembled -/

/-- C07 at full strength, for every float structure: (1) the code is the Spec on every pair of
objects and every operator / unary builtin; (2) `/` is exact with float fallback; (3) `+ - * % //
%%` are exact in ℚ, with the floor identity, the flooring and the sign of `%%`; (4) integer
exponents are exact; (5) the level rule; (6) roundings, numerator / denominator, `rational` are
exact; (7) vectors are element-wise with broadcasting and a length check. -/
def C07_statement : Prop :=
  ∀ (F C : Type) (O : FloatOps F C),
    (∀ op A B, Vectorize.binop O op A B = TowerSpec.vbinop O op A B) ∧
    (∀ op A, Vectorize.unop O op A = TowerSpec.vunop O op A) ∧
    (∀ (a b : NNum F C) x y, exact a = some x → exact b = some y → y ≠ 0 →
      NNum.binop O "/" a b = .ok (.rat (x / y)) ∧ x / y * y = x) ∧
    (∀ (a b : NNum F C) x fa fb, exact a = some x → exact b = some 0 → toF O a = some fa →
      toF O b = some fb → NNum.binop O "/" a b = .ok (.float (O.div fa fb))) ∧
    (∀ (a b : NNum F C) x y, exact a = some x → exact b = some y → y ≠ 0 →
      ∃ q m p s, NNum.binop O "//" a b = .ok q ∧ NNum.binop O "%%" a b = .ok m ∧
        NNum.binop O "*" q b = .ok p ∧ NNum.binop O "+" p m = .ok s ∧ exact s = some x ∧
        exact q = some (((x / y).floor : Int) : Rat) ∧
        (0 < y → ∃ r, exact m = some r ∧ 0 ≤ r ∧ r < y)) ∧
    (∀ (a : NNum F C) x e, exact a = some x → ¬ (x = 0 ∧ e < 0) →
      ∃ r, NNum.binop O "^" a (.int e) = .ok r ∧ exact r = some (x ^ e)) ∧
    (∀ name op, aopOfName name = some op → ∀ (a b r : NNum F C), NNum.binop O name a b = .ok r →
      r = arith O op a b ∧ r.level = max a.level b.level) ∧
    (∀ (a : NNum F C) q, value O a = some q →
      NNum.unop O "floor" a = .ok (.int q.floor) ∧ NNum.unop O "ceil" a = .ok (.int q.ceil) ∧
      NNum.unop O "round" a = .ok (.int (roundHalfAway q)) ∧ NNum.unop O "int" a = .ok (.int (trunc q)) ∧
      NNum.unop O "rational" a = .ok (.rat q)) ∧
    (∀ (a : NNum F C) q, exact a = some q →
      NNum.unop O "numerator" a = .ok (.int q.num) ∧ NNum.unop O "denominator" a = .ok (.int q.den)) ∧
    (∀ op (as bs : List (NNum F C)), as.length ≠ bs.length →
      Vectorize.binop O op (.vec as) (.vec bs) = .throw) ∧
    (∀ op (as bs rs : List (NNum F C)), Vectorize.binop O op (.vec as) (.vec bs) = .ok (.vec rs) →
      rs.length = as.length ∧ rs.length = bs.length ∧
      ∀ i (h1 : i < as.length) (h2 : i < bs.length) (h3 : i < rs.length),
        NNum.binop O op as[i] bs[i] = .ok rs[i]) ∧
    (∀ op (a : NNum F C) bs,
      Vectorize.binop O op (.num a) (.vec bs) = Vectorize.binop O op (.vec (List.replicate bs.length a)) (.vec bs) ∧
      Vectorize.binop O op (.vec bs) (.num a) = Vectorize.binop O op (.vec bs) (.vec (List.replicate bs.length a)))

theorem C07_holds : C07_statement := by
  intro F C O
  refine ⟨vbinop_refines O, vunop_refines O, ?_, div_zero_fallback O, ?_, pow_int_exact O, level_rule O,
    ?_, ?_, vec_length_mismatch O, vec_elementwise O, vec_broadcast O⟩
  · intro a b x y ha hb hy; exact ⟨div_exact O a b x y ha hb hy, Rat.div_mul_cancel hy⟩
  · intro a b x y ha hb hy
    have H := rat_ops_exact O a b x y ha hb
    obtain ⟨q, hq, hqe⟩ := H.2.2.2.2.1 hy
    obtain ⟨m, hm, hme⟩ := H.2.2.2.2.2 hy
    obtain ⟨q', m', p, s, hq', hm', hp, hs, hse⟩ := floor_div_identity O a b x y ha hb hy
    rw [hq] at hq'; rw [hm] at hm'
    cases hq'; cases hm'
    refine ⟨q, m, p, s, hq, hm, hp, hs, hse, hqe, ?_⟩
    intro hy0
    refine ⟨_, hme, ?_⟩
    have := modFloor_range_pos x y hy0
    simpa [ratOp] using this
  · intro a q hq
    obtain ⟨h1, h2, h3, h4⟩ := rounding_exact O a q hq
    exact ⟨h1, h2, h3, h4, rational_exact O a q hq⟩
  · intro a q ha
    obtain ⟨h1, h2, _⟩ := numer_denom O a q ha
    exact ⟨h1, h2⟩


/-! ## 10. `float(x)`: the correctly rounded conversion the Spec column of the check uses

`F64.ofRatRNE` (Impl/F64Ieee.lean) is round-to-nearest, ties-to-even.  It is not a parameter of
the theorems above (they hold for every conversion `O.ofInt`, `O.ofRat`); the differential check
compares `float(x)` and every mixed exact/float operation of the real interpreter with it.  Sanity
by kernel evaluation here; the general optimality statement below is proved in Theorems/C07Float.lean. -/

theorem rne_third : F64.ofRatRNE (mkRat 1 3) = 0x3FD5555555555555 := by decide +kernel
theorem rne_tenth : F64.ofRatRNE (mkRat 1 10) = 0x3FB999999999999A := by decide +kernel
theorem rne_neg_five : F64.ofRatRNE (-5) = 0xC014000000000000 := by decide +kernel
/-- ties go to the even significand: 2^53 + 1 ↦ 2^53, 2^53 + 3 ↦ 2^53 + 4 -/
theorem rne_ties_even : F64.ofRatRNE 9007199254740993 = 0x4340000000000000 ∧
    F64.ofRatRNE 9007199254740995 = 0x4340000000000002 := by decide +kernel
/-- overflow to +∞ exactly from 2^1024 − 2^970 on -/
theorem rne_overflow : F64.ofRatRNE ((2 ^ 1024 - 2 ^ 970 : Nat) : Rat) = 0x7FF0000000000000 ∧
    F64.ofRatRNE ((2 ^ 1024 - 2 ^ 970 - 1 : Nat) : Rat) = 0x7FEFFFFFFFFFFFFF := by decide +kernel
/-- subnormals and underflow: 2^-1074 is the least positive float, half of it rounds to (even) 0 -/
theorem rne_subnormal : F64.ofRatRNE (mkRat 1 (2 ^ 1074)) = 1 ∧ F64.ofRatRNE (mkRat 1 (2 ^ 1075)) = 0 ∧
    F64.ofRatRNE (mkRat 3 (2 ^ 1075)) = 2 ∧ F64.ofRatRNE (mkRat (-3) (2 ^ 1100)) = 0x8000000000000000 := by
  decide +kernel
theorem rne_roundtrip_examples :
    F64.viewBits (F64.ofRatRNE (mkRat (-3) 2)) = .fin (mkRat (-3) 2) ∧
    F64.viewBits (F64.ofRatRNE 9007199254740992) = .fin 9007199254740992 ∧
    F64.viewBits (F64.ofRatRNE (mkRat 1 (2 ^ 1074))) = .fin (mkRat 1 (2 ^ 1074)) := by decide +kernel

/-- `ofRatRNE q` is a nearest binary64 value to `q` among all finite bit patterns, whenever it is
finite itself.  Proved as `Noulith.C07F.ofRatRNE_nearest` in Theorems/C07Float.lean (with ties to even,
the overflow threshold, the sign and exactness on representable values). -/
def ofRatRNE_nearest_statement : Prop :=
  ∀ (q q' : Rat), F64.viewBits (F64.ofRatRNE q) = .fin q' →
    ∀ (b : Nat) (qb : Rat), b < 2 ^ 64 → F64.viewBits b = .fin qb → (q - q').abs ≤ (q - qb).abs

end Noulith.C07
