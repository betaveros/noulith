/-
C12 — patterns, destructuring, switch and runtime type annotations: types, and `assign` against the
transactional reference.

Types: `v is type(v)`, `v is anything`, `is_type` = the classification `HasType`.  `assign` refines
the transactional reference `specAssign` (`assign_eq_spec`) for patterns whose `or` alternatives bind
nothing in their first branch, and never panics, for every pattern (`assign_no_panic`); both are read
off `assign_eq_specNR` (`Theorems/C12NoRollback.lean`), and so are `switch_first_match`, `catch` and
lambda parameters.  The recorded defect: `or` does not roll back — the unrestricted statement is
refuted.  The statements of the relational layer (`…_statement`) are discharged in
`Theorems/C12Matches0.lean` and `Theorems/C12Matches.lean`.
-/
import NoulithModel.Theorems.C12NoRollback

namespace Noulith.C12

/-! ## types -/

/-- `is_type_of` (first half): every value is of the type `type` reports for it. -/
theorem isType_typeOf (v : Val) : isType (typeOf v) v = .ok true := by
  cases v <;> rfl

/-- `is_type_of` (second half): every value is `anything`. -/
theorem isType_any (v : Val) : isType .any v = .ok true := by
  cases v <;> rfl

theorem isType_eq_specIs (T : Ty) (v : Val) : isType T v = specIs v T := by
  cases T <;> cases v <;> exact rfl

theorem ok_beq_iff (a b : Ty) : (Out.ok (a == b) = Out.ok true) ↔ a = b :=
  ⟨fun h => eq_of_beq (Out.ok.inj h), fun h => congrArg Out.ok (beq_iff_eq.mpr h)⟩

theorem specIs_iff_HasType (T : Ty) (v : Val) : specIs v T = .ok true ↔ HasType v T := by
  cases T with
  | struct s => cases v <;> simp [specIs, HasType] <;> exact eq_comm
  | any => exact ⟨fun _ => trivial, fun _ => rfl⟩
  | number | func => simp [specIs, HasType, or_assoc]
  | satisfying p => exact Iff.rfl
  -- a base type: `type(v)` is compared with it
  | _ => exact ok_beq_iff _ _

/-! ## read off `arrange_eq_spec` and `Runs.fixed` -/

theorem arrange_length (ps : List Pat) (items arr : List Val)
    (h : arrange ps items.length items = .ok arr) : arr.length = ps.length := by
  rw [arrange_eq_spec, optToOut_eq_ok] at h
  exact specArrange_length ps items arr h

theorem assignItems_noIdents_env (e : Env) : ∀ (ps : List Pat) (rt : Option Ty) (vs : List Val),
    noIdentsL ps = true → (assignItems e ps rt vs).1 = e := by
  intro ps rt vs h
  exact (assignItems_runs ps e rt vs).fixed h

/-! ## `assign` refines `specAssign` -/

/-- what it means for the interpreter's `assign` to implement the reference: same success, same
resulting environment; raising exactly when the reference has no result; never a panic -/
def Ref (r : Env × Out Unit) (s : Option Env) : Prop :=
  match r.2 with
  | .ok _ => s = some r.1
  | .throw => s = none
  | .panic => False

theorem ref_nr (r : Env × Bool) : Ref (nrOut r) (nrOpt r) := by
  obtain ⟨e, b⟩ := r
  cases b <;> rfl

theorem assignItems_ref (e : Env) (ps : List Pat) (rt : Option Ty) (vs : List Val)
    (h : orCleanL ps = true) (hl : ps.length = vs.length) :
    Ref (assignItems e ps rt vs) (specAssignItems e ps rt vs) := by
  rw [assignItems_eq_specNR,
    specAssignItems_eq_nrOpt_of ps (fun p _ hp => specAssign_eq_nrOpt _ hp) h e rt vs hl]
  exact ref_nr _

/-- `assign` never panics: every unchecked machine operation in `assign_all` (the usize
subtractions, the drain bounds) and in the destructuring builtins (`%` and `div_floor` by zero) is
unreachable, for every pattern, declared type and value. -/
theorem assign_no_panic (e : Env) : ∀ (p : Pat) (rt : Option Ty) (v : Val), (assign e p rt v).2 ≠ .panic := by
  intro p rt v
  rw [assign_eq_specNR]
  exact nrOut_ne_panic _

theorem assignItems_no_panic (e : Env) : ∀ (ps : List Pat) (rt : Option Ty) (vs : List Val),
    (assignItems e ps rt vs).2 ≠ .panic := by
  intro ps rt vs
  rw [assignItems_eq_specNR]
  exact nrOut_ne_panic _

/-- **Impl = Spec for binding** (`assign_sound_complete`, executable form), for patterns whose `or`
nodes bind nothing in their first alternative: `assign` succeeds exactly when the transactional
reference does, with the same resulting environment; otherwise it raises. -/
theorem assign_eq_spec (e : Env) (p : Pat) (rt : Option Ty) (v : Val) (h : orClean p = true) :
    (∀ e', specAssign e p rt v = some e' → assign e p rt v = (e', .ok ())) ∧
    (specAssign e p rt v = none → (assign e p rt v).2 = .throw) := by
  rw [assign_eq_specNR, specAssign_eq_nrOpt p h]
  rcases specAssignNR e p rt v with ⟨e1, b⟩
  cases b <;> simp [nrOpt, nrOut]

/-! ## `switch`, `catch`, lambda parameters -/

def orCleanAll (ps : List Pat) : Prop := ∀ p ∈ ps, orClean p = true

theorem switchArm_eq_spec (e : Env) (s : Val) : ∀ (arms : List Pat) (i : Nat), orCleanAll arms →
    switchArm e s arms i = optToOut (specSwitch e s arms i) := by
  intro arms
  induction arms with
  | nil => intro i _; rfl
  | cons p arms ih =>
    intro i h
    unfold switchArm specSwitch
    rw [assign_eq_specNR, specAssign_eq_nrOpt p (h p (List.mem_cons_self ..))]
    rcases specAssignNR ([] :: e) p (some .any) s with ⟨e1, b⟩
    cases b with
    | true => rfl
    | false => exact ih (i + 1) (fun q hq => h q (List.mem_cons_of_mem _ hq))

theorem specSwitch_some (e : Env) (s : Val) : ∀ (arms : List Pat) (i k : Nat) (ee : Env),
    specSwitch e s arms i = some (k, ee) ↔
      ∃ j, k = i + j ∧ j < arms.length ∧
        (∃ p, arms[j]? = some p ∧ specAssign ([] :: e) p (some .any) s = some ee) ∧
        ∀ j' < j, ∀ q, arms[j']? = some q → specAssign ([] :: e) q (some .any) s = none := by
  intro arms
  induction arms with
  | nil => intro i k ee; exact ⟨nofun, fun ⟨_, _, hj, _⟩ => absurd hj (Nat.not_lt_zero _)⟩
  | cons p arms ih =>
    intro i k ee
    unfold specSwitch
    cases hp : specAssign ([] :: e) p (some .any) s with
    | some e1 =>
      constructor
      · intro h
        cases h
        exact ⟨0, rfl, Nat.zero_lt_succ _, ⟨p, rfl, hp⟩, fun j' hj' => absurd hj' (Nat.not_lt_zero _)⟩
      · rintro ⟨j, rfl, _, ⟨q, hq, hqs⟩, hall⟩
        cases j with
        | zero => cases hq; cases hp.symm.trans hqs; rfl
        | succ j => cases hp.symm.trans (hall 0 (Nat.zero_lt_succ j) p rfl)
    | none =>
      -- the head refuses: index `j` of the tail is index `j + 1` here
      refine (ih (i + 1) k ee).trans ⟨?_, ?_⟩
      · rintro ⟨j, rfl, hj, hq, hall⟩
        refine ⟨j + 1, Nat.add_right_comm i 1 j ▸ rfl, Nat.succ_lt_succ hj, hq, ?_⟩
        intro j' hj' q' hq'
        cases j' with
        | zero => cases hq'; exact hp
        | succ j' => exact hall j' (Nat.lt_of_succ_lt_succ hj') q' hq'
      · rintro ⟨j, rfl, hj, ⟨q, hq, hqs⟩, hall⟩
        cases j with
        | zero => cases hq; cases hp.symm.trans hqs
        | succ j =>
          exact ⟨j, Nat.add_right_comm i 1 j ▸ rfl, Nat.lt_of_succ_lt_succ hj, ⟨q, hq, hqs⟩,
            fun j' hj' q' hq' => hall (j' + 1) (Nat.succ_lt_succ hj') q' hq'⟩

theorem specSwitch_none (e : Env) (s : Val) : ∀ (arms : List Pat) (i : Nat),
    specSwitch e s arms i = none ↔ ∀ p ∈ arms, specAssign ([] :: e) p (some .any) s = none := by
  intro arms
  induction arms with
  | nil => intro i; simp [specSwitch]
  | cons p arms ih =>
    intro i
    unfold specSwitch
    cases hp : specAssign ([] :: e) p (some .any) s with
    | some e1 => simp [hp]
    | none => simp [hp, ih (i + 1)]

/-- **`switch_first_match`**: `switch` runs arm `k` (with the bindings of that arm's pattern, in a
fresh frame) iff arm `k` accepts the scrutinee and no earlier arm does; it raises iff no arm
accepts; it never panics. -/
theorem switch_first_match (e : Env) (s : Val) (arms : List Pat) (h : orCleanAll arms) :
    (∀ k ee, switchArm e s arms 0 = .ok (k, ee) ↔
      k < arms.length ∧
      (∃ p, arms[k]? = some p ∧ specAssign ([] :: e) p (some .any) s = some ee) ∧
      ∀ j < k, ∀ q, arms[j]? = some q → specAssign ([] :: e) q (some .any) s = none) ∧
    (switchArm e s arms 0 = .throw ↔ ∀ p ∈ arms, specAssign ([] :: e) p (some .any) s = none) ∧
    switchArm e s arms 0 ≠ .panic := by
  rw [switchArm_eq_spec e s arms 0 h]
  refine ⟨?_, ?_, optToOut_ne_panic _⟩
  · intro k ee
    rw [optToOut_eq_ok, specSwitch_some e s arms 0 k ee]
    constructor
    · rintro ⟨j, hk, hj⟩
      rw [Nat.zero_add] at hk
      subst hk
      exact hj
    · intro hk
      exact ⟨k, (Nat.zero_add k).symm, hk⟩
  · rw [optToOut_eq_throw, specSwitch_none]

/-- the catch clause: the handler runs iff the pattern accepts the thrown value -/
theorem catchClause_eq_spec (e : Env) (p : Pat) (thrown : Val) (h : orClean p = true) :
    catchClause e p thrown = optToOut (specAssign ([] :: e) p (some .any) thrown) := by
  unfold catchClause
  rw [assign_eq_specNR, specAssign_eq_nrOpt p h]
  rcases specAssignNR ([] :: e) p (some .any) thrown with ⟨e1, b⟩
  cases b <;> rfl

/-- lambda parameters (`Closure::run`): the argument list is arranged over the parameter patterns and
bound item by item in a fresh frame, as the reference `specBindParams` says -/
theorem bindParams_ref (e : Env) (params : List Pat) (args : List Val) (h : orCleanL params = true) :
    Ref (bindParams e params args) (specBindParams e params args) := by
  unfold bindParams specBindParams
  rcases arrange_cases params args with ⟨arr, h1, h2, h3⟩ | ⟨h1, h2⟩
  · rw [h1, h2]; exact assignItems_ref ([] :: e) params (some .any) arr h h3.symm
  · rw [h1, h2]; simp [Ref]

theorem switchArm_no_panic (e : Env) (s : Val) : ∀ (arms : List Pat) (i : Nat), switchArm e s arms i ≠ .panic := by
  intro arms
  induction arms with
  | nil => intro i; simp [switchArm]
  | cons p arms ih =>
    intro i
    unfold switchArm
    rw [assign_eq_specNR]
    rcases specAssignNR ([] :: e) p (some .any) s with ⟨e1, b⟩
    cases b with
    | true => exact nofun
    | false => exact ih (i + 1)

/-! ## the recorded defect: `or` does not roll back -/

/-- the full-strength statement: `assign` implements the transactional reference for *every* pattern -/
def assign_sound_complete_statement : Prop :=
  ∀ (e : Env) (p : Pat) (rt : Option Ty) (v : Val), Ref (assign e p rt v) (specAssign e p rt v)

theorem assign_sound_complete_statement_refuted : ¬ assign_sound_complete_statement := by
  intro h
  have := h [[]] orWitness (some .any) (.list [.int 5, .int 2])
  have w := or_no_rollback_witness
  unfold Ref at this
  rw [w.1] at this
  simp only [] at this
  rw [this] at w
  simp at w

/-- non-vacuity of `assign_eq_spec`: `(1 or 2), ...xs` against `[2, 7, 8]` binds `xs = [7, 8]` -/
example :
    orClean (.seq [.or (.lit (.int 1)) (.lit (.int 2)), .splat (.ident 0 [])] false) = true ∧
    (assign [[]] (.seq [.or (.lit (.int 1)) (.lit (.int 2)), .splat (.ident 0 [])] false) (some .any)
      (.list [.int 2, .int 7, .int 8])).2 = .ok () := by
  constructor <;> decide

/-! ## statements of the relational layer (proved in `Theorems/C12Matches0.lean` / `C12Matches.lean`:
`specArrange_iff_Arranged_holds`, `specAssign_iff_Matches_holds`, `destructure_iff_Inverts_holds`) -/

/-- the executable arrangement is exactly the relation `Arranged` of `Spec/Match.lean` -/
def specArrange_iff_Arranged_statement : Prop :=
  ∀ (ps : List Pat) (items arr : List Val), specArrange ps items = some arr ↔ Arranged ps items arr

/-- in declaring contexts the transactional reference is the relational matcher followed by the
declarations -/
def specAssign_iff_Matches_statement : Prop :=
  ∀ (e e' : Env) (p : Pat) (T : Ty) (v : Val), orClean p = true →
    (specAssign e p (some T) v = some e' ↔ ∃ β, Matches p T v β ∧ declareAll e β = some e')

/-- each destructuring builtin computes exactly the inverse image `Inverts` of its constructor
(proved for every value, without the side condition, as `destructure_iff_Inverts`) -/
def destructure_iff_Inverts_statement : Prop :=
  ∀ (f : Bi) (known : List (Option Val)) (v : Val) (parts : List Val),
    exactNum v ≠ none ∨ isSeqVal v = true →
    (destructure f v known = .ok parts ↔ Inverts f known v parts)

end Noulith.C12
