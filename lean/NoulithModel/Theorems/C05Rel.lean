/-
C05 (refinement) — the fuel-indexed evaluator (Impl/CoreEval.lean) and the relational big-step semantics
(Spec/CoreSem.lean) define the same language: `sound` (from `sound_all`, C05RelSound.lean: induction on the fuel),
`complete` / `complete_from` (from `X.complete`, C05RelComplete.lean: recursion on the derivation), `eval_iff_BigStep`.
Determinism comes from completeness (two results found from some fuel on are equal, `Evt.unique`); in the form
`BigStep.iff_eq` — one derivation settles what every derivation yields — it turns a single rule into most of the
documented laws (section "laws"), which are stated on the relation.
-/
import NoulithModel.Theorems.C05RelComplete
import NoulithModel.Theorems.C05RelSound
import NoulithModel.Theorems.C05
import NoulithModel.Theorems.C05Fuel

set_option autoImplicit true
set_option relaxedAutoImplicit true

namespace Noulith.Core

/-! ## no derivation ends in `fuelOut` -/

theorem BigStep.ne_fuelOut {st env e r st'} (h : BigStep st env e r st') : r ≠ .fuelOut :=
  h.found.1
theorem SwitchStep.ne_fuelOut {st env v arms r st'} (h : SwitchStep st env v arms r st') : r ≠ .fuelOut :=
  h.found.1
theorem SeqStep.ne_fuelOut {st env es r st'} (h : SeqStep st env es r st') : r ≠ .fuelOut :=
  h.found.1
theorem ListStep.ne_fuelOut {st env es r st'} (h : ListStep st env es r st') : r ≠ .stop .fuelOut :=
  h.found.1
theorem IntoStep.ne_fuelOut {st env o r st'} (h : IntoStep st env o r st') : r ≠ .inr .fuelOut :=
  h.found.1
theorem WhileStep.ne_fuelOut {st env c b r st'} (h : WhileStep st env c b r st') : r ≠ .fuelOut :=
  h.found.1
theorem ForStep.ne_fuelOut {st env its body acc r st' acc'} (h : ForStep st env its body acc r st' acc') :
    r ≠ .fuelOut :=
  h.found.1
theorem ItemsStep.ne_fuelOut {st env p items its body acc r st' acc'}
    (h : ItemsStep st env p items its body acc r st' acc') : r ≠ .fuelOut :=
  h.found.1
theorem BodyStep.ne_fuelOut {st env body acc r st' acc'} (h : BodyStep st env body acc r st' acc') :
    r ≠ .fuelOut :=
  h.found.1
theorem FinishStep.ne_fuelOut {st env post d done r st'} (h : FinishStep st env post d done r st') :
    r ≠ .fuelOut :=
  h.found.1
theorem CallStep.ne_fuelOut {st env f args r st'} (h : CallStep st env f args r st') : r ≠ .fuelOut :=
  h.found.1

/-! ## the refinement theorems -/

theorem sound {fuel : Nat} {st : State} {env : Nat} {e : Expr} {r : Res} {st' : State}
    (h : eval fuel st env e = (r, st')) (hne : r ≠ .fuelOut) : BigStep st env e r st' :=
  (sound_all fuel).ev h hne

theorem sound_call {fuel : Nat} {st : State} {env : Nat} {f : Val} {args : List Val} {r : Res} {st' : State}
    (h : callVal fuel st env f args = (r, st')) (hne : r ≠ .fuelOut) : CallStep st env f args r st' :=
  (sound_all fuel).call h hne

theorem complete_from {st : State} {env : Nat} {e : Expr} {r : Res} {st' : State} (h : BigStep st env e r st') :
    ∃ fuel, ∀ m, fuel ≤ m → eval m st env e = (r, st') :=
  h.complete

theorem complete {st : State} {env : Nat} {e : Expr} {r : Res} {st' : State} (h : BigStep st env e r st') :
    ∃ fuel, eval fuel st env e = (r, st') :=
  (complete_from h).imp fun f hf => hf f (Nat.le_refl f)

theorem complete_call {st : State} {env : Nat} {f : Val} {args : List Val} {r : Res} {st' : State}
    (h : CallStep st env f args r st') : ∃ fuel, ∀ m, fuel ≤ m → callVal m st env f args = (r, st') :=
  h.complete

theorem eval_iff_BigStep {st : State} {env : Nat} {e : Expr} {r : Res} {st' : State} :
    (∃ fuel, eval fuel st env e = (r, st') ∧ r ≠ .fuelOut) ↔ BigStep st env e r st' := by
  constructor
  · rintro ⟨fuel, h, hne⟩; exact sound h hne
  · intro h
    obtain ⟨fuel, hf⟩ := complete h
    exact ⟨fuel, hf, h.ne_fuelOut⟩

theorem runProgram_iff_ProgramRuns {e : Expr} {r : Res} {st' : State} :
    (∃ fuel, runProgram fuel e = (r, st') ∧ r ≠ .fuelOut) ↔ ProgramRuns e r st' :=
  eval_iff_BigStep

theorem BigStep.deterministic {st : State} {env : Nat} {e : Expr} {r₁ r₂ : Res} {s₁ s₂ : State}
    (h₁ : BigStep st env e r₁ s₁) (h₂ : BigStep st env e r₂ s₂) : r₁ = r₂ ∧ s₁ = s₂ :=
  Prod.mk.inj (Evt.unique h₁.complete h₂.complete)

theorem CallStep.deterministic {st : State} {env : Nat} {f : Val} {args : List Val} {r₁ r₂ : Res} {s₁ s₂ : State}
    (h₁ : CallStep st env f args r₁ s₁) (h₂ : CallStep st env f args r₂ s₂) : r₁ = r₂ ∧ s₁ = s₂ :=
  Prod.mk.inj (Evt.unique h₁.complete h₂.complete)

theorem WhileStep.deterministic {st : State} {env : Nat} {c b : Expr} {r₁ r₂ : Res} {s₁ s₂ : State}
    (h₁ : WhileStep st env c b r₁ s₁) (h₂ : WhileStep st env c b r₂ s₂) : r₁ = r₂ ∧ s₁ = s₂ :=
  Prod.mk.inj (Evt.unique h₁.complete h₂.complete)

theorem BigStep.iff_eq {st : State} {env : Nat} {e : Expr} {r₀ r : Res} {s₀ s : State} (h₀ : BigStep st env e r₀ s₀) :
    BigStep st env e r s ↔ (r = r₀ ∧ s = s₀) :=
  ⟨fun h => h.deterministic h₀, fun ⟨hr, hs⟩ => hr ▸ hs ▸ h₀⟩

theorem CallStep.iff_eq {st : State} {env : Nat} {f : Val} {args : List Val} {r₀ r : Res} {s₀ s : State}
    (h₀ : CallStep st env f args r₀ s₀) : CallStep st env f args r s ↔ (r = r₀ ∧ s = s₀) :=
  ⟨fun h => h.deterministic h₀, fun ⟨hr, hs⟩ => hr ▸ hs ▸ h₀⟩

/-- a law of the evaluator of the form "one layer of `e` is `e₁`" (from some fuel on) is the same law of the relation.
Exactly one layer: a law that spans several is not of this form (the second of a `seq` of two lies three layers down, through
`evalSeq` twice); it goes by inversion of the rules and `BigStep.deterministic`. -/
theorem BigStep.iff_of_eval_step {st st₁ : State} {env env₁ : Nat} {e e₁ : Expr} {r : Res} {st' : State}
    (hstep : Evt fun m => eval (m + 1) st env e = eval m st₁ env₁ e₁) :
    BigStep st env e r st' ↔ BigStep st₁ env₁ e₁ r st' := by
  constructor <;> intro h
  · obtain ⟨k, hk⟩ := hstep.and h.complete
    exact sound ((hk k (Nat.le_refl k)).1.symm.trans (hk (k + 1) (Nat.le_succ k)).2) h.ne_fuelOut
  · obtain ⟨k, hk⟩ := hstep.and h.complete
    exact sound ((hk k (Nat.le_refl k)).1.trans (hk k (Nat.le_refl k)).2) h.ne_fuelOut

/-! ## divergence -/

/-- the relation has no rule for "still running": a program that loops forever simply is not related to any result -/
theorem diverges_iff_no_derivation {st : State} {env : Nat} {e : Expr} :
    (∀ fuel, (eval fuel st env e).1 = .fuelOut) ↔ ¬ ∃ r st', BigStep st env e r st' := by
  constructor
  · rintro hdiv ⟨r, st', h⟩
    obtain ⟨fuel, hf⟩ := complete h
    have := hdiv fuel
    rw [hf] at this
    exact h.ne_fuelOut this
  · intro hno fuel
    apply Classical.byContradiction
    intro hne
    exact hno ⟨_, _, sound (rfl : eval fuel st env e = ((eval fuel st env e).1, (eval fuel st env e).2)) hne⟩

theorem fuelOut_below_answer {st env e} {fuel m : Nat} (hout : (eval fuel st env e).1 = .fuelOut)
    (hne : (eval m st env e).1 ≠ .fuelOut) : fuel < m :=
  Nat.lt_of_not_le fun hle => hne (Noulith.C05Fuel.eval_fuel_mono_le st env e hle hne ▸ hout)

theorem fuelOut_then_needs_more {st : State} {env : Nat} {e : Expr} {fuel : Nat}
    (hout : (eval fuel st env e).1 = .fuelOut) {r : Res} {st' : State} (h : BigStep st env e r st')
    {m : Nat} (hm : eval m st env e = (r, st')) : fuel < m := by
  exact fuelOut_below_answer hout (hm ▸ h.ne_fuelOut)

/-- with `eval_fuel_mono_le`: the fuels that find the result of a derivation are exactly those from a least one on -/
theorem below_threshold_fuelOut {st : State} {env : Nat} {e : Expr} {r : Res} {st' : State}
    (h : BigStep st env e r st') {fuel : Nat} (hnot : eval fuel st env e ≠ (r, st')) :
    (eval fuel st env e).1 = .fuelOut := by
  apply Classical.byContradiction
  intro hne
  have hd := sound (rfl : eval fuel st env e = ((eval fuel st env e).1, (eval fuel st env e).2)) hne
  obtain ⟨h1, h2⟩ := hd.deterministic h
  apply hnot
  rw [← h1, ← h2]

/-! ## laws: the documented rules, read off the relation -/

/-- STATIC SCOPING: the outcome of calling a closure does not depend on the scope the call is made from -/
theorem static_scoping {st : State} {env₁ env₂ : Nat} {ps : List Param} {body : Expr} {cenv : Nat}
    {args : List Val} {r : Res} {st' : State}
    (h : CallStep st env₁ (.closure ps body cenv) args r st') :
    CallStep st env₂ (.closure ps body cenv) args r st' := by
  obtain ⟨f, hf⟩ := complete_call h
  exact sound_call ((Noulith.C05.static_scoping f st env₂ env₁ ..).trans (hf f (Nat.le_refl f))) h.ne_fuelOut

/-- a lambda expression denotes a closure over the scope it is evaluated in, and changes nothing -/
theorem lambda_captures_defining_scope {st : State} {env : Nat} {ps : List Param} {body : Expr} {r : Res}
    {st' : State} (h : BigStep st env (.lambda ps body) r st') : r = .val (.closure ps body env) ∧ st' = st :=
  (BigStep.iff_eq .lambda).mp h

/-- a called closure works in a FRESH scope whose parent is the closure's defining scope: whichever rule derives the
call, its first premise evaluates the annotations in the new frame, which is empty and hangs under `cenv` (the rules
`returned` / `body` run the body in that same frame) -/
theorem call_runs_body_in_fresh_child_of_defining_scope {st : State} {env : Nat} {ps : List Param}
    {body : Expr} {cenv : Nat} {args : List Val} {r : Res} {st' : State}
    (h : CallStep st env (.closure ps body cenv) args r st') :
    ∃ rl st1, ListStep (newFrame st cenv).1 st.frames.size (ps.filterMap Param.ann) rl st1 ∧
      (newFrame st cenv).1.frames[st.frames.size]? = some { vars := [], parent := some cenv } := by
  have hfr := Noulith.C05.newFrame_empty st cenv
  cases h with
  | not_callable hf => cases hf
  | annotation_exit hs ha | defaults_refused hs ha | arity_refused hs ha | default_exit hs ha | bind_refused hs ha
  | type_refused hs ha | returned hs ha | body hs ha => cases hs; exact ⟨_, _, ha, hfr⟩

/-- FRESH SCOPE PER ITERATION (`while`): every iteration starts by allocating a new, empty scope under the
loop's scope — an id no existing frame (hence no closure created so far) has — and evaluates the condition
there; all existing frames are untouched by the allocation -/
theorem while_iteration_fresh_scope {st : State} {env : Nat} {c b : Expr} {r : Res} {st' : State}
    (h : WhileStep st env c b r st') :
    (∃ rc st2, BigStep (newFrame st env).1 st.frames.size c rc st2) ∧
      (newFrame st env).1.frames[st.frames.size]? = some { vars := [], parent := some env } ∧
      ∀ i, i < st.frames.size → (newFrame st env).1.frames[i]? = st.frames[i]? := by
  refine ⟨?_, Noulith.C05.newFrame_empty st env, fun i hi => Noulith.C05.newFrame_preserves st env i hi⟩
  cases h with
  | done hs hc | cond_exit hs hc | next hs hc | break_ hs hc | break_outer hs hc | continue_outer hs hc | pass hs hc =>
    cases hs; exact ⟨_, _, hc⟩

/-- the NEXT iteration of a `while` does not reuse the scope of this one: it is a `WhileStep` from the loop's
own scope `env` again, so (by `while_iteration_fresh_scope`) it allocates its own scope -/
theorem while_next_iteration_restarts_in_loop_scope {st : State} {env : Nat} {c b : Expr} {r : Res} {st' : State}
    {vc v : Val} {st2 st3 : State}
    (hc : BigStep (newFrame st env).1 st.frames.size c (.val vc) st2) (ht : vc.truthy = true)
    (hb : BigStep st2 st.frames.size b (.val v) st3) :
    WhileStep st env c b r st' ↔ WhileStep st3 env c b r st' := by
  constructor
  · -- at a fuel where the evaluator finds all three derivations, one layer of `evalWhile` from `st` is `evalWhile` from `st3`
    intro h
    obtain ⟨k, hk⟩ := (hc.complete.and hb.complete).and h.complete
    obtain ⟨⟨h1, h2⟩, -⟩ := hk k (Nat.le_refl k)
    have h3 := (hk (k + 1) (Nat.le_succ k)).2
    rw [Noulith.C05.evalWhile_body h1 ht h2] at h3
    exact (sound_all k).wh h3 h.ne_fuelOut
  · intro h
    exact .next rfl hc ht hb rfl h

/-- FRESH SCOPE PER ITERATION (`for`): every item is bound in a new, empty scope under the loop's scope -/
theorem for_item_fresh_scope {st : State} {env : Nat} {p : Pat} {x : Val} {xs : List Val} {its : List ForIt}
    {body : ForBody} {acc acc' : ForAcc} {r : Res} {st' : State}
    (h : ItemsStep st env p (x :: xs) its body acc r st' acc') :
    (∃ ok st2, bindPat (newFrame st env).1 st.frames.size p x = (ok, st2)) ∧
      (newFrame st env).1.frames[st.frames.size]? = some { vars := [], parent := some env } := by
  refine ⟨?_, Noulith.C05.newFrame_empty st env⟩
  cases h with
  | bind_refused hs hb | next hs hb | exit hs hb => cases hs; exact ⟨_, _, hb⟩

/-- …and the remaining items are processed from the loop's scope again, not from the item's scope -/
theorem for_next_item_restarts_in_loop_scope {st : State} {env : Nat} {p : Pat} {x : Val} {xs : List Val}
    {its : List ForIt} {body : ForBody} {acc acc3 acc' : ForAcc} {r : Res} {st' st2 st3 : State} {w : Val}
    (hb : bindPat (newFrame st env).1 st.frames.size p x = (true, st2))
    (hf : ForStep st2 st.frames.size its body acc (.val w) st3 acc3)
    (hn : ItemsStep st3 env p xs its body acc3 r st' acc') :
    ItemsStep st env p (x :: xs) its body acc r st' acc' :=
  .next rfl hb hf hn

/-- every `switch` arm is tried in a fresh scope under the scope of the `switch` -/
theorem switch_arm_fresh_scope {st : State} {env : Nat} {v : Val} {p : Pat} {body : Expr} {rest : List SwitchArm}
    {r : Res} {st' : State} (h : SwitchStep st env v (.mk p body :: rest) r st') :
    ∃ ok st2, bindPat (newFrame st env).1 st.frames.size p v = (ok, st2) ∧
      (ok = true → BigStep st2 st.frames.size body r st') ∧ (ok = false → SwitchStep st2 env v rest r st') := by
  cases h with
  | arm hs hp hb => cases hs; exact ⟨_, _, hp, fun _ => hb, nofun⟩
  | next hs hp hn => cases hs; exact ⟨_, _, hp, nofun, fun _ => hn⟩

/-- `=` NEVER DECLARES: assigning to a name without an enclosing declaration raises and leaves the state as the
right-hand side left it -/
theorem assign_undeclared_raises {st st1 : State} {env : Nat} {x : String} {e : Expr} {v : Val} {r : Res}
    {st' : State} (he : BigStep st env e (.val v) st1) (hx : st1.lookup env x = none)
    (h : BigStep st env (.assign x e) r st') : r = .thrown .err ∧ st' = st1 :=
  (BigStep.assign_refused he (State.assign_of_none (Noulith.C05.assign_refuses_undeclared _ _ _ _ _ hx))).iff_eq.mp h

/-- …and a successful `=` creates no variable and no scope: the number of scopes and the names declared in
each scope are what they were -/
theorem assign_never_declares {st st2 : State} {env : Nat} {x : String} {v : Val}
    (h : st.assign env x v = some st2) :
    st2.frames.size = st.frames.size ∧
      ∀ i : Nat, (st2.frames[i]?).map (fun (fr : Frame) => (fr.vars.map (·.1), fr.parent)) =
        (st.frames[i]?).map (fun (fr : Frame) => (fr.vars.map (·.1), fr.parent)) := by
  obtain ⟨fs, hfs, rfl⟩ := State.assign_some h
  exact Noulith.C05.assignVar_keeps_names _ _ _ _ _ _ hfs

/-- `:=` declares in the CURRENT scope and refuses a name that the current scope already has — whatever the
enclosing scopes contain -/
theorem declare_refuses_redeclaration {st st1 : State} {env : Nat} {x : String} {e : Expr} {v w : Val}
    {fr : Frame} {r : Res} {st' : State} (he : BigStep st env e (.val v) st1)
    (hfr : st1.frames[env]? = some fr) (hx : lookupIn fr.vars x = some w)
    (h : BigStep st env (.declare (.ident x) e) r st') : r = .thrown .err ∧ st' = st1 := by
  have hb : bindPat st1 env (.ident x) v = (false, st1) := by
    simp only [bindPat, declarePat, declareVar, hfr, hx]
  exact (BigStep.declare_refused he hb).iff_eq.mp h

/-- SHORT-CIRCUIT `and`: when the left operand is falsy it is the result, and the right operand is not
evaluated — whatever it is, even an expression without any derivation -/
theorem and_short_circuit {st st1 : State} {env : Nat} {a b : Expr} {va : Val} {r : Res} {st' : State}
    (ha : BigStep st env a (.val va) st1) (ht : va.truthy = false) :
    BigStep st env (.and_ a b) r st' ↔ (r = .val va ∧ st' = st1) :=
  (BigStep.and_short ha ht).iff_eq

theorem or_short_circuit {st st1 : State} {env : Nat} {a b : Expr} {va : Val} {r : Res} {st' : State}
    (ha : BigStep st env a (.val va) st1) (ht : va.truthy = true) :
    BigStep st env (.or_ a b) r st' ↔ (r = .val va ∧ st' = st1) :=
  (BigStep.or_short ha ht).iff_eq

theorem coalesce_short_circuit {st st1 : State} {env : Nat} {a b : Expr} {va : Val} {r : Res} {st' : State}
    (ha : BigStep st env a (.val va) st1) (hn : va ≠ .null) :
    BigStep st env (.coalesce a b) r st' ↔ (r = .val va ∧ st' = st1) :=
  (BigStep.coalesce_short ha hn).iff_eq

/-- …and when the left operand does not decide, the result is the right operand's, evaluated afterwards -/
theorem and_evaluates_right {st st1 : State} {env : Nat} {a b : Expr} {va : Val} {r : Res} {st' : State}
    (ha : BigStep st env a (.val va) st1) (ht : va.truthy = true) :
    BigStep st env (.and_ a b) r st' ↔ BigStep st1 env b r st' :=
  BigStep.iff_of_eval_step (ha.complete.imp fun m h1 => Noulith.C05.and_evaluates_rhs m st st1 env a b va h1 ht)

/-- `try` CATCHES ONLY `throw`: a value, `break`, `continue` or `return` of the protected expression is the
result of the `try`, and the handler is not looked at -/
theorem try_catches_only_throw {st st1 : State} {env : Nat} {b c : Expr} {p : Pat} {rb r : Res} {st' : State}
    (hb : BigStep st env b rb st1) (hr : rb.isThrown = false) :
    BigStep st env (.try_ b p c) r st' ↔ (r = rb ∧ st' = st1) :=
  (BigStep.try_pass hb hr).iff_eq

/-- a thrown value whose pattern matches is caught: the `try` ends as its handler does -/
theorem try_catches_matching_throw {st st1 st3 : State} {env : Nat} {b c : Expr} {p : Pat} {v : Val} {r : Res}
    {st' : State} (hb : BigStep st env b (.thrown v) st1)
    (hp : bindPat (newFrame st1 env).1 st1.frames.size p v = (true, st3)) :
    BigStep st env (.try_ b p c) r st' ↔ BigStep st3 st1.frames.size c r st' :=
  BigStep.iff_of_eval_step (hb.complete.imp fun m h1 => Noulith.C05.try_catches_throw m st st1 st3 env b c p v h1 hp)

/-- a `catch` clause runs in a fresh scope under the scope of the `try` -/
theorem catch_clause_fresh_scope {st st1 : State} {env : Nat} {b c : Expr} {p : Pat} {v : Val} {r : Res}
    {st' : State} (hb : BigStep st env b (.thrown v) st1) (h : BigStep st env (.try_ b p c) r st') :
    ∃ ok st3, bindPat (newFrame st1 env).1 st1.frames.size p v = (ok, st3) ∧
      (ok = true → BigStep st3 st1.frames.size c r st') ∧ (ok = false → r = .thrown v ∧ st' = st3) := by
  rcases hp : bindPat (newFrame st1 env).1 st1.frames.size p v with ⟨_ | _, st3⟩
  · exact ⟨_, _, rfl, nofun, fun _ => (BigStep.try_rethrow hb rfl hp).iff_eq.mp h⟩
  · exact ⟨_, _, rfl, fun _ => (try_catches_matching_throw hb hp).mp h, nofun⟩

/-- a `while` loop absorbs a level-0 `break`: its value is the value of the loop -/
theorem while_absorbs_break {st : State} {env : Nat} {c b : Expr} {vc : Val} {v : Option Val} {st2 st3 : State}
    (hc : BigStep (newFrame st env).1 st.frames.size c (.val vc) st2) (ht : vc.truthy = true)
    (hb : BigStep st2 st.frames.size b (.brk 0 v) st3) :
    BigStep st env (.while_ c b) (.val (v.getD .null)) st3 :=
  .while_ (.break_ rfl hc ht hb)

/-- …and takes one level off a deeper one -/
theorem while_decrements_break {st : State} {env : Nat} {c b : Expr} {vc : Val} {v : Option Val} {k : Nat}
    {st2 st3 : State}
    (hc : BigStep (newFrame st env).1 st.frames.size c (.val vc) st2) (ht : vc.truthy = true)
    (hb : BigStep st2 st.frames.size b (.brk (k + 1) v) st3) :
    BigStep st env (.while_ c b) (.brk k v) st3 :=
  .while_ (.break_outer rfl hc ht hb)

/-- a call absorbs `return`: the returned value is the value of the call -/
theorem call_absorbs_return {st st0 st1 st2 st3 st4 : State} {env ee : Nat} {ps : List Param} {body : Expr}
    {cenv : Nat} {args tvs dvs : List Val} {inPlay : List Expr} {v : Val}
    (hs : newFrame st cenv = (st0, ee)) (ha : ListStep st0 ee (ps.filterMap Param.ann) (.ok tvs) st1)
    (hd : defaultsInPlay args.length ps 0 false [] = some inPlay)
    (har : arityRefused ps args.length inPlay = false) (hdv : ListStep st1 ee inPlay (.ok dvs) st2)
    (hb : bindParams st2 ee ps tvs args dvs = some (true, st3)) (hbody : BigStep st3 ee body (.ret v) st4)
    {r : Res} {st' : State} :
    CallStep st env (.closure ps body cenv) args r st' ↔ (r = .val v ∧ st' = st4) :=
  (CallStep.returned hs ha hd har hdv hb hbody).iff_eq

/-! ## non-vacuity -/

/-- a derivation written by hand: `0 and (while (1) null)` is `0` although the right operand has no derivation
(the loop never ends) -/
example (st : State) (env : Nat) :
    BigStep st env (.and_ (.int 0) (.while_ (.int 1) .null)) (.val (.int 0)) st :=
  .and_short .int rfl

/-- `if (0) 1 else 2 + 3`, by hand -/
example (st : State) (env : Nat) :
    BigStep st env (.ite (.int 0) (.int 1) (some (.op "+" (.int 2) (.int 3)))) (.val (.int 5)) st :=
  .ite_false .int rfl (.op .int .int rfl)

/-- a derivation obtained from a run of the evaluator: the sample program of C05Fuel.lean (a `while` loop, a
closure call, a `switch` and a `for … yield`) has a derivation, for the result the evaluator computes with
fuel 40 — and, by completeness, only for that result -/
example : ∃ st', ProgramRuns Noulith.C05Fuel.sampleProg (runProgram 40 Noulith.C05Fuel.sampleProg).1 st' :=
  ⟨_, sound (rfl : eval 40 State.init 0 Noulith.C05Fuel.sampleProg = ((eval 40 State.init 0 Noulith.C05Fuel.sampleProg).1, _))
    Noulith.C05Fuel.sampleProg_ends⟩

example : (runProgram 40 Noulith.C05Fuel.sampleProg).1 matches .val (.list [.int 3, .int 6]) :=
  Noulith.C05Fuel.sampleProg_runs

/-- the hypotheses of the divergence theorems are satisfiable: with fuel 3 the sample program runs out -/
example : Noulith.C05Fuel.isFuelOut (eval 3 State.init 0 Noulith.C05Fuel.sampleProg).1 = true := by
  decide +kernel

end Noulith.Core
