/-
C11 — Permutations (streams.rs 183-274).  `Permutations::len` is a closed form in the factorial number
system (`1 + Σ_{i=1}^{n-1} i! · #{j > n-1-i : v[j] > v[n-1-i]}`); `next` is the lexicographic successor
found by a left-to-right scan.  Here: the `usize` loop of `len` equals the closed form for base lists of
length ≤ 20 (beyond that `cur *= i` overflows a `usize`); the statement of the step lemma (`StepOk`: on
index vectors without repetition the successor lowers the closed form by exactly one), which is proved
in C11PermStep.lean (`PermT.stepOk`); the count `cnt` and the invariant `WF` of the reachable states;
a checker `permCheck` of the closed form against the number of states left.
-/
import NoulithModel.Theorems.C11Iter
import NoulithModel.Lemmas.PermLex

namespace Noulith.C11
open Noulith Noulith.Stream Noulith.StreamSpec

namespace PermT

/-! ### the `usize` loop of `Permutations::len` -/

theorem fact_bridge (n : Nat) : Stream.fact n = PermLex.fact n := by
  induction n with
  | zero => rfl
  | succ n ih => simp [Stream.fact, PermLex.fact, ih]

theorem fact_pos (n : Nat) : 0 < fact n :=
  fact_bridge n ▸ PermLex.fact_pos n

theorem fact_mono {a b : Nat} (h : a ≤ b) : fact a ≤ fact b := by
  induction h with
  | refl => exact Nat.le_refl _
  | step _ ih =>
    rename_i m _
    simp only [fact]
    have := fact_pos m
    calc fact a ≤ fact m := ih
      _ ≤ (m + 1) * fact m := Nat.le_mul_of_pos_left _ (by omega)

theorem laterLarger_le (v : List Nat) (i : Nat) : Perm.laterLarger v i ≤ i := by
  unfold Perm.laterLarger
  calc _ ≤ (List.range' (v.length - i) i).length := List.length_filter_le _ _
    _ = i := by simp

def terms (v : List Nat) (is : List Nat) : Nat :=
  (is.map fun i => fact i * Perm.laterLarger v i).sum

theorem lenLoop_ok (v : List Nat) : ∀ (m k sum : Nat), 1 ≤ k →
    sum + 1 ≤ fact k → fact (k + m) ≤ 18446744073709551615 →
    Perm.lenLoop v (List.range' k m) (fact (k - 1)) sum = .ok (sum + terms v (List.range' k m) + 1) := by
  intro m
  induction m with
  | zero =>
    intro k sum _ h1 h2
    have : sum + 1 ≤ 18446744073709551615 := by simp at h2; omega
    simp [Perm.lenLoop, addUsize, terms, this]
  | succ m ih =>
    intro k sum hk h1 h2
    have hk1 : fact (k - 1) * k = fact k := by
      obtain ⟨j, rfl⟩ : ∃ j, k = j + 1 := ⟨k - 1, (Nat.sub_add_cancel hk).symm⟩
      simp [fact, Nat.mul_comm]
    have hle := Nat.le_trans (fact_mono (Nat.add_le_add_left (Nat.succ_pos m) k)) h2
    have h3 := Nat.le_trans (fact_mono (Nat.le_succ k)) hle
    have ht : fact k * Perm.laterLarger v k + fact k ≤ fact (k + 1) := by
      rw [← Nat.mul_succ, show fact (k + 1) = (k + 1) * fact k from rfl, Nat.mul_comm (k + 1)]
      exact Nat.mul_le_mul_left _ (Nat.succ_le_succ (laterLarger_le v k))
    obtain ⟨h4, h5, h1'⟩ := lenLoop_step h1 ht hle
    have hrec := ih (k + 1) (sum + fact k * Perm.laterLarger v k) (Nat.succ_pos k) h1'
      (by rw [Nat.add_right_comm]; exact h2)
    simp only [Nat.add_sub_cancel] at hrec
    simp only [List.range'_succ, Perm.lenLoop, mulUsize, addUsize, hk1, h3, h4, h5, if_true, R.bind,
      hrec, terms, List.map_cons, List.sum_cons]
    congr 1
    omega

theorem lenNat_eq_terms (v : List Nat) : Perm.lenNat v = 1 + terms v (List.range' 1 (v.length - 1)) := rfl

theorem len_ok (v : List Nat) (hn : v.length ≤ 20) :
    Perm.lenLoop v (List.range' 1 (v.length - 1)) 1 0 = .ok (Perm.lenNat v) := by
  have h20 : fact 20 ≤ 18446744073709551615 := by decide
  have := lenLoop_ok v (v.length - 1) 1 0 (Nat.le_refl _) (by decide)
    (Nat.le_trans (fact_mono (by omega)) h20)
  simp only [Nat.sub_self, fact, Nat.zero_add] at this
  rw [this, lenNat_eq_terms]
  congr 1
  omega

/-! ### the step lemma's statement, the count, the reachable states -/

def StepOk (v : List Nat) : Prop :=
  (∀ v', Perm.advance v = some v' → Perm.lenNat v = Perm.lenNat v' + 1 ∧ v'.Nodup ∧ v'.length = v.length) ∧
  (Perm.advance v = none → Perm.lenNat v = 1)

def cnt {α : Type} (p : Idx α) : Nat :=
  match p.idx with
  | none => 0
  | some v => Perm.lenNat v

/-- reachable states: the index vector has no repetition -/
def WF {α : Type} (p : Idx α) : Prop := ∀ v, p.idx = some v → v.Nodup

theorem bound_eq {α : Type} (p : Idx α) : Perm.bound p = some (cnt p) := by
  obtain ⟨base, idx⟩ := p
  cases idx <;> rfl

theorem next_none {α : Type} {p : Idx α} (h : Perm.next p = none) : p.idx = none := by
  obtain ⟨base, idx⟩ := p
  cases idx with
  | none => rfl
  | some w => cases h

theorem next_some {α : Type} {p p' : Idx α} {x : List α} (h : Perm.next p = some (x, p')) :
    ∃ w, p.idx = some w ∧ x = pickAll p.base w ∧ p' = ⟨p.base, Perm.advance w⟩ := by
  obtain ⟨base, idx⟩ := p
  cases idx with
  | none => cases h
  | some w => cases h; exact ⟨w, rfl, rfl, rfl⟩

theorem length_next_of (hstep : ∀ v : List Nat, v.Nodup → StepOk v) (R : Nat → Prop) {α : Type}
    (p : Idx α) (v : List α) (p' : Idx α) (hw : WF p) (hn : ∀ w, p.idx = some w → R w.length)
    (h : Perm.next p = some (v, p')) : ∀ w, p'.idx = some w → R w.length := by
  obtain ⟨w, hw', -, rfl⟩ := next_some h
  intro v' hv'
  rw [((hstep w (hw w hw')).1 v' hv').2.2]
  exact hn w hw'

theorem length_next (hstep : ∀ v : List Nat, v.Nodup → StepOk v) {α : Type} (p : Idx α) (v : List α)
    (p' : Idx α) (hw : WF p) (n : Nat) (hn : ∀ w, p.idx = some w → w.length = n)
    (h : Perm.next p = some (v, p')) : ∀ w, p'.idx = some w → w.length = n :=
  length_next_of hstep (· = n) p v p' hw hn h

theorem len_eq {α : Type} (p : Idx α) (hn : ∀ v, p.idx = some v → v.length ≤ 20) :
    Perm.len p = .ok (some (cnt p)) := by
  obtain ⟨base, idx⟩ := p
  cases idx with
  | none => rfl
  | some v => simp only [Perm.len, len_ok v (hn v rfl), R.map, R.bind, cnt]

theorem mk_wf {α : Type} (base : List α) : WF (Perm.mk base) := by
  intro v hv
  cases hv
  exact List.nodup_range

end PermT

theorem perm_peekNext {α : Type} : PeekNext (Perm.ops (α := α)) := by
  intro p
  obtain ⟨base, idx⟩ := p
  cases idx <;> rfl

/-- the successor step statement (proved as `perm_step` in C11PermStep.lean): the successor computed by
`Permutations::next` (last ascent, swap with the last larger entry, reverse the suffix) decreases
the closed form of `Permutations::len` by exactly one -/
def perm_step_statement : Prop := ∀ v : List Nat, v.Nodup → PermT.StepOk v

/-- full strength of `len_is_count` for permutations (proved as `perm_len_is_count` in C11PermStep.lean:
with the step lemma Permutations is a `Counter`, `PermT.counter`, hence `perm_coherent`) -/
def perm_len_is_count_statement : Prop :=
  ∀ (base : List Nat), base.length ≤ 20 →
    ∃ l, Coherent Perm.ops (Perm.mk base) l ∧ l.length = PermT.cnt (Perm.mk base)

/-! ### the step lemma as a run-time check -/

/-- a checker for "closed form = number of states left" along the successive index states from the
identity until exhaustion (it is shown to succeed for every `n` in C11PermStep.lean) -/
def permCheckFrom : Nat → Option (List Nat) → Nat → Bool
  | 0, st, left => st.isNone && left == 0
  | _ + 1, none, left => left == 0
  | fuel + 1, some v, left =>
    Perm.lenNat v == left && permCheckFrom fuel (Perm.advance v) (left - 1)

def permCheck (n : Nat) : Bool := permCheckFrom (fact n + 1) (some (List.range n)) (fact n)

end Noulith.C11
