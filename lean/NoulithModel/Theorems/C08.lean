/-
C08 — Numeric equality and ordering are exact and coherent across types.

The Impl model of the comparison code (Impl/NNumCmp.lean, Impl/ObjCmp.lean) against the Spec
(Spec/OrdSpec.lean: every number denotes a pair of points of the extended rational line; `==` is
equality and the order is the lexicographic order of the denoted pairs): numbers; the two laws of a
partial comparison and their passage through lexicographic comparison to all values; `sort`; `ncmp`
and the operators; strings (UTF-8); Impl = Spec on values; `NNum::min` / `NNum::max`.
All statements quantify over every integer (both representations, any size), every rational, every
float value `m·2^e` / ±0 / ±inf / NaN and every complex number — no size bound.
`LE`, `pairCmp`, `kind`, `T`, `F` are names of this namespace: elsewhere, under `open Noulith.C08`, `unfold LE` is ambiguous with
`_root_.LE` (write `C08.LE`), and a `pairCmp` of one's own hides this one without a message.
-/
import NoulithModel.Spec.OrdSpec
namespace Noulith.C08
open Noulith OrdSpec

/-! ## shared by the C08 and C09 files: induction on nested values -/

theorem forall_mem_tail {α : Type} {p : α → Prop} {a : α} {l : List α} (h : ∀ x ∈ a :: l, p x) : ∀ x ∈ l, p x :=
  fun x hx => h x (List.mem_cons_of_mem _ hx)

theorem size_elem {A : List Val} {e : Val} (h : e ∈ A) : sizeOf e < sizeOf (Val.list A) := by
  have := List.sizeOf_lt_of_mem h
  simp; omega

theorem size_entry {A : List (Val × Val)} {d : Option Val} {e : Val × Val} (h : e ∈ A) :
    sizeOf e.1 < sizeOf (Val.dict A d) ∧ sizeOf e.2 < sizeOf (Val.dict A d) := by
  have := List.sizeOf_lt_of_mem h
  obtain ⟨k, v⟩ := e
  simp at this ⊢
  omega

/-- induction through the members of lists and the keys and values of dictionaries; the hypotheses sit behind an equation so that `a` can
be split afterwards. Use: `induction a using val_induction generalizing b with | step a ih ihd => ?_`, then `cases a`: in the case
`.list xs`, `ih _ rfl x hx : P x` for `hx : x ∈ xs`; in the case `.dict A d`, `ihd _ _ rfl e he : P e.1 ∧ P e.2` for `he : e ∈ A`. -/
theorem val_induction {P : Val → Prop}
    (step : ∀ a, (∀ xs, a = .list xs → ∀ x ∈ xs, P x) → (∀ A d, a = .dict A d → ∀ e ∈ A, P e.1 ∧ P e.2) → P a)
    (a : Val) : P a :=
  step a (fun _ _ x _ => val_induction step x)
    (fun _ _ _ x _ => ⟨val_induction step x.1, val_induction step x.2⟩)
termination_by sizeOf a
decreasing_by
  all_goals subst_vars
  · exact size_elem ‹_›
  · exact (size_entry ‹_›).1
  · exact (size_entry ‹_›).2

def numOf : Val → Option NNum
  | .num n => some n
  | _ => none

/-! The total comparisons are core's `Std.TransCmp`s: `ratCmp` is `compareOfLessAndEq` written out, and `ERat.cmp`
is lexicographic on `ekey`: the class of a point (-∞, finite, +∞), then its value. -/

instance : Std.TransCmp ratCmp :=
  Std.TransOrd.compareOfLessAndEq_of_antisymm_of_trans_of_total_of_not_le
    Rat.le_antisymm Rat.le_trans (fun _ _ => Rat.le_total) Rat.not_le

theorem ratCmp_eq {a b : Rat} : ratCmp a b = .eq ↔ a = b := compareOfLessAndEq_eq_eq (fun _ => Rat.le_refl) Rat.not_le
theorem ratCmp_lt {a b : Rat} : ratCmp a b = .lt ↔ a < b := compareOfLessAndEq_eq_lt
theorem ratCmp_gt {a b : Rat} : ratCmp a b = .gt ↔ b < a := Std.OrientedCmp.gt_iff_lt.trans ratCmp_lt
theorem ratCmp_swap (a b : Rat) : (ratCmp a b).swap = ratCmp b a := Std.OrientedCmp.eq_swap.symm

theorem ratCmp_intCast (a b : Int) : ratCmp (a : Rat) (b : Rat) = compare a b := by
  simp only [ratCmp, compare, compareOfLessAndEq, Rat.intCast_lt_intCast, Rat.intCast_inj]

def ekey : ERat → Nat × Rat
  | .ninf => (0, 0)
  | .fin q => (1, q)
  | .pinf => (2, 0)

theorem ekey_inj {a b : ERat} (h : ekey a = ekey b) : a = b := by
  cases a <;> cases b <;> simp_all [ekey]

theorem transCmp_comap {α β : Type} {cmp : β → β → Ordering} [Std.TransCmp cmp] (f : α → β) :
    Std.TransCmp fun x y => cmp (f x) (f y) where
  eq_swap := Std.OrientedCmp.eq_swap (cmp := cmp)
  isLE_trans := Std.TransCmp.isLE_trans (cmp := cmp)

theorem erat_cmp_eq_key :
    ERat.cmp = compareLex (fun x y => compare (ekey x).1 (ekey y).1) (fun x y => ratCmp (ekey x).2 (ekey y).2) := by
  funext a b
  cases a <;> cases b <;> first | rfl | exact (ratCmp_eq.mpr rfl).symm

instance : Std.TransCmp ERat.cmp := by
  rw [erat_cmp_eq_key]
  have := transCmp_comap (cmp := (compare : Nat → Nat → Ordering)) fun x => (ekey x).1
  have := transCmp_comap (cmp := ratCmp) fun x => (ekey x).2
  infer_instance

namespace ERatL
theorem cmp_eq {a b : ERat} : ERat.cmp a b = .eq ↔ a = b := by
  rw [erat_cmp_eq_key, compareLex_eq_eq, Nat.compare_eq_eq, ratCmp_eq]
  exact ⟨fun h => ekey_inj (Prod.ext h.1 h.2), fun h => h ▸ ⟨rfl, rfl⟩⟩
theorem cmp_swap (a b : ERat) : (ERat.cmp a b).swap = ERat.cmp b a := Std.OrientedCmp.eq_swap.symm
theorem cmp_refl (a : ERat) : ERat.cmp a a = .eq := cmp_eq.mpr rfl
theorem cmp_lt_trans {a b c : ERat} (h1 : ERat.cmp a b = .lt) (h2 : ERat.cmp b c = .lt) : ERat.cmp a c = .lt :=
  Std.TransCmp.lt_trans h1 h2
end ERatL

theorem isInt_iff (q : Rat) : q.isInt = true ↔ q = ((q.floor : Int) : Rat) := by
  constructor
  · intro h
    have hd : q.den = 1 := by simpa [Rat.isInt] using h
    have hq : q = (q.num : Rat) := by apply Rat.ext <;> simp [hd]
    rw [Rat.floor_def, hd]; simpa using hq
  · intro h
    rw [h]; simp [Rat.isInt]

theorem ratTrunc_intCast (n : Int) : F64.ratTrunc (n : Rat) = n := by
  unfold F64.ratTrunc; split <;> simp [Rat.floor_intCast, Rat.ceil_intCast]

theorem finVal_zero_exp (n : Int) : F64.finVal n 0 = n := by simp [F64.finVal]

theorem toNIntIfInt_fin_int (m e : Int) (h : (F64.finVal m e).isInt = true) :
    toNIntIfInt (.fin m e) = some (.big (F64.finVal m e).floor) := by
  have hq := (isInt_iff _).mp h
  simp only [toNIntIfInt, F64.eqTrunc, F64.toBigInt?, h, if_true, Option.map]
  congr 2
  conv => lhs; rw [hq]
  exact ratTrunc_intCast _

theorem toNIntIfInt_fin_nonint (m e : Int) (h : ¬ (F64.finVal m e).isInt = true) :
    toNIntIfInt (.fin m e) = none := by
  simp only [toNIntIfInt, F64.eqTrunc, h]; rfl

theorem cmp_floor (x : Int) (q : Rat) (h : ¬ q.isInt = true) :
    (match compare x q.floor with
      | .lt => Ordering.lt
      | .eq => Ordering.lt
      | .gt => Ordering.gt) = ratCmp (x : Rat) q := by
  have hne : ∀ n : Int, q ≠ (n : Rat) := by
    intro n hn
    apply h; rw [hn]; simp [Rat.isInt]
  have below : x ≤ q.floor → Ordering.lt = ratCmp (x : Rat) q := fun hle =>
    (ratCmp_lt.mpr (Rat.lt_of_le_of_ne (Rat.le_floor_iff.mp hle) (fun h => hne _ h.symm))).symm
  rcases Int.lt_trichotomy x q.floor with hlt | heq | hgt
  · rw [Int.compare_eq_lt.mpr hlt]; exact below (Int.le_of_lt hlt)
  · rw [Int.compare_eq_eq.mpr heq]; exact below (Int.le_of_eq heq)
  · rw [Int.compare_eq_gt.mpr hgt]
    have : q < (x : Rat) := Rat.floor_lt_iff.mp hgt
    exact (ratCmp_gt.mpr this).symm

theorem cmp_nint_f64_exact (a : NInt) (b : F64) :
    cmpNIntF64 a b = optCmp (realValue (.int a)) (realValue (.float b)) := by
  cases b with
  | nan => simp [cmpNIntF64, toNIntIfInt, F64.eqTrunc, F64.isInfinite, F64.floor, F64.toBigInt?, realValue, optCmp]
  | inf neg =>
    cases neg <;>
    simp [cmpNIntF64, toNIntIfInt, F64.eqTrunc, F64.isInfinite, F64.toBigInt?, F64.isSignPositive,
      realValue, optCmp, ERat.cmp]
  | nzero =>
    simp only [cmpNIntF64, toNIntIfInt, F64.eqTrunc, F64.toBigInt?, realValue, optCmp, ERat.cmp, NInt.cmp,
      if_true, Option.map]
    rw [← ratCmp_intCast]; simp [NInt.val]
  | fin m e =>
    simp only [realValue, optCmp, ERat.cmp]
    have hv : ((m : Rat) * (2 : Rat) ^ e) = F64.finVal m e := rfl
    rw [hv]
    by_cases h : (F64.finVal m e).isInt = true
    · simp only [cmpNIntF64, toNIntIfInt_fin_int m e h, NInt.cmp]
      have hq := (isInt_iff _).mp h
      conv => rhs; rw [hq]
      rw [ratCmp_intCast]; rfl
    · simp only [cmpNIntF64, toNIntIfInt_fin_nonint m e h, F64.isInfinite, F64.floor, F64.toBigInt?,
        Option.map, finVal_zero_exp, ratTrunc_intCast, NInt.cmp, Bool.false_eq_true, if_false]
      congr 1
      exact cmp_floor a.val _ h

/-- the Impl's reading of a float (`isNan`, `ext`) is the Spec's -/
theorem realValue_float_eq (f : F64) : realValue (.float f) = if f.isNan then none else some f.ext := by
  rcases f with _ | ⟨_ | _⟩ | ⟨m, e⟩ | _ <;> rfl

theorem f64_partialCmp_exact (a b : F64) :
    F64.partialCmp a b = optCmp (realValue (.float a)) (realValue (.float b)) := by
  rw [F64.partialCmp, realValue_float_eq, realValue_float_eq]
  cases a.isNan <;> cases b.isNan <;> rfl

theorem optCmp_swap (x y : Option ERat) : (optCmp x y).map Ordering.swap = optCmp y x := by
  cases x <;> cases y <;> simp [optCmp, ERatL.cmp_swap]

theorem nreal_partialCmp_exact (a b : NReal) :
    NReal.partialCmp a b = optCmp (realValue a) (realValue b) := by
  cases a with
  | int a =>
    cases b with
    | int b => simp [NReal.partialCmp, realValue, optCmp, ERat.cmp, ratCmp_intCast, NInt.cmp]
    | float f => simp only [NReal.partialCmp]; exact cmp_nint_f64_exact a f
    | rat q => simp [NReal.partialCmp, NReal.exactCmp, NReal.exactToRational, realValue, optCmp, ERat.cmp]
  | float f =>
    cases b with
    | int b =>
      simp only [NReal.partialCmp]
      rw [cmp_nint_f64_exact, optCmp_swap]
    | float g => simp only [NReal.partialCmp]; exact f64_partialCmp_exact f g
    | rat q =>
      rcases f with _ | ⟨_ | _⟩ | ⟨m, e⟩ | _ <;>
        simp [NReal.partialCmp, NReal.exactCmp, NReal.exactToRational, F64.toRat?, NReal.infiniteSignum,
          realValue, optCmp, ERat.cmp, F64.finVal] <;> decide
  | rat q =>
    cases b with
    | int b => simp [NReal.partialCmp, NReal.exactCmp, NReal.exactToRational, realValue, optCmp, ERat.cmp]
    | float f =>
      rcases f with _ | ⟨_ | _⟩ | ⟨m, e⟩ | _ <;>
        simp [NReal.partialCmp, NReal.exactCmp, NReal.exactToRational, F64.toRat?, NReal.infiniteSignum,
          realValue, optCmp, ERat.cmp, F64.finVal] <;> decide
    | rat r => simp [NReal.partialCmp, NReal.exactCmp, NReal.exactToRational, realValue, optCmp, ERat.cmp]

theorem beq_exact (a b : NInt) (ha : a.WF) (hb : b.WF) : NInt.beq a b = decide (a.val = b.val) := by
  cases a <;> cases b <;> simp only [NInt.beq, NInt.val, NInt.WF] at * <;> (try split) <;>
    first
    | rfl
    | exact beq_eq_decide _ _
    | (symm; apply decide_eq_false; intro h; subst h; contradiction)

theorem nint_beq_cmp (a b : NInt) (ha : a.WF) (hb : b.WF) : NInt.beq a b = (NInt.cmp a b == .eq) := by
  rw [beq_exact a b ha hb, NInt.cmp]
  exact Bool.eq_iff_iff.mpr (by simp only [decide_eq_true_eq, beq_iff_eq, Int.compare_eq_eq])

theorem nint_cmp_eq_comm (a b : NInt) : (NInt.cmp a b == .eq) = (NInt.cmp b a == .eq) := by
  unfold NInt.cmp
  exact Bool.eq_iff_iff.mpr (by simp only [beq_iff_eq, Int.compare_eq_eq]; exact eq_comm)

theorem ratCmp_beq_eq (x y : Rat) : (ratCmp x y == .eq) = decide (x = y) :=
  Bool.eq_iff_iff.mpr (by simp only [beq_iff_eq, ratCmp_eq, decide_eq_true_eq])

theorem toNIntIfInt_wf {f : F64} {x : NInt} (h : toNIntIfInt f = some x) : x.WF := by
  unfold toNIntIfInt at h
  split at h
  · obtain ⟨v, _, rfl⟩ := Option.map_eq_some_iff.mp h; trivial
  · cases h

/-- `==` between an integer and a float holds exactly when `cmp_nint_f64` answers `Equal` -/
theorem nint_f64_eq_cmp (a : NInt) (f : F64) (ha : a.WF) :
    (match toNIntIfInt f with
      | some x => NInt.beq x a
      | none => false) = (cmpNIntF64 a f == some .eq) := by
  unfold cmpNIntF64
  cases h : toNIntIfInt f with
  | some x => exact (nint_beq_cmp x a (toNIntIfInt_wf h) ha).trans (nint_cmp_eq_comm x a)
  | none =>
    simp only
    split
    · split <;> rfl
    · cases f.floor.toBigInt? with
      | none => rfl
      | some bi => simp only [Option.map]; cases NInt.cmp a (.big bi) <;> rfl

theorem f64_feq_cmp (a b : F64) : F64.feq a b = (F64.partialCmp a b == some .eq) := by
  unfold F64.feq F64.partialCmp
  split
  · rfl
  · exact Bool.eq_iff_iff.mpr (by simp [ERatL.cmp_eq])

theorem map_swap_beq_eq (o : Option Ordering) : (o.map Ordering.swap == some .eq) = (o == some .eq) := by
  cases o with
  | none => rfl
  | some p => cases p <;> rfl

theorem optEq_eq_cmp (x y : Option ERat) : optEq x y = (optCmp x y == some .eq) := by
  cases x <;> cases y <;> first | rfl | exact Bool.eq_iff_iff.mpr (by simp [optCmp, optEq, ERatL.cmp_eq])

def NRealWF : NReal → Prop
  | .int a => a.WF
  | _ => True

theorem nreal_eq_cmp (a b : NReal) (ha : NRealWF a) (hb : NRealWF b) :
    NReal.eq a b = (NReal.partialCmp a b == some .eq) := by
  cases a with
  | int a =>
    cases b with
    | int b => exact nint_beq_cmp a b ha hb
    | float f => exact nint_f64_eq_cmp a f ha
    | rat q => simp [NReal.eq, NReal.partialCmp, NReal.exactCmp, NReal.exactToRational, ratCmp_beq_eq]
  | float f =>
    cases b with
    | int b => rw [NReal.partialCmp, map_swap_beq_eq]; exact nint_f64_eq_cmp b f hb
    | float g => exact f64_feq_cmp f g
    | rat q =>
      rcases f with _ | ⟨_ | _⟩ | ⟨m, e⟩ | _ <;>
        simp [NReal.eq, NReal.partialCmp, NReal.exactCmp, NReal.exactToRational, F64.toRat?, NReal.infiniteSignum, ratCmp_beq_eq]
  | rat q =>
    cases b with
    | int b => simp [NReal.eq, NReal.partialCmp, NReal.exactCmp, NReal.exactToRational, ratCmp_beq_eq]
    | float f =>
      rcases f with _ | ⟨_ | _⟩ | ⟨m, e⟩ | _ <;>
        simp [NReal.eq, NReal.partialCmp, NReal.exactCmp, NReal.exactToRational, F64.toRat?, NReal.infiniteSignum, ratCmp_beq_eq]
    | rat r => simp [NReal.eq, NReal.partialCmp, NReal.exactCmp, NReal.exactToRational, ratCmp_beq_eq]

theorem optEq_comm (x y : Option ERat) : optEq x y = optEq y x := by
  cases x <;> cases y <;> simp [optEq, eq_comm]

theorem nreal_eq_exact (a b : NReal) (ha : NRealWF a) (hb : NRealWF b) :
    NReal.eq a b = optEq (realValue a) (realValue b) := by
  rw [nreal_eq_cmp a b ha hb, nreal_partialCmp_exact, optEq_eq_cmp]

theorem re_project (a : NNum) : realValue a.projectToReals.1 = reVal a := by
  cases a <;> rfl
theorem im_project (a : NNum) : realValue a.projectToReals.2 = imVal a := by
  cases a <;> simp [NNum.projectToReals, realValue, imVal]
theorem wf_project (a : NNum) (h : a.WF) : NRealWF a.projectToReals.1 ∧ NRealWF a.projectToReals.2 := by
  cases a <;> simp_all [NNum.projectToReals, NRealWF, NNum.WF]

/-- **Impl = Spec for the order on numbers** (all numbers, all levels, NaNs included) -/
theorem num_partialCmp_exact (a b : NNum) : NNum.partialCmp a b = numCmp a b := by
  unfold NNum.partialCmp numCmp
  rw [← re_project a, ← re_project b, ← im_project a, ← im_project b]
  simp only [nreal_partialCmp_exact]
  rfl

/-- **Impl = Spec for `==` on numbers** -/
theorem num_eq_exact (a b : NNum) (ha : a.WF) (hb : b.WF) : NNum.eq a b = numEq a b := by
  unfold NNum.eq numEq
  rw [← re_project a, ← re_project b, ← im_project a, ← im_project b]
  obtain ⟨h1, h2⟩ := wf_project a ha
  obtain ⟨h3, h4⟩ := wf_project b hb
  simp only [nreal_eq_exact _ _ h1 h3, nreal_eq_exact _ _ h2 h4]

/-! ## generic laws of a partial three-way comparison -/
def SwapLaw {α : Type} (c : α → α → Option Ordering) : Prop :=
  ∀ a b, c b a = (c a b).map Ordering.swap
/-- transitivity in all its forms: `==` composes with everything, `<` with `<`, `>` with `>` -/
def TransLaw {α : Type} (c : α → α → Option Ordering) : Prop :=
  ∀ a b z o1 o2, c a b = some o1 → c b z = some o2 → (o1 = .eq ∨ o2 = .eq ∨ o1 = o2) →
    c a z = some (o1.then o2)

theorem cmp_trans_of {α : Type} {cmp : α → α → Ordering} [Std.TransCmp cmp] (a b c : α)
    (hc : cmp a b = .eq ∨ cmp b c = .eq ∨ cmp a b = cmp b c) : cmp a c = (cmp a b).then (cmp b c) := by
  cases h1 : cmp a b with
  | eq => exact Std.TransCmp.congr_left h1
  | lt =>
    cases h2 : cmp b c with
    | eq => exact (Std.TransCmp.congr_right h2).symm.trans h1
    | lt => exact Std.TransCmp.lt_trans h1 h2
    | gt => rw [h1, h2] at hc; simp at hc
  | gt =>
    cases h2 : cmp b c with
    | eq => exact (Std.TransCmp.congr_right h2).symm.trans h1
    | lt => rw [h1, h2] at hc; simp at hc
    | gt => exact Std.TransCmp.gt_trans h1 h2

theorem then_cases (o1 o2 : Ordering) (hc : o1 = .eq ∨ o2 = .eq ∨ o1 = o2) :
    (o1 = .eq ∧ o1.then o2 = o2) ∨ (o1 ≠ .eq ∧ o1.then o2 = o1) := by
  cases o1 <;> cases o2 <;> simp_all [Ordering.then]

/-- one lexicographic step: the head decides unless it is `Some(Equal)` -/
def stepRes (h t : Option Ordering) : Option Ordering :=
  match h with
  | some .eq => t
  | o => o

theorem stepRes_eq_some {h t : Option Ordering} {o : Ordering} :
    stepRes h t = some o ↔ (h = some .eq ∧ t = some o) ∨ (h = some o ∧ o ≠ .eq) := by
  cases h with
  | none => simp [stepRes]
  | some p => cases p <;> cases o <;> simp [stepRes]

theorem stepRes_swap (h t : Option Ordering) :
    stepRes (h.map Ordering.swap) (t.map Ordering.swap) = (stepRes h t).map Ordering.swap := by
  cases h with
  | none => rfl
  | some p => cases p <;> rfl

/-- the transitivity law passes from heads and tails to the lexicographic step -/
theorem stepRes_trans {hxy hyz hxz txy tyz txz : Option Ordering}
    (head : ∀ p1 p2, hxy = some p1 → hyz = some p2 → (p1 = .eq ∨ p2 = .eq ∨ p1 = p2) → hxz = some (p1.then p2))
    (tail : ∀ q1 q2, txy = some q1 → tyz = some q2 → (q1 = .eq ∨ q2 = .eq ∨ q1 = q2) → txz = some (q1.then q2))
    (o1 o2 : Ordering) (h1 : stepRes hxy txy = some o1) (h2 : stepRes hyz tyz = some o2)
    (hc : o1 = .eq ∨ o2 = .eq ∨ o1 = o2) : stepRes hxz txz = some (o1.then o2) := by
  rw [stepRes_eq_some] at h1 h2 ⊢
  rcases h1 with ⟨e1, t1⟩ | ⟨e1, n1⟩ <;> rcases h2 with ⟨e2, t2⟩ | ⟨e2, n2⟩
  · exact Or.inl ⟨head _ _ e1 e2 (Or.inl rfl), tail _ _ t1 t2 hc⟩
  · -- the second head decides
    have : o1.then o2 = o2 := by
      rcases hc with rfl | h | rfl
      · rfl
      · exact absurd h n2
      · cases o1 <;> rfl
    rw [this]
    exact Or.inr ⟨head _ _ e1 e2 (Or.inl rfl), n2⟩
  · -- the first head decides
    have : o1.then o2 = o1 := by cases o1 <;> first | rfl | exact absurd rfl n1
    rw [this]
    refine Or.inr ⟨?_, n1⟩
    have := head _ _ e1 e2 (Or.inr (Or.inl rfl))
    rwa [Ordering.then_eq] at this
  · -- both heads decide, and agree
    obtain rfl : o1 = o2 := by
      rcases hc with h | h | h
      · exact absurd h n1
      · exact absurd h n2
      · exact h
    have := head _ _ e1 e2 (Or.inr (Or.inr rfl))
    have e : o1.then o1 = o1 := by cases o1 <;> rfl
    rw [e] at this ⊢
    exact Or.inr ⟨this, n1⟩

theorem congr_of_laws {α : Type} {c : α → α → Option Ordering} (hs : SwapLaw c) (ht : TransLaw c)
    {a a' b b' : α} (ha : c a a' = some .eq) (hb : c b b' = some .eq) : c a b = c a' b' := by
  have ha' : c a' a = some .eq := by rw [hs a a', ha]; rfl
  have hb' : c b' b = some .eq := by rw [hs b b', hb]; rfl
  have fwd : ∀ {x x' y y' : α} o, c x x' = some .eq → c x' x = some .eq → c y y' = some .eq →
      c x y = some o → c x' y' = some o := by
    intro x x' y y' o hx hx' hy hxy
    have h1 := ht x' x y _ _ hx' hxy (Or.inl rfl)
    simp only [Ordering.then] at h1
    have h2 := ht x' y y' _ _ h1 hy (Or.inr (Or.inl rfl))
    rwa [Ordering.then_eq] at h2
  cases h : c a b with
  | some o => exact (fwd o ha ha' hb h).symm
  | none =>
    cases h' : c a' b' with
    | none => rfl
    | some o => have := fwd o ha' ha hb' h'; rw [h] at this; cases this

/-! ## the Spec's comparison of numbers: the two laws, `==` as a test of it, an answer unless a NaN is met -/

theorem optCmp_transLaw : TransLaw optCmp := by
  intro a b z o1 o2 h1 h2 hc
  cases a <;> cases b <;> cases z <;> simp_all [optCmp]
  subst h1; subst h2
  exact cmp_trans_of _ _ _ hc

theorem numCmp_eq_stepRes (a b : NNum) :
    numCmp a b = stepRes (optCmp (reVal a) (reVal b)) (optCmp (imVal a) (imVal b)) := rfl

theorem numCmp_swap : SwapLaw numCmp := by
  intro a b
  rw [numCmp_eq_stepRes, numCmp_eq_stepRes, ← optCmp_swap (reVal a), ← optCmp_swap (imVal a)]
  exact stepRes_swap _ _

theorem numCmp_trans : TransLaw numCmp := fun a b z o1 o2 h1 h2 hc =>
  stepRes_trans (optCmp_transLaw (reVal a) (reVal b) (reVal z)) (optCmp_transLaw (imVal a) (imVal b) (imVal z))
    o1 o2 h1 h2 hc

theorem optCmp_eq_iff (x y : Option ERat) : optCmp x y = some .eq ↔ optEq x y = true := by
  rw [optEq_eq_cmp, beq_iff_eq]

theorem numCmp_eq_iff (a b : NNum) : numCmp a b = some .eq ↔ numEq a b = true := by
  unfold numCmp numEq
  rw [Bool.and_eq_true, ← optCmp_eq_iff, ← optCmp_eq_iff]
  cases h : optCmp (reVal a) (reVal b) with
  | none => simp
  | some o => cases o <;> simp

theorem numEq_eq_cmp (a b : NNum) : numEq a b = (numCmp a b == some .eq) :=
  Bool.eq_iff_iff.mpr (by rw [← numCmp_eq_iff, beq_iff_eq])

def nanFree (a : NNum) : Prop := hasNan a = false

theorem optCmp_isSome {x y : Option ERat} (hx : x.isSome) (hy : y.isSome) : (optCmp x y).isSome := by
  cases x <;> cases y <;> simp_all [optCmp]

theorem optEq_refl {x : Option ERat} (h : x.isSome) : optEq x x = true := by
  cases x <;> simp_all [optEq]

/-! ## the property's statements about numbers, on the Impl model -/

/-- the pair of points a NaN-free number denotes -/
def val2 (a : NNum) : ERat × ERat := ((reVal a).getD (.fin 0), (imVal a).getD (.fin 0))
def pairCmp (x y : ERat × ERat) : Ordering := (ERat.cmp x.1 y.1).then (ERat.cmp x.2 y.2)
/-- the point a NaN-free real denotes -/
def rval (a : NNum) : ERat := (reVal a).getD (.fin 0)
def isReal : NNum → Bool
  | .complex _ _ => false
  | _ => true

theorem nanFree_some {a : NNum} (ha : nanFree a) : reVal a = some (val2 a).1 ∧ imVal a = some (val2 a).2 := by
  unfold nanFree hasNan at ha
  simp only [Bool.or_eq_false_iff, Option.isNone_eq_false_iff] at ha
  obtain ⟨h1, h2⟩ := ha
  obtain ⟨x, hx⟩ := Option.isSome_iff_exists.mp h1
  obtain ⟨y, hy⟩ := Option.isSome_iff_exists.mp h2
  simp [val2, hx, hy]

theorem numCmp_val {a b : NNum} (ha : nanFree a) (hb : nanFree b) :
    numCmp a b = some (pairCmp (val2 a) (val2 b)) := by
  obtain ⟨h1, h2⟩ := nanFree_some ha
  obtain ⟨h3, h4⟩ := nanFree_some hb
  unfold numCmp pairCmp
  rw [h1, h2, h3, h4]
  simp only [optCmp]
  cases ERat.cmp (val2 a).1 (val2 b).1 <;> rfl

theorem numCmp_total {a b : NNum} (ha : nanFree a) (hb : nanFree b) : ∃ o, numCmp a b = some o :=
  ⟨_, numCmp_val ha hb⟩

theorem numCmp_none {a b : NNum} (h : numCmp a b = none) : hasNan a = true ∨ hasNan b = true := by
  cases ha : hasNan a
  · cases hb : hasNan b
    · obtain ⟨o, ho⟩ := numCmp_total ha hb; rw [h] at ho; cases ho
    · exact Or.inr rfl
  · exact Or.inl rfl

/-- numbers of ANY two levels (also complex) compare by the exact values they denote -/
theorem num_cmp_exact (a b : NNum) (ha : nanFree a) (hb : nanFree b) :
    NNum.partialCmp a b = some (pairCmp (val2 a) (val2 b)) := by
  rw [num_partialCmp_exact]; exact numCmp_val ha hb

theorem numEq_val {a b : NNum} (ha : nanFree a) (hb : nanFree b) : numEq a b = true ↔ val2 a = val2 b := by
  obtain ⟨h1, h2⟩ := nanFree_some ha
  obtain ⟨h3, h4⟩ := nanFree_some hb
  unfold numEq
  rw [h1, h2, h3, h4]
  simp only [optEq, Bool.and_eq_true, decide_eq_true_eq]
  exact Prod.ext_iff.symm

theorem numEq_refl {a : NNum} (ha : nanFree a) : numEq a a = true := (numEq_val ha ha).mpr rfl

theorem num_eq_val (a b : NNum) (hwa : a.WF) (hwb : b.WF) (ha : nanFree a) (hb : nanFree b) :
    NNum.eq a b = true ↔ val2 a = val2 b := by
  rw [num_eq_exact a b hwa hwb]; exact numEq_val ha hb

theorem im_real {a : NNum} (h : isReal a = true) : imVal a = some (.fin 0) := by
  cases a <;> simp_all [isReal, imVal]

/-- **real_cmp_exact**: non-NaN reals of any two levels (int of any size and representation,
fraction, float incl. ±0 and ±inf) compare by exact mathematical value, and `==` holds iff the
values are equal. -/
theorem real_cmp_exact (a b : NNum) (hwa : a.WF) (hwb : b.WF) (ra : isReal a = true) (rb : isReal b = true)
    (ha : nanFree a) (hb : nanFree b) :
    NNum.partialCmp a b = some (ERat.cmp (rval a) (rval b)) ∧ (NNum.eq a b = true ↔ rval a = rval b) := by
  obtain ⟨h1, h2⟩ := nanFree_some ha
  obtain ⟨h3, h4⟩ := nanFree_some hb
  have e1 : (val2 a).2 = .fin 0 := by rw [im_real ra] at h2; exact (Option.some.inj h2).symm
  have e2 : (val2 b).2 = .fin 0 := by rw [im_real rb] at h4; exact (Option.some.inj h4).symm
  constructor
  · rw [num_cmp_exact a b ha hb]
    unfold pairCmp
    rw [e1, e2, ERatL.cmp_refl, Ordering.then_eq]; rfl
  · rw [num_eq_val a b hwa hwb ha hb]
    constructor
    · intro h; exact congrArg Prod.fst h
    · intro h; exact Prod.ext h (by rw [e1, e2])

/-- **trichotomy**: on non-NaN numbers exactly one of `a < b`, `a == b`, `a > b` holds -/
theorem trichotomy (a b : NNum) (hwa : a.WF) (hwb : b.WF) (ha : nanFree a) (hb : nanFree b) :
    (NNum.partialCmp a b = some .lt ∧ NNum.eq a b = false) ∨
    (NNum.partialCmp a b = some .eq ∧ NNum.eq a b = true) ∨
    (NNum.partialCmp a b = some .gt ∧ NNum.eq a b = false) := by
  rw [num_partialCmp_exact, num_eq_exact a b hwa hwb, numEq_eq_cmp]
  obtain ⟨o, ho⟩ := numCmp_total ha hb
  rw [ho]
  cases o <;> decide

/-- **eq_equivalence** -/
theorem eq_refl (a : NNum) (hwa : a.WF) (ha : nanFree a) : NNum.eq a a = true := by
  rw [num_eq_exact a a hwa hwa]; exact numEq_refl ha

theorem eq_symm (a b : NNum) (hwa : a.WF) (hwb : b.WF) : NNum.eq a b = NNum.eq b a := by
  rw [num_eq_exact a b hwa hwb, num_eq_exact b a hwb hwa]
  unfold numEq; rw [optEq_comm (reVal a), optEq_comm (imVal a)]

theorem eq_trans (a b c : NNum) (hwa : a.WF) (hwb : b.WF) (hwc : c.WF)
    (h1 : NNum.eq a b = true) (h2 : NNum.eq b c = true) : NNum.eq a c = true := by
  rw [num_eq_exact _ _ hwa hwb] at h1
  rw [num_eq_exact _ _ hwb hwc] at h2
  rw [num_eq_exact _ _ hwa hwc]
  rw [← numCmp_eq_iff] at *
  exact numCmp_trans a b c _ _ h1 h2 (Or.inl rfl)

/-- **lt_trans** (no side condition: whenever both comparisons have an answer) -/
theorem lt_trans (a b c : NNum) (h1 : NNum.partialCmp a b = some .lt) (h2 : NNum.partialCmp b c = some .lt) :
    NNum.partialCmp a c = some .lt := by
  rw [num_partialCmp_exact] at *
  exact numCmp_trans a b c _ _ h1 h2 (Or.inr (Or.inr rfl))

/-- **lt_congr_eq**: `<`, `>`, `<=>` are compatible with `==` -/
theorem lt_congr_eq (a a' b b' : NNum) (hwa : a.WF) (hwa' : a'.WF) (hwb : b.WF) (hwb' : b'.WF)
    (h1 : NNum.eq a a' = true) (h2 : NNum.eq b b' = true) :
    NNum.partialCmp a b = NNum.partialCmp a' b' := by
  rw [num_eq_exact _ _ hwa hwa', ← numCmp_eq_iff] at h1
  rw [num_eq_exact _ _ hwb hwb', ← numCmp_eq_iff] at h2
  rw [num_partialCmp_exact, num_partialCmp_exact]
  exact congr_of_laws numCmp_swap numCmp_trans h1 h2

/-- **cmp_antisym**: `a <=> b` is the negation of `b <=> a` (and one raises iff the other does) -/
theorem cmp_antisym (a b : NNum) : NNum.partialCmp b a = (NNum.partialCmp a b).map Ordering.swap := by
  rw [num_partialCmp_exact, num_partialCmp_exact]; exact numCmp_swap a b

theorem incomparable_nan (a b : NNum) (h : NNum.partialCmp a b = none) : hasNan a = true ∨ hasNan b = true := by
  rw [num_partialCmp_exact] at h; exact numCmp_none h

/-! ## lexicographic comparison of sequences -/

theorem lexCmp_cons {α : Type} (c : α → α → Option Ordering) (x y : α) (xs ys : List α) :
    lexCmp c (x :: xs) (y :: ys) = stepRes (c x y) (lexCmp c xs ys) := rfl

/-- the laws for `lexCmp c xs _` need those of `c` only at the members of `xs` (so they serve an
induction over nested values as well) -/
theorem lexCmp_swap_of {α : Type} {c : α → α → Option Ordering} (xs : List α)
    (h : ∀ x ∈ xs, ∀ y, c y x = (c x y).map Ordering.swap) :
    ∀ ys, lexCmp c ys xs = (lexCmp c xs ys).map Ordering.swap := by
  induction xs with
  | nil => intro ys; cases ys <;> rfl
  | cons x xs ih =>
    intro ys
    cases ys with
    | nil => rfl
    | cons y ys =>
      rw [lexCmp_cons, lexCmp_cons, h x (List.mem_cons_self ..) y, ih (forall_mem_tail h) ys]
      exact stepRes_swap _ _

theorem lexCmp_trans_of {α : Type} {c : α → α → Option Ordering} (xs : List α)
    (h : ∀ x ∈ xs, ∀ y z o1 o2, c x y = some o1 → c y z = some o2 → (o1 = .eq ∨ o2 = .eq ∨ o1 = o2) →
      c x z = some (o1.then o2)) :
    ∀ ys zs o1 o2, lexCmp c xs ys = some o1 → lexCmp c ys zs = some o2 → (o1 = .eq ∨ o2 = .eq ∨ o1 = o2) →
      lexCmp c xs zs = some (o1.then o2) := by
  induction xs with
  | nil =>
    intro ys zs o1 o2 h1 h2 hc
    cases ys with
    | nil => obtain rfl := Option.some.inj h1; exact h2
    | cons y ys =>
      obtain rfl := Option.some.inj h1
      cases zs with
      | nil => obtain rfl := Option.some.inj h2; simp at hc
      | cons z zs => rfl
  | cons x xs ih =>
    intro ys zs o1 o2 h1 h2 hc
    cases ys with
    | nil =>
      obtain rfl := Option.some.inj h1
      cases zs with
      | nil => obtain rfl := Option.some.inj h2; rfl
      | cons z zs => obtain rfl := Option.some.inj h2; simp at hc
    | cons y ys =>
      cases zs with
      | nil =>
        obtain rfl := Option.some.inj h2
        rcases hc with rfl | h | rfl
        · rfl
        · cases h
        · rfl
      | cons z zs =>
        exact stepRes_trans (h x (List.mem_cons_self ..) y z)
          (ih (forall_mem_tail h) ys zs) o1 o2 h1 h2 hc

theorem lexCmp_swap {α : Type} {c : α → α → Option Ordering} (h : SwapLaw c) : SwapLaw (lexCmp c) :=
  fun xs ys => lexCmp_swap_of xs (fun x _ y => h x y) ys

theorem lexCmp_trans {α : Type} {c : α → α → Option Ordering} (h : TransLaw c) : TransLaw (lexCmp c) :=
  fun xs => lexCmp_trans_of xs (fun x _ => h x)

/-! `listEq e xs ys` needs facts about `e` only at the members of `xs` and (except `listEq_comm_of`) of `ys`, where `lexCmp_*_of` ask them
at every `y`: the second membership serves element facts that want `y` well-formed (`num_eq_exact`); C09 uses these lemmas for `≈` and
the hash of keys -/
section ListEq
variable {α : Type} {e e' : α → α → Bool}

theorem listEq_congr (xs : List α) : ∀ ys, (∀ x ∈ xs, ∀ y ∈ ys, e x y = e' x y) → listEq e xs ys = listEq e' xs ys := by
  induction xs with
  | nil => intro ys _; cases ys <;> rfl
  | cons x xs ih =>
    intro ys h
    cases ys with
    | nil => rfl
    | cons y ys =>
      simp only [listEq]
      rw [h x (List.mem_cons_self ..) y (List.mem_cons_self ..),
        ih ys (fun a ha b hb => h a (List.mem_cons_of_mem _ ha) b (List.mem_cons_of_mem _ hb))]

theorem listEq_refl_of (xs : List α) (h : ∀ x ∈ xs, e x x = true) : listEq e xs xs = true := by
  induction xs with
  | nil => rfl
  | cons x xs ih =>
    simp only [listEq, Bool.and_eq_true]
    exact ⟨h x (List.mem_cons_self ..), ih (forall_mem_tail h)⟩

theorem listEq_comm_of (xs : List α) :
    ∀ ys, (∀ x ∈ xs, ∀ y, e x y = e y x) → listEq e xs ys = listEq e ys xs := by
  induction xs with
  | nil => intro ys _; cases ys <;> rfl
  | cons x xs ih =>
    intro ys h
    cases ys with
    | nil => rfl
    | cons y ys =>
      simp only [listEq]
      rw [h x (List.mem_cons_self ..) y, ih ys (forall_mem_tail h)]

theorem listEq_symm_of (xs : List α) : ∀ ys, (∀ x ∈ xs, ∀ y ∈ ys, e x y = true → e y x = true) →
    listEq e xs ys = true → listEq e ys xs = true := by
  induction xs with
  | nil => intro ys _ h; cases ys with | nil => rfl | cons => cases h
  | cons x xs ih =>
    intro ys H h
    cases ys with
    | nil => cases h
    | cons y ys =>
      simp only [listEq, Bool.and_eq_true] at h ⊢
      exact ⟨H x (List.mem_cons_self ..) y (List.mem_cons_self ..) h.1,
        ih ys (fun a ha b hb => H a (List.mem_cons_of_mem _ ha) b (List.mem_cons_of_mem _ hb)) h.2⟩

theorem listEq_trans_of (xs : List α) : ∀ ys zs,
    (∀ x ∈ xs, ∀ y ∈ ys, ∀ z ∈ zs, e x y = true → e y z = true → e x z = true) →
    listEq e xs ys = true → listEq e ys zs = true → listEq e xs zs = true := by
  induction xs with
  | nil => intro ys zs _ h1 h2; cases ys with | nil => exact h2 | cons => cases h1
  | cons x xs ih =>
    intro ys zs H h1 h2
    cases ys with
    | nil => cases h1
    | cons y ys =>
      cases zs with
      | nil => cases h2
      | cons z zs =>
        simp only [listEq, Bool.and_eq_true] at h1 h2 ⊢
        exact ⟨H x (List.mem_cons_self ..) y (List.mem_cons_self ..) z (List.mem_cons_self ..) h1.1 h2.1,
          ih ys zs (fun a ha b hb c hc => H a (List.mem_cons_of_mem _ ha) b (List.mem_cons_of_mem _ hb) c
            (List.mem_cons_of_mem _ hc)) h1.2 h2.2⟩

theorem listEq_length (xs : List α) : ∀ ys, listEq e xs ys = true → xs.length = ys.length := by
  induction xs with
  | nil => intro ys h; cases ys with | nil => rfl | cons => cases h
  | cons x xs ih =>
    intro ys h
    cases ys with
    | nil => cases h
    | cons y ys =>
      simp only [listEq, Bool.and_eq_true] at h
      exact congrArg (· + 1) (ih ys h.2)

theorem listEq_flatMap {β : Type} (g : α → List β) (xs : List α) : ∀ ys,
    (∀ x ∈ xs, ∀ y ∈ ys, e x y = true → g x = g y) → listEq e xs ys = true → xs.flatMap g = ys.flatMap g := by
  induction xs with
  | nil => intro ys _ h; cases ys with | nil => rfl | cons => cases h
  | cons x xs ih =>
    intro ys H h
    cases ys with
    | nil => cases h
    | cons y ys =>
      simp only [listEq, Bool.and_eq_true] at h
      rw [List.flatMap_cons, List.flatMap_cons, H x (List.mem_cons_self ..) y (List.mem_cons_self ..) h.1,
        ih ys (fun a ha b hb => H a (List.mem_cons_of_mem _ ha) b (List.mem_cons_of_mem _ hb)) h.2]

end ListEq

theorem natCmp_swap : SwapLaw natCmp := fun _ _ => congrArg some (Std.OrientedCmp.eq_swap (cmp := compare))

theorem natCmp_trans : TransLaw natCmp := by
  intro a b z o1 o2 h1 h2 hc
  obtain rfl := Option.some.inj h1
  obtain rfl := Option.some.inj h2
  exact congrArg some (cmp_trans_of a b z hc)

theorem partialCmp_swap : SwapLaw NNum.partialCmp := cmp_antisym

theorem partialCmp_trans : TransLaw NNum.partialCmp := by
  intro a b z o1 o2 h1 h2 hc
  rw [num_partialCmp_exact] at *
  exact numCmp_trans a b z o1 o2 h1 h2 hc

theorem valCmpList_eq_lexCmp (xs : List Val) : ∀ ys, valCmpList xs ys = lexCmp valCmp xs ys := by
  induction xs with
  | nil => intro ys; cases ys <;> rfl
  | cons x xs ih =>
    intro ys
    cases ys with
    | nil => rfl
    | cons y ys => simp only [valCmpList, lexCmp, ih]

theorem valCmp_swap (a b : Val) : valCmp b a = (valCmp a b).map Ordering.swap := by
  induction a using val_induction generalizing b with | step a ih _ => ?_
  cases a <;> cases b <;> try rfl
  · exact partialCmp_swap _ _
  · exact lexCmp_swap natCmp_swap _ _
  · exact lexCmp_swap natCmp_swap _ _
  · simp only [valCmp, valCmpList_eq_lexCmp]
    exact lexCmp_swap_of _ (ih _ rfl) _
  · exact lexCmp_swap partialCmp_swap _ _

theorem valCmpList_swap (xs ys : List Val) : valCmpList ys xs = (valCmpList xs ys).map Ordering.swap := by
  rw [valCmpList_eq_lexCmp, valCmpList_eq_lexCmp]; exact lexCmp_swap valCmp_swap xs ys

theorem valCmp_trans (a b z : Val) (o1 o2 : Ordering) (h1 : valCmp a b = some o1) (h2 : valCmp b z = some o2)
    (hc : o1 = .eq ∨ o2 = .eq ∨ o1 = o2) : valCmp a z = some (o1.then o2) := by
  induction a using val_induction generalizing b z o1 o2 with | step a ih _ => ?_
  -- `h1` decides the constructor of `a` and `b`, then `h2` that of `z`
  unfold valCmp at h1
  split at h1
  · cases z <;> cases h2
    cases h1
    rfl
  · cases z <;> first | cases h2 | skip
    exact partialCmp_trans _ _ _ _ _ h1 h2 hc
  · cases z <;> first | cases h2 | skip
    exact lexCmp_trans natCmp_trans _ _ _ _ _ h1 h2 hc
  · cases z <;> first | cases h2 | skip
    exact lexCmp_trans natCmp_trans _ _ _ _ _ h1 h2 hc
  · cases z <;> first | cases h2 | skip
    exact lexCmp_trans partialCmp_trans _ _ _ _ _ h1 h2 hc
  · cases z <;> first | cases h2 | skip
    rw [valCmpList_eq_lexCmp] at h1
    simp only [valCmp, valCmpList_eq_lexCmp] at h2 ⊢
    exact lexCmp_trans_of _ (ih _ rfl) _ _ _ _ h1 h2 hc
  · cases h1

theorem valCmpList_trans (xs ys zs : List Val) (o1 o2 : Ordering) (h1 : valCmpList xs ys = some o1)
    (h2 : valCmpList ys zs = some o2) (hc : o1 = .eq ∨ o2 = .eq ∨ o1 = o2) :
    valCmpList xs zs = some (o1.then o2) := by
  rw [valCmpList_eq_lexCmp] at h1 h2 ⊢
  exact lexCmp_trans valCmp_trans xs ys zs o1 o2 h1 h2 hc

/-! ## `sort`: the stable sorted permutation -/
section SortSec
variable {α : Type} {c : α → α → Option Ordering}

def LE (c : α → α → Option Ordering) (a b : α) : Prop := c a b = some .lt ∨ c a b = some .eq

theorem le_of_le_of_le (ht : TransLaw c) {a b z : α} (h1 : LE c a b) (h2 : LE c b z) : LE c a z := by
  unfold LE at *
  rcases h1 with h1 | h1 <;> rcases h2 with h2 | h2
  · left; exact ht a b z _ _ h1 h2 (Or.inr (Or.inr rfl))
  · left; exact ht a b z _ _ h1 h2 (Or.inr (Or.inl rfl))
  · left; exact ht a b z _ _ h1 h2 (Or.inl rfl)
  · right; exact ht a b z _ _ h1 h2 (Or.inl rfl)

theorem leOf_of_isSome {a b : α} (h : (c a b).isSome) : leOf c a b = true ↔ LE c a b := by
  unfold leOf LE
  cases hc : c a b with
  | none => simp [hc] at h
  | some o => cases o <;> simp

theorem not_leOf {a b : α} (hs : SwapLaw c) (h : leOf c a b = false) : c b a = some .lt := by
  unfold leOf at h
  cases hc : c a b with
  | none => simp [hc] at h
  | some o =>
    cases o <;> simp [hc] at h
    rw [hs a b, hc]; rfl

theorem insertFront_perm (x : α) (l : List α) : (sortWith.insertFront c x l).Perm (x :: l) := by
  induction l with
  | nil => exact List.Perm.refl _
  | cons y ys ih =>
    simp only [sortWith.insertFront]
    split
    · exact List.Perm.refl _
    · exact (List.Perm.cons y ih).trans (List.Perm.swap x y ys)

theorem sortWith_perm (l : List α) : (sortWith c l).Perm l := by
  induction l with
  | nil => exact List.Perm.refl _
  | cons x xs ih =>
    simp only [sortWith]
    exact (insertFront_perm x _).trans (List.Perm.cons x ih)

theorem insertFront_sorted (hs : SwapLaw c) (ht : TransLaw c) (x : α) (l : List α)
    (hcomp : ∀ y ∈ l, (c x y).isSome) (hl : l.Pairwise (LE c)) :
    (sortWith.insertFront c x l).Pairwise (LE c) := by
  induction l with
  | nil => simp [sortWith.insertFront]
  | cons y ys ih =>
    simp only [sortWith.insertFront]
    have hy := List.pairwise_cons.mp hl
    cases hle : leOf c x y with
    | true =>
      simp only [if_true]
      have hxy : LE c x y := (leOf_of_isSome (hcomp y (List.mem_cons_self ..))).mp hle
      refine List.pairwise_cons.mpr ⟨?_, hl⟩
      intro z hz
      rcases List.mem_cons.mp hz with rfl | hz
      · exact hxy
      · exact le_of_le_of_le ht hxy (hy.1 z hz)
    | false =>
      simp only [Bool.false_eq_true, if_false]
      have hyx : LE c y x := Or.inl (not_leOf hs hle)
      refine List.pairwise_cons.mpr ⟨?_, ih (forall_mem_tail hcomp) hy.2⟩
      intro z hz
      have := (insertFront_perm (c := c) x ys).mem_iff.mp hz
      rcases List.mem_cons.mp this with rfl | hz
      · exact hyx
      · exact hy.1 z hz

/-- every two elements at different positions compare, in both orders -/
def PwComparable (c : α → α → Option Ordering) (l : List α) : Prop :=
  l.Pairwise (fun x y => (c x y).isSome ∧ (c y x).isSome)

theorem allComparable_iff (l : List α) : allComparable c l = true ↔ PwComparable c l := by
  induction l with
  | nil => simp [allComparable, PwComparable]
  | cons a l ih =>
    simp only [allComparable, Bool.and_eq_true, List.all_eq_true, PwComparable, List.pairwise_cons]
    rw [ih]; rfl

theorem sortWith_sorted_pw (hs : SwapLaw c) (ht : TransLaw c) (l : List α) (hc : PwComparable c l) :
    (sortWith c l).Pairwise (LE c) := by
  induction l with
  | nil => simp [sortWith]
  | cons x xs ih =>
    have hp := List.pairwise_cons.mp hc
    simp only [sortWith]
    apply insertFront_sorted hs ht
    · intro y hy
      exact (hp.1 y ((sortWith_perm (c := c) xs).mem_iff.mp hy)).1
    · exact ih hp.2

theorem insertFront_stable (hs : SwapLaw c) (p : α → Bool)
    (hp : ∀ a b, p a = true → p b = true → c a b ≠ some .lt) (x : α) (l : List α) :
    (sortWith.insertFront c x l).filter p = (x :: l).filter p := by
  induction l with
  | nil => rfl
  | cons y ys ih =>
    simp only [sortWith.insertFront]
    cases hle : leOf c x y with
    | true => rfl
    | false =>
      simp only [Bool.false_eq_true, if_false]
      have hyx := not_leOf hs hle
      by_cases hpy : p y = true
      · by_cases hpx : p x = true
        · exact absurd hyx (hp y x hpy hpx)
        · rw [List.filter_cons_of_pos hpy, ih, List.filter_cons_of_neg hpx, List.filter_cons_of_neg hpx,
            List.filter_cons_of_pos hpy]
      · rw [List.filter_cons_of_neg hpy, ih]
        by_cases hpx : p x = true
        · rw [List.filter_cons_of_pos hpx, List.filter_cons_of_pos hpx, List.filter_cons_of_neg hpy]
        · rw [List.filter_cons_of_neg hpx, List.filter_cons_of_neg hpx, List.filter_cons_of_neg hpy]

theorem sortWith_filter (hs : SwapLaw c) (p : α → Bool)
    (hp : ∀ a b, p a = true → p b = true → c a b ≠ some .lt) (l : List α) :
    (sortWith c l).filter p = l.filter p := by
  induction l with
  | nil => rfl
  | cons x xs ih =>
    simp only [sortWith]
    rw [insertFront_stable hs p hp]
    by_cases hpx : p x = true
    · rw [List.filter_cons_of_pos hpx, List.filter_cons_of_pos hpx, ih]
    · rw [List.filter_cons_of_neg hpx, List.filter_cons_of_neg hpx, ih]

theorem eqClass_not_lt (hs : SwapLaw c) (ht : TransLaw c) (w a b : α)
    (ha : (c a w == some .eq) = true) (hb : (c b w == some .eq) = true) : c a b ≠ some .lt := by
  have e1 : c a w = some .eq := by simpa using ha
  have e2 : c b w = some .eq := by simpa using hb
  have e3 : c w b = some .eq := by rw [hs b w, e2]; rfl
  have := ht a w b _ _ e1 e3 (Or.inl rfl)
  rw [this]; simp [Ordering.then]

/-- stability: the elements that compare equal to any given `w` keep their input order -/
theorem sortWith_stable (hs : SwapLaw c) (ht : TransLaw c) (w : α) (l : List α) :
    (sortWith c l).filter (fun y => c y w == some .eq) = l.filter (fun y => c y w == some .eq) :=
  sortWith_filter hs _ (fun a b ha hb => eqClass_not_lt hs ht w a b ha hb) l

/-- The stability clause filters by a λ: with `hw : (c x w == some .eq) = true`, `rw [List.filter_cons_of_pos hw]` fails (unification takes
`p := BEq.beq (c x w)`); pass `(p := fun y => c y w == some .eq)`, or `simp only [List.filter_cons, hw, if_true]`. -/
theorem sorted_ok (hs : SwapLaw c) (ht : TransLaw c) (l r : List α) (h : sorted c l = .ok r) :
    r.Perm l ∧ r.Pairwise (LE c) ∧ ∀ w, r.filter (fun y => c y w == some .eq) = l.filter (fun y => c y w == some .eq) := by
  unfold sorted at h
  split at h
  · rename_i hlen
    cases h
    refine ⟨List.Perm.refl _, ?_, fun _ => rfl⟩
    match l, hlen with
    | [], _ => exact List.Pairwise.nil
    | [x], _ => exact List.pairwise_singleton _ _
  · split at h
    · rename_i hall
      cases h
      exact ⟨sortWith_perm l, sortWith_sorted_pw hs ht l ((allComparable_iff l).mp hall), fun w => sortWith_stable hs ht w l⟩
    · cases h

-- (`hrefl` is not needed: `sorted_ok` has the same conclusion without it)
set_option linter.unusedVariables false in
/-- **sort_sorted_perm_stable**: whenever `sort` succeeds its result is a permutation of the input,
ascending in the comparison order, with equal elements in input order. -/
theorem sort_sorted_perm_stable (hs : SwapLaw c) (ht : TransLaw c) (l r : List α)
    (hrefl : ∀ x ∈ l, (c x x).isSome) (h : sorted c l = .ok r) :
    r.Perm l ∧ r.Pairwise (LE c) ∧ ∀ w, r.filter (fun y => c y w == some .eq) = l.filter (fun y => c y w == some .eq) := by
  exact sorted_ok hs ht l r h

/-- `sort` raises exactly when two of the (≥ 2) elements are incomparable -/
theorem sort_raises_iff (l : List α) :
    sorted c l = .throw ↔ (1 < l.length ∧ allComparable c l = false) := by
  unfold sorted
  split
  · rename_i h; simp; omega
  · rename_i h
    split
    · rename_i h2; simp [h2]
    · rename_i h2; simp at h2; simp [h2]; omega

end SortSec

/-! ## `ncmp` and the operators -/

/-- `ncmp` as a partial comparison (`none` = raises) -/
def pc (a b : Val) : Option Ordering :=
  match ncmp a b with
  | .ok o => some o
  | _ => none

def kind : Val → Nat
  | .null => 0
  | .num _ => 1
  | .str _ => 2
  | .bytes _ => 3
  | .list _ => 4
  | .vec _ => 5
  | .dict _ _ => 6
  | .func _ => 7

theorem ncmp_no_panic (a b : Val) : ncmp a b ≠ .panic := by
  unfold ncmp
  split
  · split <;> simp
  · split
    · split <;> simp
    · simp

/-- `ncmp` is the partial comparison `pc` with "no answer" spelt `throw`: what is built on `ncmp` reads it as `pc` -/
theorem ncmp_eq_pc (a b : Val) : ncmp a b = match pc a b with
    | some o => .ok o
    | none => .throw := by
  unfold pc
  cases h : ncmp a b with
  | ok o => rfl
  | throw => rfl
  | panic => exact absurd h (ncmp_no_panic a b)

theorem pc_def (a b : Val) : pc a b = optOfOut (ncmp a b) := rfl

theorem optOfOut_ofOption (o : Option Ordering) :
    optOfOut (match o with | some o => Out.ok o | none => Out.throw) = o := by
  cases o <;> rfl

theorem ncmp_of_none {a b : Val} (h : valCmp a b = none) : ncmp a b = .throw := by
  unfold ncmp
  split
  · rw [show NNum.partialCmp _ _ = none from h]
  · split
    · rw [h]
    · rfl

/-- `ncmp` answers exactly for two numbers or two sequences of the same kind, and then as `valCmp` does -/
theorem pc_eq (a b : Val) :
    pc a b = if kind a = kind b ∧ 0 < kind a ∧ kind a < 6 then valCmp a b else none := by
  cases h : valCmp a b with
  | none => rw [ite_self, pc, ncmp_of_none h]
  | some o =>
    -- an answer of `valCmp` decides the constructor of both operands
    unfold valCmp at h
    split at h
    case h_1 => rfl
    case h_7 => cases h
    all_goals rw [← h]; exact optOfOut_ofOption _

theorem valCmp_swapLaw : SwapLaw valCmp := fun a b => valCmp_swap a b
theorem valCmp_transLaw : TransLaw valCmp := fun a b z o1 o2 h1 h2 hc => valCmp_trans a b z o1 o2 h1 h2 hc

theorem pc_swap : SwapLaw pc := by
  intro a b
  rw [pc_eq, pc_eq]
  by_cases h : kind a = kind b ∧ 0 < kind a ∧ kind a < 6
  · rw [if_pos h, if_pos (by omega)]; exact valCmp_swap a b
  · rw [if_neg h, if_neg (by omega)]; rfl

theorem pc_trans : TransLaw pc := by
  intro a b z o1 o2 h1 h2 hc
  rw [pc_eq] at *
  by_cases hab : kind a = kind b ∧ 0 < kind a ∧ kind a < 6
  · by_cases hbz : kind b = kind z ∧ 0 < kind b ∧ kind b < 6
    · rw [if_pos hab] at h1; rw [if_pos hbz] at h2
      rw [if_pos (by omega)]
      exact valCmp_trans a b z o1 o2 h1 h2 hc
    · rw [if_neg hbz] at h2; cases h2
  · rw [if_neg hab] at h1; cases h1

/-- **cmp_antisym** for all values: `a <=> b` is the negation of `b <=> a`, and one raises iff the
other does -/
theorem ncmp_antisym (a b : Val) : pc b a = (pc a b).map Ordering.swap := pc_swap a b

theorem swap_ne_eq {bias : Ordering} (hb : bias ≠ .eq) : bias.swap ≠ .eq := by cases bias <;> simp_all
theorem swap_ne_self {bias : Ordering} (hb : bias ≠ .eq) : bias.swap ≠ bias := by cases bias <;> simp_all

/-! ### the operators on numbers -/
theorem ncmp_num (a b : NNum) : ncmp (.num a) (.num b) = match numCmp a b with
    | some o => .ok o
    | none => .throw := by
  simp only [ncmp]; rw [num_partialCmp_exact]
  cases numCmp a b <;> rfl

def T : Out Val := .ok (ofBool true)
def F : Out Val := .ok (ofBool false)

theorem ofBool_inj (x y : Bool) : ofBool x = ofBool y ↔ x = y := by
  cases x <;> cases y <;> simp [ofBool]

/-- **le_iff_lt_or_eq** (and the same for `>=`): on numbers `a <= b` is true exactly when `a < b`
or `a == b` is -/
theorem le_iff_lt_or_eq (a b : NNum) (hwa : a.WF) (hwb : b.WF) :
    (cmpOp "<=" (.num a) (.num b) = T ↔ (cmpOp "<" (.num a) (.num b) = T ∨ cmpOp "==" (.num a) (.num b) = T)) ∧
    (cmpOp ">=" (.num a) (.num b) = T ↔ (cmpOp ">" (.num a) (.num b) = T ∨ cmpOp "==" (.num a) (.num b) = T)) := by
  simp only [cmpOp, T, ncmp_num, valEq, num_eq_exact a b hwa hwb, numEq_eq_cmp]
  cases numCmp a b with
  | none => simp [Out.map, ofBool_inj]
  | some o => cases o <;> simp [Out.map, ofBool_inj]

/-- operator form of **trichotomy**: on non-NaN numbers exactly one of `<`, `==`, `>` is true,
none raises -/
theorem trichotomy_ops (a b : NNum) (hwa : a.WF) (hwb : b.WF) (ha : nanFree a) (hb : nanFree b) :
    let lt := cmpOp "<" (.num a) (.num b)
    let eq := cmpOp "==" (.num a) (.num b)
    let gt := cmpOp ">" (.num a) (.num b)
    (lt = T ∧ eq = F ∧ gt = F) ∨ (lt = F ∧ eq = T ∧ gt = F) ∨ (lt = F ∧ eq = F ∧ gt = T) := by
  obtain ⟨o, ho⟩ := numCmp_total ha hb
  simp only [cmpOp, T, F, ncmp_num, valEq, num_eq_exact a b hwa hwb, numEq_eq_cmp, ho]
  cases o <;> simp [Out.map]

/-- `<=>` and `>=<` are negations of each other and of themselves with swapped operands -/
theorem spaceship_antisym (a b : Val) :
    cmpOp ">=<" a b = cmpOp "<=>" b a := by
  simp only [cmpOp]
  rw [ncmp_eq_pc a b, ncmp_eq_pc b a, pc_swap a b]
  cases pc a b with
  | none => rfl
  | some o => cases o <;> rfl

/-! ### incomparable kinds raise -/
/-- **incomparable_raises** (kinds): number vs sequence, different sequence kinds, and anything
involving `null`, a dictionary or a function raise — for `<`, `<=`, `>`, `>=`, `<=>`, `>=<`, `min`,
`max` alike, since all go through `ncmp` -/
theorem incomparable_raises (a b : Val) (h : kind a ≠ kind b ∨ kind a = 0 ∨ kind a = 6 ∨ kind a = 7) :
    ncmp a b = .throw := by
  rw [ncmp_eq_pc, pc_eq, if_neg (by omega)]

/-- … and between numbers exactly when a NaN is met -/
theorem incomparable_raises_num (a b : NNum) :
    (ncmp (.num a) (.num b) = .throw ↔ numCmp a b = none) ∧
    (numCmp a b = none → hasNan a = true ∨ hasNan b = true) ∧
    (nanFree a → nanFree b → ∃ o, ncmp (.num a) (.num b) = .ok o) := by
  refine ⟨?_, numCmp_none, ?_⟩
  · rw [ncmp_num]; cases numCmp a b <;> simp
  · intro ha hb
    obtain ⟨o, ho⟩ := numCmp_total ha hb
    exact ⟨o, by rw [ncmp_num, ho]⟩

/-! ## strings: UTF-8 byte order is code point order -/

theorem lex_cons (x y : Nat) (xs ys : List Nat) :
    lexCmp natCmp (x :: xs) (y :: ys) =
      if x < y then some .lt else if x = y then lexCmp natCmp xs ys else some .gt := by
  simp only [lexCmp, natCmp]
  rcases Nat.lt_trichotomy x y with h | h | h
  · simp [Nat.compare_eq_lt.mpr h, h]
  · subst h; simp
  · have h1 : ¬ x < y := by omega
    have h2 : ¬ x = y := by omega
    simp [Nat.compare_eq_gt.mpr h, h1, h2]

theorem lex_append_same (p x y : List Nat) : lexCmp natCmp (p ++ x) (p ++ y) = lexCmp natCmp x y := by
  induction p with
  | nil => rfl
  | cons a p ih => simp [lex_cons, ih]

/-- `p` sorts before `q` whatever follows either of them -/
def Prec (p q : List Nat) : Prop := ∀ x y, lexCmp natCmp (p ++ x) (q ++ y) = some .lt

theorem Prec.head {a b : Nat} (h : a < b) (p q : List Nat) : Prec (a :: p) (b :: q) := by
  intro x y; rw [List.cons_append, List.cons_append, lex_cons, if_pos h]

theorem Prec.append_right {p q : List Nat} (h : Prec p q) (r s : List Nat) : Prec (p ++ r) (q ++ s) := by
  intro x y; rw [List.append_assoc, List.append_assoc]; exact h _ _

theorem Prec.append_left (p : List Nat) {r s : List Nat} (h : Prec r s) : Prec (p ++ r) (p ++ s) := by
  intro x y; rw [List.append_assoc, List.append_assoc, lex_append_same]; exact h x y

theorem lt_div_or_mod (b : Nat) {c d : Nat} (h : c < d) : c / b < d / b ∨ (c / b = d / b ∧ c % b < d % b) := by
  rcases Nat.lt_or_ge (c / b) (d / b) with h1 | h1
  · exact Or.inl h1
  · have e : c / b = d / b := Nat.le_antisymm (Nat.div_le_div_right (Nat.le_of_lt h)) h1
    have hc := Nat.div_add_mod c b
    have hd := Nat.div_add_mod d b
    rw [e] at hc
    exact Or.inr ⟨e, by omega⟩

/-- big-endian digits: a monotone encoding of the leading part stays monotone when the last base-64
digit is appended as one more byte -/
theorem Prec.digit {f : Nat → List Nat} (hf : ∀ c d, c < d → Prec (f c) (f d)) (b : Nat) (c d : Nat) (h : c < d) :
    Prec (f (c / 64) ++ [b + c % 64]) (f (d / 64) ++ [b + d % 64]) := by
  rcases lt_div_or_mod 64 h with h1 | ⟨e, h1⟩
  · exact (hf _ _ h1).append_right _ _
  · rw [e]; exact Prec.append_left _ (Prec.head (by omega) _ _)

theorem lead_mono (a : Nat) (c d : Nat) (h : c < d) : Prec [a + c] [a + d] := Prec.head (by omega) _ _

/-- the lead byte `a + c / k` of a shorter encoding (`c < k * b`) lies below every lead byte from `a + b` on -/
theorem lead_lt {a b k c a' : Nat} (hc : c < k * b) (ha : a + b ≤ a') (n : Nat) : a + c / k < a' + n :=
  Nat.lt_add_right n (Nat.lt_of_lt_of_le (Nat.add_lt_add_left (Nat.div_lt_of_lt_mul hc) a) ha)

/-- UTF-8 is monotone: within a length class the bytes are a lead byte plus base-64 digits, and the
length classes are ordered by their lead bytes (`0xxxxxxx < 110xxxxx < 1110xxxx < 11110xxx`) -/
theorem utf8Char_lt (c d : Nat) (hcd : c < d) : Prec (utf8Char c) (utf8Char d) := by
  have two := fun a => Prec.digit (lead_mono a) 0x80
  have three := fun a => Prec.digit (two a) 0x80
  have four := fun a => Prec.digit (three a) 0x80
  have e2 : ∀ n, n / 4096 = n / 64 / 64 := fun n => by rw [Nat.div_div_eq_div_mul]
  have e3 : ∀ n, n / 262144 = n / 64 / 64 / 64 := fun n => by rw [Nat.div_div_eq_div_mul, Nat.div_div_eq_div_mul]
  unfold utf8Char
  by_cases d1 : d < 0x80
  · rw [if_pos d1, if_pos (Nat.lt_trans hcd d1)]; exact Prec.head hcd _ _
  rw [if_neg d1]
  by_cases c1 : c < 0x80
  · rw [if_pos c1]
    have lead : ∀ {a} n, 0x80 ≤ a → c < a + n := fun n h => Nat.lt_add_right n (Nat.lt_of_lt_of_le c1 h)
    split
    · exact Prec.head (lead _ (by decide)) _ _
    · split <;> exact Prec.head (lead _ (by decide)) _ _
  rw [if_neg c1]
  by_cases d2 : d < 0x800
  · rw [if_pos d2, if_pos (Nat.lt_trans hcd d2)]; exact two 0xC0 c d hcd
  rw [if_neg d2]
  by_cases c2 : c < 0x800
  · rw [if_pos c2]; split <;> exact Prec.head (lead_lt (k := 64) (b := 32) c2 (by decide) _) _ _
  rw [if_neg c2]
  by_cases d3 : d < 0x10000
  · rw [if_pos d3, if_pos (Nat.lt_trans hcd d3), e2 c, e2 d]; exact three 0xE0 c d hcd
  rw [if_neg d3]
  by_cases c3 : c < 0x10000
  · rw [if_pos c3]; exact Prec.head (lead_lt (k := 4096) (b := 16) c3 (by decide) _) _ _
  rw [if_neg c3, e2 c, e2 d, e3 c, e3 d]; exact four 0xF0 c d hcd

theorem utf8Char_ne_nil (c : Nat) : utf8Char c ≠ [] := by
  unfold utf8Char; repeat' split
  all_goals simp

theorem utf8_cons (c : Nat) (cs : List Nat) : utf8 (c :: cs) = utf8Char c ++ utf8 cs := by
  simp [utf8, List.flatMap_cons]

theorem lex_nil_left (l : List Nat) (h : l ≠ []) : lexCmp natCmp [] l = some .lt := by
  cases l with
  | nil => exact absurd rfl h
  | cons _ _ => rfl

theorem lex_nil_right (l : List Nat) (h : l ≠ []) : lexCmp natCmp l [] = some .gt := by
  cases l with
  | nil => exact absurd rfl h
  | cons _ _ => rfl

/-- UTF-8 preserves the lexicographic order.  `utf8Char` works on `Nat`, where the four-byte class never overflows, so
no bound on the code points is needed. -/
theorem utf8_order_all (a b : List Nat) : lexCmp natCmp (utf8 a) (utf8 b) = lexCmp natCmp a b := by
  induction a generalizing b with
  | nil =>
    cases b with
    | nil => rfl
    | cons d ds =>
      rw [utf8_cons]
      simp only [utf8, List.flatMap_nil]
      rw [lex_nil_left]
      · rfl
      · intro h; exact utf8Char_ne_nil d (List.append_eq_nil_iff.mp h).1
  | cons c cs ih =>
    cases b with
    | nil =>
      rw [utf8_cons]
      simp only [utf8, List.flatMap_nil]
      rw [lex_nil_right]
      · rfl
      · intro h; exact utf8Char_ne_nil c (List.append_eq_nil_iff.mp h).1
    | cons d ds =>
      rw [utf8_cons, utf8_cons, lex_cons]
      rcases Nat.lt_trichotomy c d with h | h | h
      · rw [utf8Char_lt c d h _ _, if_pos h]
      · subst h
        rw [lex_append_same, ih ds]
        simp
      · have := lexCmp_swap natCmp_swap (utf8Char d ++ utf8 ds) (utf8Char c ++ utf8 cs)
        rw [utf8Char_lt d c h _ _] at this
        rw [this]
        have h1 : ¬ c < d := by omega
        have h2 : ¬ c = d := by omega
        simp [h1, h2]

/-- **Rust compares strings by their UTF-8 bytes; that is the order by code point** (for Unicode
scalar values: UTF-8 is order preserving) -/
theorem utf8_order (a b : List Nat) (ha : ∀ c ∈ a, c < 0x110000) (hb : ∀ c ∈ b, c < 0x110000) :
    lexCmp natCmp (utf8 a) (utf8 b) = lexCmp natCmp a b :=
  utf8_order_all a b

/-! ## Impl = Spec on values -/

/- well-formed values without dictionaries (`==` on dictionaries is C09's subject): `Small`
integers hold an i64, string elements are Unicode scalar values -/
mutual
def ValOK : Val → Prop
  | .null => True
  | .num n => n.WF
  | .str cs => ∀ c ∈ cs, c < 0x110000
  | .bytes _ => True
  | .vec xs => ∀ n ∈ xs, NNum.WF n
  | .list xs => ValOKList xs
  | .dict _ _ => False
  | .func _ => True
def ValOKList : List Val → Prop
  | [] => True
  | x :: xs => ValOK x ∧ ValOKList xs
end

theorem partialCmp_funext : NNum.partialCmp = numCmp := by
  funext a b; exact num_partialCmp_exact a b

theorem listEq_numEq (xs ys : List NNum) (hx : ∀ n ∈ xs, NNum.WF n) (hy : ∀ n ∈ ys, NNum.WF n) :
    listEq NNum.eq xs ys = listEq numEq xs ys :=
  listEq_congr xs ys (fun x hx' y hy' => num_eq_exact x y (hx x hx') (hy y hy'))

theorem valOKList_iff (xs : List Val) : ValOKList xs ↔ ∀ x ∈ xs, ValOK x := by
  induction xs with
  | nil => simp [ValOKList]
  | cons x xs ih => simp [ValOKList, ih]

theorem valCmpList_eq_spec_of (xs : List Val) : ∀ ys, (∀ x ∈ xs, ∀ y ∈ ys, valCmp x y = OrdSpec.cmp x y) →
    valCmpList xs ys = OrdSpec.cmpList xs ys := by
  induction xs with
  | nil => intro ys _; cases ys <;> rfl
  | cons x xs ih =>
    intro ys H
    cases ys with
    | nil => rfl
    | cons y ys =>
      simp only [valCmpList, OrdSpec.cmpList]
      rw [H x (List.mem_cons_self ..) y (List.mem_cons_self ..),
        ih ys (fun a ha b hb => H a (List.mem_cons_of_mem _ ha) b (List.mem_cons_of_mem _ hb))]
      cases OrdSpec.cmp x y with
      | none => rfl
      | some o => cases o <;> rfl

/-- the order needs no well-formedness: integers are compared by value whatever their representation, UTF-8 is
monotone on all of `Nat`, and where one side has no answer (dictionaries, functions, mixed kinds) neither has the other -/
theorem valCmp_eq_spec_all (a b : Val) : valCmp a b = OrdSpec.cmp a b := by
  induction a using val_induction generalizing b with | step a ih _ => ?_
  unfold valCmp
  split
  · rfl
  · exact num_partialCmp_exact _ _
  · exact utf8_order_all _ _
  · rfl
  · exact congrArg (lexCmp · _ _) partialCmp_funext
  · exact valCmpList_eq_spec_of _ _ fun x hx y _ => ih _ rfl x hx y
  · -- the last equation of `OrdSpec.cmp`: no answer off the diagonal
    rw [OrdSpec.cmp.eq_7] <;> assumption

set_option linter.unusedVariables false in
/-- **lex_cmp_correct / Impl = Spec for the order on values**: numbers by exact value, strings by
code point, bytes / vectors / lists lexicographically by the same element order -/
theorem valCmp_eq_spec (a b : Val) (ha : ValOK a) (hb : ValOK b) : valCmp a b = OrdSpec.cmp a b :=
  valCmp_eq_spec_all a b

set_option linter.unusedVariables false in
theorem valCmpList_eq_spec (xs ys : List Val) (hx : ValOKList xs) (hy : ValOKList ys) :
    valCmpList xs ys = OrdSpec.cmpList xs ys :=
  valCmp_eq_spec_all (.list xs) (.list ys)

theorem valEqList_eq_spec_of (xs : List Val) : ∀ ys, (∀ x ∈ xs, ∀ y ∈ ys, valEq x y = OrdSpec.eq x y) →
    valEqList xs ys = OrdSpec.eqList xs ys := by
  induction xs with
  | nil => intro ys _; cases ys <;> rfl
  | cons x xs ih =>
    intro ys H
    cases ys with
    | nil => rfl
    | cons y ys =>
      simp only [valEqList, OrdSpec.eqList]
      rw [H x (List.mem_cons_self ..) y (List.mem_cons_self ..),
        ih ys (fun a ha b hb => H a (List.mem_cons_of_mem _ ha) b (List.mem_cons_of_mem _ hb))]

/-- **Impl = Spec for `==` on values** -/
theorem valEq_eq_spec (a b : Val) (ha : ValOK a) (hb : ValOK b) : valEq a b = OrdSpec.eq a b := by
  induction a using val_induction generalizing b with | step a ih _ => ?_
  unfold valEq
  split
  · rfl
  · exact num_eq_exact _ _ ha hb
  · rfl
  · rfl
  · exact listEq_numEq _ _ ha hb
  · exact valEqList_eq_spec_of _ _ fun x hx y hy =>
      ih _ rfl x hx y ((valOKList_iff _).mp ha x hx) ((valOKList_iff _).mp hb y hy)
  · exact ha.elim
  · rw [OrdSpec.eq.eq_8] <;> assumption

theorem valEqList_eq_spec (xs ys : List Val) (hx : ValOKList xs) (hy : ValOKList ys) :
    valEqList xs ys = OrdSpec.eqList xs ys :=
  valEq_eq_spec (.list xs) (.list ys) hx hy

theorem ncmp_eq_spec_all (a b : Val) : ncmp a b = OrdSpec.ncmp a b := by
  have h := valCmp_eq_spec_all a b
  cases hv : valCmp a b with
  | none =>
    rw [ncmp_of_none hv]
    rw [hv] at h
    unfold OrdSpec.ncmp
    split
    · rfl
    · rfl
    · rw [← h]
  | some o =>
    unfold valCmp at hv
    split at hv
    case h_1 => rfl
    case h_7 => cases hv
    all_goals simp only [OrdSpec.ncmp]; rw [← h]; rfl

set_option linter.unusedVariables false in
theorem ncmp_eq_spec (a b : Val) (ha : ValOK a) (hb : ValOK b) : ncmp a b = OrdSpec.ncmp a b :=
  ncmp_eq_spec_all a b

/-- the two operator tables coincide wherever `==` does; the six order operators need nothing -/
theorem cmpOp_eq_spec_of (op : String) (a b : Val) (he : op = "==" ∨ op = "!=" → valEq a b = OrdSpec.eq a b) :
    cmpOp op a b = OrdSpec.cmpOp op a b := by
  -- the tables differ only in how `<=` and `>=` read the ordering
  have le : (fun o : Ordering => ofBool (o != .gt)) = fun o => ofBool (o == .lt || o == .eq) :=
    funext fun o => by cases o <;> rfl
  have ge : (fun o : Ordering => ofBool (o != .lt)) = fun o => ofBool (o == .gt || o == .eq) :=
    funext fun o => by cases o <;> rfl
  unfold cmpOp
  rw [ncmp_eq_spec_all a b, le, ge]
  split
  · rw [he (Or.inl rfl)]; rfl
  · rw [he (Or.inr rfl)]; rfl
  case h_9 => rw [OrdSpec.cmpOp.eq_9] <;> assumption
  all_goals rfl

theorem cmpOp_eq_spec (op : String) (a b : Val) (ha : ValOK a) (hb : ValOK b) :
    cmpOp op a b = OrdSpec.cmpOp op a b :=
  cmpOp_eq_spec_of op a b fun _ => valEq_eq_spec a b ha hb

/-! ## `NNum::min` / `NNum::max` (total orders with NaN as largest / smallest) -/

theorem isNan_realValue (a : NReal) : a.isNan = (realValue a).isNone := by
  cases a with
  | int a => rfl
  | rat q => rfl
  | float f => rcases f with _ | ⟨_ | _⟩ | ⟨m, e⟩ | _ <;> rfl

theorem getD_big (x y : Option ERat) :
    (optCmp x y).getD (NReal.boolCmp x.isNone y.isNone) = compTotalCmp false x y := by
  cases x <;> cases y <;> simp [optCmp, NReal.boolCmp, compTotalCmp, compKey, Ordering.then, ERatL.cmp_refl] <;> rfl

theorem getD_small (x y : Option ERat) :
    (optCmp x y).getD (NReal.boolCmp y.isNone x.isNone) = compTotalCmp true x y := by
  cases x <;> cases y <;> simp [optCmp, NReal.boolCmp, compTotalCmp, compKey, Ordering.then, ERatL.cmp_refl] <;> rfl

theorem cmpNIntF64_none {a : NInt} {f : F64} (h : cmpNIntF64 a f = none) : f = .nan := by
  rw [cmp_nint_f64_exact] at h
  rcases f with _ | ⟨_ | _⟩ | ⟨m, e⟩ | _ <;> simp [realValue, optCmp] at h
  rfl

theorem totalCmpBigNan_eq (a b : NReal) :
    NReal.totalCmpBigNan a b = (NReal.partialCmp a b).getD (NReal.boolCmp a.isNan b.isNan) := by
  cases a <;> cases b <;> simp only [NReal.totalCmpBigNan, NReal.partialCmp, NReal.isNan, Option.getD_some]
  -- integer against float, in either order
  all_goals
    generalize h : cmpNIntF64 _ _ = r
    cases r with
    | some o => rfl
    | none => obtain rfl := cmpNIntF64_none h; rfl

theorem totalCmpSmallNan_eq (a b : NReal) :
    NReal.totalCmpSmallNan a b = (NReal.partialCmp a b).getD (NReal.boolCmp b.isNan a.isNan) := by
  cases a <;> cases b <;> simp only [NReal.totalCmpSmallNan, NReal.partialCmp, NReal.isNan, Option.getD_some]
  -- integer against float, in either order
  all_goals
    generalize h : cmpNIntF64 _ _ = r
    cases r with
    | some o => rfl
    | none => obtain rfl := cmpNIntF64_none h; rfl

theorem nreal_totalCmpBigNan_exact (a b : NReal) :
    NReal.totalCmpBigNan a b = compTotalCmp false (realValue a) (realValue b) := by
  rw [totalCmpBigNan_eq, nreal_partialCmp_exact, isNan_realValue, isNan_realValue, getD_big]

theorem nreal_totalCmpSmallNan_exact (a b : NReal) :
    NReal.totalCmpSmallNan a b = compTotalCmp true (realValue a) (realValue b) := by
  rw [totalCmpSmallNan_eq, nreal_partialCmp_exact, isNan_realValue, isNan_realValue, getD_small]

/-- `NNum::min` / `NNum::max` (Rust API; the language's `min`/`max` are `min_max_agree`) pick by
the exact values, a NaN loses against every number, ties go left (`min`) / right (`max`) -/
theorem num_min_max_exact (a b : NNum) : NNum.min a b = numMin a b ∧ NNum.max a b = numMax a b := by
  unfold NNum.min NNum.max numMin numMax NNum.totalCmpBigNan NNum.totalCmpSmallNan numTotalCmp
  simp only [nreal_totalCmpBigNan_exact, nreal_totalCmpSmallNan_exact, re_project, im_project]
  constructor
  · cases (compTotalCmp false (reVal a) (reVal b)).then (compTotalCmp false (imVal a) (imVal b)) <;> rfl
  · cases (compTotalCmp true (reVal a) (reVal b)).then (compTotalCmp true (imVal a) (imVal b)) <;> rfl

/-! ## non-vacuity: the hypotheses are met by the boundary cases the property names -/
example : NNum.partialCmp (.int (.small 9007199254740993)) (.float (.fin 1 53)) = some .gt := by decide +kernel
example : NNum.eq (.int (.small 9007199254740993)) (.float (.fin 1 53)) = false := by decide +kernel
example : NNum.partialCmp (.rat (1/3)) (.float (.fin 6004799503160661 (-54))) = some .gt := by decide +kernel
example : NNum.partialCmp (.int (.big (2^1024))) (.float (.inf false)) = some .lt := by decide +kernel
example : NNum.partialCmp (.rat (1/2)) (.float (.inf true)) = some .gt := by decide +kernel
example : NNum.eq (.rat 1) (.complex (.fin 1 0) .nzero) = true := by decide +kernel
example : nanFree (.complex (.fin 1 0) (.inf true)) ∧ (NNum.int (.big (2^64))).WF ∧ isReal (.rat (1/2)) = true := by
  refine ⟨by unfold nanFree; decide +kernel, trivial, rfl⟩
example : (extremum .gt [.num (.int (.small 1)), .num (.float (.fin 1 0)), .num (.rat (1/2))]).map numOf
    = .ok (some (.int (.small 1))) := by decide +kernel
example : (sorted valCmp [.num (.int (.small 3)), .num (.float (.fin 5 (-1))), .num (.rat (1/3))]).map (List.map numOf)
    = .ok [some (.rat (1/3)), some (.float (.fin 5 (-1))), some (.int (.small 3))] := by decide +kernel
example : ncmp (.num (.float .nan)) (.num (.int (.small 1))) = .throw := by decide +kernel

example : ValOK (.list [.str [0xe9, 0x10000], .num (.int (.big (2^64))), .vec [.rat (1/2)]]) := by
  simp [ValOK, ValOKList, NNum.WF, NInt.WF]
example : valCmp (.str [0xffff]) (.str [0x10000]) = some .lt := by decide +kernel

end Noulith.C08
