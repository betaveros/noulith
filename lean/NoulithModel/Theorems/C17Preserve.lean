/-
C17 — semantic preservation of `freeze` for FIRST-ORDER code (no lambda inside the frozen expression):
sequences, `if`, `while`, `for` (all clause kinds, `yield`, `yield k: v`, `into` a builtin), declarations
with every pattern, assignment, op-assignment, `and` / `or` / `coalesce`, `try`, `switch`,
`break` / `continue` / `return` / `throw`, list displays, indexing, operators, calls of builtins.
This file: the static side condition `ScopeOK` (clause by clause, with the finding each clause corresponds to), the
invariants `Agree` / `Pre` / `Post` with what the store operations do to them, and what the modules above share
without needing an induction (reading a passed check link by link, `HBuiltins`, sample data).

The idea of the proof (`pres_all`, Theorems/C17PreserveEval.lean; the theorem is `freeze_preserves_first_order`,
Theorems/C17FirstOrder.lean): first-order code creates no closures, so both runs go through identical states; the
only difference between `e'` and `e` is `.ident x ↦ .frozen i` for names outside the bound set, so everything
hinges on re-establishing `Agree` for the bound set that freeze threads.
-/
import NoulithModel.Theorems.C17Closed
import NoulithModel.Theorems.C17Frames

namespace Noulith.C17Preserve
open Noulith Noulith.Core Noulith.C17Closed Noulith.C17Frames

/-! ## the static side condition -/

/-- the bound set in which the part of a `for` header that runs in the ENCLOSING scope ends: leading
guards and the expression of the first binding clause are evaluated in the scope the `for` stands in (with
no binding clause at all, so is the body) -/
def headAfter : List String → List ForIt → ForBody → List String
  | bd, [], body => afterBody bd body
  | bd, .guard g :: rest, body => headAfter (afterExpr bd g) rest body
  | bd, .iter _ _ e :: _, _ => afterExpr bd e

def okInto (bd : List String) : Option Expr → Bool
  | none => true
  | some (.ident f) => builtinNames.contains f && !bd.contains f
  | some _ => false

/-!
`okExpr S bd e = some S'`: `e` is in the fragment and satisfies the scope conditions, given the bound set
`bd` (what freeze has bound when it reaches `e`) and the set `S ⊆ bd` of names that are SURELY declared
(in a frame created since the freeze started) whenever control reaches `e`; `S'` is that set after `e`
completed normally.  The clauses:

* **assignment targets must be surely declared** (`assign`, `opassign`: `S.contains x`).  Freeze accepts
  `x = …` as soon as `x` is in its bound set, which also contains names declared in a branch that was not
  taken (`if`, `and`/`or`/`coalesce` operands, a `try` body that raised earlier, loop bodies); at run time
  such an assignment reaches an OUTER variable of that name.  Inside a loop / catch clause / switch arm
  (scopes that freeze leaves again) the name is afterwards free for freeze, hence resolved at freeze time:
  finding F32, `o := 1; h := freeze \ -> ((for (i <- [1]) ((if (0) (o := 5)); o = 7)); o); [h(), o]`
  gives `[1,7]`, unfrozen `[7,7]` (and frozen code has written to an outside variable).
* **the part of a `for` header evaluated in the enclosing scope must not declare** (`headAfter … == bd`):
  known finding F30 and its variants (`for (if (1)) (y := 5)`, `for (x := (y := 5; y)) …`: the declaration
  lands in the enclosing scope, freeze treats it as loop-local).
* **callees and `into` functions are builtins that are not shadowed** (first-order code).
* `lambda`, `freeze`, `eval "…"` (its text may declare anything) and `Frozen` nodes are outside the fragment.

Everything else — declarations in `while` conditions, `switch` scrutinees, `if` branches, `try` bodies,
guards and iteratees of later clauses — is handled identically by freeze and by the evaluator.
-/
mutual
  def okExpr : List String → List String → Expr → Option (List String)
    | S, _, .null => some S
    | S, _, .int _ => some S
    | S, _, .str _ => some S
    | S, _, .cont _ => some S
    | S, _, .ident _ => some S
    | S, bd, .list xs => okList S bd xs
    | S, bd, .op _ a b => match okExpr S bd a with | some S1 => okExpr S1 (afterExpr bd a) b | none => none
    | S, bd, .index a b => match okExpr S bd a with | some S1 => okExpr S1 (afterExpr bd a) b | none => none
    | S, bd, .call (.ident f) args =>
      if builtinNames.contains f && !bd.contains f then okList S bd args else none
    | S, bd, .and_ a b =>
      match okExpr S bd a with
      | some S1 => match okExpr S1 (afterExpr bd a) b with | some _ => some S1 | none => none
      | none => none
    | S, bd, .or_ a b =>
      match okExpr S bd a with
      | some S1 => match okExpr S1 (afterExpr bd a) b with | some _ => some S1 | none => none
      | none => none
    | S, bd, .coalesce a b =>
      match okExpr S bd a with
      | some S1 => match okExpr S1 (afterExpr bd a) b with | some _ => some S1 | none => none
      | none => none
    | S, bd, .seq xs _ => okList S bd xs
    | S, bd, .ite c t e =>
      match okExpr S bd c with
      | some S1 =>
        match okExpr S1 (afterExpr bd c) t with
        | some _ => match okOpt S1 (afterExpr (afterExpr bd c) t) e with | some _ => some S1 | none => none
        | none => none
      | none => none
    | S, bd, .while_ c b =>
      match okExpr S bd c with
      | some S1 => match okExpr S1 (afterExpr bd c) b with | some _ => some S | none => none
      | none => none
    | S, bd, .for_ its body =>
      if headAfter bd its body == bd then
        match okIts S bd its with
        | some S2 => if okBody S2 (afterIts bd its) body then some S else none
        | none => none
      else none
    | S, bd, .declare p rhs =>
      match okExpr S (bd ++ Pat.idents p) rhs with
      | some S1 => some (S1 ++ Pat.idents p)
      | none => none
    | S, bd, .assign x rhs => if S.contains x then okExpr S bd rhs else none
    | S, bd, .opassign x _ rhs => if S.contains x then okExpr S bd rhs else none
    | S, bd, .brk _ e => okOpt S bd e
    | S, bd, .ret e => okOpt S bd e
    | S, bd, .throw_ e => okExpr S bd e
    | S, bd, .try_ b p c =>
      match okExpr S bd b with
      | some _ =>
        match okExpr (S ++ Pat.idents p) (afterExpr bd b ++ Pat.idents p) c with
        | some _ => some S
        | none => none
      | none => none
    | S, bd, .switch_ sc arms =>
      match okExpr S bd sc with
      | some S1 => if okArms S1 (afterExpr bd sc) arms then some S1 else none
      | none => none
    | _, _, _ => none
  def okArms : List String → List String → List SwitchArm → Bool
    | _, _, [] => true
    | S, bd, .mk p body :: rest =>
      (okExpr (S ++ Pat.idents p) (bd ++ Pat.idents p) body).isSome && okArms S bd rest
  def okList : List String → List String → List Expr → Option (List String)
    | S, _, [] => some S
    | S, bd, x :: xs => match okExpr S bd x with | some S1 => okList S1 (afterExpr bd x) xs | none => none
  def okOpt : List String → List String → Option Expr → Option (List String)
    | S, _, none => some S
    | S, bd, some x => okExpr S bd x
  def okIts : List String → List String → List ForIt → Option (List String)
    | S, _, [] => some S
    | S, bd, .guard g :: rest =>
      match okExpr S bd g with | some S1 => okIts S1 (afterExpr bd g) rest | none => none
    | S, bd, .iter _ p e :: rest =>
      match okExpr S bd e with
      | some S1 => okIts (S1 ++ Pat.idents p) (afterExpr bd e ++ Pat.idents p) rest
      | none => none
  def okBody : List String → List String → ForBody → Bool
    | S, bd, .exec e => (okExpr S bd e).isSome
    | S, bd, .yield e into => (okExpr S bd e).isSome && okInto (afterExpr bd e) into
    | S, bd, .yieldItem k v into =>
      match okExpr S bd k with
      | some S1 => (okExpr S1 (afterExpr bd k) v).isSome && okInto (afterExpr (afterExpr bd k) v) into
      | none => false
end

/-- **the side condition of the preservation theorem**: `e`, frozen under the bound set `bd` all of whose
names are surely declared (e.g. the parameters of the enclosing function), is in the first-order fragment
and avoids the constructions on which freeze's idea of scope differs from the evaluator's -/
def ScopeOK (bd : List String) (e : Expr) : Prop := (okExpr bd bd e).isSome = true

instance (bd : List String) (e : Expr) : Decidable (ScopeOK bd e) := inferInstanceAs (Decidable (_ = true))

/-- the names of builtins denote the builtins in the scope the freeze happens in (none is shadowed) -/
def HBuiltins (look : String → Option Val) : Prop := ∀ f, f ∈ builtinNames → look f = some (.builtin f)

/-! ## the invariants -/

/-- at the time of use, every name that freeze treats as free (not in `b`) resolves — through the scope
chain of `env`, then the builtins — to what freeze's lookup function returned: the free variables have not
been reassigned, shadowed or declared since the freeze -/
def Agree (look : String → Option Val) (b : List String) (st : State) (env : Nat) : Prop :=
  ∀ x, x ∉ b → lookOf st env x = look x

theorem Agree.mono {look : String → Option Val} {b b' : List String} {st : State} {env : Nat}
    (h : Agree look b st env) (hb : ∀ x, x ∈ b → x ∈ b') : Agree look b' st env :=
  fun x hx => h x (fun hxb => hx (hb x hxb))

theorem lookOf_congr {st st' : State} {env env' : Nat} {x : String} (h : st'.lookup env' x = st.lookup env x) :
    lookOf st' env' x = lookOf st env x := by
  simp only [lookOf, h]

theorem Agree.of_same {look : String → Option Val} {b : List String} {st st' : State} {env : Nat}
    (h : Agree look b st env) (hwf : WF st) (hlt : env < st.frames.size) (hlt' : env < st'.frames.size)
    (hs : ∀ y, y ∉ b → SameAt y (env + 1) st.frames st'.frames) : Agree look b st' env := by
  intro x hx
  rw [← h x hx]
  exact lookOf_congr (lookup_same hwf hlt hlt' (hs x hx))

structure Pre (look : String → Option Val) (b : List String) (st : State) (env : Nat) : Prop where
  wf : WF st
  lt : env < st.frames.size
  agree : Agree look b st env

/-- what one evaluation step (from `st` to `st1`, in scope `env`; `normal`: it completed normally)
guarantees: the store only grew; `Agree` holds for the bound set freeze has reached; frames older than any
threshold `n ≤ env` are unchanged outside `B` provided the surely-declared names `S` were safe for
`(n, B)`; and after a normal completion the new surely-declared names `SOut` are safe again -/
structure Post (look : String → Option Val) (S : List String) (st : State) (env : Nat)
    (bOut SOut : List String) (normal : Prop) (st1 : State) : Prop where
  ext : Ext st st1
  wf : WF st1
  agree : Agree look bOut st1 env
  kept : ∀ n B, n ≤ env → SafeFor S st env n B → OldKept st st1 n B
  safe : normal → ∀ n B, n ≤ env → SafeFor S st env n B → SafeFor SOut st1 env n B

theorem Post.lt {look S st env bOut SOut nm st1} (h : Post look S st env bOut SOut nm st1)
    (hlt : env < st.frames.size) : env < st1.frames.size := Nat.lt_of_lt_of_le hlt h.ext.1.1

theorem Post.toPre {look S st env bOut SOut nm st1} (h : Post look S st env bOut SOut nm st1)
    (hlt : env < st.frames.size) : Pre look bOut st1 env := ⟨h.wf, h.lt hlt, h.agree⟩

theorem Post.of_frames_eq {look : String → Option Val} {b bOut S SOut : List String} {st st1 : State} {env : Nat}
    (nm : Prop) (hp : Pre look b st env) (hf : st1.frames = st.frames) (ht : st1.frozenTab = st.frozenTab)
    (hb : ∀ x, x ∈ b → x ∈ bOut) (hS : ∀ x, x ∈ SOut → x ∈ S) : Post look S st env bOut SOut nm st1 := by
  refine ⟨⟨by rw [hf]; exact ExtF.refl _, ht⟩, by unfold WF; rw [hf]; exact hp.wf, ?_, ?_, ?_⟩
  · intro x hx
    have : lookOf st1 env x = lookOf st env x := by
      apply lookOf_congr; unfold State.lookup; rw [hf]
    rw [this]; exact hp.agree.mono hb x hx
  · intro n B _ _ y _; rw [hf]; exact SameAt.refl _ _ _
  · intro _ n B _ hs x hx
    rcases hs x (hS x hx) with h | h
    · exact Or.inl h
    · right; unfold DeclAbove at h ⊢; rw [hf]; exact h

theorem Post.refl {look : String → Option Val} {b bOut S SOut : List String} {st : State} {env : Nat}
    (nm : Prop) (hp : Pre look b st env) (hb : ∀ x, x ∈ b → x ∈ bOut) (hS : ∀ x, x ∈ SOut → x ∈ S) :
    Post look S st env bOut SOut nm st := Post.of_frames_eq nm hp rfl rfl hb hS

theorem Post.seq {look S st env b1 S1 st1 b2 S2 st2} {nm1 nm2 : Prop} (hn : nm1)
    (h1 : Post look S st env b1 S1 nm1 st1) (h2 : Post look S1 st1 env b2 S2 nm2 st2) :
    Post look S st env b2 S2 nm2 st2 :=
  ⟨h1.ext.trans h2.ext, h2.wf, h2.agree,
   fun n B hle hs => (h1.kept n B hle hs).trans (h2.kept n B hle (h1.safe hn n B hle hs)),
   fun hv n B hle hs => h2.safe hv n B hle (h1.safe hn n B hle hs)⟩

theorem Post.weaken {look S st env b1 S1 st1} {nm : Prop} {b2 S2 : List String}
    (h : Post look S st env b1 S1 nm st1) (hb : ∀ x, x ∈ b1 → x ∈ b2) (hS : ∀ x, x ∈ S2 → x ∈ S1) :
    Post look S st env b2 S2 nm st1 :=
  ⟨h.ext, h.wf, h.agree.mono hb, h.kept, fun hv n B hn hs => (h.safe hv n B hn hs).mono hS⟩

theorem Post.abort {look S st env b1 S1 st1} {nm nm' : Prop} {b2 S2 : List String}
    (h : Post look S st env b1 S1 nm st1) (hr : ¬ nm') (hb : ∀ x, x ∈ b1 → x ∈ b2) :
    Post look S st env b2 S2 nm' st1 :=
  ⟨h.ext, h.wf, h.agree.mono hb, h.kept, fun hv => absurd hv hr⟩

theorem Post.keepS {look S st env b1 S1 st1} {nm nm' : Prop} {b2 : List String}
    (h : Post look S st env b1 S1 nm st1) (hb : ∀ x, x ∈ b1 → x ∈ b2) :
    Post look S st env b2 S nm' st1 :=
  ⟨h.ext, h.wf, h.agree.mono hb, h.kept, fun _ _ _ _ hs => hs.ext h.ext⟩

theorem Post.imp {look S st env b1 S1 st1} {nm nm' : Prop} (h : Post look S st env b1 S1 nm st1)
    (hi : nm' → nm) : Post look S st env b1 S1 nm' st1 :=
  ⟨h.ext, h.wf, h.agree, h.kept, fun hv => h.safe (hi hv)⟩

/-! ## static facts about the side condition -/

theorem after_mono_all :
    (∀ bd e, bd ⊆ afterExpr bd e) ∧ (∀ bd o, bd ⊆ afterOpt bd o) ∧ (∀ bd es, bd ⊆ afterList bd es) := by
  apply afterExpr.mutual_induct_unfolding
    (motive_1 := fun bd _ r => bd ⊆ r) (motive_2 := fun bd _ r => bd ⊆ r) (motive_3 := fun bd _ r => bd ⊆ r)
  all_goals intros
  -- a form that binds nothing; a form that binds what its one sub-expression binds
  all_goals try first | exact List.Subset.refl _ | assumption
  next iha ihb => exact iha.trans ihb -- `op`
  next iha ihb => exact iha.trans ihb -- `index`
  next iha ihb => exact iha.trans ihb -- `and_`
  next iha ihb => exact iha.trans ihb -- `or_`
  next iha ihb => exact iha.trans ihb -- `coalesce`
  next ihf ihargs => exact ihf.trans ihargs -- `call`
  next ihc iht ihe => exact (ihc.trans iht).trans ihe -- `ite`
  next ihr => exact (List.subset_append_left _ _).trans ihr -- `declare`
  next ihx ihxs => exact ihx.trans ihxs

theorem afterExpr_mono {bd : List String} (e : Expr) {x : String} (h : x ∈ bd) : x ∈ afterExpr bd e :=
  after_mono_all.1 bd e h

theorem afterOpt_mono {bd : List String} (o : Option Expr) {x : String} (h : x ∈ bd) : x ∈ afterOpt bd o :=
  after_mono_all.2.1 bd o h

theorem afterIts_mono : ∀ its bd, ∀ x ∈ bd, x ∈ afterIts bd its := by
  intro its
  induction its with
  | nil => exact fun _ _ h => h
  | cons it rest ih =>
    intro bd x hx
    cases it with
    | guard g => exact ih _ x (afterExpr_mono g hx)
    | iter k p e => exact ih _ x (List.mem_append_left _ (afterExpr_mono e hx))

theorem headAfter_mono : ∀ its bd body, ∀ x ∈ bd, x ∈ headAfter bd its body := by
  intro its
  induction its with
  | nil =>
    intro bd body x hx
    simp only [headAfter]
    cases body with
    | exec e => simp only [afterBody]; exact after_mono_all.1 _ _ hx
    | yield e into =>
      simp only [afterBody]; exact after_mono_all.2.1 _ _ (after_mono_all.1 _ _ hx)
    | yieldItem k v into =>
      simp only [afterBody]
      exact after_mono_all.2.1 _ _ (after_mono_all.1 _ _ (after_mono_all.1 _ _ hx))
  | cons it rest ih =>
    intro bd body x hx
    cases it with
    | guard g => simp only [headAfter]; exact ih _ _ x (after_mono_all.1 _ _ hx)
    | iter k p e => simp only [headAfter]; exact after_mono_all.1 _ _ hx

/-- what `okExpr S bd e` guarantees of its result `r`, `bd'` being the bound set after `e`: the
surely-declared names only grow, and they stay among the names freeze has bound -/
def OkSets (S bd bd' : List String) (r : Option (List String)) : Prop :=
  ∀ S', r = some S' → (∀ x ∈ S, x ∈ S') ∧ ((∀ x ∈ S, x ∈ bd) → ∀ x ∈ S', x ∈ bd')

theorem OkSets.none {S bd bd' : List String} : OkSets S bd bd' none := fun _ h => nomatch h

theorem OkSets.same {S bd bd' : List String} (hb : ∀ x ∈ bd, x ∈ bd') : OkSets S bd bd' (some S) := by
  intro S' h
  cases h
  exact ⟨fun _ h => h, fun hS x hx => hb x (hS x hx)⟩

theorem OkSets.trans {S S1 bd bd1 bd2 : List String} {r1 r2 : Option (List String)}
    (h1 : OkSets S bd bd1 r1) (e1 : r1 = some S1) (h2 : OkSets S1 bd1 bd2 r2) : OkSets S bd bd2 r2 :=
  fun S' e2 => ⟨fun x hx => (h2 S' e2).1 x ((h1 S1 e1).1 x hx), fun hS => (h2 S' e2).2 ((h1 S1 e1).2 hS)⟩

/-- a conditional second step: the bound set grows further, the surely-declared names do not -/
theorem OkSets.keep {S S1 bd bd1 bd2 : List String} {r1 : Option (List String)}
    (h1 : OkSets S bd bd1 r1) (e1 : r1 = some S1) (hb : ∀ x ∈ bd1, x ∈ bd2) : OkSets S bd bd2 (some S1) :=
  h1.trans e1 (.same hb)

/-- binding the names `N` before the step (`declare` binds before its right-hand side is walked) -/
theorem OkSets.declare {S S1 bd bd1 N : List String} {r1 : Option (List String)}
    (h1 : OkSets S (bd ++ N) bd1 r1) (e1 : r1 = some S1) (hN : ∀ x ∈ bd ++ N, x ∈ bd1) :
    OkSets S bd bd1 (some (S1 ++ N)) := by
  intro S' h
  cases h
  refine ⟨fun x hx => List.mem_append_left _ ((h1 S1 e1).1 x hx), fun hS x hx => ?_⟩
  rcases List.mem_append.mp hx with h | h
  · exact (h1 S1 e1).2 (fun y hy => List.mem_append_left _ (hS y hy)) x h
  · exact hN x (List.mem_append_right _ h)

/-- binding the names `N` after the step (a `for` clause) -/
theorem OkSets.bind {S bd N : List String} : OkSets S bd (bd ++ N) (some (S ++ N)) := by
  intro S' h
  cases h
  refine ⟨fun x hx => List.mem_append_left _ hx, fun hS x hx => ?_⟩
  rcases List.mem_append.mp hx with h | h
  · exact List.mem_append_left _ (hS x h)
  · exact List.mem_append_right _ h

theorem ok_sets_all :
    (∀ S bd e, OkSets S bd (afterExpr bd e) (okExpr S bd e)) ∧
    (∀ S bd its, OkSets S bd (afterIts bd its) (okIts S bd its)) ∧
    (∀ S bd o, OkSets S bd (afterOpt bd o) (okOpt S bd o)) ∧
    (∀ S bd es, OkSets S bd (afterList bd es) (okList S bd es)) := by
  suffices h : (∀ S bd e, OkSets S bd (afterExpr bd e) (okExpr S bd e)) ∧
      (∀ (_S _bd : List String) (_arms : List SwitchArm), True) ∧
      (∀ (_S _bd : List String) (_b : ForBody), True) ∧
      (∀ S bd its, OkSets S bd (afterIts bd its) (okIts S bd its)) ∧
      (∀ S bd o, OkSets S bd (afterOpt bd o) (okOpt S bd o)) ∧
      (∀ S bd es, OkSets S bd (afterList bd es) (okList S bd es)) from ⟨h.1, h.2.2.2⟩
  apply okExpr.mutual_induct_unfolding
    (motive_1 := fun S bd e r => OkSets S bd (afterExpr bd e) r)
    (motive_2 := fun _ _ _ _ => True)
    (motive_3 := fun _ _ _ _ => True)
    (motive_4 := fun S bd its r => OkSets S bd (afterIts bd its) r)
    (motive_5 := fun S bd o r => OkSets S bd (afterOpt bd o) r)
    (motive_6 := fun S bd es r => OkSets S bd (afterList bd es) r)
  all_goals intros
  case case7 ha iha ihb => exact iha.trans ha ihb -- `op`
  case case9 ha iha ihb => exact iha.trans ha ihb -- `index`
  case case13 ha _ _ iha _ => exact iha.keep ha fun _ => afterExpr_mono _ -- `and_`, `or_`, `coalesce`
  case case16 ha _ _ iha _ => exact iha.keep ha fun _ => afterExpr_mono _
  case case19 ha _ _ iha _ => exact iha.keep ha fun _ => afterExpr_mono _
  case case23 hc _ _ _ _ ihc _ _ => exact ihc.keep hc fun _ h => afterOpt_mono _ (afterExpr_mono _ h) -- `ite`
  case case34 hr ihr => exact ihr.declare hr fun _ => afterExpr_mono _
  case case43 => exact .same fun _ => afterExpr_mono _ -- `try_`
  case case46 hs _ ihs _ => exact ihs.keep hs fun _ h => h -- `switch_`
  case case55 hx ihx ihxs => exact ihx.trans hx ihxs
  case case60 hg ihg ihr => exact ihg.trans hg ihr
  case case62 he ihe ihr => exact ((ihe.trans he .bind).trans rfl ihr)
  -- the rest: a failed check; the hypothesis for the one sub-expression; a form that neither binds nor declares
  all_goals first | exact .none | assumption | exact .same fun _ h => h | exact True.intro

/-! ### what a successful freeze says about bound sets and tables

All of it is `Froze` (C17Closed): `(freezeExpr_froze h).bound`, `.mono`, `.tab`, and likewise for the companions. -/

variable {look : String → Option Val}

theorem fzO_bound {s s' : FState Val} {o o' : Option Expr} (h : freezeOpt look s o = .ok (o', s')) :
    s'.bound = afterOpt s.bound o := (freezeOpt_froze h).bound
theorem fzA_bound {s s' : FState Val} {a a' : List SwitchArm} (h : freezeArms look s a = .ok (a', s')) :
    s'.bound = s.bound := (freezeArms_froze h).bound

theorem okE_mono {S S' bd : List String} {e : Expr} (h : okExpr S bd e = some S') : ∀ x, x ∈ S → x ∈ S' :=
  (ok_sets_all.1 S bd e S' h).1

theorem okE_sub {s s' : FState Val} {e e' : Expr} {S S' : List String}
    (h : freezeExpr look s e = .ok (e', s')) (hok : okExpr S s.bound e = some S')
    (hS : ∀ x, x ∈ S → x ∈ s.bound) : ∀ x, x ∈ S' → x ∈ s'.bound := by
  rw [(freezeExpr_froze h).bound]; exact (ok_sets_all.1 S s.bound e S' hok).2 hS
theorem okL_sub {s s' : FState Val} {es es' : List Expr} {S S' : List String}
    (h : freezeList look s es = .ok (es', s')) (hok : okList S s.bound es = some S')
    (hS : ∀ x, x ∈ S → x ∈ s.bound) : ∀ x, x ∈ S' → x ∈ s'.bound := by
  rw [(freezeList_froze h).bound]; exact (ok_sets_all.2.2.2 S s.bound es S' hok).2 hS
theorem okI_sub {s s' : FState Val} {its its' : List ForIt} {S S' : List String}
    (h : freezeIts look s its = .ok (its', s')) (hok : okIts S s.bound its = some S')
    (hS : ∀ x, x ∈ S → x ∈ s.bound) : ∀ x, x ∈ S' → x ∈ s'.bound := by
  rw [(freezeIts_froze h).bound]; exact (ok_sets_all.2.1 S s.bound its S' hok).2 hS

/-! ### reading a passed check step by step

`okExpr` is a chain of `match … with | some S1 => … | none => none`: a chain that succeeded did so link by link
(for the chains of `freezeExpr`: `fz_bindE` … `fz_bindA`, `freezeList_cons_inv`, `freezeOpt_some_inv` of C17Closed). -/

theorem ok_bind {β : Type} {x : Option (List String)} {f : List String → Option β} {r : β}
    (h : (match x with | some a => f a | none => none) = some r) : ∃ a, x = some a ∧ f a = some r := by
  cases x with
  | none => cases h
  | some a => exact ⟨a, rfl, h⟩

/-- both links are checked, what the first found is kept (`and`, `or`, `coalesce` in each of the checkers) -/
theorem ok_cond {x : Option (List String)} {f : List String → Option (List String)} {r : List String}
    (h : (match x with
      | some a => match f a with | some _ => some a | none => none
      | none => none) = some r) : ∃ b, x = some r ∧ f r = some b := by
  obtain ⟨a, hx, h⟩ := ok_bind h
  cases hf : f a with
  | none => rw [hf] at h; cases h
  | some b => rw [hf] at h; cases h; exact ⟨b, hx, hf⟩

theorem ok_if {β : Type} {c : Prop} [Decidable c] {x : Option β} {r : β}
    (h : (if c then x else none) = some r) : c ∧ x = some r := by
  split at h
  · exact ⟨‹c›, h⟩
  · cases h

theorem ok_bindB {x : Option (List String)} {f : List String → Bool}
    (h : (match x with | some a => f a | none => false) = true) : ∃ a, x = some a ∧ f a = true := by
  cases x with
  | none => cases h
  | some a => exact ⟨a, rfl, h⟩

theorem isSome_and_inv {x : Option (List String)} {b : Bool} (h : (x.isSome && b) = true) :
    (∃ a, x = some a) ∧ b = true := by
  cases x with
  | none => cases h
  | some a => exact ⟨⟨a, rfl⟩, h⟩

theorem okInto_inv {bd : List String} {o : Option Expr} (h : okInto bd o = true) :
    o = none ∨ ∃ f, o = some (.ident f) ∧ f ∈ builtinNames ∧ f ∉ bd := by
  unfold okInto at h
  split at h
  · exact .inl rfl
  · simp only [Bool.and_eq_true, Bool.not_eq_true', List.contains_eq_mem, decide_eq_true_eq,
      decide_eq_false_iff_not] at h
    exact .inr ⟨_, rfl, h⟩
  · cases h

/-- the unbound name of a builtin: freeze puts a new `Frozen` node in its place, which holds the builtin in every table
that extends the result -/
theorem freeze_builtin_name (hB : HBuiltins look) {s s1 : FState Val} {g : String} {f' : Expr} {T : List Val}
    (hg : g ∈ builtinNames) (hgb : g ∉ s.bound) (hf : freezeExpr look s (.ident g) = .ok (f', s1))
    (htab : s1.tab <+: T) : f' = .frozen s.tab.length ∧ T[s.tab.length]? = some (.builtin g) := by
  rcases freeze_ident_inv hf with ⟨hb, _⟩ | ⟨_, v, hv, rfl, rfl⟩
  · exact absurd hb hgb
  · cases (hB g hg).symm.trans hv
    exact ⟨rfl, tab_get htab⟩

theorem tab_step {T : List Val} {st st1 : State} (h : T <+: st.frozenTab) (hx : Ext st st1) :
    T <+: st1.frozenTab := by rw [hx.2]; exact h

theorem Pre.mono {b b' : List String} {st : State} {env : Nat} (h : Pre look b st env)
    (hb : ∀ x, x ∈ b → x ∈ b') : Pre look b' st env := ⟨h.wf, h.lt, h.agree.mono hb⟩

/-! ### the effect of the store operations on the invariants -/

theorem post_write {b S : List String} {st : State} {env : Nat} {x : String} {fs : Array Frame} {nm : Prop}
    (hp : Pre look b st env) (hxS : x ∈ S) (hxb : x ∈ b) (ws : WriteStep st.frames fs env x) :
    Post look S st env b S nm { st with frames := fs } := by
  refine ⟨⟨ws.ext, rfl⟩, ws.wf, ?_, ?_, ?_⟩
  · refine hp.agree.of_same hp.wf hp.lt (by show env < fs.size; rw [ws.size]; exact hp.lt) (fun y hy => ?_)
    exact ws.other y (fun h => hy (h ▸ hxb)) _
  · intro n B _ hs y hy
    rcases hs x hxS with hB | hd
    · exact ws.other y (fun h => hy (h ▸ hB)) n
    · exact ws.above n hd n (Nat.le_refl _) y
  · intro _ n B _ hs
    exact hs.ext ⟨ws.ext, rfl⟩

theorem post_declare {b bOut S : List String} {st : State} {env : Nat} {p : Pat} {v : Val} {fuel : Nat}
    {nm : Prop} (hp : Pre look b st env) (hb : ∀ x, x ∈ b → x ∈ bOut)
    (hpb : ∀ x, x ∈ Pat.idents p → x ∈ bOut) (hnm : nm → (declarePat fuel st env p v).1 = true) :
    Post look S st env bOut (S ++ Pat.idents p) nm (declarePat fuel st env p v).2 := by
  obtain ⟨fstep, htab, _, hdecl⟩ := declarePat_step fuel st env p v
  have hlt' : env < (declarePat fuel st env p v).2.frames.size := by rw [fstep.size]; exact hp.lt
  refine ⟨⟨fstep.ext, htab⟩, fstep.wf hp.wf, ?_, ?_, ?_⟩
  · refine (hp.agree.mono hb).of_same hp.wf hp.lt hlt' (fun y hy => ?_)
    exact fstep.other y (fun h => hy (hpb y h)) _
  · intro n B hle _ y _
    exact fstep.below n hle y
  · intro hn n B hle hs
    exact (hs.ext ⟨fstep.ext, htab⟩).add_declared hle (hdecl (hnm hn))

/-! ### entering and leaving a fresh scope (`while` iteration, `for` binding, `catch`, `switch` arm) -/

theorem newFrame_frames (st : State) (env : Nat) :
    (newFrame st env).1.frames = st.frames.push { vars := [], parent := some env } ∧
    (newFrame st env).2 = st.frames.size ∧ (newFrame st env).1.frozenTab = st.frozenTab := ⟨rfl, rfl, rfl⟩

theorem onChain_new {st : State} {env i : Nat} (h : OnChain st.frames env i) :
    OnChain (newFrame st env).1.frames (newFrame st env).2 i := by
  have hx : ExtF st.frames (newFrame st env).1.frames := push_extF _ _
  refine .up (fr := { vars := [], parent := some env }) ?_ rfl (h.ext hx)
  simp [newFrame]

/-- the state in the fresh scope, after the binding pattern (names `N`) was declared there -/
theorem pre_clone {b bI N : List String} {st st1 : State} {env : Nat}
    (hp : Pre look b st env)
    (hfs : FrameStep (newFrame st env).1.frames st1.frames (newFrame st env).2 N)
    (hb : ∀ x, x ∈ b → x ∈ bI) (hN : ∀ x, x ∈ N → x ∈ bI) : Pre look bI st1 (newFrame st env).2 := by
  have hwfN : WFf (newFrame st env).1.frames := push_wf st.frames hp.wf [] env hp.lt []
  have hltN : (newFrame st env).2 < (newFrame st env).1.frames.size := by simp [newFrame]
  refine ⟨hfs.wf hwfN, by rw [hfs.size]; exact hltN, fun x hx => ?_⟩
  have hxb : x ∉ b := fun h => hx (hb x h)
  have hxN : x ∉ N := fun h => hx (hN x h)
  rw [← hp.agree x hxb]
  apply lookOf_congr
  unfold State.lookup
  have e1 := lookup_congr x (newFrame st env).1.frames st1.frames hwfN (newFrame st env).2
    ((newFrame st env).1.frames.size + 1) (st1.frames.size + 1) (by omega) (by rw [hfs.size]; omega)
    (hfs.other x hxN _)
  rw [e1]
  exact lookup_new_frame x st.frames hp.wf env hp.lt (st.frames.size + 1) _ (by have := hp.lt; omega)
    (by simp [newFrame]; omega)

/-- leaving the fresh child scope of `env`: what happened inside, seen from `env` -/
theorem post_clone {b S bI SO : List String} {st st2 : State} {env : Nat} {nmI nm : Prop}
    (hp : Pre look b st env) (hS : ∀ x, x ∈ S → x ∈ b)
    (inner : Post look S (newFrame st env).1 (newFrame st env).2 bI SO nmI st2) :
    Post look S st env b S nm st2 := by
  have hxN : ExtF st.frames (newFrame st env).1.frames := push_extF _ _
  have hx : Ext st st2 := Ext.trans ⟨hxN, rfl⟩ inner.ext
  -- names safe for a threshold from `env` are safe for it from the new scope
  have hsafeI : ∀ n B, SafeFor S st env n B → SafeFor S (newFrame st env).1 (newFrame st env).2 n B := by
    intro n B hs x hx
    rcases hs x hx with hB | ⟨i, fr, hc, hni, hfr, hdx⟩
    · exact Or.inl hB
    · obtain ⟨fr', hfr', _, hn'⟩ := hxN.2 _ _ hfr
      exact Or.inr ⟨i, fr', onChain_new hc, hni, hfr', hn' x hdx⟩
  have hkept : ∀ n B, n ≤ st.frames.size → SafeFor S st env n B → OldKept st st2 n B := fun n B hn hs y hy =>
    (push_sameAt y st.frames _ n hn).trans (inner.kept n B hn (hsafeI n B hs) y hy)
  refine ⟨hx, inner.wf, ?_, fun n B hle => hkept n B (Nat.le_trans hle (Nat.le_of_lt hp.lt)),
    fun _ n B _ hs => hs.ext hx⟩
  -- `Agree` for `env`: its frames are older than the new one, which is the threshold `st.frames.size` with `B = b`
  refine hp.agree.of_same hp.wf hp.lt (Nat.lt_of_lt_of_le hp.lt hx.1.1) (fun y hy => ?_)
  exact (hkept st.frames.size b (Nat.le_refl _) (fun x hx => Or.inl (hS x hx)) y hy).mono hp.lt

/-! ## sample data of the examples -/

def stO : State := { frames := #[{ vars := [("o", .int 5)], parent := none }], out := [] }

theorem wf_stO : WF stO := by
  intro i fr p h hp
  have hi : i = 0 := by
    have := getElem?_lt_size h
    simp [stO] at this
    omega
  subst hi
  simp [stO] at h
  subst h
  simp at hp

/-- `t := 0; for (i <- [1,2,3]; if (i < o)) (u := i * o; t = t + u;); w := 0; while (w < 2) (w += 1);
r := try (q := t // 0; q) catch err -> (switch (t) case 7 -> "seven" case y -> y + o); [t, w, r, len([o])]`:
loops, declarations, assignments to locals, `try`, `switch`, a builtin call, the outer variable `o` free
in five places -/
def prog : Expr :=
  .seq [
    .declare (.ident "t") (.int 0),
    .for_ [.iter .normal (.ident "i") (.list [.int 1, .int 2, .int 3]), .guard (.op "<" (.ident "i") (.ident "o"))]
      (.exec (.seq [.declare (.ident "u") (.op "*" (.ident "i") (.ident "o")),
                    .assign "t" (.op "+" (.ident "t") (.ident "u"))] true)),
    .declare (.ident "w") (.int 0),
    .while_ (.op "<" (.ident "w") (.int 2)) (.opassign "w" "+" (.int 1)),
    .declare (.ident "r")
      (.try_ (.seq [.declare (.ident "q") (.op "//" (.ident "t") (.int 0)), .ident "q"] false) (.ident "err")
        (.switch_ (.ident "t") [.mk (.lit 7) (.str "seven"), .mk (.ident "y") (.op "+" (.ident "y") (.ident "o"))])),
    .list [.ident "t", .ident "w", .ident "r", .call (.ident "len") [.list [.ident "o"]]]] false

end Noulith.C17Preserve
