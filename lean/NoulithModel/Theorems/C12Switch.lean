/-
C12 — `switch` with arm bodies: the arm is selected by the patterns alone, its body runs once, and
an error raised by the body leaves the `switch` (later arms are not tried).
-/
import NoulithModel.Theorems.C12
import NoulithModel.Spec.MatchSwitch

namespace Noulith.C12

theorem switchArm_index_ge (e : Env) (s : Val) : ∀ (arms : List Pat) (i0 i : Nat) (ee : Env),
    switchArm e s arms i0 = .ok (i, ee) → i0 ≤ i := by
  intro arms
  induction arms with
  | nil => intro i0 i ee h; cases h
  | cons p arms ih =>
    intro i0 i ee h
    unfold switchArm at h
    rcases hq : assign ([] :: e) p (some .any) s with ⟨e1, o⟩
    rw [hq] at h
    cases o with
    | ok u => cases h; exact Nat.le_refl _
    | throw => exact Nat.le_of_succ_le (ih (i0 + 1) i ee h)
    | panic => cases h

/-- **selection and execution are separate**: the `switch` is "select the first arm whose pattern
accepts (`switchArm`, which looks at patterns only), then run that arm's body" — for every list of
arms and every body, raising or not -/
theorem switchRun_factor (e : Env) (s : Val) : ∀ (arms : List (Pat × ArmBody)) (i0 : Nat),
    switchRun e s arms i0 =
      match switchArm e s (arms.map Prod.fst) i0 with
      | .ok (i, ee) =>
        (match arms[i - i0]? with
         | some (_, b) => runArm ee i b
         | none => (e, .noMatch))
      | .throw => (e, .noMatch)
      | .panic => (e, .panic) := by
  intro arms
  induction arms with
  | nil => intro i0; rfl
  | cons pb arms ih =>
    intro i0
    obtain ⟨p, b⟩ := pb
    unfold switchRun
    simp only [List.map_cons]
    unfold switchArm
    rcases hq : assign ([] :: e) p (some .any) s with ⟨e1, o⟩
    cases o with
    | ok u => simp
    | panic => rfl
    | throw =>
      simp only []
      rw [ih (i0 + 1)]
      cases hs : switchArm e s (arms.map Prod.fst) (i0 + 1) with
      | ok r =>
        obtain ⟨i, ee⟩ := r
        have hge := switchArm_index_ge e s _ _ _ _ hs
        simp only []
        have : i - i0 = (i - (i0 + 1)) + 1 := (Nat.succ_pred_eq_of_pos (Nat.sub_pos_of_lt hge)).symm
        rw [this, List.getElem?_cons_succ]
      | throw => rfl
      | panic => rfl

/-- whatever the body does, the first accepting arm decides: its body runs, once, and nothing else -/
theorem switch_runs_first_match_once (e : Env) (s : Val) (arms : List (Pat × ArmBody))
    (i : Nat) (ee : Env) (p : Pat) (b : ArmBody)
    (hsel : switchArm e s (arms.map Prod.fst) 0 = .ok (i, ee))
    (harm : arms[i]? = some (p, b)) :
    switchRun e s arms 0 = runArm ee i b := by
  have h := switchRun_factor e s arms 0
  rw [hsel] at h
  simpa only [Nat.sub_zero, harm] using h

/-- **`switch_body_error_propagates`**: when arm `i` is the first whose pattern accepts the
scrutinee and its body raises, the `switch` ends with that error, in the environment the body left
behind: no later arm is tried and no other body runs (the result does not depend on the arms after
`i` at all). -/
theorem switch_body_error_propagates (e : Env) (s : Val) (arms : List (Pat × ArmBody))
    (i : Nat) (ee : Env) (p : Pat) (b : ArmBody)
    (hsel : switchArm e s (arms.map Prod.fst) 0 = .ok (i, ee))
    (harm : arms[i]? = some (p, b))
    (hraise : (runArm ee i b).2 = .bodyRaise) :
    (switchRun e s arms 0).2 = .bodyRaise ∧ switchRun e s arms 0 = runArm ee i b := by
  rw [switch_runs_first_match_once e s arms i ee p b hsel harm]; exact ⟨hraise, rfl⟩

/-- later arms are irrelevant once an arm has been selected -/
theorem switch_later_arms_irrelevant (e : Env) (s : Val) (p : Pat) (b : ArmBody)
    (rest rest' : List (Pat × ArmBody)) (ee : Env)
    (hacc : assign ([] :: e) p (some .any) s = (ee, .ok ())) :
    switchRun e s ((p, b) :: rest) 0 = switchRun e s ((p, b) :: rest') 0 := by
  simp [switchRun, hacc]

/-- **Impl = Spec** for `switch` with bodies (patterns whose `or` nodes bind nothing in their first
alternative, as for `switchArm_eq_spec`) -/
theorem switchRun_eq_spec (e : Env) (s : Val) (arms : List (Pat × ArmBody))
    (h : orCleanAll (arms.map Prod.fst)) :
    switchRun e s arms 0 = specSwitchRun e s arms := by
  rw [switchRun_factor, switchArm_eq_spec e s _ 0 h]
  unfold specSwitchRun
  cases specSwitch e s (arms.map Prod.fst) 0 with
  | none => rfl
  | some r =>
    obtain ⟨i, ee⟩ := r
    simp only [optToOut, Nat.sub_zero]
    cases arms[i]? with
    | none => rfl
    | some pb => rfl

/-- `switch (1) case 1 -> throw "boom" case _ -> "fallback"` raises -/
example : (switchRun [[]] (.int 1)
    [(.lit (.int 1), { stmts := [], raises := true }), (.underscore, { stmts := [], raises := false })] 0).2
    = .bodyRaise := by decide +kernel

end Noulith.C12
