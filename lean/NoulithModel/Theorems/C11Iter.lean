/-
C11 — iteration over a step function and the `Stream` trait defaults, generic in the stream type.
If iterating `next` from `s` yields the list `l` (`Unfolds next s l`, the Spec's `toList`), the loops
of the trait defaults compute Python indexing / slicing / reversal / length of `l` for every index
and every pair of slice bounds (`Coherent`), and every consumer equals the list operation.  Then what
the per-type proofs are built from: hereditary finiteness (`UnfoldsB`), families of states closed
under `next` and their drop positions, `Counter` (a count of the remaining elements that `next`
lowers by one) and the step that the checked `usize` loops of the closed-form `len`s share.
-/
import NoulithModel.Spec.StreamSpec

namespace Noulith.C11
open Noulith Noulith.Stream Noulith.StreamSpec

section Iter
variable {σ β : Type} {next : σ → Option (β × σ)}

theorem Unfolds.functional {s : σ} {l₁ l₂ : List β} (h₁ : Unfolds next s l₁) (h₂ : Unfolds next s l₂) :
    l₁ = l₂ := by
  induction h₁ generalizing l₂ with
  | done h =>
    cases h₂ with
    | done _ => rfl
    | step h' _ => rw [h] at h'; cases h'
  | step h _ ih =>
    cases h₂ with
    | done h' => rw [h] at h'; cases h'
    | step h' t =>
      rw [h] at h'
      cases h'
      rw [ih t]

theorem unfolds_head {s : σ} {l : List β} (h : Unfolds next s l) : (next s).map Prod.fst = l.head? := by
  cases h with
  | done h => simp [h]
  | step h _ => simp [h]

/-! ## the loops compute the list operations -/

theorem collect_of_unfolds {s : σ} {l : List β} (h : Unfolds next s l) :
    ∀ fuel, l.length ≤ fuel → collect next fuel s = some l := by
  induction h with
  | done h => intro fuel _; unfold collect; simp [h]
  | step h _ ih =>
    intro fuel hf
    unfold collect
    simp only [h]
    cases fuel with
    | zero => simp at hf
    | succ f => simp [ih f (by simpa using hf)]

theorem count_of_unfolds {s : σ} {l : List β} (h : Unfolds next s l) :
    ∀ fuel, l.length ≤ fuel → count next fuel s = some l.length := by
  induction h with
  | done h => intro fuel _; unfold count; simp [h]
  | step h _ ih =>
    intro fuel hf
    unfold count
    simp only [h]
    cases fuel with
    | zero => simp at hf
    | succ f => simp [ih f (by simpa using hf)]

theorem nth_of_unfolds {s : σ} {l : List β} (h : Unfolds next s l) :
    ∀ i, nth next i s = l[i]? := by
  induction h with
  | done h => intro i; unfold nth; simp [h]
  | step h _ ih =>
    intro i
    unfold nth
    simp only [h]
    cases i with
    | zero => simp
    | succ i => simp [ih i]

theorem nth_dropN : ∀ (n i : Nat) (s : σ), nth next i (dropN next n s) = nth next (n + i) s := by
  intro n
  induction n with
  | zero => intro i s; rw [Nat.zero_add]; rfl
  | succ n ih =>
    intro i s
    rw [Nat.add_right_comm]
    conv => rhs; unfold nth
    cases h : next s with
    | none =>
      simp only [dropN, h]
      unfold nth
      simp only [h]
    | some p =>
      simp only [dropN, h]
      exact ih i p.2

theorem takeN_of_unfolds {s : σ} {l : List β} (h : Unfolds next s l) :
    ∀ n, takeN next n s = l.take n := by
  induction h with
  | done h => intro n; cases n <;> simp [takeN, h]
  | step h _ ih =>
    intro n
    cases n with
    | zero => simp [takeN]
    | succ n => simp [takeN, h, ih n]

theorem dropN_unfolds {s : σ} {l : List β} (h : Unfolds next s l) :
    ∀ n, Unfolds next (dropN next n s) (l.drop n) := by
  induction h with
  | done h => intro n; cases n <;> simp [dropN, h] <;> exact .done h
  | step h t ih =>
    intro n
    cases n with
    | zero => simpa [dropN] using Unfolds.step h t
    | succ n => simpa [dropN, h] using ih n

theorem memLoop_of_unfolds [DecidableEq β] {s : σ} {l : List β} (a : β) (h : Unfolds next s l) :
    ∀ fuel, l.length ≤ fuel → memLoop next a fuel s = some (decide (a ∈ l)) := by
  induction h with
  | done h => intro fuel _; unfold memLoop; simp [h]
  | @step s v s' l h _ ih =>
    intro fuel hf
    unfold memLoop
    simp only [h]
    by_cases hv : v = a
    · simp [hv]
    · cases fuel with
      | zero => simp at hf
      | succ f =>
        have hne : ¬ a = v := fun e => hv e.symm
        simp [hv, hne, ih f (by simpa using hf)]

theorem takeWhileLoop_of_unfolds (p : β → Bool) {s : σ} {l : List β} (h : Unfolds next s l) :
    ∀ fuel, l.length ≤ fuel → Strm.takeWhileLoop next p fuel s = some (l.takeWhile p) := by
  induction h with
  | done h => intro fuel _; unfold Strm.takeWhileLoop; simp [h]
  | @step s v s' l h _ ih =>
    intro fuel hf
    unfold Strm.takeWhileLoop
    simp only [h]
    cases hp : p v with
    | false => simp [List.takeWhile, hp]
    | true =>
      cases fuel with
      | zero => simp at hf
      | succ f => simp [List.takeWhile, hp, ih f (by simpa using hf)]

end Iter

/-! ## Python slicing: `pythonic_slice` clamps both bounds into `0 … len`, the Spec selects the
positions between the normalised bounds; the two agree because clamping a bound is normalising it
and cutting the result to `0 … len`, and a slice does not see the part of a bound beyond the length -/

theorem filter_zipIdx_eq {α} (l : List α) (k a b : Nat) :
    ((l.zipIdx k).filter fun p => decide (a ≤ p.2 ∧ p.2 < b)).map Prod.fst =
      (l.drop (a - k)).take (b - max a k) := by
  induction l generalizing k with
  | nil => simp
  | cons x xs ih =>
    -- the head has index `k`: before `a` it is skipped, from `b` on nothing more is taken
    rw [List.zipIdx_cons]
    by_cases hak : a ≤ k
    · rw [Nat.sub_eq_zero_of_le hak, Nat.max_eq_right hak, List.drop_zero]
      have ih := ih (k + 1)
      rw [Nat.sub_eq_zero_of_le (Nat.le_succ_of_le hak), Nat.max_eq_right (Nat.le_succ_of_le hak),
        List.drop_zero] at ih
      by_cases hkb : k < b
      · rw [List.filter_cons_of_pos (by simpa using ⟨hak, hkb⟩), List.map_cons, ih,
          ← Nat.succ_pred_eq_of_pos (Nat.sub_pos_of_lt hkb)]
        rfl
      · rw [List.filter_cons_of_neg (by simpa using fun _ => Nat.le_of_not_lt hkb), ih,
          Nat.sub_eq_zero_of_le (Nat.le_of_not_lt hkb),
          Nat.sub_eq_zero_of_le (Nat.le_succ_of_le (Nat.le_of_not_lt hkb))]
        rfl
    · have hka := Nat.lt_of_not_le hak
      rw [List.filter_cons_of_neg (by simpa using fun h => absurd h hak), ih (k + 1),
        Nat.max_eq_left (Nat.le_of_lt hka), Nat.max_eq_left hka,
        ← Nat.succ_pred_eq_of_pos (Nat.sub_pos_of_lt hka)]
      rfl

theorem positions_between {α} (l : List α) (a b : Int) :
    ((l.zipIdx 0).filter fun p => decide (a ≤ (p.2 : Int) ∧ (p.2 : Int) < b)).map Prod.fst =
      (l.drop a.toNat).take (b.toNat - a.toNat) := by
  have h := filter_zipIdx_eq l 0 a.toNat b.toNat
  rw [Nat.sub_zero, Nat.max_zero] at h
  rw [← h]
  congr 1
  apply List.filter_congr
  intro p _
  exact decide_eq_decide.mpr (and_congr Int.toNat_le.symm Int.lt_toNat.symm)

theorem clampIdx_eq (n : Nat) (i : Int) : clampIdx n i = min (norm n i).toNat n := by
  unfold clampIdx norm
  by_cases hi : 0 ≤ i
  · rw [if_pos hi, if_neg (Int.not_lt.mpr hi)]
  · rw [if_neg hi, if_pos (Int.not_le.mp hi)]
    dsimp only
    split
    · rename_i h
      rw [Int.toNat_eq_zero.mpr (Int.le_of_lt h), Nat.zero_min]
    · exact (Nat.min_eq_left (Int.toNat_le.mpr (by omega))).symm

theorem sliceList_clamp {α} (l : List α) {x y lo hi : Nat}
    (hlo : lo = min x l.length) (hhi : hi = min y l.length) :
    sliceList l lo (max hi lo) = (l.drop x).take (y - x) := by
  subst hlo hhi
  unfold sliceList
  by_cases hx : x ≤ l.length
  · -- `max hi lo - lo = hi - lo`, and a `take` sees its count only up to the length
    rw [Nat.min_eq_left hx, List.take_eq_take_iff, List.length_drop, ← Nat.sub_eq_max_sub,
      Nat.sub_min_sub_right, Nat.sub_min_sub_right, Nat.min_assoc, Nat.min_self]
  · have hx := Nat.le_of_not_le hx
    rw [Nat.min_eq_right hx, List.drop_eq_nil_of_le (Nat.le_refl _), List.drop_eq_nil_of_le hx,
      List.take_nil, List.take_nil]

/-- `pythonic_slice` + `drain(lo..hi)` is Python's `l[lo:hi]`, for every pair of bounds -/
theorem pySlice_spec {α} (l : List α) (lo hi : Option Int) :
    sliceList l (pySlice l.length lo hi).1 (pySlice l.length lo hi).2 = pySliceSpec l lo hi := by
  unfold pySliceSpec pySlice
  simp only []
  rw [positions_between]
  cases lo <;> cases hi
  · exact sliceList_clamp l (Nat.zero_min _).symm (Nat.min_self _).symm
  · exact sliceList_clamp l (Nat.zero_min _).symm (clampIdx_eq _ _)
  · exact sliceList_clamp l (clampIdx_eq _ _) (Nat.min_self _).symm
  · exact sliceList_clamp l (clampIdx_eq _ _) (clampIdx_eq _ _)

theorem norm_of_nonneg (n : Nat) {a : Int} (ha : 0 ≤ a) : norm n a = a :=
  if_neg (by omega)

/-- non-negative bounds need no normalising: the fast paths of `pythonic_slice` on a stream -/
theorem pySliceSpec_nonneg {α} (l : List α) {a b : Int} (ha : 0 ≤ a) (hb : 0 ≤ b) :
    pySliceSpec l (some a) (some b) = (l.drop a.toNat).take (b.toNat - a.toNat) := by
  refine (positions_between l (norm l.length a) (norm l.length b)).trans ?_
  rw [norm_of_nonneg _ ha, norm_of_nonneg _ hb]

theorem pySliceSpec_from {α} (l : List α) {a : Int} (ha : 0 ≤ a) :
    pySliceSpec l (some a) none = l.drop a.toNat := by
  refine (positions_between l (norm l.length a) l.length).trans ?_
  rw [norm_of_nonneg _ ha]
  apply List.take_of_length_le
  rw [List.length_drop]
  exact Nat.le_refl _

/-! ## the trait defaults on a stream that unfolds to `l` -/
section Defaults
variable {σ β : Type} {next : σ → Option (β × σ)}

/-- the Spec's reading of `s[i]`: Python indexing of the list, an index error outside -/
def idxRes (l : List β) (i : Int) : R β :=
  match pyIndex l i with
  | some v => .ok v
  | none => .throw

/-- a slice result has the right content: the list itself, or a stream that unfolds to it -/
def SliceOk (next : σ → Option (β × σ)) : SliceRes σ β → List β → Prop
  | .list l', m => l' = m
  | .strm s', m => Unfolds next s' m

theorem defaultLen_eq {bound : σ → Option Nat} {s : σ} {l : List β} {b : Nat}
    (h : Unfolds next s l) (hb : bound s = some b) (hle : l.length ≤ b) :
    defaultLen next bound s = .ok (some l.length) := by
  unfold defaultLen
  simp [hb, count_of_unfolds h b hle]

theorem defaultForce_eq {bound : σ → Option Nat} {s : σ} {l : List β} {b : Nat}
    (h : Unfolds next s l) (hb : bound s = some b) (hle : l.length ≤ b) :
    defaultForce next bound s = .ok l := by
  unfold defaultForce
  simp [hb, collect_of_unfolds h b hle]

theorem defaultIndex_eq {force : σ → R (List β)} {s : σ} {l : List β}
    (h : Unfolds next s l) (hf : force s = .ok l) (i : Int) :
    defaultIndex next force s i = idxRes l i := by
  unfold defaultIndex idxRes pyIndex
  by_cases hi : 0 ≤ i
  · simp only [hi, if_true, nth_of_unfolds h]
    cases l[i.toNat]? <;> rfl
  · simp only [hi, if_false, hf, R.bind, negIndex]
    by_cases h2 : 0 ≤ i + (l.length : Int)
    · have h3 : i + (l.length : Int) < (l.length : Int) := by omega
      simp only [h2, h3, and_self, if_true]
      cases l[(i + (l.length : Int)).toNat]? <;> rfl
    · simp [h2]

theorem defaultSlice_eq {force : σ → R (List β)} {s : σ} {l : List β}
    (h : Unfolds next s l) (hf : force s = .ok l) (lo hi : Option Int) :
    ∃ r, defaultSlice next force s lo hi = .ok r ∧ SliceOk next r (pySliceSpec l lo hi) := by
  -- a missing lower bound is the bound 0, in the code (`lo.getD 0`) and in the Spec
  have hspec : pySliceSpec l lo hi = pySliceSpec l (some (lo.getD 0)) hi := by
    cases lo <;> rfl
  rw [hspec]
  unfold defaultSlice
  generalize lo.getD 0 = a
  cases hi with
  | none =>
    by_cases ha : 0 ≤ a
    · refine ⟨.strm (dropN next a.toNat s), by simp [ha], ?_⟩
      rw [pySliceSpec_from l ha]
      exact dropN_unfolds h _
    · exact ⟨.list _, by simp [ha, hf, R.bind], pySlice_spec l _ _⟩
  | some b =>
    by_cases hab : 0 ≤ a ∧ 0 ≤ b
    · refine ⟨.list (takeN next (b.toNat - a.toNat) (dropN next a.toNat s)), by simp [hab], ?_⟩
      rw [pySliceSpec_nonneg l hab.1 hab.2]
      exact takeN_of_unfolds (dropN_unfolds h _) _
    · exact ⟨.list _, by simp [hab, hf, R.bind], pySlice_spec l _ _⟩

theorem defaultReversed_eq {force : σ → R (List β)} {s : σ} {l : List β} (hf : force s = .ok l) :
    defaultReversed force s = .ok (.list l.reverse : SliceRes σ β) := by
  simp [defaultReversed, hf, R.bind]

end Defaults

/-! ## coherence of one stream state with a list

`Coherent o s l`: every trait method of the stream type `o`, applied to the state `s`, answers what
the list `l` answers.  This is the content of C11 for one state; the per-type theorems establish it
for every reachable state of every finite stream type, the adaptor theorems propagate it. -/
structure Coherent {σ β : Type} (o : Ops σ β) (s : σ) (l : List β) : Prop where
  unfolds : Unfolds o.next s l
  bound : ∃ b, o.bound s = some b ∧ l.length ≤ b
  len : o.len s = .ok (some l.length)
  force : o.force s = .ok l
  peek : o.peek s = l.head?
  index : ∀ i, o.index s i = idxRes l i
  slice : ∀ lo hi, ∃ r, o.slice s lo hi = .ok r ∧ SliceOk o.next r (pySliceSpec l lo hi)
  reversed : o.reversed s = .ok (.list l.reverse)

/-- a type that overrides `len` and `force` (`WrappedVec`); index, slice and `reversed` are the trait
defaults -/
theorem coherent_build {σ β : Type} {next : σ → Option (β × σ)} {peek : σ → Option β}
    {bound : σ → Option Nat} {len : σ → R (Option Nat)} {force : σ → R (List β)} {s : σ} {l : List β}
    (h : Unfolds next s l) (hb : ∃ b, bound s = some b ∧ l.length ≤ b)
    (hlen : len s = .ok (some l.length)) (hforce : force s = .ok l) (hpeek : peek s = l.head?) :
    Coherent (Ops.build next peek bound len force) s l :=
  { unfolds := h, bound := hb, len := hlen, force := hforce, peek := hpeek
    index := defaultIndex_eq h hforce
    slice := defaultSlice_eq h hforce
    reversed := defaultReversed_eq hforce }

/-- a type that overrides nothing (`Combinations`, the lazy adaptors) -/
theorem coherent_plain {σ β : Type} {next : σ → Option (β × σ)} {peek : σ → Option β}
    {bound : σ → Option Nat} {s : σ} {l : List β}
    (h : Unfolds next s l) (hb : ∃ b, bound s = some b ∧ l.length ≤ b) (hpeek : peek s = l.head?) :
    Coherent (Ops.plain next peek bound) s l := by
  obtain ⟨b, hb1, hb2⟩ := hb
  exact coherent_build h ⟨b, hb1, hb2⟩ (defaultLen_eq h hb1 hb2) (defaultForce_eq h hb1 hb2) hpeek

/-- a type that overrides `len` only (`Range`, `Permutations`, `Subsequences`, `CartesianPower`) -/
theorem coherent_withLen {σ β : Type} {next : σ → Option (β × σ)} {peek : σ → Option β}
    {bound : σ → Option Nat} {len : σ → R (Option Nat)} {s : σ} {l : List β}
    (h : Unfolds next s l) (hb : ∃ b, bound s = some b ∧ l.length ≤ b)
    (hlen : len s = .ok (some l.length)) (hpeek : peek s = l.head?) :
    Coherent (Ops.withLen next peek bound len) s l := by
  obtain ⟨b, hb1, hb2⟩ := hb
  exact coherent_build h ⟨b, hb1, hb2⟩ hlen (defaultForce_eq h hb1 hb2) hpeek

theorem Coherent.drop_unfolds {σ β : Type} {o : Ops σ β} {s : σ} {l : List β} (h : Coherent o s l) (n : Nat) :
    ∃ r, o.slice s (some (n : Int)) none = .ok r ∧ SliceOk o.next r (l.drop n) := by
  have e := pySliceSpec_from l (Int.natCast_nonneg n)
  rw [Int.toNat_natCast] at e
  rw [← e]
  exact h.slice (some (n : Int)) none

/-! ## the consumers (`len`, `list`, index, slice, `reverse`, `first`/`last`, `in`, truthiness,
unpacking, take/drop-while) on a coherent stream equal the same operation on its list -/

/-- `peek` agrees with `next` in every state (a property of the stream *type*) -/
def PeekNext {σ β : Type} (o : Ops σ β) : Prop := ∀ s, o.peek s = (o.next s).map Prod.fst

section Consumers
variable {β : Type} {s : Strm β} {l : List β}

-- `h : Coherent o st l` does not determine the boxed `s` (it occurs only as `s.ops`, `s.st`): `have := len_eq h` is a type mismatch.
-- Name it, `len_eq (s := ⟨_, o, st⟩) h`, or use these where the goal already mentions `s` (`exact`, `rw [len_eq h]`).
theorem len_eq (h : Coherent s.ops s.st l) : s.len = .ok (some l.length) := h.len

theorem toList_eq (h : Coherent s.ops s.st l) : s.toList = .ok l := by
  obtain ⟨b, hb1, hb2⟩ := h.bound
  exact defaultForce_eq h.unfolds hb1 hb2

theorem index_eq (h : Coherent s.ops s.st l) (i : Int) : s.index i = idxRes l i := h.index i

theorem first_eq (h : Coherent s.ops s.st l) :
    s.index 0 = (match l.head? with | some v => .ok v | none => .throw) := by
  rw [index_eq h 0]
  unfold idxRes pyIndex
  cases l <;> simp

theorem last_eq (h : Coherent s.ops s.st l) :
    s.index (-1) = (match l.getLast? with | some v => .ok v | none => .throw) := by
  rw [index_eq h (-1)]
  unfold idxRes pyIndex
  cases hl : l with
  | nil => simp
  | cons x xs =>
    have h1 : ¬ (0 : Int) ≤ -1 := by decide
    have e : -1 + ((xs.length + 1 : Nat) : Int) = (xs.length : Int) := by
      rw [Int.natCast_succ, Int.add_comm, Int.add_neg_cancel_right]
    simp only [h1, if_false, e, Int.natCast_nonneg, if_true, Int.toNat_natCast, List.getLast?_eq_getElem?,
      List.length_cons, Nat.add_sub_cancel]

/-- the content of a slice / reversal result -/
def content (s : Strm β) : Sum (List β) (Strm β) → List β → Prop
  | .inl l', m => l' = m
  | .inr t, m => t.σ = s.σ ∧ Unfolds t.ops.next t.st m

theorem slice_eq (h : Coherent s.ops s.st l) (lo hi : Option Int) :
    ∃ r, s.slice lo hi = .ok r ∧
      (match r with
       | .inl l' => l' = pySliceSpec l lo hi
       | .inr t => Unfolds t.ops.next t.st (pySliceSpec l lo hi)) := by
  obtain ⟨r, hr, hok⟩ := h.slice lo hi
  refine ⟨s.ofSlice r, by simp [Strm.slice, hr, R.map, R.bind], ?_⟩
  cases r with
  | list l' => exact hok
  | strm s' => exact hok

theorem reversed_eq (h : Coherent s.ops s.st l) : s.reversed = .ok (.inl l.reverse) := by
  simp [Strm.reversed, h.reversed, R.map, R.bind, Strm.ofSlice]

theorem truthy_eq (h : Coherent s.ops s.st l) : s.truthy = .ok (!l.isEmpty) := by
  simp only [Strm.truthy, len_eq h, R.map, R.bind]
  cases l <;> simp

theorem only_eq (h : Coherent s.ops s.st l) :
    s.only = (match l with | [v] => .ok v | _ => .throw) := by
  simp only [Strm.only, len_eq h, R.bind]
  match l, h with
  | [], _ => rfl
  | [v], h => simpa [idxRes, pyIndex] using index_eq h 0
  | _ :: _ :: _, _ => rfl

theorem mem_eq [DecidableEq β] (h : Coherent s.ops s.st l) (a : β) :
    s.mem a = .ok (decide (a ∈ l)) := by
  obtain ⟨b, hb1, hb2⟩ := h.bound
  simp [Strm.mem, hb1, fuelOf, memLoop_of_unfolds a h.unfolds b hb2]

theorem unpack_eq (h : Coherent s.ops s.st l) (k : Nat) :
    s.unpack k = if k = l.length then .ok l else .throw := by
  simp only [Strm.unpack, len_eq h, R.bind, toList_eq h]
  by_cases hk : k = l.length
  · simp [hk]
  · simp [hk]

theorem unpackSplat_eq (h : Coherent s.ops s.st l) (a b : Nat) (hab : a + b ≤ l.length) :
    s.unpackSplat a b =
      .ok (l.take a, (l.drop a).take (l.length - a - b), l.drop (l.length - b)) := by
  simp [Strm.unpackSplat, len_eq h, R.bind, toList_eq h, hab]

theorem takeWhile_eq (h : Coherent s.ops s.st l) (p : β → Bool) :
    s.takeWhile p = .ok (l.takeWhile p) := by
  obtain ⟨b, hb1, hb2⟩ := h.bound
  simp [Strm.takeWhile, hb1, fuelOf, takeWhileLoop_of_unfolds p h.unfolds b hb2]

theorem dropWhileLoop_of_unfolds {σ : Type} {o : Ops σ β} (hp : PeekNext o) (p : β → Bool)
    {st : σ} (hu : Unfolds o.next st l) :
    ∀ fuel, l.length ≤ fuel →
      ∃ st', Strm.dropWhileLoop o p fuel st = some st' ∧ Unfolds o.next st' (l.dropWhile p) := by
  induction hu with
  | @done st h =>
    intro fuel _
    refine ⟨st, ?_, .done h⟩
    unfold Strm.dropWhileLoop
    simp [hp st, h]
  | @step st v st' l h t ih =>
    intro fuel hf
    unfold Strm.dropWhileLoop
    simp only [hp st, h, Option.map]
    cases hv : p v with
    | false =>
      refine ⟨st, by simp, ?_⟩
      simp only [List.dropWhile, hv]
      exact .step h t
    | true =>
      cases fuel with
      | zero => simp at hf
      | succ f =>
        obtain ⟨st'', h1, h2⟩ := ih f (by simpa using hf)
        refine ⟨st'', by simpa using h1, ?_⟩
        simpa [List.dropWhile, hv] using h2

theorem dropWhile_eq (h : Coherent s.ops s.st l) (hp : PeekNext s.ops) (p : β → Bool) :
    ∃ t, s.dropWhile p = .ok t ∧ Unfolds t.ops.next t.st (l.dropWhile p) := by
  obtain ⟨b, hb1, hb2⟩ := h.bound
  obtain ⟨st', h1, h2⟩ := dropWhileLoop_of_unfolds hp p h.unfolds b hb2
  exact ⟨{ s with st := st' }, by simp [Strm.dropWhile, hb1, fuelOf, h1], h2⟩

end Consumers

/-! ## hereditary finiteness: the stream unfolds to `l` and the model's fuel bound is sufficient in
every state on the way (what the adaptors need from their inner streams) -/

inductive UnfoldsB {σ β : Type} (o : Ops σ β) : σ → List β → Prop where
  | done {s} : o.next s = none → (∃ b, o.bound s = some b) → UnfoldsB o s []
  | step {s v s' l} : o.next s = some (v, s') → (∃ b, o.bound s = some b ∧ (v :: l).length ≤ b) →
      UnfoldsB o s' l → UnfoldsB o s (v :: l)

section Families
variable {σ β : Type} {o : Ops σ β}

theorem UnfoldsB.unfolds {s : σ} {l : List β} (h : UnfoldsB o s l) : Unfolds o.next s l := by
  induction h with
  | done h _ => exact .done h
  | step h _ _ ih => exact .step h ih

theorem UnfoldsB.bound {s : σ} {l : List β} (h : UnfoldsB o s l) :
    ∃ b, o.bound s = some b ∧ l.length ≤ b := by
  cases h with
  | done _ hb => obtain ⟨b, hb⟩ := hb; exact ⟨b, hb, by simp⟩
  | step _ hb _ => exact hb

theorem UnfoldsB.coherent_plain {next : σ → Option (β × σ)} {peek : σ → Option β}
    {bound : σ → Option Nat} {s : σ} {l : List β} (h : UnfoldsB (Ops.plain next peek bound) s l)
    (hp : PeekNext (Ops.plain next peek bound)) : Coherent (Ops.plain next peek bound) s l :=
  C11.coherent_plain h.unfolds h.bound ((hp s).trans (unfolds_head h.unfolds))

theorem UnfoldsB.drop {o : Ops σ β} {s : σ} {l : List β} (h : UnfoldsB o s l) :
    ∀ n, UnfoldsB o (dropN o.next n s) (l.drop n) := by
  induction h with
  | done h hb => intro n; cases n <;> simp [dropN, h] <;> exact .done h hb
  | step h hb t ih =>
    intro n
    cases n with
    | zero => simpa [dropN] using UnfoldsB.step h hb t
    | succ n => simpa [dropN, h] using ih n

/-- a closed form of the remaining elements, within the bound in every state -/
theorem unfoldsB_of_equation (E : σ → List β) (P : σ → Prop)
    (hnone : ∀ s, P s → o.next s = none → E s = [])
    (hsome : ∀ s v s', P s → o.next s = some (v, s') → E s = v :: E s' ∧ P s')
    (hb : ∀ s, P s → ∃ b, o.bound s = some b ∧ (E s).length ≤ b) :
    ∀ s, P s → UnfoldsB o s (E s) := by
  intro s
  induction h : (E s).length using Nat.strongRecOn generalizing s with
  | ind n ih =>
    intro hp
    have hbs := hb s hp
    cases hn : o.next s with
    | none => rw [hnone s hp hn]; exact .done hn (hbs.imp fun _ h => h.1)
    | some p =>
      obtain ⟨e, hp'⟩ := hsome s p.1 p.2 hp hn
      rw [e] at h hbs ⊢
      exact .step hn hbs (ih (E p.2).length (h ▸ Nat.lt_succ_self _) p.2 rfl hp')

/-- no closed form, but a measure that `next` lowers and that is the model's bound -/
theorem unfoldsB_of_decreasing (m : σ → Nat) (P : σ → Prop)
    (hstep : ∀ s v s', P s → o.next s = some (v, s') → P s' ∧ m s' < m s)
    (hb : ∀ s, P s → o.bound s = some (m s)) :
    ∀ s, P s → ∃ l, UnfoldsB o s l := by
  intro s
  induction h : m s using Nat.strongRecOn generalizing s with
  | ind n ih =>
    intro hp
    subst h
    cases hn : o.next s with
    | none => exact ⟨[], .done hn ⟨_, hb s hp⟩⟩
    | some p =>
      obtain ⟨hp', hlt⟩ := hstep s p.1 p.2 hp hn
      obtain ⟨l, hl⟩ := ih (m p.2) hlt p.2 rfl hp'
      -- the tail stays within its own bound `m p.2`, which is below `m s`
      obtain ⟨b, e, hlen⟩ := hl.bound
      obtain rfl := Option.some.inj ((hb p.2 hp').symm.trans e)
      exact ⟨p.1 :: l, .step hn ⟨_, hb s hp, Nat.lt_of_le_of_lt hlen hlt⟩ hl⟩

/-! ## every position reached by dropping a prefix answers for its own remaining elements -/

theorem family_dropN (F : σ → Prop)
    (hclosed : ∀ s v s', F s → o.next s = some (v, s') → F s') :
    ∀ k s, F s → F (dropN o.next k s) := by
  intro k
  induction k with
  | zero => intro s h; exact h
  | succ k ih =>
    intro s h
    simp only [dropN]
    cases hn : o.next s with
    | none => exact h
    | some p => exact ih p.2 (hclosed s p.1 p.2 h hn)

/-- In a family of states closed under `next` in which every state is coherent with the list it unfolds
to, the state reached from `s` by dropping `k` elements (`s drop k`, `s[k:]`, `tail`) is coherent
with `l.drop k`; in particular its `len` is `len s - k` (and 0 once exhausted), whatever was observed
on `s` before — the model has no place where an earlier observation could be remembered. -/
theorem coherent_drop_of_family {σ β : Type} {o : Ops σ β} (F : σ → Prop)
    (hclosed : ∀ s v s', F s → o.next s = some (v, s') → F s')
    (hcoh : ∀ s, F s → ∃ l, Coherent o s l) {s : σ} {l : List β} (hF : F s)
    (h : Coherent o s l) (k : Nat) :
    Coherent o (dropN o.next k s) (l.drop k) ∧
      o.len (dropN o.next k s) = .ok (some (l.length - k)) := by
  obtain ⟨l', h'⟩ := hcoh _ (family_dropN F hclosed k s hF)
  have e : l' = l.drop k := Unfolds.functional h'.unfolds (dropN_unfolds h.unfolds k)
  subst e
  exact ⟨h', by rw [h'.len, List.length_drop]⟩

/-- the same through the consumer: `s[k:]` is a stream whose `len` is `len s - k` -/
theorem slice_tail_len {σ β : Type} {o : Ops σ β} (F : σ → Prop)
    (hclosed : ∀ s v s', F s → o.next s = some (v, s') → F s')
    (hcoh : ∀ s, F s → ∃ l, Coherent o s l) {s : σ} {l : List β} (hF : F s)
    (h : Coherent o s l) (k : Nat)
    (hslice : o.slice s (some (k : Int)) none = .ok (.strm (dropN o.next k s))) :
    ∃ t, o.slice s (some (k : Int)) none = .ok (.strm t) ∧ o.len t = .ok (some (l.length - k)) :=
  ⟨_, hslice, (coherent_drop_of_family F hclosed hcoh hF h k).2⟩

/-- for the types that use the default `pythonic_slice`, `s[k:]` *is* the dropped state -/
theorem build_slice_tail {σ β : Type} (next : σ → Option (β × σ)) (peek : σ → Option β)
    (bound : σ → Option Nat) (len : σ → R (Option Nat)) (force : σ → R (List β)) (s : σ) (k : Nat) :
    (Ops.build next peek bound len force).slice s (some (k : Int)) none = .ok (.strm (dropN next k s)) := by
  show defaultSlice next force s (some (k : Int)) none = _
  unfold defaultSlice
  have : (0 : Int) ≤ (k : Int) := by omega
  simp [this]

/-! ## counters

`Subsequences`, `CartesianPower` and `Permutations` keep an optional index vector, step it with a
successor function and override `len` by a closed form of the vector.  What their theorems share:
on the states `P`, which `next` does not leave, `cnt` is the number of elements still to come —
`next` lowers it by one, it is 0 at the end — and it is the model's fuel bound. -/
structure Counter (o : Ops σ β) (P : σ → Prop) (cnt : σ → Nat) : Prop where
  step : ∀ s v s', P s → o.next s = some (v, s') → P s' ∧ cnt s = cnt s' + 1
  stop : ∀ s, P s → o.next s = none → cnt s = 0
  bound : ∀ s, P s → o.bound s = some (cnt s)

namespace Counter
variable {P : σ → Prop} {cnt : σ → Nat}

theorem closed (c : Counter o P cnt) (s : σ) (v : β) (s' : σ) (hs : P s)
    (h : o.next s = some (v, s')) : P s' :=
  (c.step s v s' hs h).1

theorem length_eq (c : Counter o P cnt) {s : σ} {l : List β} (h : Unfolds o.next s l) (hs : P s) :
    l.length = cnt s := by
  induction h with
  | done h => exact (c.stop _ hs h).symm
  | step h _ ih =>
    obtain ⟨hs', e⟩ := c.step _ _ _ hs h
    rw [e, ← ih hs']
    rfl

theorem unfoldsB (c : Counter o P cnt) {s : σ} (hs : P s) : ∃ l, UnfoldsB o s l ∧ l.length = cnt s := by
  obtain ⟨l, hB⟩ := unfoldsB_of_decreasing cnt P
    (fun s v s' hs h => ⟨c.closed s v s' hs h, Nat.lt_of_lt_of_eq (Nat.lt_succ_self _) (c.step s v s' hs h).2.symm⟩)
    c.bound s hs
  exact ⟨l, hB, c.length_eq hB.unfolds hs⟩

theorem and (c : Counter o P cnt) {Q : σ → Prop}
    (hQ : ∀ s v s', P s → Q s → o.next s = some (v, s') → Q s') :
    Counter o (fun s => P s ∧ Q s) cnt where
  step s v s' hs h := ⟨⟨c.closed s v s' hs.1 h, hQ s v s' hs.1 hs.2 h⟩, (c.step s v s' hs.1 h).2⟩
  stop s hs := c.stop s hs.1
  bound s hs := c.bound s hs.1

/-- Where the list itself is wanted (here, and after `unfoldsB_of_decreasing`): for a closed form with `hE : Unfolds next s (E s)`,
`Unfolds.functional h.unfolds hE` rewrites it to `E s`, as in `coherent_drop_of_family`. -/
theorem coherent {next : σ → Option (β × σ)} {peek : σ → Option β} {bound : σ → Option Nat}
    {len : σ → R (Option Nat)} (c : Counter (Ops.withLen next peek bound len) P cnt)
    (hpeek : PeekNext (Ops.withLen next peek bound len))
    (hlen : ∀ s, P s → len s = .ok (some (cnt s))) {s : σ} (hs : P s) :
    ∃ l, Coherent (Ops.withLen next peek bound len) s l ∧ l.length = cnt s := by
  obtain ⟨l, hB, hl⟩ := c.unfoldsB hs
  refine ⟨l, coherent_withLen hB.unfolds hB.bound ?_ ((hpeek s).trans (unfolds_head hB.unfolds)), hl⟩
  rw [hlen s hs, hl]

end Counter
end Families

/-- one round of the checked arithmetic of a `len` loop with state `(cur, sum)` and invariant
`sum < cur`: `t` is the term added to `sum`, `c'` the next `cur`, `M` the largest `usize` -/
theorem lenLoop_step {M sum cur t c' : Nat} (h1 : sum + 1 ≤ cur) (ht : t + cur ≤ c') (hc : c' ≤ M) :
    t ≤ M ∧ sum + t ≤ M ∧ sum + t + 1 ≤ c' := by
  have h : sum + t + 1 ≤ c' := by
    rw [Nat.add_right_comm, Nat.add_comm]
    exact Nat.le_trans (Nat.add_le_add_left h1 t) ht
  exact ⟨Nat.le_trans (Nat.le_add_right t cur) (Nat.le_trans ht hc),
    Nat.le_trans (Nat.le_succ _) (Nat.le_trans h hc), h⟩

end Noulith.C11
