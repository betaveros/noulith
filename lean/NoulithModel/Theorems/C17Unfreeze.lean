/-
C17 — un-freezing.  `unfz N e'` puts the identifier `N i` back in place of the node
`Frozen i` (for the indices `N` knows); `US` applies it to the bodies of the closures held by the
FUNCTION-NAME variables (`Fn`) of a store.  This file: the definitions and the commutation of the store
operations with `US`.  The simulation itself: Theorems/C17Closures.lean (statements), C17ClosuresEval.lean.
-/
import NoulithModel.Theorems.C17Sim
import NoulithModel.Theorems.C17Frames

namespace Noulith.C17Unfreeze
open Noulith Noulith.Core Noulith.C17Frames

mutual
  def unfz (N : Nat → Option String) : Expr → Expr
    | .frozen i => match N i with | some x => .ident x | none => .frozen i
    | .list xs => .list (unfzL N xs)
    | .op n a b => .op n (unfz N a) (unfz N b)
    | .index a b => .index (unfz N a) (unfz N b)
    | .call f args => .call (unfz N f) (unfzL N args)
    | .and_ a b => .and_ (unfz N a) (unfz N b)
    | .or_ a b => .or_ (unfz N a) (unfz N b)
    | .coalesce a b => .coalesce (unfz N a) (unfz N b)
    | .seq xs semi => .seq (unfzL N xs) semi
    | .ite c t e => .ite (unfz N c) (unfz N t) (unfzO N e)
    | .while_ c b => .while_ (unfz N c) (unfz N b)
    | .for_ its body => .for_ (unfzI N its) (unfzB N body)
    | .declare p rhs => .declare p (unfz N rhs)
    | .assign x rhs => .assign x (unfz N rhs)
    | .opassign x o rhs => .opassign x o (unfz N rhs)
    | .lambda ps body => .lambda ps (unfz N body)
    | .brk k e => .brk k (unfzO N e)
    | .ret e => .ret (unfzO N e)
    | .throw_ e => .throw_ (unfz N e)
    | .try_ b p c => .try_ (unfz N b) p (unfz N c)
    | .switch_ sc arms => .switch_ (unfz N sc) (unfzA N arms)
    | .null => .null
    | .int k => .int k
    | .str k => .str k
    | .ident x => .ident x
    | .cont k => .cont k
    | .evalSrc e => .evalSrc e
    | .freeze e => .freeze e
  def unfzL (N : Nat → Option String) : List Expr → List Expr
    | [] => []
    | x :: xs => unfz N x :: unfzL N xs
  def unfzO (N : Nat → Option String) : Option Expr → Option Expr
    | none => none
    | some x => some (unfz N x)
  def unfzI (N : Nat → Option String) : List ForIt → List ForIt
    | [] => []
    | .guard g :: rest => .guard (unfz N g) :: unfzI N rest
    | .iter k p e :: rest => .iter k p (unfz N e) :: unfzI N rest
  def unfzB (N : Nat → Option String) : ForBody → ForBody
    | .exec e => .exec (unfz N e)
    | .yield e into => .yield (unfz N e) (unfzO N into)
    | .yieldItem k v into => .yieldItem (unfz N k) (unfz N v) (unfzO N into)
  def unfzA (N : Nat → Option String) : List SwitchArm → List SwitchArm
    | [] => []
    | .mk p body :: rest => .mk p (unfz N body) :: unfzA N rest
end

variable (Fn : List String) (N : Nat → Option String)

def Uclos : Val → Val
  | .closure ps b env => .closure ps (unfz N b) env
  | v => v

/-- on a variable: only function-name variables are touched -/
def UVal (y : String) (v : Val) : Val := if Fn.contains y then Uclos N v else v

def UVars (vars : List (String × Val)) : List (String × Val) := vars.map fun yv => (yv.1, UVal Fn N yv.1 yv.2)

def UFrame (fr : Frame) : Frame := { fr with vars := UVars Fn N fr.vars }

def USF (fs : Array Frame) : Array Frame := fs.map (UFrame Fn N)

def US (st : State) : State := { st with frames := USF Fn N st.frames }

variable {Fn N}

theorem UVal_data {y : String} (h : y ∉ Fn) (v : Val) : UVal Fn N y v = v := by
  unfold UVal
  have : Fn.contains y = false := by simpa using h
  rw [this]; rfl

theorem UVal_fn {y : String} (h : y ∈ Fn) (v : Val) : UVal Fn N y v = Uclos N v := by
  unfold UVal
  have : Fn.contains y = true := by simpa using h
  rw [this]; rfl

theorem UVal_null (y : String) : UVal Fn N y .null = .null := by
  unfold UVal; split <;> rfl

theorem USF_size (fs : Array Frame) : (USF Fn N fs).size = fs.size := Array.size_map ..

theorem USF_get (fs : Array Frame) (i : Nat) : (USF Fn N fs)[i]? = fs[i]?.map (UFrame Fn N) :=
  Array.getElem?_map ..

theorem lookupIn_U (vars : List (String × Val)) (y : String) :
    lookupIn (UVars Fn N vars) y = (lookupIn vars y).map (UVal Fn N y) := by
  induction vars with
  | nil => rfl
  | cons kv rest ih =>
    obtain ⟨k, w⟩ := kv
    by_cases hk : k = y
    · subst hk; simp [UVars, lookupIn]
    · simp only [UVars, List.map_cons, lookupIn, hk, ↓reduceIte] at ih ⊢; exact ih

theorem setIn_U (vars : List (String × Val)) (y : String) (v : Val) :
    setIn (UVars Fn N vars) y (UVal Fn N y v) = UVars Fn N (setIn vars y v) := by
  induction vars with
  | nil => rfl
  | cons kv rest ih =>
    obtain ⟨k, w⟩ := kv
    by_cases hk : k = y
    · subst hk; simp [UVars, setIn]
    · simp only [UVars, List.map_cons, setIn, hk, ↓reduceIte, List.cons.injEq, true_and] at ih ⊢; exact ih

/-- a closure has a type whatever its code is: `hasType` looks at the constructor only -/
theorem hasType_closure_iff (t : Val) (ps : List Param) (b : Expr) (e : Nat) :
    hasType t (.closure ps b e) = true ↔ t = .builtin "func" ∨ t = .builtin "anything" := by
  generalize hv : Val.closure ps b e = v
  fun_cases hasType t v
  case case9 => exact ⟨fun _ => .inl rfl, fun _ => rfl⟩
  case case12 => exact ⟨fun _ => .inr rfl, fun _ => rfl⟩
  case case13 hany _ _ _ _ _ _ _ _ hfunc _ _ =>
    exact ⟨nofun, fun h => (h.elim (hfunc _ _ _ · hv.symm) hany).elim⟩
  all_goals cases hv

theorem hasType_Uclos (t v : Val) : hasType t (Uclos N v) = hasType t v := by
  cases v with
  | closure ps b e =>
    exact Bool.eq_iff_iff.mpr ((hasType_closure_iff ..).trans (hasType_closure_iff ..).symm)
  | _ => rfl

theorem typeOk_U (tys : List (String × Val)) (y : String) (v : Val) :
    typeOk tys y (UVal Fn N y v) = typeOk tys y v := by
  unfold typeOk UVal
  cases lookupIn tys y with
  | none => rfl
  | some t => dsimp only; split <;> simp [hasType_Uclos]

theorem lookupVar_U (fs : Array Frame) (y : String) : ∀ (fuel env : Nat),
    lookupVar (USF Fn N fs) fuel env y = (lookupVar fs fuel env y).map (UVal Fn N y) := by
  intro fuel
  induction fuel with
  | zero => intro env; rfl
  | succ k ih =>
    intro env
    unfold lookupVar
    rw [USF_get]
    cases fs[env]? with
    | none => rfl
    | some fr =>
      simp only [Option.map_some, UFrame, lookupIn_U]
      cases lookupIn fr.vars y with
      | some v => rfl
      | none =>
        simp only [Option.map_none]
        cases fr.parent with
        | none => rfl
        | some p => exact ih p

theorem USF_set (fs : Array Frame) (j : Nat) (fr : Frame) :
    USF Fn N (fs.setIfInBounds j fr) = (USF Fn N fs).setIfInBounds j (UFrame Fn N fr) :=
  Array.map_setIfInBounds

theorem assignVar_U (fs : Array Frame) (y : String) (v : Val) : ∀ (fuel env : Nat),
    assignVar (USF Fn N fs) fuel env y (UVal Fn N y v) = (assignVar fs fuel env y v).map (USF Fn N) := by
  intro fuel
  induction fuel with
  | zero => intro env; rfl
  | succ k ih =>
    intro env
    unfold assignVar
    rw [USF_get]
    cases fs[env]? with
    | none => rfl
    | some fr =>
      simp only [Option.map_some, UFrame, lookupIn_U, typeOk_U]
      cases lookupIn fr.vars y with
      | some w =>
        simp only [Option.map_some]
        split
        · simp only [Option.map_some, USF_set, UFrame, setIn_U]
        · rfl
      | none =>
        simp only [Option.map_none]
        cases fr.parent with
        | none => rfl
        | some p => exact ih p

theorem dropVar_U (fs : Array Frame) (y : String) : ∀ (fuel env : Nat),
    dropVar (USF Fn N fs) fuel env y = (dropVar fs fuel env y).map (USF Fn N) := by
  intro fuel
  induction fuel with
  | zero => intro env; rfl
  | succ k ih =>
    intro env
    unfold dropVar
    rw [USF_get]
    cases fs[env]? with
    | none => rfl
    | some fr =>
      simp only [Option.map_some, UFrame, lookupIn_U]
      cases lookupIn fr.vars y with
      | some w =>
        simp only [Option.map_some, USF_set, UFrame]
        rw [← setIn_U fr.vars y .null, UVal_null]
      | none =>
        simp only [Option.map_none]
        cases fr.parent with
        | none => rfl
        | some p => exact ih p

theorem declareVar_U (fs : Array Frame) (env : Nat) (y : String) (v : Val) :
    declareVar (USF Fn N fs) env y (UVal Fn N y v) = (declareVar fs env y v).map (USF Fn N) := by
  unfold declareVar
  rw [USF_get]
  cases fs[env]? with
  | none => rfl
  | some fr =>
    simp only [Option.map_some, UFrame, lookupIn_U]
    cases lookupIn fr.vars y with
    | some w => rfl
    | none =>
      simp only [Option.map_none, Option.map_some, USF_set, UFrame]
      simp [UVars]

theorem newFrame_U (st : State) (env : Nat) :
    newFrame (US Fn N st) env = (US Fn N (newFrame st env).1, (newFrame st env).2) := by
  simp only [newFrame, US, USF, Array.map_push, Array.size_map, UFrame, UVars, List.map_nil]

theorem US_frames (st : State) : (US Fn N st).frames = USF Fn N st.frames := rfl

theorem lookup_U (st : State) (env : Nat) (y : String) :
    (US Fn N st).lookup env y = (st.lookup env y).map (UVal Fn N y) := by
  unfold State.lookup
  rw [US_frames, USF_size]
  exact lookupVar_U st.frames y _ env

/-- declaring a DATA pattern (none of its names is a function name) -/
theorem declarePat_U (env : Nat) : ∀ (fuel : Nat) (st : State) (p : Pat) (v : Val),
    (∀ x, x ∈ Pat.idents p → x ∉ Fn) →
    declarePat fuel (US Fn N st) env p v =
      ((declarePat fuel st env p v).1, US Fn N (declarePat fuel st env p v).2) := by
  refine declarePat_comm (US Fn N) (· ∉ Fn) env (fun k st x v hx => ?_)
  have := declareVar_U (Fn := Fn) (N := N) st.frames env x v
  rw [UVal_data hx] at this
  simp only [declarePat, US_frames, this]
  cases declareVar st.frames env x v <;> rfl

/-- declaring a FUNCTION name -/
theorem declareFn_U (env : Nat) (fuel : Nat) (st : State) (f : String) (hf : f ∈ Fn) (v : Val) :
    declarePat (fuel + 1) (US Fn N st) env (.ident f) (Uclos N v) =
      ((declarePat (fuel + 1) st env (.ident f) v).1, US Fn N (declarePat (fuel + 1) st env (.ident f) v).2) := by
  have := declareVar_U (Fn := Fn) (N := N) st.frames env f v
  rw [UVal_fn hf] at this
  simp only [declarePat, US_frames, this]
  cases declareVar st.frames env f v with
  | none => rfl
  | some fs => rfl

theorem US_framesOnly : C17Sim.FramesOnly (US Fn N) := ⟨USF Fn N, fun _ => rfl⟩

end Noulith.C17Unfreeze
