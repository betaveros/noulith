/-
C17 — the induction behind `unfreeze_commutes` (statements: Theorems/C17Closures.lean, whose namespace goes on
here).  An arm inverts `okC` and applies the rule of Theorems/C17Logic.lean for its construct; proved here, from the
invariant itself: the `Frozen` leaf, the declaration of a local function, the calls, the `into` clause.
-/
import NoulithModel.Theorems.C17Closures

namespace Noulith.C17Closures
open Noulith Noulith.Core Noulith.C17Closed Noulith.C17Frames Noulith.C17Unfreeze Noulith.C17Sim
open Noulith.C17Insensitive (localInto builtinAt_get)
open Noulith.C17Main (plainParams callState absorb callVal_plain)

variable {Fn F : List String} {T : List Val} {look : String → Option Val} {n : Nat} {N : Nat → Option String}

/-! ### leaves -/

theorem lookOf_U_data (st : State) (env : Nat) {y : String} (hy : y ∉ Fn) :
    lookOf (US Fn N st) env y = lookOf st env y := by
  simp only [lookOf, lookup_U_data st env hy]

/-- a `Frozen` node that `N` names: the identifier put back reads the value the node holds -/
theorem ev_frozen {k : Nat} (hy : Hyp Fn F T look N) (i : Nat) :
    (usLogic Fn F T look n N).toP.Ev (k + 1) () (unfz N (.frozen i)) (.frozen i) () := ⟨fun {st env} g => by
  simp only [unfz]
  cases hN : N i with
  | none => exact (PLogic.frozen i).sim g
  | some x =>
    obtain ⟨hxF, v, hTv, hlv⟩ := hy.names i x hN
    have hget : st.frozenTab[i]? = some v := C17Insensitive.prefix_get g.inv.tab hTv
    dsimp only
    rw [eval_ident_lookOf, lookOf_U_data st env (hy.disj x hxF), g.inv.agree env g.ge g.lt x hxF, hlv]
    simp only [eval, hget]
    exact PLogic.leaf g _⟩

/-- a `Frozen` node that holds a builtin, and what `N` may have put in its place -/
theorem builtin_frozen (hy : Hyp Fn F T look N) {i : Nat} (hb : C17Insensitive.builtinAt T i = true) (k : Nat) :
    (usLogic Fn F T look n N).toP.EvBuiltin k () (unfz N (.frozen i)) (.frozen i) :=
  PLogic.builtin_frozen (fun _ => ev_frozen hy i) fun g => builtinAt_get hb g.inv.tab

/-! ### local functions: their declaration, their calls -/

theorem plain_of_all {ps : List Param} (h : ps.all isPlain = true) : ps = plainParams (ps.map Param.name) := by
  induction ps with
  | nil => rfl
  | cons p rest ih =>
    simp only [List.all_cons, Bool.and_eq_true] at h
    obtain ⟨h1, h2⟩ := h
    obtain ⟨x, d, sp, a⟩ := p
    cases d <;> cases sp <;> cases a <;> simp [isPlain] at h1
    have := ih h2
    simp only [plainParams, List.map_cons, Param.name, List.cons.injEq, true_and] at this ⊢
    exact this

theorem okC_declare_data {p : Pat} {rhs : Expr} (hrhs : ∀ ps b, rhs ≠ .lambda ps b)
    (hok : okC Fn F T (.declare p rhs) = true) :
    dataNames Fn F (Pat.idents p) = true ∧ okC Fn F T rhs = true := by
  -- the equation of `okC` for `.declare p rhs` when the function-declaration arm above it does not apply
  rw [okC.eq_20 Fn F T p rhs (fun _ ps body _ h => hrhs ps body h), Bool.and_eq_true] at hok
  exact hok

/-- `f := \ps -> body` with `f` a function name: the variable gets a good closure -/
theorem ev_declare_fn {k : Nat} {f : String} {ps : List Param} {body : Expr}
    (hok : okC Fn F T (.declare (.ident f) (.lambda ps body)) = true) :
    (usLogic Fn F T look n N).toP.Ev (k + 1) () (unfz N (.declare (.ident f) (.lambda ps body)))
      (.declare (.ident f) (.lambda ps body)) () := ⟨fun {st env} g => by
  simp only [okC, Bool.and_eq_true, Bool.not_eq_true', List.contains_eq_mem, decide_eq_true_eq,
    decide_eq_false_iff_not] at hok
  obtain ⟨⟨⟨⟨hf, hfF⟩, hplain⟩, hdn⟩, hb⟩ := hok
  cases k with
  | zero =>
    simp only [unfz, eval]
    exact PLogic.leaf g _
  | succ m =>
    have hdf := declareFn_U (Fn := Fn) (N := N) env 1 st f hf (.closure ps body env)
    simp only [unfz, eval, patDepth]
    simp only [Uclos] at hdf
    rw [hdf]
    simp only [declarePat]
    cases hdv : declareVar st.frames env f (.closure ps body env) with
    | none => exact PLogic.leaf g _
    | some fs =>
      have hg : GoodClos Fn F T n st.frames.size (.closure ps body env) :=
        ⟨ps.map Param.name, body, env, by rw [← plain_of_all hplain], hb, hdn, g.ge, g.lt⟩
      exact ⟨rfl, .ofStep (L := usLogic Fn F T look n N) g ⟨g.inv.declareFn hdv hf hfF hg, Nat.le_of_eq (declareVar_step hdv).1.size.symm⟩⟩⟩

theorem lookupVar_mem (fs : Array Frame) (y : String) (v : Val) : ∀ (fuel env : Nat),
    lookupVar fs fuel env y = some v → ∃ (i : Nat) (fr : Frame), fs[i]? = some fr ∧ lookupIn fr.vars y = some v := by
  intro fuel
  induction fuel with
  | zero => intro env h; simp [lookupVar] at h
  | succ k ih =>
    intro env h
    unfold lookupVar at h
    cases hfr : fs[env]? with
    | none => simp [hfr] at h
    | some fr =>
      simp only [hfr] at h
      cases hl : lookupIn fr.vars y with
      | some w => simp only [hl, Option.some.injEq] at h; subst h; exact ⟨env, fr, hfr, hl⟩
      | none =>
        simp only [hl] at h
        cases hp : fr.parent with
        | none => simp [hp] at h
        | some p => simp only [hp] at h; exact ih p h

/-- a builtin, or a good closure: what a callee of the fragment evaluates to -/
def Callee (Fn F : List String) (T : List Val) (n sz : Nat) (v : Val) : Prop :=
  (∃ g, v = .builtin g) ∨ GoodClos Fn F T n sz v

theorem callee_call {k : Nat} (ih : Pres Fn F T look n N k) {vf : Val} {args : List Val} {st : State} {env0 : Nat}
    (hc : Callee Fn F T n st.frames.size vf) (j : J Fn F T look n st) :
    Sim (US Fn N) (fun _ s => Q Fn F T look n st s) (callVal k (US Fn N st) env0 (Uclos N vf) args)
      (callVal k st env0 vf args) := by
  rcases hc with ⟨g, rfl⟩ | hg
  · obtain ⟨hfr, htb⟩ := C17Preserve.callVal_builtin_frames k st env0 g args
    exact ⟨US_framesOnly.callVal k st env0 g args, j.frames_eq hfr htb, by rw [hfr]; exact Nat.le_refl _⟩
  · exact ih.call args env0 hg j

theorem callee_eval {k : Nat} (hy : Hyp Fn F T look N) {f : Expr} {args : List Expr} {st : State} {env : Nat}
    (hok : okC Fn F T (.call f args) = true) (g : JAt Fn F T look n st env) :
    okCL Fn F T args = true ∧
    ((eval k st env f = (.fuelOut, st) ∧ eval k (US Fn N st) env (unfz N f) = (.fuelOut, US Fn N st)) ∨
     (eval k st env f = (.thrown .err, st) ∧ eval k (US Fn N st) env (unfz N f) = (.thrown .err, US Fn N st)) ∨
     (∃ vf, eval k st env f = (.val vf, st) ∧ eval k (US Fn N st) env (unfz N f) = (.val (Uclos N vf), US Fn N st) ∧
        Callee Fn F T n st.frames.size vf)) := by
  cases f with
  | frozen i =>
    obtain ⟨hb, ha⟩ := Bool.and_eq_true_iff.mp hok
    refine ⟨ha, ?_⟩
    rcases builtin_frozen hy hb k g with ⟨h', h⟩ | ⟨fn, h', h⟩
    · exact .inl ⟨h, h'⟩
    · exact .inr (.inr ⟨.builtin fn, h, h', .inl ⟨fn, rfl⟩⟩)
  | ident h =>
    simp only [okC, Bool.and_eq_true, List.contains_eq_mem, decide_eq_true_eq] at hok
    refine ⟨hok.2, ?_⟩
    cases k with
    | zero => left; simp only [unfz, eval]; exact ⟨trivial, trivial⟩
    | succ m =>
      simp only [unfz, eval, lookup_U]
      cases hl : st.lookup env h with
      | none =>
        simp only [Option.map_none]
        by_cases hb : builtinNames.contains h = true
        · right; right
          exact ⟨.builtin h, by simp only [hb, ↓reduceIte], by simp only [hb, ↓reduceIte, Uclos], Or.inl ⟨h, rfl⟩⟩
        · right; left
          have hb' : h ∉ builtinNames := by simpa using hb
          exact ⟨by simp [hb'], by simp [hb']⟩
      | some v =>
        right; right
        obtain ⟨i, fr, hfr, hlv⟩ := lookupVar_mem st.frames h v _ env hl
        exact ⟨v, rfl, by simp only [Option.map_some, UVal_fn hok.1], Or.inr (g.inv.fnInv i fr h v hfr hok.1 hlv)⟩
  | _ => simp [okC] at hok

theorem ev_call {k : Nat} (ih : Pres Fn F T look n N k) (hy : Hyp Fn F T look N) {f : Expr} {args : List Expr}
    (hok : okC Fn F T (.call f args) = true) :
    (usLogic Fn F T look n N).toP.Ev (k + 1) () (.call (unfz N f) (unfzL N args)) (.call f args) () :=
  ⟨fun {st env} g => by
  obtain ⟨hargs, hcase⟩ := callee_eval (k := k) hy hok g
  rw [eval_call, eval_call]
  rcases hcase with ⟨h1, h2⟩ | ⟨h1, h2⟩ | ⟨vf, h1, h2, hc⟩
  · rw [h1, h2]
    exact PLogic.leaf g _
  · rw [h1, h2]
    exact PLogic.leaf g _
  · rw [h1, h2]
    refine ((ih.evList hargs).sim g).bindOk (fun vs s pl => ?_) fun _ _ _ pl => ⟨rfl, .ofStep g pl.step⟩
    have hc1 : Callee Fn F T n s.frames.size vf := hc.elim Or.inl fun h => Or.inr (h.mono pl.step.2)
    exact (callee_call ih hc1 pl.step.1).mono fun _ _ qc => .ofStep g (pl.step.trans qc)⟩

theorem absorb_U (r : Res × State) : absorb (r.1, US Fn N r.2) = ((absorb r).1, US Fn N (absorb r).2) := by
  obtain ⟨a, s⟩ := r
  cases a <;> rfl

theorem absorb_snd (r : Res × State) : (absorb r).2 = r.2 := by
  obtain ⟨a, s⟩ := r
  cases a <;> rfl

theorem call_step {k : Nat} (ih : Pres Fn F T look n N k) : CallClos Fn F T look n N (k + 1) := by
  intro v st args env0 hg j
  obtain ⟨names, b, cenv, rfl, hb, hdn, hge, hlt⟩ := hg
  have hszU : (US Fn N st).frames.size = st.frames.size := by rw [US_frames, USF_size]
  have qN : Q Fn F T look n st (newFrame st cenv).1 := ⟨j.fresh hge hlt, by simp [newFrame]⟩
  simp only [Uclos]
  cases k with
  | zero =>
    rw [callVal_plain_one, callVal_plain_one, newFrame_U]
    exact ⟨rfl, qN⟩
  | succ m =>
    by_cases hlen : args.length = names.length
    · rw [callVal_plain m (US Fn N st) env0 cenv names (unfz N b) args hlen,
        callVal_plain m st env0 cenv names b args hlen, hszU,
        callState_U Fn N st cenv names args (fun x hx => (dataNames_mem hdn hx).1)]
      have hszC : (callState st cenv names args).frames.size = st.frames.size + 1 :=
        C17Main.callState_size st cenv names args
      obtain ⟨eb, pb⟩ := (ih.ev hb).sim (st := callState st cenv names args) (env := st.frames.size)
        ⟨j.call args hge hlt hdn, Nat.le_trans hge (Nat.le_of_lt hlt), by rw [hszC]; omega⟩
      rw [eb, absorb_U]
      refine ⟨rfl, ?_⟩
      rw [absorb_snd]
      exact ⟨pb.step.1, by have := pb.step.2; rw [hszC] at this; omega⟩
    · rw [callVal_plain_bad m (US Fn N st) env0 cenv names (unfz N b) args hlen,
        callVal_plain_bad m st env0 cenv names b args hlen, newFrame_U]
      exact ⟨rfl, qN⟩

theorem dataNames_nil : dataNames Fn F [] = true := rfl

/-! ### the evaluator functions that split on the syntax: the checker inverted, then the rule -/

theorem list_step {k : Nat} (ih : Pres Fn F T look n N k) {es : List Expr} (hok : okCL Fn F T es = true) :
    (usLogic Fn F T look n N).toP.EvList (k + 1) () (unfzL N es) es () := by
  cases es with
  | nil => exact PLogic.list_nil
  | cons x xs =>
    obtain ⟨hx, hxs⟩ := Bool.and_eq_true_iff.mp hok
    exact PLogic.list_cons (ih.ev hx) (ih.evList hxs) trivial

theorem seq_step {k : Nat} (ih : Pres Fn F T look n N k) {es : List Expr} (hok : okCL Fn F T es = true) :
    (usLogic Fn F T look n N).toP.EvSeq (k + 1) () (unfzL N es) es () := by
  cases es with
  | nil => exact PLogic.seq_nil
  | cons x xs =>
    obtain ⟨hx, hxs⟩ := Bool.and_eq_true_iff.mp hok
    cases xs with
    | nil => exact PLogic.seq_one (ih.ev hx)
    | cons y ys => exact PLogic.seq_cons (ih.ev hx) (ih.evSeq hxs) trivial

theorem switch_step {k : Nat} (ih : Pres Fn F T look n N k) {arms : List SwitchArm} (hok : okCA Fn F T arms = true) :
    (usLogic Fn F T look n N).toP.EvSwitch (k + 1) () (unfzA N arms) arms := by
  cases arms with
  | nil => exact PLogic.switch_nil
  | cons a rest =>
    obtain ⟨p, body⟩ := a
    obtain ⟨hpb, hr⟩ := Bool.and_eq_true_iff.mp hok
    obtain ⟨hp, hb⟩ := Bool.and_eq_true_iff.mp hpb
    exact PLogic.switch_cons hp (ih.ev hb) (ih.evSwitch hr)

theorem body_step {k : Nat} (ih : Pres Fn F T look n N k) {body : ForBody} (hok : okCB Fn F T body = true) :
    (usLogic Fn F T look n N).toP.EvBody (k + 1) () (unfzB N body) body () := by
  cases body with
  | exec e => exact PLogic.body_exec (ih.ev (e := e) hok)
  | yield e into =>
    exact PLogic.body_yield (c2 := ()) _ _ (ih.ev (Bool.and_eq_true_iff.mp hok).1) trivial
  | yieldItem key v into =>
    obtain ⟨hkv, _⟩ := Bool.and_eq_true_iff.mp hok
    obtain ⟨hk, hv⟩ := Bool.and_eq_true_iff.mp hkv
    exact PLogic.body_item (c3 := ()) _ _ (ih.ev hk) (ih.ev hv) trivial trivial

theorem for_step {k : Nat} (ih : Pres Fn F T look n N k) {its : List ForIt} {body : ForBody}
    (hokI : okCI Fn F T its = true) (hokB : okCB Fn F T body = true) :
    (usLogic Fn F T look n N).toP.EvFor (k + 1) () (unfzI N its) (unfzB N body) its body () := by
  cases its with
  | nil => exact PLogic.for_nil (ih.fBody hokB)
  | cons it rest =>
    cases it with
    | guard gd =>
      obtain ⟨hg, hr⟩ := Bool.and_eq_true_iff.mp hokI
      exact PLogic.for_guard (ih.ev hg) (ih.evFor hr hokB) trivial
    | iter kind p e =>
      obtain ⟨hpe, hr⟩ := Bool.and_eq_true_iff.mp hokI
      obtain ⟨hp, he⟩ := Bool.and_eq_true_iff.mp hpe
      exact PLogic.for_iter kind (ih.ev he) hp (ih.evFor hr hokB) (ih.fItems hp hr hokB)

theorem into_ok (hy : Hyp Fn F T look N) {k : Nat} {o : Option Expr} (hok : localInto T o = true) :
    PLogic.IntoOk (usLogic Fn F T look n N).toP k () (unfzO N o) o := by
  rcases C17Insensitive.localInto_inv hok with rfl | ⟨i, rfl, hb⟩
  · exact .absent
  · exact .builtin (builtin_frozen hy hb)

/-! ### assembling -/

theorem eval_step {k : Nat} (ih : Pres Fn F T look n N k) (hy : Hyp Fn F T look N) {e : Expr}
    (hok : okC Fn F T e = true) : (usLogic Fn F T look n N).toP.Ev (k + 1) () (unfz N e) e () := by
  -- `unfz N` of a form computes to the same form of the un-frozen parts, which is what a rule is about
  cases e with
  | null => exact PLogic.null
  | int m => exact PLogic.int m
  | str m => exact PLogic.str m
  | cont m => exact PLogic.cont m
  | frozen i => exact ev_frozen hy i
  | ident x => exact PLogic.ident hok
  | list xs => exact PLogic.list (ih.evList hok)
  | op name a b =>
    obtain ⟨ha, hb⟩ := Bool.and_eq_true_iff.mp hok
    exact PLogic.op name (ih.ev ha) (ih.ev hb) trivial
  | index a b =>
    obtain ⟨ha, hb⟩ := Bool.and_eq_true_iff.mp hok
    exact PLogic.index (ih.ev ha) (ih.ev hb) trivial
  | call f args => exact ev_call ih hy hok
  | and_ a b =>
    obtain ⟨ha, hb⟩ := Bool.and_eq_true_iff.mp hok
    exact PLogic.and_ (ih.ev ha) (ih.ev hb) trivial
  | or_ a b =>
    obtain ⟨ha, hb⟩ := Bool.and_eq_true_iff.mp hok
    exact PLogic.or_ (ih.ev ha) (ih.ev hb) trivial
  | coalesce a b =>
    obtain ⟨ha, hb⟩ := Bool.and_eq_true_iff.mp hok
    exact PLogic.coalesce (ih.ev ha) (ih.ev hb) trivial
  | seq xs semi => exact PLogic.seq_ semi (ih.evSeq hok)
  | ite c t e =>
    obtain ⟨hct, he⟩ := Bool.and_eq_true_iff.mp hok
    obtain ⟨hc, ht⟩ := Bool.and_eq_true_iff.mp hct
    exact PLogic.ite (c2 := ()) (c3 := ()) (ih.ev hc) (ih.ev ht) trivial trivial
      (fun x hx => by subst hx; exact ⟨_, rfl, ih.ev (e := x) he⟩) fun h => by subst h; rfl
  | while_ c b =>
    obtain ⟨hc, hb⟩ := Bool.and_eq_true_iff.mp hok
    exact PLogic.while_ (ih.evWhile hc hb)
  | for_ its body =>
    obtain ⟨hi, hb⟩ := Bool.and_eq_true_iff.mp hok
    cases body with
    | exec e => exact PLogic.for_exec (ih.evFor hi hb)
    | yield e into => exact PLogic.for_yield (into_ok hy (Bool.and_eq_true_iff.mp hb).2) (ih.evFor hi hb) trivial
    | yieldItem key v into =>
      exact PLogic.for_item (into_ok hy (Bool.and_eq_true_iff.mp hb).2) (ih.evFor hi hb) trivial
  | declare p rhs =>
    by_cases hl : ∃ ps b, rhs = .lambda ps b
    · obtain ⟨ps, b, rfl⟩ := hl
      cases p with
      | ident f => exact ev_declare_fn hok
      | _ => simp [okC] at hok
    · obtain ⟨hd, hr⟩ := okC_declare_data (fun ps b h => hl ⟨ps, b, h⟩) hok
      exact PLogic.declare (ih.ev hr) hd trivial
  | assign x rhs =>
    obtain ⟨hx, hr⟩ := Bool.and_eq_true_iff.mp hok
    exact PLogic.assign_ (ih.ev hr) hx
  | opassign x opn rhs =>
    obtain ⟨hx, hr⟩ := Bool.and_eq_true_iff.mp hok
    exact PLogic.opassign opn hx (ih.ev hr) trivial hx
  | brk m e =>
    cases e with
    | none => exact PLogic.brk_none m
    | some e1 => exact PLogic.brk m (ih.ev (e := e1) hok)
  | ret e =>
    cases e with
    | none => exact PLogic.ret_none
    | some e1 => exact PLogic.ret (ih.ev (e := e1) hok)
  | throw_ e => exact PLogic.throw_ (ih.ev (e := e) hok)
  | try_ b p c =>
    obtain ⟨hbp, hc⟩ := Bool.and_eq_true_iff.mp hok
    obtain ⟨hb, hp⟩ := Bool.and_eq_true_iff.mp hbp
    exact PLogic.try_ (ih.ev hb) hp (ih.ev hc)
  | switch_ sc arms =>
    obtain ⟨hs, ha⟩ := Bool.and_eq_true_iff.mp hok
    exact PLogic.switch_ (ih.ev hs) (ih.evSwitch ha)
  | lambda ps body => cases hok
  | evalSrc e => cases hok
  | freeze e => cases hok

theorem Pres.step {k : Nat} (ih : Pres Fn F T look n N k) (hy : Hyp Fn F T look N) :
    Pres Fn F T look n N (k + 1) where
  ev := eval_step ih hy
  evList := list_step ih
  evSeq := seq_step ih
  evSwitch := switch_step ih
  evWhile hc hb := PLogic.while_step (ih.ev hc) (ih.ev hb) (ih.evWhile hc hb)
  evFor := for_step ih
  fItems hp hr hb := PLogic.items_step hp (ih.evFor hr hb) (ih.fItems hp hr hb)
  fBody := body_step ih
  call := call_step ih

theorem pres_all (hy : Hyp Fn F T look N) : ∀ k, Pres Fn F T look n N k := by
  intro k
  induction k with
  | zero => exact Pres.zero
  | succ m ih => exact ih.step hy

/-- **un-freezing commutes with evaluation** (bodies with local functions).  `e'`: frozen code in the
fragment `okC`; `st`: a store satisfying the invariant `J` (every scope created since frame `n` sees the
freeze-time values of the resolved names; function-name variables hold closures of the fragment); `env`: one
of those scopes.  Evaluating the ORIGINAL code `unfz N e'` in the store whose local functions have their
original bodies (`US st`) gives the same result as evaluating the frozen code in `st`, and the final stores
are related in the same way. -/
theorem unfreeze_commutes (hy : Hyp Fn F T look N) (k : Nat) (e' : Expr) (st : State) (env : Nat)
    (hok : okC Fn F T e' = true) (j : J Fn F T look n st) (hge : n ≤ env) (hlt : env < st.frames.size) :
    eval k (US Fn N st) env (unfz N e') = ((eval k st env e').1, US Fn N (eval k st env e').2) :=
  (((pres_all hy k).ev hok).sim ⟨j, hge, hlt⟩).eq

end Noulith.C17Closures
