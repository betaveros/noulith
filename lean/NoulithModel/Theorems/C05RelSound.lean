/-
C05 (refinement) — soundness of the fuel-indexed evaluator (Impl/CoreEval.lean) for the relational big-step semantics
(Spec/CoreSem.lean), and its agreement with itself at a larger fuel, in one induction on the fuel over all eleven
functions: whenever a function returns anything but `fuelOut` at fuel `n`, that result and final state have a derivation,
and every fuel `m ≥ n` returns the same (`Runs n m`; `runs_le`).  `Sound n` (`sound_all`) is one half; the other,
`Mono n m`, is read off in Theorems/C05Fuel.lean.

`Settled out P x x'` says it of the two outcomes `x`, `x'` of one call.  Each arm is read off its restatement as a chain of
`onVal` / `onOk` (Theorems/C05Arms.lean, C05Eval.lean): a chain is settled if what it goes on with is, and where it
passes an exit on or ends, the rule is named (`Settled.onVal`, `onOk`, `inFresh`, `forEnd`; `Settled.split` where an arm
matches on a sub-call in a way of its own).  Both runs take the same path, so naming the rule at each end of the path
is the whole proof.  `Arms.whileNext`, `applyPost` have no rule: they reduce once what they match on is a constructor
(`split` on the sub-call, then `cases`).
-/
import NoulithModel.Theorems.C05Arms

set_option autoImplicit true
set_option relaxedAutoImplicit true

namespace Noulith.Core

/-- two outcomes of one call, `x` at the smaller fuel and `x'` at the larger: `x` ran out of fuel, or `x` satisfies `P`
(there is a derivation of it) and `x'` is the same -/
def Settled {ρ σ : Type} (out : ρ) (P : ρ → σ → Prop) (x x' : ρ × σ) : Prop := x.1 = out ∨ (P x.1 x.2 ∧ x' = x)

namespace Settled
variable {ρ σ ρ' σ' : Type} {out : ρ} {out' : ρ'} {X : ρ → σ → Prop} {P : ρ' → σ' → Prop}

theorem ok {r : ρ} {s : σ} (h : X r s) : Settled out X (r, s) (r, s) := .inr ⟨h, rfl⟩

theorem out_ {s : σ} {x' : ρ × σ} : Settled out X (out, s) x' := .inl rfl

theorem imp {x x' : ρ × σ} {P : ρ → σ → Prop} (hx : Settled out X x x') (f : ∀ {r s}, X r s → P r s) :
    Settled out P x x' := hx.imp_right fun ⟨h, e⟩ => ⟨f h, e⟩

theorem elim {x x' : ρ × σ} (hx : Settled out X x x') {r : ρ} {s : σ} (h : x = (r, s)) (hne : r ≠ out) : X r s := by
  subst h; exact (hx.resolve_left hne).1

theorem same {x x' : ρ × σ} (hx : Settled out X x x') : x' = x ∨ x.1 = out := hx.symm.imp_left And.right

/-- the two outcomes by cases: `x` ran out of fuel, or both are the same `(r, s)` and `X r s`.  An eliminator: `refine
h.split …` finds in the goal what the arm makes of the two outcomes of the sub-call.  The sub-call has to stand in the goal
literally.  After a `cases` / `rcases` on an earlier outcome it stands under a `match` that is not yet reduced, on the variables
that `match` binds: the motive is then constant, no message says so, and the errors come where the cases are closed (a type
mismatch at `.out_`, "the expected type of `.rule` could not be determined"; where arguments of `h` are left to unification,
"the type of pattern variable … contains metavariables").  `dsimp only` first. -/
@[elab_as_elim]
theorem split {motive : ρ × σ → ρ × σ → Prop} {x x' : ρ × σ} (hx : Settled out X x x')
    (hout : ∀ s x', motive (out, s) x') (hok : ∀ r s, X r s → motive (r, s) (r, s)) : motive x x' := by
  obtain ⟨r, s⟩ := x
  obtain (h : r = out) | ⟨h, rfl⟩ := hx
  · exact h ▸ hout s x'
  · exact hok r s h

theorem onVal {x x' : Res × State} {X : Res → State → Prop} (hx : Settled .fuelOut X x x')
    {K K' : Val → State → ρ' × σ'} {stop : Res → State → ρ' × σ'}
    (hK : ∀ v s, X (.val v) s → Settled out' P (K v s) (K' v s))
    (hstop : ∀ r s, X r s → r.isExit = true → P (stop r s).1 (stop r s).2)
    (hout : ∀ s, (stop .fuelOut s).1 = out' := by exact fun _ => Eq.refl _) :
    Settled out' P (Arms.onVal x K stop) (Arms.onVal x' K' stop) := by
  refine hx.split (fun s _ => .inl (hout s)) fun r s h => ?_
  cases r with
  | val v => exact hK v s h
  | fuelOut => exact .inl (hout s)
  | _ => exact .inr ⟨hstop _ s h rfl, rfl⟩

theorem onOk {x x' : ResL × State} {X : ResL → State → Prop} (hx : Settled (.stop .fuelOut) X x x')
    {K K' : List Val → State → ρ' × σ'} {stop : Res → State → ρ' × σ'}
    (hK : ∀ vs s, X (.ok vs) s → Settled out' P (K vs s) (K' vs s))
    (hstop : ∀ r s, X (.stop r) s → P (stop r s).1 (stop r s).2)
    (hout : ∀ s, (stop .fuelOut s).1 = out' := by exact fun _ => Eq.refl _) :
    Settled out' P (Arms.onOk x K stop) (Arms.onOk x' K' stop) := by
  refine hx.split (fun s _ => .inl (hout s)) fun r s h => ?_
  cases r with
  | ok vs => exact hK vs s h
  | stop r => exact .inr ⟨hstop r s h, rfl⟩

theorem inFresh {st : State} {env : Nat} {p : Pat} {v : Val} {yes yes' : State → Nat → ρ' × σ'}
    {no no' : State → ρ' × σ'}
    (hyes : ∀ s, bindPat (newFrame st env).1 (newFrame st env).2 p v = (true, s) →
      Settled out' P (yes s (newFrame st env).2) (yes' s (newFrame st env).2))
    (hno : ∀ s, bindPat (newFrame st env).1 (newFrame st env).2 p v = (false, s) → Settled out' P (no s) (no' s)) :
    Settled out' P (Arms.inFresh st env p v yes no) (Arms.inFresh st env p v yes' no') := by
  simp only [Arms.inFresh, declarePat_eq_bindPat]
  rcases hb : bindPat (newFrame st env).1 (newFrame st env).2 p v with ⟨ok, s⟩
  cases ok with
  | true => exact hyes s hb
  | false => exact hno s hb

theorem forEnd {x x' : Res × State × ForAcc} {X : Res → State × ForAcc → Prop} (hx : Settled .fuelOut X x x')
    {P : Res → State → Prop} {c c' : State → ForAcc → Res × State}
    (hc : ∀ r s acc, X r (s, acc) → loopEnd r = .completed → Settled .fuelOut P (c s acc) (c' s acc))
    (hb : ∀ r s acc v, X r (s, acc) → loopEnd r = .broke v → P (.val v) s)
    (he : ∀ r s acc r', X r (s, acc) → loopEnd r = .exit r' → P r' s) :
    Settled .fuelOut P (Arms.forEnd c x) (Arms.forEnd c' x') := by
  refine hx.split (fun ⟨_, _⟩ _ => .out_) fun r ⟨s, acc⟩ h => ?_
  simp only [Arms.forEnd]
  cases hl : loopEnd r with
  | completed => exact hc r s acc h hl
  | broke v => exact .ok (hb r s acc v h hl)
  | exit r' => exact .ok (he r s acc r' h hl)

end Settled

/-- the induction hypothesis: at fuel `n`, each of the eleven functions returns only derivable results, and fuel `m`
returns the same -/
structure Runs (n m : Nat) : Prop where
  ev : ∀ st env e, Settled .fuelOut (BigStep st env e) (eval n st env e) (eval m st env e)
  sw : ∀ st env v arms, Settled .fuelOut (SwitchStep st env v arms) (evalSwitch n st env v arms)
    (evalSwitch m st env v arms)
  sq : ∀ st env es, Settled .fuelOut (SeqStep st env es) (evalSeq n st env es) (evalSeq m st env es)
  ls : ∀ st env es, Settled (.stop .fuelOut) (ListStep st env es) (evalList n st env es) (evalList m st env es)
  into : ∀ st env o, Settled (.inr .fuelOut) (IntoStep st env o) (evalInto n st env o) (evalInto m st env o)
  wh : ∀ st env c b, Settled .fuelOut (WhileStep st env c b) (evalWhile n st env c b) (evalWhile m st env c b)
  fr : ∀ st env its body acc, Settled .fuelOut (fun r sa => ForStep st env its body acc r sa.1 sa.2)
    (evalFor n st env its body acc) (evalFor m st env its body acc)
  items : ∀ st env p items its body acc, Settled .fuelOut (fun r sa => ItemsStep st env p items its body acc r sa.1 sa.2)
    (forItems n st env p items its body acc) (forItems m st env p items its body acc)
  body : ∀ st env body acc, Settled .fuelOut (fun r sa => BodyStep st env body acc r sa.1 sa.2)
    (forBody n st env body acc) (forBody m st env body acc)
  fin : ∀ st env post d done, Settled .fuelOut (FinishStep st env post d done) (finishDict n st env post d done)
    (finishDict m st env post d done)
  call : ∀ st env f args, Settled .fuelOut (CallStep st env f args) (callVal n st env f args) (callVal m st env f args)

variable {n m : Nat}

theorem s_eval (ih : Runs n m) (st : State) (env : Nat) (e : Expr) :
    Settled .fuelOut (BigStep st env e)
      (eval (n + 1) st env e) (eval (m + 1) st env e) := by
  cases e with
  | null | int | str | lambda | cont => simp only [eval]; exact .ok (by constructor)
  | frozen i =>
    simp only [eval]
    cases hf : st.frozenTab[i]?
    · exact .ok (.frozen_missing hf)
    · exact .ok (.frozen hf)
  | ident x =>
    simp only [eval]
    cases hl : st.lookup env x with
    | some v => exact .ok (.ident hl)
    | none =>
      cases hb : builtinNames.contains x <;> simp only [Bool.false_eq_true, ↓reduceIte]
      · exact .ok (.ident_undefined hl hb)
      · exact .ok (.ident_builtin hl hb)
  | list xs =>
    rw [Arms.eval_list, Arms.eval_list]
    exact (ih.ls ..).onOk (fun vs s h => .ok (.list h)) fun r s h => .list_exit h
  | op name a b =>
    rw [Arms.eval_op, Arms.eval_op]
    exact (ih.ev ..).onVal (fun va s1 ha => (ih.ev ..).onVal (fun vb s2 hb => by
        cases ho : applyOp name va vb
        · exact .ok (.op ha hb ho)
        · exact .ok (.op_raise ha hb ho)) fun r s2 hb hr => .op_exit_right ha hb hr)
      fun r s1 ha hr => .op_exit_left ha hr
  | index a b =>
    rw [Arms.eval_index, Arms.eval_index]
    exact (ih.ev ..).onVal (fun va s1 ha => (ih.ev ..).onVal (fun vb s2 hb => by
        cases ho : indexVal va vb
        · exact .ok (.index ha hb ho)
        · exact .ok (.index_raise ha hb ho)) fun r s2 hb hr => .index_exit_right ha hb hr)
      fun r s1 ha hr => .index_exit_left ha hr
  | call f args =>
    rw [Arms.eval_call, Arms.eval_call]
    exact (ih.ev ..).onVal (fun vf s1 hf => (ih.ls ..).onOk
        (fun vs s2 hl => (ih.call ..).imp fun h => .call hf hl h) fun r s2 hl => .call_exit_args hf hl)
      fun r s1 hf hr => .call_exit_fn hf hr
  | and_ a b =>
    rw [Arms.eval_and, Arms.eval_and]
    refine (ih.ev ..).onVal (fun va s1 ha => ?_) fun r s1 ha hr => .and_exit ha hr
    -- the test is still the β-redex `(fun v => !v.truthy) va`: `cases` abstracts nothing, `simp only [ht, …]` reduces and rewrites
    cases ht : va.truthy <;> simp only [ht, Bool.not_false, Bool.not_true, Bool.false_eq_true, ↓reduceIte]
    · exact .ok (.and_short ha ht)
    · exact (ih.ev ..).imp fun h => .and_right ha ht h
  | or_ a b =>
    rw [Arms.eval_or, Arms.eval_or]
    refine (ih.ev ..).onVal (fun va s1 ha => ?_) fun r s1 ha hr => .or_exit ha hr
    cases ht : va.truthy <;> simp only [Bool.false_eq_true, ↓reduceIte]
    · exact (ih.ev ..).imp fun h => .or_right ha ht h
    · exact .ok (.or_short ha ht)
  | coalesce a b =>
    rw [Arms.eval_coalesce, Arms.eval_coalesce]
    refine (ih.ev ..).onVal (fun va s1 ha => ?_) fun r s1 ha hr => .coalesce_exit ha hr
    cases va with
    | null => exact (ih.ev ..).imp fun h => .coalesce_right ha h
    | _ => exact .ok (.coalesce_short ha nofun)
  | seq xs semi =>
    rw [Arms.eval_seq, Arms.eval_seq]
    exact (ih.sq ..).onVal (fun v s h => .ok (.seq h)) fun r s h hr => .seq_exit h hr
  | ite c t e =>
    rw [Arms.eval_ite, Arms.eval_ite]
    refine (ih.ev ..).onVal (fun vc s1 hc => ?_) fun r s1 hc hr => .ite_exit hc hr
    cases ht : vc.truthy <;> simp only [Bool.false_eq_true, ↓reduceIte]
    · cases e with
      | none => exact .ok (.ite_false_no_else hc ht)
      | some e => exact (ih.ev ..).imp fun h => .ite_false hc ht h
    · exact (ih.ev ..).imp fun h => .ite_true hc ht h
  | while_ c b =>
    simp only [eval]
    exact (ih.wh ..).imp fun h => .while_ h
  | declare p e =>
    rw [Arms.eval_declare, Arms.eval_declare]
    refine (ih.ev ..).onVal (fun v s1 he => ?_) fun r s1 he hr => .declare_exit he hr
    rcases hb : declarePat (patDepth p + 1) s1 env p v with ⟨_ | _, s2⟩
    · exact .ok (.declare_refused he hb)
    · exact .ok (.declare he hb)
  | assign x e =>
    rw [eval_assign, eval_assign]
    refine (ih.ev ..).onVal (fun v s1 he => ?_) fun r s1 he hr => .assign_exit he hr
    cases ha : s1.assign env x v
    · exact .ok (.assign_refused he ha)
    · exact .ok (.assign he ha)
  | opassign x opn e =>
    cases hl : st.lookup env x with
    | none => simp only [eval, hl]; exact .ok (.opassign_undeclared hl)
    | some old =>
      rw [eval_opassign hl, eval_opassign hl]
      refine (ih.ev ..).onVal (fun v s1 he => ?_) fun r s1 he hr => .opassign_exit hl he hr
      cases hd : s1.drop env x with
      | none => exact .ok (.opassign_drop_refused hl he hd)
      | some s2 =>
        cases ho : applyOp opn old v with
        | raise => exact .ok (.opassign_op_raise hl he hd ho)
        | ok nv =>
          dsimp only  -- reduces the `match`es on `some s2`, `.ok nv`: under them `cases ha` finds nothing to abstract, and says nothing
          cases ha : s2.assign env x nv
          · exact .ok (.opassign_assign_refused hl he hd ho ha)
          · exact .ok (.opassign hl he hd ho ha)
  | brk k e =>
    cases e with
    | none => simp only [eval]; exact .ok .brk
    | some e =>
      rw [Arms.eval_brk, Arms.eval_brk]
      exact (ih.ev ..).onVal (fun v s h => .ok (.brk_value h)) fun r s h hr => .brk_exit h hr
  | ret e =>
    cases e with
    | none => simp only [eval]; exact .ok .ret
    | some e =>
      rw [Arms.eval_ret, Arms.eval_ret]
      exact (ih.ev ..).onVal (fun v s h => .ok (.ret_value h)) fun r s h hr => .ret_exit h hr
  | throw_ e =>
    rw [Arms.eval_throw, Arms.eval_throw]
    exact (ih.ev ..).onVal (fun v s h => .ok (.throw_ h)) fun r s h hr => .throw_exit h hr
  | try_ b p c =>
    rw [Arms.eval_try, Arms.eval_try]
    refine (ih.ev st env b).split (fun _ _ => .out_) fun r s hb => ?_
    cases r with
    | thrown v =>
      exact .inFresh (fun s2 hp => (ih.ev ..).imp fun h => .try_catch hb rfl hp h)
        fun s2 hp => .ok (.try_rethrow hb rfl hp)
    | _ => exact .ok (.try_pass hb rfl)
  | switch_ sc arms =>
    rw [Arms.eval_switch, Arms.eval_switch]
    exact (ih.ev ..).onVal (fun v s hs => (ih.sw ..).imp fun h => .switch_ hs h)
      fun r s hs hr => .switch_exit hs hr
  | evalSrc e =>
    simp only [eval]
    exact (ih.ev ..).imp fun h => .evalSrc h
  | freeze e =>
    rw [eval_freeze, eval_freeze]
    rcases hf : freezeExpr (scopeLook st env) { bound := [], tab := st.frozenTab } e with err | ⟨e', fs⟩
    · exact .ok (.freeze_refused hf)
    · exact (ih.ev ..).imp fun h => .freeze hf h
  | for_ its body =>
    cases body with
    | exec b =>
      rw [Arms.eval_for_exec, Arms.eval_for_exec]
      exact (ih.fr ..).forEnd (fun r s acc hf hl => .ok (.for_completed hf hl))
        (fun r s acc v hf hl => .for_broke hf hl) fun r s acc r' hf hl => .for_exit hf hl
    | yield e into =>
      rw [Arms.eval_for_yield, Arms.eval_for_yield]
      refine (ih.into st env into).split (fun _ _ => .out_) fun r s hi => ?_
      rcases r with ⟨c0, post⟩ | r
      · -- the `into` function is applied to what the loop came to: `forEnd` is settled with, as its predicate, that the
        -- application to that outcome is settled (the `.ok` of the inner statement wraps the outer one)
        dsimp only  -- the sub-call literally (`Settled.split`)
        refine Settled.split ((ih.fr ..).forEnd
          (fun r s2 acc hf hl => ?_) (fun r s2 acc v hf hl => ?_) fun r s2 acc r' hf hl => ?_)
          (by cases post <;> exact fun _ _ => .out_) fun _ _ h => h
        · unfold Arms.yieldDone
          cases hfin : acc.cata.finish with
          | raise => exact .ok (by cases post <;> exact .ok (.yield_finish_raise hi hf hl hfin))
          | ok v =>
            refine .ok ?_
            cases post with
            | none => exact .ok (.yield_completed hi hf hl hfin)
            | some f => exact (ih.call ..).imp fun h => .yield_completed_post hi hf hl hfin h
        · cases post with
          | none => exact .ok (.yield_broke hi hf hl)
          | some f => exact (ih.call ..).imp fun h => .yield_broke_post hi hf hl h
        · rw [Arms.applyPost_of_exit hl, Arms.applyPost_of_exit hl]
          exact .ok (.yield_exit hi hf hl)
      · exact .ok (.yield_into_exit hi)
    | yieldItem k v into =>
      rw [Arms.eval_for_item, Arms.eval_for_item]
      refine (ih.into st env into).split (fun _ _ => .out_) fun r s hi => ?_
      rcases r with ⟨c0, post⟩ | r
      · exact (ih.fr ..).forEnd
          (fun r s2 acc hf hl => (ih.fin ..).imp fun h => .item_completed hi hf hl h)
          (fun r s2 acc v hf hl => .item_broke hi hf hl) fun r s2 acc r' hf hl => .item_exit hi hf hl
      · exact .ok (.item_into_exit hi)

theorem s_evalSwitch (ih : Runs n m) (st : State) (env : Nat) (v : Val) (arms : List SwitchArm) :
    Settled .fuelOut (SwitchStep st env v arms)
      (evalSwitch (n + 1) st env v arms) (evalSwitch (m + 1) st env v arms) := by
  match arms with
  | [] => simp only [evalSwitch]; exact .ok .no_arm
  | .mk p body :: rest =>
    rw [Arms.evalSwitch_cons, Arms.evalSwitch_cons]
    exact .inFresh (fun s hp => (ih.ev ..).imp fun h => .arm rfl hp h)
      fun s hp => (ih.sw ..).imp fun h => .next rfl hp h

theorem s_evalSeq (ih : Runs n m) (st : State) (env : Nat) (es : List Expr) :
    Settled .fuelOut (SeqStep st env es)
      (evalSeq (n + 1) st env es) (evalSeq (m + 1) st env es) := by
  match es with
  | [] => simp only [evalSeq]; exact .ok .nil
  | [x] => simp only [evalSeq]; exact (ih.ev ..).imp fun h => .last h
  | x :: y :: ys =>
    rw [Arms.evalSeq_cons, Arms.evalSeq_cons]
    exact (ih.ev ..).onVal (fun v s hx => (ih.sq ..).imp fun h => .cons hx h) fun r s hx hr => .exit hx hr

theorem s_evalList (ih : Runs n m) (st : State) (env : Nat) (es : List Expr) :
    Settled (.stop .fuelOut) (ListStep st env es)
      (evalList (n + 1) st env es) (evalList (m + 1) st env es) := by
  match es with
  | [] => simp only [evalList]; exact .ok .nil
  | x :: xs =>
    rw [Arms.evalList_cons, Arms.evalList_cons]
    exact (ih.ev ..).onVal (fun v s hx => (ih.ls ..).onOk (fun vs s2 hl => .ok (.cons hx hl))
      fun r s2 hl => .exit_tail hx hl) fun r s hx hr => .exit_head hx hr

theorem s_evalInto (ih : Runs n m) (st : State) (env : Nat) (o : Option Expr) :
    Settled (.inr .fuelOut) (IntoStep st env o)
      (evalInto (n + 1) st env o) (evalInto (m + 1) st env o) := by
  match o with
  | none => simp only [evalInto]; exact .ok .none
  | some e =>
    rw [evalInto_some, evalInto_some]
    refine (ih.ev ..).onVal (fun f s he => ?_) fun r s he hr => .exit he hr
    cases hc : cataOfVal f
    · exact .ok (.func he hc)
    · exact .ok (.cata he hc)

theorem s_evalWhile (ih : Runs n m) (st : State) (env : Nat) (c b : Expr) :
    Settled .fuelOut (WhileStep st env c b)
      (evalWhile (n + 1) st env c b) (evalWhile (m + 1) st env c b) := by
  rw [Arms.evalWhile_succ, Arms.evalWhile_succ]
  refine (ih.ev ..).onVal (fun vc s2 hc => ?_) fun r s2 hc hr => .cond_exit rfl hc hr
  cases ht : vc.truthy <;> simp only [Bool.not_false, Bool.not_true, Bool.false_eq_true, ↓reduceIte]
  · exact .ok (.done rfl hc ht)
  · refine (ih.ev ..).split (fun _ _ => .out_) fun rb s3 hb => ?_
    cases rb with
    | val v => exact (ih.wh ..).imp fun h => .next rfl hc ht hb rfl h
    | brk k w =>
      cases k with
      | zero => exact .ok (.break_ rfl hc ht hb)
      | succ k => exact .ok (.break_outer rfl hc ht hb)
    | cont k =>
      cases k with
      | zero => exact (ih.wh ..).imp fun h => .next rfl hc ht hb rfl h
      | succ k => exact .ok (.continue_outer rfl hc ht hb)
    | ret v | thrown v => exact .ok (.pass rfl hc ht hb rfl)
    | fuelOut => exact .out_

theorem s_evalFor (ih : Runs n m) (st : State) (env : Nat) (its : List ForIt) (body : ForBody) (acc : ForAcc) :
    Settled .fuelOut (fun r sa => ForStep st env its body acc r sa.1 sa.2)
      (evalFor (n + 1) st env its body acc) (evalFor (m + 1) st env its body acc) := by
  match its with
  | [] =>
    rw [Arms.evalFor_nil, Arms.evalFor_nil]
    refine (ih.body st env body acc).split (fun ⟨_, _⟩ _ => .out_) fun r ⟨s, acc1⟩ hb => ?_
    cases r with
    | cont k =>
      cases k with
      | zero => exact .ok (.body_continue hb)
      | succ k => exact .ok (.body hb nofun)
    | _ => exact .ok (.body hb nofun)
  | .guard g :: rest =>
    rw [Arms.evalFor_guard, Arms.evalFor_guard]
    refine (ih.ev ..).onVal (fun v s1 hg => ?_) fun r s1 hg hr => .guard_exit hg hr
    cases ht : v.truthy <;> simp only [Bool.false_eq_true, ↓reduceIte]
    · exact .ok (.guard_false hg ht)
    · exact (ih.fr ..).imp fun h => .guard_true hg ht h
  | .iter kind p e :: rest =>
    rw [Arms.evalFor_iter, Arms.evalFor_iter]
    refine (ih.ev ..).onVal (fun v s1 he => ?_) fun r s1 he hr => .iter_exit he hr
    cases kind with
    | declare =>
      exact .inFresh (fun s hp => (ih.fr ..).imp fun h => .declare he rfl hp h)
        fun s hp => .ok (.declare_refused he rfl hp)
    | normal =>
      cases hi : iterValues v with
      | none => exact .ok (.each_not_iterable he hi)
      | some items => exact (ih.items ..).imp fun h => .each he hi h
    | item =>
      cases hi : iterPairs v with
      | none => exact .ok (.each_pair_not_iterable he hi)
      | some items => exact (ih.items ..).imp fun h => .each_pair he hi h

theorem s_forItems (ih : Runs n m) (st : State) (env : Nat) (p : Pat) (items : List Val) (its : List ForIt)
    (body : ForBody) (acc : ForAcc) :
    Settled .fuelOut (fun r sa => ItemsStep st env p items its body acc r sa.1 sa.2)
      (forItems (n + 1) st env p items its body acc) (forItems (m + 1) st env p items its body acc) := by
  match items with
  | [] => simp only [forItems]; exact .ok .done
  | x :: xs =>
    rw [Arms.forItems_cons, Arms.forItems_cons]
    refine .inFresh (fun s2 hp => ?_) fun s2 hp => .ok (.bind_refused rfl hp)
    refine (ih.fr s2 (newFrame st env).2 its body acc).split (fun ⟨_, _⟩ _ => .out_) fun r ⟨s3, acc3⟩ hf => ?_
    cases r with
    | val v => exact (ih.items ..).imp fun h => .next rfl hp hf h
    | fuelOut => exact .out_
    | _ => exact .ok (.exit rfl hp hf rfl)

theorem s_forBody (ih : Runs n m) (st : State) (env : Nat) (body : ForBody) (acc : ForAcc) :
    Settled .fuelOut (fun r sa => BodyStep st env body acc r sa.1 sa.2)
      (forBody (n + 1) st env body acc) (forBody (m + 1) st env body acc) := by
  match body with
  | .exec e =>
    rw [Arms.forBody_exec, Arms.forBody_exec]
    exact (ih.ev ..).onVal (fun v s he => .ok (.exec he)) fun r s he hr => .exec_exit he hr
  | .yield e into =>
    rw [Arms.forBody_yield, Arms.forBody_yield]
    refine (ih.ev ..).onVal (fun v s he => ?_) fun r s he hr => .yield_exit he hr
    cases hg : acc.cata.give v
    · exact .ok (.yield he hg)
    · exact .ok (.yield_stop he hg)
    · exact .ok (.yield_raise he hg)
  | .yieldItem k v into =>
    rw [Arms.forBody_yieldItem, Arms.forBody_yieldItem]
    refine (ih.ev ..).onVal (fun vk s1 hk => ?_) fun r s hk hr => .key_exit hk hr
    unfold Arms.itemStep
    cases hf : vk.isFunc <;> simp only [Bool.false_eq_true, ↓reduceIte]
    case true => exact .ok (.key_is_function hk hf)
    rcases hd : dictFind acc.dict vk with _ | c | w <;> dsimp only
    · refine Settled.onVal (ih.ev ..) (fun vv s2 hv => ?_) fun r s2 hv hr => .key_new_exit hk hf hd hv hr
      cases hg : acc.cata.give vv
      · exact .ok (.key_new hk hf hd hv hg)
      · exact .ok (.key_new_stop hk hf hd hv hg)
      · exact .ok (.key_new_raise hk hf hd hv hg)
    · refine Settled.onVal (ih.ev ..) (fun vv s2 hv => ?_) fun r s2 hv hr => .key_open_exit hk hf hd hv hr
      cases hg : c.give vv
      · exact .ok (.key_open hk hf hd hv hg)
      · exact .ok (.key_open_stop hk hf hd hv hg)
      · exact .ok (.key_open_raise hk hf hd hv hg)
    · exact .ok (.key_closed hk hf hd)

theorem s_finishDict (ih : Runs n m) (st : State) (env : Nat) (post : Option Val) (d : List (Val × (Cata ⊕ Val)))
    (done : List (Val × Val)) :
    Settled .fuelOut (FinishStep st env post d done)
      (finishDict (n + 1) st env post d done) (finishDict (m + 1) st env post d done) := by
  match d with
  | [] => simp only [finishDict]; exact .ok .done
  | (k, .inr v) :: rest => simp only [finishDict]; exact (ih.fin ..).imp fun h => .closed h
  | (k, .inl c) :: rest =>
    simp only [finishDict]
    cases hf : c.finish with
    | raise => exact .ok (.raise hf)
    | ok v =>
      cases post with
      | none => exact (ih.fin ..).imp fun h => .open_ hf h
      | some f =>
        change Settled _ _ (Arms.andThen _ _) (Arms.andThen _ _)
        rw [← Arms.onVal_mk, ← Arms.onVal_mk]
        exact (ih.call ..).onVal
          (fun v' s1 hc => (ih.fin ..).imp fun h => .post hf hc h) fun r s1 hc hr => .post_exit hf hc hr

theorem s_callVal (ih : Runs n m) (st : State) (env : Nat) (f : Val) (args : List Val) :
    Settled .fuelOut (CallStep st env f args)
      (callVal (n + 1) st env f args) (callVal (m + 1) st env f args) := by
  cases f with
  | closure ps body cenv =>
    rw [callVal_closure, callVal_closure]
    refine (ih.ls ..).onOk (fun tvs s1 hl => ?_) fun r s1 hl => .annotation_exit rfl hl
    cases hd : defaultsInPlay args.length ps 0 false [] with
    | none => exact .ok (.defaults_refused rfl hl hd)
    | some inPlay =>
      dsimp only  -- as in `opassign`; without it the error is at `hout` of the `onOk` below
      cases har : arityRefused ps args.length inPlay <;> simp only [Bool.false_eq_true, ↓reduceIte]
      case true => exact .ok (.arity_refused rfl hl hd har)
      refine (ih.ls ..).onOk (fun dvs s2 hl2 => ?_) fun r s2 hl2 => .default_exit rfl hl hd har hl2
      rcases hb : bindParams s2 (newFrame st cenv).2 ps tvs args dvs with _ | ⟨_ | _, s3⟩
      · exact .ok (.bind_refused rfl hl hd har hl2 hb)
      · exact .ok (.type_refused rfl hl hd har hl2 hb)
      · dsimp only
        refine (ih.ev s3 (newFrame st cenv).2 body).split (fun _ _ => .out_) fun rb s4 hbody => ?_
        cases rb with
        | ret v => exact .ok (.returned rfl hl hd har hl2 hb hbody)
        | fuelOut => exact .out_
        | _ => exact .ok (.body rfl hl hd har hl2 hb hbody rfl)
  | builtin name =>
    by_cases hp : name = "print"
    · subst hp; rw [callVal_print, callVal_print]; exact .ok .print
    · rw [callVal_builtin _ _ _ _ _ hp, callVal_builtin _ _ _ _ _ hp]
      cases hc : callBuiltin name args
      · exact .ok (.builtin hp hc)
      · exact .ok (.builtin_raise hp hc)
  | _ => rw [callVal_not_callable _ _ _ _ _ rfl, callVal_not_callable _ _ _ _ _ rfl]; exact .ok (.not_callable rfl)

theorem Runs.step (ih : Runs n m) : Runs (n + 1) (m + 1) where
  ev := s_eval ih
  sw := s_evalSwitch ih
  sq := s_evalSeq ih
  ls := s_evalList ih
  into := s_evalInto ih
  wh := s_evalWhile ih
  fr := s_evalFor ih
  items := s_forItems ih
  body := s_forBody ih
  fin := s_finishDict ih
  call := s_callVal ih

theorem Runs.zero (m : Nat) : Runs 0 m where
  ev _ _ _ := .inl (by simp only [eval])
  sw _ _ _ _ := .inl (by simp only [evalSwitch])
  sq _ _ _ := .inl (by simp only [evalSeq])
  ls _ _ _ := .inl (by simp only [evalList])
  into _ _ _ := .inl (by simp only [evalInto])
  wh _ _ _ _ := .inl (by simp only [evalWhile])
  fr _ _ _ _ _ := .inl (by simp only [evalFor])
  items _ _ _ _ _ _ _ := .inl (by simp only [forItems])
  body _ _ _ _ := .inl (by simp only [forBody])
  fin _ _ _ _ _ := .inl (by simp only [finishDict])
  call _ _ _ _ := .inl (by simp only [callVal])

theorem runs_le : ∀ {n m : Nat}, n ≤ m → Runs n m
  | 0, m, _ => .zero m
  | _ + 1, _ + 1, h => (runs_le (Nat.le_of_succ_le_succ h)).step

/-- at fuel `n`, each of the eleven functions only returns derivable results -/
structure Sound (n : Nat) : Prop where
  ev : ∀ {st env e r st'}, eval n st env e = (r, st') → r ≠ .fuelOut → BigStep st env e r st'
  sw : ∀ {st env v arms r st'}, evalSwitch n st env v arms = (r, st') → r ≠ .fuelOut →
    SwitchStep st env v arms r st'
  sq : ∀ {st env es r st'}, evalSeq n st env es = (r, st') → r ≠ .fuelOut → SeqStep st env es r st'
  ls : ∀ {st env es r st'}, evalList n st env es = (r, st') → r ≠ .stop .fuelOut → ListStep st env es r st'
  into : ∀ {st env o r st'}, evalInto n st env o = (r, st') → r ≠ .inr .fuelOut → IntoStep st env o r st'
  wh : ∀ {st env c b r st'}, evalWhile n st env c b = (r, st') → r ≠ .fuelOut → WhileStep st env c b r st'
  fr : ∀ {st env its body acc r st' acc'}, evalFor n st env its body acc = (r, st', acc') → r ≠ .fuelOut →
    ForStep st env its body acc r st' acc'
  items : ∀ {st env p items its body acc r st' acc'}, forItems n st env p items its body acc = (r, st', acc') →
    r ≠ .fuelOut → ItemsStep st env p items its body acc r st' acc'
  body : ∀ {st env body acc r st' acc'}, forBody n st env body acc = (r, st', acc') → r ≠ .fuelOut →
    BodyStep st env body acc r st' acc'
  fin : ∀ {st env post d done r st'}, finishDict n st env post d done = (r, st') → r ≠ .fuelOut →
    FinishStep st env post d done r st'
  call : ∀ {st env f args r st'}, callVal n st env f args = (r, st') → r ≠ .fuelOut →
    CallStep st env f args r st'

theorem sound_all : ∀ n, Sound n := fun n =>
  have R := runs_le (Nat.le_refl n)
  { ev := (R.ev ..).elim, sw := (R.sw ..).elim, sq := (R.sq ..).elim, ls := (R.ls ..).elim, into := (R.into ..).elim,
    wh := (R.wh ..).elim, fr := (R.fr ..).elim, items := (R.items ..).elim, body := (R.body ..).elim,
    fin := (R.fin ..).elim, call := (R.call ..).elim }

end Noulith.Core
