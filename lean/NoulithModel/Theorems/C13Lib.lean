/-
C13 — the concrete layer of Impl/SeqLibVal.lean: the kind rule of the `multi!` family on the call table
(`filter_kind_preserving`, `drop_kind`), `implLib` and `specLib` agree field by field (`lib_…`) and so do
whole calls (`call_…`), the value equality of the differential run is a partial equivalence
(`val_beq_symm`, `val_beq_trans`), positioned streams (`wrapped_views_agree`), chained infix forms
(`evalChain_merge`), whitespace (`isWs`, `trimStart_spec`).  The field equations are the equations of
Theorems/C13.lean at `α = Val`.
-/
import NoulithModel.Theorems.C13

namespace Noulith.C13
open Noulith Noulith.SeqLib
variable {α β γ κ : Type}

/-! ## filter-like functions return the sequence kind they were given -/

/-! the rows of the call table that the theorems below speak of (`by rfl`: the term `rfl` is slow to
check on the long `match` of `call`) -/
theorem call_filter_def (L : Lib) (s : Val) (f : Fn) :
    call L "filter" [.v s, .f f] = multi s (L.filter f.pred false) := by rfl
theorem call_reject_def (L : Lib) (s : Val) (f : Fn) :
    call L "reject" [.v s, .f f] = multi s (L.filter f.pred true) := by rfl
theorem call_sort_def (L : Lib) (s : Val) :
    call L "sort" [.v s]
      = multi s (L.sortWith fun a b => match Val.pcmp a b with | some o => .ok o | none => .throw) := by rfl
theorem call_sortBy_def (L : Lib) (s : Val) (f : Fn) :
    call L "sort" [.v s, .f f] = multi s (L.sortWith f.cmp0) := by rfl
theorem call_sortOn_def (L : Lib) (s : Val) (f : Fn) :
    call L "sort_on" [.v s, .f f] = multi s (L.sortedOn f.call1 Val.ncmp) := by rfl
theorem call_unique_def (L : Lib) (s : Val) : call L "unique" [.v s] = multi s L.unique := by rfl
theorem call_reverse_def (L : Lib) (s : Val) :
    call L "reverse" [.v s] = multi s fun xs => .ok (L.reverse xs) := by rfl
theorem call_take_def (L : Lib) (s : Val) (f : Fn) :
    call L "take" [.v s, .f f] = multi s (L.takeWhile f.pred) := by rfl
theorem call_drop_def (L : Lib) (s : Val) (f : Fn) :
    call L "drop" [.v s, .f f]
      = (match s with
         | .stream xs => (L.dropWhile f.pred xs).map .stream
         | .wrapped items pos => (L.dropWhile f.pred (Val.wIter items pos)).map .stream
         | s => multi s (L.dropWhile f.pred)) := by rfl
theorem call_map_def (L : Lib) (s : Val) (f : Fn) :
    call L "map" [.v s, .f f] = andThen s.iter fun xs => (L.map f.call1 xs).map .list := by rfl
theorem call_window_def (L : Lib) (s : Val) (n : Int) :
    call L "window" [.v s, .v (.int n)]
      = andThen (usizeOf n) fun n =>
          if n = 0 then .throw else multimulti s fun xs => .ok (L.windowed xs n) := by rfl
theorem call_group_n_def (L : Lib) (s : Val) (n : Int) :
    call L "group" [.v s, .v (.int n)]
      = andThen (usizeOf n) fun n =>
          if n = 0 then .throw else multimulti s fun xs => L.grouped xs n false := by rfl

theorem pack_kind (k : Kind) (xs : List Val) : (Val.pack (kindRule k) xs).kind? = some (kindRule k) := by
  cases k <;> rfl

/-- everything implemented through `multi!`: the result kind is `kindRule` of the input kind —
the same kind for list / string / vector / bytes, a list for dict and stream -/
theorem multi_kind (s : Val) (g : List Val → Out (List Val)) (r : Val) (k : Kind)
    (hk : s.kind? = some k) (h : multi s g = .ok r) : r.kind? = some (kindRule k) := by
  unfold multi at h
  rw [hk] at h
  cases he : s.forced? <;> rw [he] at h
  · cases h
  · obtain ⟨ys, -, rfl⟩ := Out.map_eq_ok h
    exact pack_kind k ys

/-- and the groups produced through `multimulti!` (group, window, prefixes, suffixes, …) all have
that kind -/
theorem multimulti_kind (s : Val) (g : List Val → Out (List (List Val))) (r : Val) (k : Kind)
    (hk : s.kind? = some k) (h : multimulti s g = .ok r) :
    ∃ groups, r = .list groups ∧ ∀ v ∈ groups, v.kind? = some (kindRule k) := by
  unfold multimulti at h
  rw [hk] at h
  cases he : s.elems? <;> rw [he] at h
  · cases h
  · obtain ⟨ys, -, rfl⟩ := Out.map_eq_ok h
    refine ⟨_, rfl, fun v hv => ?_⟩
    obtain ⟨y, -, rfl⟩ := List.mem_map.mp hv
    exact pack_kind k y

/-- On the call table itself: for `filter`, `reject`, `sort` (both
forms), `sort_on`, `unique`, `reverse` and `take` with a predicate, a successful call on a
sequence of kind `k` returns a sequence of kind `kindRule k` -/
theorem filter_kind_preserving (L : Lib) (s : Val) (f : Fn) (r : Val) (k : Kind) (hk : s.kind? = some k) :
    (call L "filter" [.v s, .f f] = .ok r → r.kind? = some (kindRule k))
    ∧ (call L "reject" [.v s, .f f] = .ok r → r.kind? = some (kindRule k))
    ∧ (call L "sort" [.v s] = .ok r → r.kind? = some (kindRule k))
    ∧ (call L "sort" [.v s, .f f] = .ok r → r.kind? = some (kindRule k))
    ∧ (call L "sort_on" [.v s, .f f] = .ok r → r.kind? = some (kindRule k))
    ∧ (call L "unique" [.v s] = .ok r → r.kind? = some (kindRule k))
    ∧ (call L "reverse" [.v s] = .ok r → r.kind? = some (kindRule k))
    ∧ (call L "take" [.v s, .f f] = .ok r → r.kind? = some (kindRule k)) := by
  rw [call_filter_def, call_reject_def, call_sort_def, call_sortBy_def, call_sortOn_def, call_unique_def,
    call_reverse_def, call_take_def]
  have h := fun g => multi_kind s g r k hk
  exact ⟨h _, h _, h _, h _, h _, h _, h _, h _⟩

/-- `drop` with a predicate has its own dispatch: a stream stays a stream -/
theorem drop_kind (L : Lib) (s : Val) (f : Fn) (r : Val) (k : Kind) (hk : s.kind? = some k)
    (h : call L "drop" [.v s, .f f] = .ok r) :
    r.kind? = some (if k = .stream then .stream else kindRule k) := by
  rw [call_drop_def] at h
  cases s with
  | stream _ | wrapped _ _ =>
    obtain ⟨ys, -, rfl⟩ := Out.map_eq_ok h
    cases hk; rfl
  | _ =>
    -- no other constructor has kind `stream`
    cases hk <;> exact multi_kind _ _ r _ rfl h

/-- non-vacuity: filtering the string "héllo" gives a string, filtering dict keys gives a list -/
example : (call implLib "filter" [.v (.str "héllo".toList), .f ⟨"eq", .str ['l']⟩]).map Val.render
    = .ok "s:6c6c" := by decide +kernel
example : (call implLib "filter" [.v (.dkeys [.int 1, .int 2]), .f ⟨"k1", .null⟩]).map Val.kind?
    = .ok (some .list) := by decide +kernel


/-! ## the call table: `implLib` and `specLib` agree field by field
(the fields whose equation needs no side condition; `grouped` / `windowed` need `0 < n`, which
`call` checks before using them; `sortWith` / `sortedOn` need a direction-consistent comparator;
`unique` needs the value equality to be a partial equivalence and follows it below; `classified`,
`frequencies` and `merge` are characterised in Theorems/C13Laws.lean as finite maps; `reverse` is
`List.reverse` on both sides; the four combinatorial streams are in Theorems/C13Perm.lean) -/

theorem lib_filter : implLib.filter = specLib.filter := by
  funext p neg xs; exact filtered_eq p xs neg
theorem lib_groupedBy : implLib.groupedBy = specLib.groupedBy := by
  funext f xs; exact groupedBy_eq f xs
theorem lib_prefixes : implLib.prefixes = specLib.prefixes := by funext xs; exact prefixes_eq xs
theorem lib_suffixes : implLib.suffixes = specLib.suffixes := by funext xs; exact suffixes_eq xs
theorem lib_takeWhile : implLib.takeWhile = specLib.takeWhile := by funext p xs; exact takeWhile_eq p xs
theorem lib_dropWhile : implLib.dropWhile = specLib.dropWhile := by funext p xs; exact dropWhile_eq p xs
theorem lib_map : implLib.map = specLib.map := by funext f xs; exact map_eq f xs
theorem lib_each : implLib.each = specLib.each := by funext f xs; exact each_eq f xs
theorem lib_flatMap : implLib.flatMap = specLib.flatMap := by funext f xs; exact flatMap_eq f xs
theorem lib_partition : implLib.partition = specLib.partition := by funext p xs; exact partition_eq p xs
theorem lib_pairwise : implLib.pairwise = specLib.pairwise := by funext f xs; exact pairwise_eq f xs
theorem lib_enumerate : implLib.enumerate = specLib.enumerate := by funext xs; exact enumerate_eq xs
theorem lib_find : implLib.find = specLib.find := by funext p xs; exact find_eq p xs
theorem lib_locate : implLib.locate = specLib.locate := by funext p xs; exact locate_eq p xs
theorem lib_count : implLib.count = specLib.count := by funext p xs; exact count_eq p xs
theorem lib_any : implLib.any = specLib.any := by funext p xs; exact any_eq p xs
theorem lib_all : implLib.all = specLib.all := by funext p xs; exact all_eq p xs
theorem lib_sumLike : implLib.sumLike = specLib.sumLike := by
  funext z op f xs; exact sumLike_eq z op f xs
theorem lib_extremum : implLib.extremum = specLib.extremum := by
  funext c b xs; exact extremum_eq c b xs
theorem lib_foldFrom : implLib.foldFrom = specLib.foldFrom := by funext f z xs; exact foldGo_eq f z xs
theorem lib_fold1 : implLib.fold1 = specLib.fold1 := by funext f xs; exact fold1_eq f xs
theorem lib_scanFrom : implLib.scanFrom = specLib.scanFrom := by funext f z xs; exact scanFrom_eq f z xs
theorem lib_scan1 : implLib.scan1 = specLib.scan1 := by funext f xs; exact scan1_eq f xs
theorem lib_zip : implLib.zip = specLib.zip := by funext f its; exact zip_eq f its
theorem lib_zipLongest : implLib.zipLongest = specLib.zipLongest := by
  funext f its; exact zipLongest_eq f its
theorem lib_product : implLib.product = specLib.product := by funext s; exact cartesianProduct_eq s
theorem lib_repeatSeq : implLib.repeatSeq = specLib.repeatSeq := by funext s n; exact cartesianScalar_eq s n
theorem lib_join : implLib.join = specLib.join := by funext j d xs; exact join_eq j d xs
theorem lib_split : implLib.split = specLib.split := by funext s p; exact split_eq s p
theorem lib_words : implLib.words = specLib.words := by funext s; exact words_eq _ s
theorem lib_lines : implLib.lines = specLib.lines := by funext s; exact lines_eq _ s
theorem lib_uncons : implLib.uncons = specLib.uncons := by
  funext xs; cases xs <;> rfl

theorem lib_unsnoc : implLib.unsnoc = specLib.unsnoc := by
  funext xs
  show unsnoc xs = (match xs.getLast? with | some e => some (xs.dropLast, e) | none => none)
  simp only [unsnoc]
  cases xs.getLast? <;> rfl
theorem lib_findSub : implLib.findSub = specLib.findSub := by funext p s; exact findSub_eq p s
theorem lib_splitn : implLib.splitn = specLib.splitn := by funext s p n; exact splitn_eq s p n
theorem lib_rsplit : implLib.rsplit = specLib.rsplit := by funext s p; exact rsplit_eq s p
theorem lib_rsplitn : implLib.rsplitn = specLib.rsplitn := by funext s p n; exact rsplitn_eq s p n
theorem lib_joinE : implLib.joinE = specLib.joinE := by funext s d xs; exact joinE_eq s d xs

theorem call_filter (s : Val) (f : Fn) :
    call implLib "filter" [.v s, .f f] = call specLib "filter" [.v s, .f f] := by
  rw [call_filter_def, call_filter_def, lib_filter]
theorem call_reject (s : Val) (f : Fn) :
    call implLib "reject" [.v s, .f f] = call specLib "reject" [.v s, .f f] := by
  rw [call_reject_def, call_reject_def, lib_filter]
theorem call_take (s : Val) (f : Fn) :
    call implLib "take" [.v s, .f f] = call specLib "take" [.v s, .f f] := by
  rw [call_take_def, call_take_def, lib_takeWhile]
theorem call_map (s : Val) (f : Fn) :
    call implLib "map" [.v s, .f f] = call specLib "map" [.v s, .f f] := by
  rw [call_map_def, call_map_def, lib_map]
theorem call_window (s : Val) (n : Int) :
    call implLib "window" [.v s, .v (.int n)] = call specLib "window" [.v s, .v (.int n)] := by
  rw [call_window_def, call_window_def]
  congr 1
  funext m
  split
  · rfl
  · next hm => exact congrArg (multimulti s) (funext fun xs => congrArg Out.ok (windowed_eq xs m (by omega)))
theorem call_group_n (s : Val) (n : Int) :
    call implLib "group" [.v s, .v (.int n)] = call specLib "group" [.v s, .v (.int n)] := by
  rw [call_group_n_def, call_group_n_def]
  congr 1
  funext m
  split
  · rfl
  · next hm => exact congrArg (multimulti s) (funext fun xs => grouped_eq xs m false (by omega))


/-! ## the concrete value equality is a partial equivalence
(so the `unique` theorems apply to the values of the differential run; it is not reflexive:
streams are never equal, as in `Seq::eq`) -/

theorem beq_frac_flag (f g : Bool) (a : Int) (c : Val) : Val.beq (.frac f a) c = Val.beq (.frac g a) c := by
  cases c <;> rfl

theorem beq_frac_twice (g : Bool) (a : Int) (c : Val) : Val.beq (.frac g (2 * a)) c = Val.beq (.int a) c := by
  cases c <;> simp only [Val.beq]
  · exact Bool.eq_iff_iff.mpr (by simp only [beq_iff_eq]; exact Int.mul_eq_mul_left_iff (by decide))

theorem val_beq_symm_imp :
    (∀ a b : Val, Val.beq a b = true → Val.beq b a = true)
    ∧ (∀ a b : List Val, Val.beqList a b = true → Val.beqList b a = true) := by
  apply Val.beq.mutual_induct (motive_1 := fun a b => Val.beq a b = true → Val.beq b a = true)
    (motive_2 := fun a b => Val.beqList a b = true → Val.beqList b a = true)
  case case1 => exact id
  -- int, frac (against each other too), str, bytes, vec: an equation between the payloads
  case case2 | case3 | case4 | case5 | case6 | case8 | case9 =>
    intros
    rename_i h
    simp only [Val.beq, beq_iff_eq] at h ⊢
    exact h.symm
  -- list, dkeys: the lists of elements
  case case7 | case10 => intro a b ih h; simp only [Val.beq] at h ⊢; exact ih h
  case case11 =>
    -- no arm of `beq` matches `t, x`: the hypotheses are the side conditions of its last equation
    intro t x h1 h2 h3 h4 h5 h6 h7 h8 h9 h10 hb
    rw [Val.beq.eq_11 t x h1 h2 h3 h4 h5 h6 h7 h8 h9 h10] at hb
    cases hb
  case case12 => exact id
  case case13 =>
    intro x xs y ys ih1 ih2 h
    simp only [Val.beqList, Bool.and_eq_true] at h ⊢
    exact ⟨ih1 h.1, ih2 h.2⟩
  case case14 =>
    intro t x h1 h2 hb
    rw [Val.beqList.eq_3 t x h1 h2] at hb
    cases hb

theorem val_beq_symm : (∀ a b : Val, Val.beq a b = Val.beq b a) ∧ (∀ a b : List Val, Val.beqList a b = Val.beqList b a) :=
  ⟨fun a b => Bool.eq_iff_iff.mpr ⟨val_beq_symm_imp.1 a b, val_beq_symm_imp.1 b a⟩,
   fun a b => Bool.eq_iff_iff.mpr ⟨val_beq_symm_imp.2 a b, val_beq_symm_imp.2 b a⟩⟩

theorem val_beq_trans :
    (∀ a b : Val, ∀ c, Val.beq a b = true → Val.beq b c = true → Val.beq a c = true)
    ∧ (∀ a b : List Val, ∀ c, Val.beqList a b = true → Val.beqList b c = true → Val.beqList a c = true) := by
  apply Val.beq.mutual_induct
    (motive_1 := fun a b => ∀ c, Val.beq a b = true → Val.beq b c = true → Val.beq a c = true)
    (motive_2 := fun a b => ∀ c, Val.beqList a b = true → Val.beqList b c = true → Val.beqList a c = true)
  case case1 => intro c _ h; exact h
  -- int, str, bytes, vec: the payloads of `a` and `b` are equal
  case case2 | case6 | case8 | case9 =>
    intro a b c h1 h2
    simp only [Val.beq, beq_iff_eq] at h1
    rwa [h1]
  case case3 =>
    intro a _ b c h1 h2
    simp only [Val.beq, beq_iff_eq] at h1
    rwa [← h1, beq_frac_twice] at h2
  case case4 =>
    intro _ a b c h1 h2
    simp only [Val.beq, beq_iff_eq] at h1
    rwa [h1, beq_frac_twice]
  case case5 =>
    intro _ a g b c h1 h2
    simp only [Val.beq, beq_iff_eq] at h1
    rwa [h1, beq_frac_flag _ g]
  case case7 =>
    intro a b ih c h1 h2
    cases c with
    | list c => simp only [Val.beq] at h1 h2 ⊢; exact ih _ h1 h2
    | _ => cases h2
  case case10 =>
    intro a b ih c h1 h2
    cases c with
    | dkeys c => simp only [Val.beq] at h1 h2 ⊢; exact ih _ h1 h2
    | _ => cases h2
  case case11 =>
    intro t x h1 h2 h3 h4 h5 h6 h7 h8 h9 h10 c hb _
    rw [Val.beq.eq_11 t x h1 h2 h3 h4 h5 h6 h7 h8 h9 h10] at hb
    cases hb
  case case12 => intro c _ h; exact h
  case case13 =>
    intro x xs y ys ih1 ih2 c h1 h2
    cases c with
    | nil => simp only [Val.beqList] at h2; cases h2
    | cons z zs =>
      simp only [Val.beqList, Bool.and_eq_true] at h1 h2 ⊢
      exact ⟨ih1 z h1.1 h2.1, ih2 zs h1.2 h2.2⟩
  case case14 =>
    intro t x h1 h2 c hb _
    rw [Val.beqList.eq_3 t x h1 h2] at hb
    cases hb

instance : PartialEquivBEq Val where
  symm h := val_beq_symm_imp.1 _ _ h
  trans h1 h2 := val_beq_trans.1 _ _ _ h1 h2

theorem lib_unique : implLib.unique = specLib.unique := by funext xs; exact uniqued_eq (fun x => x) xs
theorem call_unique (s : Val) : call implLib "unique" [.v s] = call specLib "unique" [.v s] := by
  rw [call_unique_def, call_unique_def, lib_unique]

/-! ## positioned streams (`stream(seq)`, core.rs `WrappedVec`) and chained infix forms -/

theorem wIterGo_eq_drop (items : List Val) (fuel pos : Nat) (h : items.length - pos ≤ fuel) :
    Val.wIterGo items fuel pos = items.drop pos := by
  induction fuel generalizing pos with
  | zero =>
    have : items.length ≤ pos := by omega
    simp [Val.wIterGo, List.drop_eq_nil_of_le this]
  | succ fuel ih =>
    simp only [Val.wIterGo]
    cases hx : items[pos]? with
    | none =>
      have : items.length ≤ pos := by simpa using hx
      simp [List.drop_eq_nil_of_le this]
    | some x =>
      obtain ⟨hlt, rfl⟩ := List.getElem?_eq_some_iff.mp hx
      rw [ih (pos + 1) (by omega)]
      exact (List.drop_eq_getElem_cons hlt).symm

/-- **the two views of a positioned stream agree**: what iteration (`next` from the read
position, used by map / fold / zip / window / …) sees is what `force` (used by the `multi!`
family, `reverse`, `suffixes`) returns: the elements from the position on, never the consumed
prefix -/
theorem wrapped_views_agree (items : List Val) (pos : Nat) :
    Val.wIter items pos = Val.wForce items pos :=
  wIterGo_eq_drop items _ pos (Nat.le_refl _)

theorem wrapped_elems_forced (items : List Val) (pos : Nat) :
    (Val.wrapped items pos).elems? = (Val.wrapped items pos).forced? := by
  simp [Val.elems?, Val.forced?, wrapped_views_agree]

/-- so every builtin sees an advanced `stream(seq)` exactly as the fresh stream of the remaining
elements -/
theorem multi_wrapped (items : List Val) (pos : Nat) (g : List Val → Out (List Val)) :
    multi (.wrapped items pos) g = multi (.stream (items.drop pos)) g := rfl

theorem multimulti_wrapped (items : List Val) (pos : Nat) (g : List Val → Out (List (List Val))) :
    multimulti (.wrapped items pos) g = multimulti (.stream (items.drop pos)) g := by
  simp [multimulti, Val.kind?, Val.elems?, wrapped_views_agree, Val.wForce]

theorem evalChainGo_merge (L : Lib) (f : String) (hf : chains f f = true) (args : List Arg) (rest : List Arg) :
    evalChainGo L f args (rest.map fun x => (f, x)) = call L f (args ++ rest) := by
  induction rest generalizing args with
  | nil => simp [evalChainGo]
  | cons x rest ih => simp [evalChainGo, hf, ih]

/-- a chain of one self-chaining operator is ONE n-ary call: `a zip b zip c = zip(a, b, c)`,
likewise `ziplongest` and `**`, for chains of every length -/
theorem evalChain_merge (L : Lib) (f : String) (hf : chains f f = true) (x0 x1 : Arg) (rest : List Arg) :
    evalChain L x0 ((x1 :: rest).map fun x => (f, x)) = call L f (x0 :: x1 :: rest) := by
  simp [evalChain, evalChainGo_merge L f hf]

/-- a trailing `with g` adds the function to the same call -/
theorem evalChainGo_with (L : Lib) (f : String) (hf : chains f "with" = true) (args : List Arg) (g : Arg) :
    evalChainGo L f args [("with", g)] = call L f (args ++ [g]) := by
  simp [evalChainGo, hf]

/-- operators that do not chain are nested binary calls: `a zip b ziplongest c = ziplongest(zip(a, b), c)` -/
theorem evalChain_nomerge (L : Lib) (f g : String) (h : chains f g = false) (x0 x1 x2 : Arg) :
    evalChain L x0 [(f, x1), (g, x2)] = andThen (call L f [x0, x1]) fun r => call L g [.v r, x2] := by
  simp [evalChain, evalChainGo, h]

example : chains "zip" "zip" = true ∧ chains "ziplongest" "ziplongest" = true ∧ chains "**" "**" = true
    ∧ chains "ziplongest" "zip" = false ∧ chains "zip" "ziplongest" = false := by decide


/-! ## whitespace (`words`, `trim`) means `char::is_whitespace` (Unicode `White_Space`) -/

/-- `trim_start` removes exactly the leading whitespace run; `trim_end` the trailing one -/
theorem trimStart_spec (s : List Char) :
    s.takeWhile isWs ++ trimStart s = s ∧ (∀ c, (trimStart s).head? = some c → isWs c = false) := by
  refine ⟨List.takeWhile_append_dropWhile, fun c hc => ?_⟩
  have := List.head?_dropWhile_not isWs s
  rwa [show (s.dropWhile isWs).head? = some c from hc] at this

theorem trimEnd_spec (s : List Char) : trimEnd s ++ (s.reverse.takeWhile isWs).reverse = s := by
  unfold trimEnd
  rw [← List.reverse_append, List.takeWhile_append_dropWhile, List.reverse_reverse]

/-- the table: the ASCII blanks 9–13, space, NEL, NBSP, the U+2000 block, line / paragraph separator,
U+3000 are whitespace; ZERO WIDTH SPACE, the BOM and U+001C are not -/
example : ([' ', '\t', '\n', '\r', '\u000b', '\u000c', '\u0085', ' ', ' ', ' ', ' ',
    ' ', ' ', ' ', ' ', '　'].all isWs) = true
    ∧ (['a', '​', '﻿', '\u001c', '᠎'].any isWs) = false := by decide

end Noulith.C13
