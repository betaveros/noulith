/-
C05 / C17 — translator tie for the hand-written vocabulary of the core-language model (`builtinNames`, `typeNames`,
`cataOfBuiltin` of Impl/CoreEval.lean).

`Generated/C05Tables.lean` is regenerated from /repo/src/lib.rs and core.rs by tools/extract_c05.py on
every run.  The facts below are checked by kernel evaluation over the WHOLE generated table.  A builtin renamed,
re-registered with another struct, a `catamorphism()` added or dropped, a changed `bias` or fold
identity in /repo breaks one of these obligations (reported as no-failing-input-found unless the
differential run also finds a failing program).
-/
import NoulithModel.Impl.CoreEval
import NoulithModel.Generated.C05Tables

namespace Noulith.C05T
open Noulith Noulith.Core

/-- the Rust struct family a name is registered with -/
def familyOf (n : String) : Option String := (C05Tables.registered.find? (·.1 == n)).map (·.2)

/-- the `Cata…` struct the Rust returns for a registered name, if any -/
def rustCata (n : String) : Option String :=
  match familyOf n with
  | some f => (C05Tables.cataFamilies.find? (·.1 == f)).map (·.2)
  | none => none

/-- the accumulator class of the model, named like the Rust struct that implements it; the parameters
that distinguish two builtins of the same struct (extremum bias, fold identity) are part of the name -/
def cataClass : Cata → String
  | .list _ => "CataList"
  | .first => "CataFirst"
  | .last none => "CataLast"
  | .last (some _) => "CataLast(started)"
  | .sum (.int 0) => "CataMapped:Obj::zero():a + b"
  | .sum _ => "CataMapped:?"
  | .extremum true none => "CataExtremum:Greater"
  | .extremum false none => "CataExtremum:Less"
  | .extremum _ (some _) => "CataExtremum(started)"
  | .count 0 => "CataCounter"
  | .count _ => "CataCounter(started)"

/-- the same name computed from the Rust tables -/
def rustCataClass (n : String) : Option String :=
  match rustCata n with
  | some "CataExtremum" => (C05Tables.extremumBias.find? (·.1 == n)).map fun r => "CataExtremum:" ++ r.2
  | some "CataMapped" =>
    (C05Tables.mappedFolds.find? (·.1 == n)).map fun r =>
      "CataMapped:" ++ r.2.1 ++ ":" ++ r.2.2
  | some c => some c
  | none => none

/-- names of the model that are operators / functions (types are checked separately) -/
def modelFuncNames : List String := builtinNames.filter (fun n => !typeNames.contains n)

def nameOk (n : String) : Bool :=
  (familyOf n).isSome && ((cataOfBuiltin n).map cataClass == rustCataClass n)

theorem table_check : modelFuncNames.all nameOk = true := by decide +kernel

/-- every function name of the model's vocabulary is registered by `initialize` -/
theorem model_builtins_registered : ∀ n ∈ modelFuncNames, (familyOf n).isSome = true := by
  intro n hn
  have h := List.all_eq_true.mp table_check n hn
  simp only [nameOk, Bool.and_eq_true] at h
  exact h.1

/-- a name of the model's vocabulary is a catamorphism in the model exactly when its Rust struct
implements `catamorphism()`, and then with the accumulator the Rust builds (`CataFirst`, `CataLast`,
`CataCounter`, `CataExtremum` with the registration's bias, `CataMapped` with the registration's identity
and fold) -/
theorem model_cata_matches_rust : ∀ n ∈ modelFuncNames, (cataOfBuiltin n).map cataClass = rustCataClass n := by
  intro n hn
  have h := List.all_eq_true.mp table_check n hn
  simp only [nameOk, Bool.and_eq_true, beq_iff_eq] at h
  exact h.2

/-- conversely no OTHER registered catamorphism is silently missing from the model's vocabulary without
being listed here: the registered names whose struct implements `catamorphism()` are exactly these -/
theorem rust_cata_names :
    (C05Tables.registered.filter (fun r => (C05Tables.cataFamilies.find? (·.1 == r.2)).isSome)).map (·.1)
      = ["sum", "product", "any", "all", "count", "max", "min", "first", "last", "set", "count_distinct"] := by
  decide +kernel

/-- the model's type names are registered types (`nulltype` … `anything`) -/
theorem model_types_registered : typeNames.all (fun t => C05Tables.typeNames.contains t) = true := by
  decide +kernel

/-- non-vacuity: the table is the real one (hundreds of registrations) and the vocabulary is not empty -/
example : C05Tables.registered.length > 250 ∧ modelFuncNames.length = 22 := by decide +kernel

end Noulith.C05T
