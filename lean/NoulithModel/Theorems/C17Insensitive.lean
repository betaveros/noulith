/-
C17 — "binds free variables eagerly": frozen first-order code does not depend on the outer variables at the time of
use.

`localOk T S e` (Theorems/C17Local.lean): first-order code in which EVERY identifier — read, assigned or op-assigned —
is surely declared locally when control reaches it (`S`: the names surely declared so far, initially e.g. the
parameters), and callees and `into` functions are `Frozen` nodes holding builtins.  This is what frozen code looks
like when the original satisfied `ScopeOK` and read no conditionally declared name: its free identifiers have become
`Frozen` nodes (`freeze_closed`), the others are local (`freeze_output_local`, Theorems/C17Bridge.lean).

Evaluating such code commutes with `cut n`, forgetting the contents of every frame older than `n`
(`frozen_code_reads_only_local_frames`); hence `frozen_code_insensitive`.  `cut n` is an instance `cutLogic` of the
rules of Theorems/C17Logic.lean (before a step `G`: the sure names are declared in frames `≥ n`; a step is a `Grew`:
the store grows, no frame older than `n` changes); `pres_all` is the induction over the fuel, each arm an inversion
of `localOk` and a rule.
-/
import NoulithModel.Theorems.C17Cut
import NoulithModel.Theorems.C17Logic
import NoulithModel.Theorems.C17Local
import NoulithModel.Theorems.C17Preserve

namespace Noulith.C17Insensitive
open Noulith Noulith.Core Noulith.C17Frames Noulith.C17Cut Noulith.C17Sim
open Noulith.C17Preserve (ok_bind ok_cond ok_if ok_bindB isSome_and_inv)

/-- every name of `S` has a declaration on the scope chain of `env` in a frame not older than `n` -/
def Sure (S : List String) (st : State) (env n : Nat) : Prop := ∀ x, x ∈ S → DeclAbove st.frames env n x

theorem Sure.ext {S : List String} {st st' : State} {env n : Nat} (h : Sure S st env n) (hx : Ext st st') :
    Sure S st' env n := fun x hxS => (h x hxS).ext hx.1

structure G (T : List Val) (n : Nat) (S : List String) (st : State) (env : Nat) : Prop where
  wf : WF st
  ge : n ≤ env
  lt : env < st.frames.size
  sure : Sure S st env n
  tab : T <+: st.frozenTab

structure Grew (n : Nat) (st st1 : State) : Prop where
  ext : Ext st st1
  wf : WF st1
  old : OldKept st st1 n []

variable {T : List Val} {n : Nat}

theorem lookup_cut {S : List String} {st : State} {env : Nat} (g : G T n S st env) {x : String} (hx : x ∈ S) :
    (cut n st).lookup env x = st.lookup env x := by
  unfold State.lookup
  simp only [cut_frames, cutF_size]
  exact lookupVar_cut n st.frames g.wf x _ env (g.sure x hx)

theorem Grew.write {S : List String} {st : State} {env : Nat} {x : String} {fs : Array Frame} (g : G T n S st env)
    (hx : x ∈ S) (ws : WriteStep st.frames fs env x) : Grew n st { st with frames := fs } :=
  ⟨⟨ws.ext, rfl⟩, ws.wf, fun y _ => ws.above n (g.sure x hx) n (Nat.le_refl _) y⟩

/-- the contexts are the names surely declared so far: any pattern may be bound, and makes its names sure; the
variables read and written are the sure ones -/
def cutLogic (T : List Val) (n : Nat) : Logic (cut n) (List String) where
  Pre := G T n
  Step := Grew n
  PatOk S p S' := S' = S ++ Pat.idents p
  Var S x := x ∈ S
  f := cutF n
  frames _ := rfl
  still := fun {S st env s} g hf ht =>
    ⟨⟨by rw [hf]; exact ExtF.refl _, ht⟩, by unfold WF; rw [hf]; exact g.wf, fun y _ => by rw [hf]; exact SameAt.refl _ _ _⟩
  trans h1 h2 := ⟨h1.ext.trans h2.ext, h2.wf, h1.old.trans h2.old⟩
  keep g h := ⟨h.wf, g.ge, Nat.lt_of_lt_of_le g.lt h.ext.1.1, g.sure.ext h.ext, by rw [h.ext.2]; exact g.tab⟩
  fresh := fun {S st env} g => by
    have hsz : n ≤ st.frames.size := Nat.le_trans g.ge (Nat.le_of_lt g.lt)
    have hx : ExtF st.frames (newFrame st env).1.frames := push_extF _ _
    refine ⟨newFrame_cut n st env hsz, ⟨⟨hx, rfl⟩, push_wf st.frames g.wf [] env g.lt [],
      fun y _ => push_sameAt y st.frames _ n hsz⟩, push_wf st.frames g.wf [] env g.lt [], hsz, by simp [newFrame],
      fun x hxS => ?_, g.tab⟩
    obtain ⟨i, fr, hc, hni, hfr, hdx⟩ := g.sure x hxS
    obtain ⟨fr', hfr', _, hn'⟩ := hx.2 _ _ hfr
    exact ⟨i, fr', C17Preserve.onChain_new hc, hni, hfr', hn' x hdx⟩
  bind := fun {S S' st env p} d v g hp => by
    subst hp
    obtain ⟨fstep, htab, _, hdecl⟩ := declarePat_step d st env p v
    have gr : Grew n st (declarePat d st env p v).2 :=
      ⟨⟨fstep.ext, htab⟩, fstep.wf g.wf, fun y _ => fstep.below n g.ge y⟩
    refine ⟨declarePat_cut n env g.ge d st p v, gr, fun hok =>
      ⟨gr.wf, g.ge, by rw [fstep.size]; exact g.lt, fun x hx => ?_, by rw [htab]; exact g.tab⟩⟩
    rcases List.mem_append.mp hx with h | h
    · exact (g.sure x h).ext fstep.ext
    · obtain ⟨fr, hfr, hd⟩ := hdecl hok x h
      exact ⟨env, fr, .here _, g.ge, hfr, hd⟩
  lookup g hx := lookup_cut g hx
  wf g := g.wf
  assign := fun {S st env x} v g hx => by rw [cutF_size]; exact assignVar_cut n st.frames g.wf x v _ env (g.sure x hx)
  drop := fun {S st env x} g hx => by rw [cutF_size]; exact dropVar_cut n st.frames g.wf x _ env (g.sure x hx)
  write g hx ws := Grew.write g hx ws

/-! ### the statements

One per evaluator function: run from `cut n st`, the function gives the outcome it gives from `st`, with
the store cut; the store has `Grew`; and after a normal end `G` holds for the names then surely declared. -/

variable (T n)

structure Pres (k : Nat) : Prop where
  ev : ∀ {S S' : List String} {e : Expr}, localOk T S e = some S' → (cutLogic T n).toP.Ev k S e e S'
  evList : ∀ {S S' : List String} {es : List Expr}, localList T S es = some S' →
    (cutLogic T n).toP.EvList k S es es S'
  evSeq : ∀ {S S' : List String} {es : List Expr}, localList T S es = some S' →
    (cutLogic T n).toP.EvSeq k S es es S'
  evSwitch : ∀ {S : List String} {arms : List SwitchArm}, localArms T S arms = true →
    (cutLogic T n).toP.EvSwitch k S arms arms
  evWhile : ∀ {S S1 S2 : List String} {c b : Expr}, localOk T S c = some S1 → localOk T S1 b = some S2 →
    (cutLogic T n).toP.EvWhile k S c b c b
  evFor : ∀ {S S2 : List String} {its : List ForIt} {body : ForBody}, localIts T S its = some S2 →
    localBody T S2 body = true → (cutLogic T n).toP.EvFor k S its body its body S
  fItems : ∀ {S S2 : List String} {p : Pat} {rest : List ForIt} {body : ForBody},
    localIts T (S ++ Pat.idents p) rest = some S2 → localBody T S2 body = true →
    (cutLogic T n).toP.EvItems k S p rest body rest body
  fBody : ∀ {S : List String} {body : ForBody}, localBody T S body = true →
    (cutLogic T n).toP.EvBody k S body body S

theorem Pres.zero : Pres T n 0 where
  ev _ := PLogic.Ev.zero trivial
  evList _ := PLogic.EvList.zero trivial
  evSeq _ := PLogic.EvSeq.zero trivial
  evSwitch _ := PLogic.EvSwitch.zero
  evWhile _ _ := PLogic.EvWhile.zero
  evFor _ _ := PLogic.EvFor.zero trivial
  fItems _ _ := PLogic.EvItems.zero
  fBody _ := PLogic.EvBody.zero trivial

variable {T n}

theorem list_step {k : Nat} (ih : Pres T n k) {S S' : List String} {es : List Expr}
    (hok : localList T S es = some S') : (cutLogic T n).toP.EvList (k + 1) S es es S' := by
  cases es with
  | nil => cases hok; exact PLogic.list_nil
  | cons x xs =>
    obtain ⟨S1, hokX, hokXs⟩ := ok_bind hok
    exact PLogic.list_cons (ih.ev hokX) (ih.evList hokXs) trivial

theorem seq_step {k : Nat} (ih : Pres T n k) {S S' : List String} {es : List Expr}
    (hok : localList T S es = some S') : (cutLogic T n).toP.EvSeq (k + 1) S es es S' := by
  cases es with
  | nil => cases hok; exact PLogic.seq_nil
  | cons x xs =>
    obtain ⟨S1, hokX, hokXs⟩ := ok_bind hok
    cases xs with
    | nil => cases hokXs; exact PLogic.seq_one (ih.ev hokX)
    | cons y ys => exact PLogic.seq_cons (ih.ev hokX) (ih.evSeq hokXs) trivial

theorem switch_step {k : Nat} (ih : Pres T n k) {S : List String} {arms : List SwitchArm}
    (hok : localArms T S arms = true) : (cutLogic T n).toP.EvSwitch (k + 1) S arms arms := by
  cases arms with
  | nil => exact PLogic.switch_nil
  | cons a rest =>
    obtain ⟨p, body⟩ := a
    obtain ⟨⟨Sb, hokB⟩, hokR⟩ := isSome_and_inv hok
    exact PLogic.switch_cons rfl (ih.ev hokB) (ih.evSwitch hokR)

theorem body_step {k : Nat} (ih : Pres T n k) {S : List String} {body : ForBody}
    (hok : localBody T S body = true) : (cutLogic T n).toP.EvBody (k + 1) S body body S := by
  cases body with
  | exec e =>
    obtain ⟨Se, hokE⟩ := Option.isSome_iff_exists.mp hok
    exact PLogic.body_exec (ih.ev hokE)
  | yield e into =>
    obtain ⟨⟨Se, hokE⟩, _⟩ := isSome_and_inv hok
    exact PLogic.body_yield (c2 := S) _ _ (ih.ev hokE) trivial
  | yieldItem key v into =>
    obtain ⟨Sk, hokK, hok⟩ := ok_bindB hok
    obtain ⟨⟨Sv, hokV⟩, _⟩ := isSome_and_inv hok
    exact PLogic.body_item (c3 := S) _ _ (ih.ev hokK) (ih.ev hokV) trivial trivial

theorem for_step {k : Nat} (ih : Pres T n k) {S S2 : List String} {its : List ForIt} {body : ForBody}
    (hokI : localIts T S its = some S2) (hokB : localBody T S2 body = true) :
    (cutLogic T n).toP.EvFor (k + 1) S its body its body S := by
  cases its with
  | nil => cases hokI; exact PLogic.for_nil (ih.fBody hokB)
  | cons it rest =>
    cases it with
    | guard gd =>
      obtain ⟨S1, hokG, hokI⟩ := ok_bind hokI
      exact PLogic.for_guard (ih.ev hokG) (ih.evFor hokI hokB) trivial
    | iter kind p e =>
      obtain ⟨S1, hokE, hokR⟩ := ok_bind hokI
      exact PLogic.for_iter kind (ih.ev hokE) rfl (ih.evFor hokR hokB) (ih.fItems hokR hokB)

/-! ### builtins: callees and `into` functions -/

theorem builtin_frozen {S : List String} {i : Nat} (hb : builtinAt T i = true) (k : Nat) :
    (cutLogic T n).toP.EvBuiltin k S (.frozen i) (.frozen i) :=
  PLogic.builtin_frozen (fun _ => PLogic.frozen i) fun g => builtinAt_get hb (G.tab g)

theorem into_ok {k : Nat} {S : List String} {o : Option Expr} (hok : localInto T o = true) :
    PLogic.IntoOk (cutLogic T n).toP k S o o := by
  rcases localInto_inv hok with rfl | ⟨i, rfl, hb⟩
  · exact .absent
  · exact .builtin (builtin_frozen hb)

/-! ### assembling -/

theorem eval_step {k : Nat} (ih : Pres T n k) {S S' : List String} {e : Expr}
    (hok : localOk T S e = some S') : (cutLogic T n).toP.Ev (k + 1) S e e S' := by
  cases e with
  | null => cases hok; exact PLogic.null
  | int j => cases hok; exact PLogic.int j
  | str j => cases hok; exact PLogic.str j
  | cont j => cases hok; exact PLogic.cont j
  | frozen i => cases hok; exact PLogic.frozen i
  | ident x =>
    obtain ⟨hx, hok⟩ := ok_if hok
    cases hok
    exact PLogic.ident (List.contains_iff_mem.mp hx)
  | list xs => exact PLogic.list (ih.evList hok)
  | op name a b =>
    obtain ⟨S1, hokA, hokB⟩ := ok_bind hok
    exact PLogic.op name (ih.ev hokA) (ih.ev hokB) trivial
  | index a b =>
    obtain ⟨S1, hokA, hokB⟩ := ok_bind hok
    exact PLogic.index (ih.ev hokA) (ih.ev hokB) trivial
  | call f args =>
    cases f with
    | frozen i =>
      obtain ⟨hb, hok⟩ := ok_if hok
      exact PLogic.call_builtin (builtin_frozen hb k) (ih.evList hok) trivial
    | _ => cases hok
  | and_ a b =>
    obtain ⟨S2, hokA, hokB⟩ := ok_cond hok
    exact PLogic.and_ (ih.ev hokA) (ih.ev hokB) trivial
  | or_ a b =>
    obtain ⟨S2, hokA, hokB⟩ := ok_cond hok
    exact PLogic.or_ (ih.ev hokA) (ih.ev hokB) trivial
  | coalesce a b =>
    obtain ⟨S2, hokA, hokB⟩ := ok_cond hok
    exact PLogic.coalesce (ih.ev hokA) (ih.ev hokB) trivial
  | seq xs semi => exact PLogic.seq_ semi (ih.evSeq hok)
  | ite c t e =>
    obtain ⟨S1, hokC, hok⟩ := ok_bind hok
    obtain ⟨St, hokT, hok⟩ := ok_bind hok
    obtain ⟨Se, hokE, hok⟩ := ok_bind hok
    cases hok
    exact PLogic.ite (c2 := St) (c3 := Se) (ih.ev hokC) (ih.ev hokT) trivial trivial
      (fun x hx => ⟨x, hx, ih.ev (by subst hx; exact hokE)⟩) id
  | while_ c b =>
    obtain ⟨S1, hokC, hok⟩ := ok_bind hok
    obtain ⟨S2, hokB, hok⟩ := ok_bind hok
    cases hok
    exact PLogic.while_ (ih.evWhile hokC hokB)
  | for_ its body =>
    obtain ⟨S2, hokI, hok⟩ := ok_bind hok
    obtain ⟨hokB, hok⟩ := ok_if hok
    cases hok
    cases body with
    | exec e => exact PLogic.for_exec (ih.evFor hokI hokB)
    | yield e into => exact PLogic.for_yield (into_ok (isSome_and_inv hokB).2) (ih.evFor hokI hokB) trivial
    | yieldItem key v into =>
      obtain ⟨S1, _, hokV⟩ := ok_bindB hokB
      exact PLogic.for_item (into_ok (isSome_and_inv hokV).2) (ih.evFor hokI hokB) trivial
  | declare p rhs =>
    obtain ⟨S1, hokR, hok⟩ := ok_bind hok
    cases hok
    exact PLogic.declare (ih.ev hokR) rfl trivial
  | assign x rhs =>
    obtain ⟨hx, hok⟩ := ok_if hok
    exact PLogic.assign_ (ih.ev hok) (localOk_mono hok (List.contains_iff_mem.mp hx))
  | opassign x opn rhs =>
    obtain ⟨hx, hok⟩ := ok_if hok
    exact PLogic.opassign opn (List.contains_iff_mem.mp hx) (ih.ev hok) trivial
      (localOk_mono hok (List.contains_iff_mem.mp hx))
  | brk j e =>
    cases e with
    | none => cases hok; exact PLogic.brk_none j
    | some e1 => exact PLogic.brk j (ih.ev (e := e1) hok)
  | ret e =>
    cases e with
    | none => cases hok; exact PLogic.ret_none
    | some e1 => exact PLogic.ret (ih.ev (e := e1) hok)
  | throw_ e => exact PLogic.throw_ (ih.ev (e := e) hok)
  | try_ b p c =>
    obtain ⟨Sb, hokB, hok⟩ := ok_bind hok
    obtain ⟨Sc, hokC, hok⟩ := ok_bind hok
    cases hok
    exact PLogic.try_ (ih.ev hokB) rfl (ih.ev hokC)
  | switch_ sc arms =>
    obtain ⟨S1, hokS, hok⟩ := ok_bind hok
    obtain ⟨hokA, hok⟩ := ok_if hok
    cases hok
    exact PLogic.switch_ (ih.ev hokS) (ih.evSwitch hokA)
  | lambda ps body => cases hok
  | evalSrc e => cases hok
  | freeze e => cases hok

theorem Pres.step {k : Nat} (ih : Pres T n k) : Pres T n (k + 1) where
  ev := eval_step ih
  evList := list_step ih
  evSeq := seq_step ih
  evSwitch := switch_step ih
  evWhile hokC hokB := PLogic.while_step (ih.ev hokC) (ih.ev hokB) (ih.evWhile hokC hokB)
  evFor := for_step ih
  fItems hokR hokB := PLogic.items_step rfl (ih.evFor hokR hokB) (ih.fItems hokR hokB)
  fBody := body_step ih

theorem pres_all (T : List Val) (n : Nat) : ∀ k, Pres T n k := by
  intro k
  induction k with
  | zero => exact Pres.zero T n
  | succ j ih => exact ih.step

/-! ## the theorems -/

/-- **Frozen code reads only local frames.**  `e`: first-order code all of whose identifiers are surely
declared locally (`localOk`; its other names have become `Frozen` nodes).  `n`: a frame id such that every
name of `S` has a declaration on the scope chain in a frame `≥ n` (for a function body: the call frame).
Then evaluating `e` after FORGETTING the contents of all frames older than `n` gives the same result, and
the same state up to that forgetting: nothing older than `n` is ever looked at. -/
theorem frozen_code_reads_only_local_frames (T : List Val) (n : Nat) (S S' : List String) (e : Expr)
    (st : State) (env fuel : Nat) (hok : localOk T S e = some S')
    (hwf : WF st) (hge : n ≤ env) (hlt : env < st.frames.size) (hsure : Sure S st env n)
    (htab : T <+: st.frozenTab) :
    eval fuel (cut n st) env e = ((eval fuel st env e).1, cut n (eval fuel st env e).2) :=
  (((pres_all T n fuel).ev hok).sim ⟨hwf, hge, hlt, hsure, htab⟩).eq

/-- **…and writes only local frames**: no variable of a frame older than `n` is changed (in particular no
outer variable is assigned), the store only grows -/
theorem frozen_code_writes_only_local_frames (T : List Val) (n : Nat) (S S' : List String) (e : Expr)
    (st : State) (env fuel : Nat) (hok : localOk T S e = some S')
    (hwf : WF st) (hge : n ≤ env) (hlt : env < st.frames.size) (hsure : Sure S st env n)
    (htab : T <+: st.frozenTab) :
    OldKept st (eval fuel st env e).2 n [] ∧ Ext st (eval fuel st env e).2 := by
  have h := (((pres_all T n fuel).ev hok).sim ⟨hwf, hge, hlt, hsure, htab⟩).inv
  exact ⟨h.step.old, h.step.ext⟩

/-- **Insensitivity ("free variables are bound eagerly").**  Run the same frozen first-order code in two
stores that agree on everything from frame `n` on — the call frame and whatever is newer — but may differ
ARBITRARILY in the variables of all older frames: the outer variables, whatever was assigned to them after
the freeze.  The results are equal, and so are the final stores from frame `n` on. -/
theorem frozen_code_insensitive (T : List Val) (n : Nat) (S S' : List String) (e : Expr)
    (st₁ st₂ : State) (env fuel : Nat) (hok : localOk T S e = some S')
    (hwf₁ : WF st₁) (hwf₂ : WF st₂) (hge : n ≤ env) (hlt₁ : env < st₁.frames.size) (hlt₂ : env < st₂.frames.size)
    (hsure₁ : Sure S st₁ env n) (hsure₂ : Sure S st₂ env n)
    (htab₁ : T <+: st₁.frozenTab) (htab₂ : T <+: st₂.frozenTab)
    (hcut : cut n st₁ = cut n st₂) :
    (eval fuel st₁ env e).1 = (eval fuel st₂ env e).1 ∧
    cut n (eval fuel st₁ env e).2 = cut n (eval fuel st₂ env e).2 := by
  have h1 := frozen_code_reads_only_local_frames T n S S' e st₁ env fuel hok hwf₁ hge hlt₁ hsure₁ htab₁
  have h2 := frozen_code_reads_only_local_frames T n S S' e st₂ env fuel hok hwf₂ hge hlt₂ hsure₂ htab₂
  rw [hcut] at h1
  have := h1.symm.trans h2
  exact ⟨(Prod.mk.inj this).1, (Prod.mk.inj this).2⟩

/-! ## non-vacuity: the frozen form of the example program of Theorems/C17Preserve.lean -/

section Examples
open Noulith.C17Preserve (stO prog)
open Noulith.C17Closed (lookOf)

/-- `prog` frozen in the scope `o = 5` (the five occurrences of `o` and the builtin `len` become `Frozen`
nodes), with the table of frozen values -/
def frozenProg : Option (Expr × List Val) :=
  match freezeExpr (lookOf stO 0) ⟨[], []⟩ prog with
  | .ok (e', s') => some (e', s'.tab)
  | .error _ => none

example : (match frozenProg with | some (e', T) => (localOk T [] e').isSome | none => false) = true := by
  decide +kernel

/-- the original is not local: it reads the outer `o` -/
example : (localOk [] [] prog).isSome = false := by decide +kernel

/-- a call frame (frame 1) under an outer scope in which `o` holds `x` -/
def stCall (x : Int) (T : List Val) : State :=
  { frames := #[{ vars := [("o", .int x)], parent := none }, { vars := [], parent := some 0 }], out := [],
    frozenTab := T }

/-- the outer `o` was 5 at freeze time; at use time it is 5 in one store, 99 in the other.  The unfrozen
program sees the difference, the frozen one does not … -/
example : (eval 40 (stCall 5 []) 1 prog).1 matches .val (.list [.int 30, .int 2, .int 35, .int 1]) := by
  decide +kernel
example : (eval 40 (stCall 99 []) 1 prog).1 matches .val (.list [.int 594, .int 2, .int 693, .int 1]) := by
  decide +kernel
example : (match frozenProg with
    | some (e', T) => (match (eval 40 (stCall 5 T) 1 e').1, (eval 40 (stCall 99 T) 1 e').1 with
      | .val (.list [.int 30, .int 2, .int 35, .int 1]), .val (.list [.int 30, .int 2, .int 35, .int 1]) => true
      | _, _ => false)
    | none => false) = true := by decide +kernel

theorem wf_stCall (x : Int) (T : List Val) : WF (stCall x T) := by
  intro i fr p h hp
  have hi : i < 2 := by have := getElem?_lt_size h; simpa [stCall] using this
  have : i = 0 ∨ i = 1 := by omega
  rcases this with rfl | rfl
  · simp [stCall] at h; subst h; simp at hp
  · simp [stCall] at h; subst h; simp at hp; omega

/-- … as `frozen_code_insensitive` says it must: its hypotheses hold for these two stores, `n = 1` -/
example (e' : Expr) (T : List Val) (S' : List String) (hok : localOk T [] e' = some S') (fuel : Nat) :
    (eval fuel (stCall 5 T) 1 e').1 = (eval fuel (stCall 99 T) 1 e').1 :=
  (frozen_code_insensitive T 1 [] S' e' (stCall 5 T) (stCall 99 T) 1 fuel hok (wf_stCall _ _) (wf_stCall _ _)
    (Nat.le_refl _) (by simp [stCall]) (by simp [stCall]) (fun _ h => absurd h (by simp))
    (fun _ h => absurd h (by simp)) (List.prefix_refl _) (List.prefix_refl _)
    (cut_eq_of_agree 1 _ _ rfl
      (fun i hi => by
        rcases Nat.lt_or_ge i 2 with h | h
        · have : i = 1 := by omega
          subst this; rfl
        · simp [stCall, h])
      (fun i fr₁ fr₂ hi h1 h2 => by
        have : i = 0 := by omega
        subst this
        simp [stCall] at h1 h2
        subst h1 h2; rfl)
      rfl rfl)).1

end Examples

end Noulith.C17Insensitive
