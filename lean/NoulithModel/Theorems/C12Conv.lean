/-
C12 — `conversion_lands_in_type`: calling a type (`int`, `rational`, `float`, `number`,
`list`, `str`, `bytes`, `vector`, `dict`, `stream`, `type`, a struct) returns a value of that type
or raises; the remaining type objects cannot be called.  Proved for every argument and for every
behaviour of the external parsers, printers and float rounding (`ConvOracle`).
-/
import NoulithModel.Impl.PatternConv
import NoulithModel.Lemmas.Out

namespace Noulith.C12

theorem callStruct_inst (sid : Nat) (sd : StructDef) (args : List Val) (w : Val)
    (h : callStruct sid sd args = .ok w) : ∃ fs, w = .inst sid fs := by
  obtain ⟨fs, _, rfl⟩ := Out.map_eq_ok h
  exact ⟨fs, rfl⟩

theorem conversion_lands_in_type (O : ConvOracle) (structs : Nat → StructDef) (T : Ty) (v w : Val)
    (h : callType1 O structs T v = .ok w) : isType T w = .ok true := by
  revert h
  fun_cases callType1 O structs T v
  all_goals intro h
  -- two arms return through a function: `list` of a non-list (`case33`) and a struct (`case60`);
  -- every other arm that returns builds its result with the constructor of the requested type
  case case33 => obtain ⟨a, _, rfl⟩ := Out.map_eq_ok h; rfl
  case case60 sid =>
    obtain ⟨fs, rfl⟩ := callStruct_inst sid _ _ w h
    exact congrArg Out.ok (beq_self_eq_true sid)
  all_goals cases h
  all_goals rfl

theorem callType_lands_in_type (O : ConvOracle) (structs : Nat → StructDef) (T : Ty) (args : List Val) (w : Val)
    (h : callType O structs T args = .ok w) : isType T w = .ok true := by
  unfold callType at h
  split at h
  · next sid =>
    obtain ⟨fs, rfl⟩ := callStruct_inst sid _ _ w h
    simp [isType]
  · split at h
    · exact conversion_lands_in_type O structs T _ w h
    · simp at h

end Noulith.C12
