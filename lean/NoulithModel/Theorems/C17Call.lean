/-
C17 — calling a closure with plain parameters is evaluating its body in `callState` (`callVal_plain`), and the
shape of that state.
-/
import NoulithModel.Theorems.C17Frames

namespace Noulith.C17Main
open Noulith Noulith.Core Noulith.C17Frames

/-! ## calling a function with plain parameters -/

def plainParams (names : List String) : List Param := names.map fun x => Param.mk x none false none

theorem plain_ann (names : List String) : (plainParams names).filterMap Param.ann = [] := by
  simp [plainParams, Param.ann]

theorem plain_names (names : List String) : (plainParams names).map Param.name = names := by
  simp [plainParams, Function.comp_def, Param.name]

theorem plain_splat (names : List String) : (plainParams names).filter Param.isSplat = [] := by
  simp [plainParams, Param.isSplat]

theorem plain_any_splat (names : List String) : (plainParams names).any Param.isSplat = false := by
  simp [plainParams, Param.isSplat]

theorem plain_length (names : List String) : (plainParams names).length = names.length := by
  simp [plainParams]

theorem plain_no_dflt (names : List String) : ∀ p, p ∈ plainParams names → p.dflt = none := by
  intro p hp
  simp only [plainParams, List.mem_map] at hp
  obtain ⟨x, _, rfl⟩ := hp
  rfl

theorem plain_no_ann (names : List String) : ∀ p, p ∈ plainParams names → p.ann = none := by
  intro p hp
  simp only [plainParams, List.mem_map] at hp
  obtain ⟨x, _, rfl⟩ := hp
  rfl

theorem plain_defaults (nargs : Nat) (names : List String) : ∀ i, defaultsInPlay nargs (plainParams names) i false [] = some [] := by
  induction names with
  | nil => intro i; rfl
  | cons x xs ih =>
    intro i
    simp only [plainParams, List.map_cons, defaultsInPlay, Param.isSplat, Param.dflt, Bool.false_eq_true,
      ↓reduceIte, List.isEmpty_nil]
    exact ih (i + 1)

theorem plain_annSlots (names : List String) : ∀ sl, sl ∈ annSlots (plainParams names) [] → sl = none := by
  induction names with
  | nil => intro sl h; simp [plainParams, annSlots] at h
  | cons x xs ih =>
    intro sl h
    simp only [plainParams, List.map_cons, annSlots, Param.ann, List.mem_cons] at h
    rcases h with h | h
    · exact h
    · exact ih sl h

theorem checkBinds_none (binds : List (String × Val)) : ∀ (slots : List (Option Val)) (vars tys : List (String × Val)),
    (∀ sl, sl ∈ slots → sl = none) → checkBinds slots binds vars tys = (true, vars ++ binds, tys) := by
  induction binds with
  | nil => intro slots vars tys _; simp [checkBinds]
  | cons b rest ih =>
    intro slots vars tys h
    obtain ⟨x, v⟩ := b
    cases slots with
    | nil => simp only [checkBinds]; rw [ih [] _ _ (fun _ h => absurd h (by simp))]; simp
    | cons sl slots =>
      have : sl = none := h sl (List.mem_cons_self ..)
      subst this
      simp only [checkBinds]
      rw [ih slots _ _ (fun sl hs => h sl (List.mem_cons_of_mem _ hs))]; simp

/-- the frame in which the body of a called function starts: a fresh child of the closure's scope holding the
parameters -/
def callFrame (cenv : Nat) (names : List String) (args : List Val) : Frame :=
  { vars := names.zip args, parent := some cenv, tys := [] }

/-- written as `callVal` leaves the store (`newFrame`, then the frame is set); `callState_frames`: it is a push -/
def callState (st : State) (cenv : Nat) (names : List String) (args : List Val) : State :=
  { st with
    frames := (st.frames.push { vars := [], parent := some cenv }).setIfInBounds st.frames.size
                (callFrame cenv names args) }

/-- `Closure::run` turns the body's `return v` into the value `v` -/
def absorb : Res × State → Res × State
  | (.ret v, s) => (.val v, s)
  | r => r

theorem absorb_fst {r₁ r₂ : Res × State} (h : r₁.1 = r₂.1) : (absorb r₁).1 = (absorb r₂).1 := by
  obtain ⟨a, s1⟩ := r₁
  obtain ⟨b, s2⟩ := r₂
  simp only at h
  subst h
  cases a <;> rfl

theorem callVal_plain (fuel : Nat) (st : State) (env cenv : Nat) (names : List String) (body : Expr)
    (args : List Val) (hlen : args.length = names.length) :
    callVal (fuel + 2) st env (.closure (plainParams names) body cenv) args =
      absorb (eval (fuel + 1) (callState st cenv names args) st.frames.size body) := by
  have hb : bindArgs (plainParams names) args [] = some (names.zip args) := by
    simp only [bindArgs, plain_splat, List.length_nil, List.append_nil, plain_length, hlen, plain_names]
    simp
  simp only [callVal, newFrame, plain_ann, evalList, plain_defaults, plain_any_splat, plain_length, hlen,
    List.length_nil, hb]
  simp only [Bool.not_false, Bool.true_and, Nat.add_zero, bne_self_eq_false, Bool.false_eq_true, ↓reduceIte,
    Array.getElem?_push, checkBinds_none _ _ _ _ (plain_annSlots names), List.nil_append, callState, callFrame, absorb]
  rfl

/-! ## the call state -/

theorem lookupIn_zip_none (names : List String) (args : List Val) (x : String) (h : x ∉ names) :
    lookupIn (names.zip args) x = none := by
  induction names generalizing args with
  | nil => simp [lookupIn]
  | cons y ys ih =>
    cases args with
    | nil => simp [lookupIn]
    | cons a as =>
      have hy : ¬ y = x := fun e => h (e ▸ List.mem_cons_self ..)
      simp only [List.zip_cons_cons, lookupIn, hy, ↓reduceIte]
      exact ih as (fun hm => h (List.mem_cons_of_mem _ hm))

theorem lookupIn_zip_isSome (names : List String) (args : List Val) (x : String) (h : x ∈ names)
    (hlen : args.length = names.length) : (lookupIn (names.zip args) x).isSome := by
  induction names generalizing args with
  | nil => simp at h
  | cons y ys ih =>
    cases args with
    | nil => simp at hlen
    | cons a as =>
      simp only [List.zip_cons_cons, lookupIn]
      by_cases hy : y = x
      · simp [hy]
      · simp only [hy, ↓reduceIte]
        rcases List.mem_cons.mp h with h | h
        · exact absurd h.symm hy
        · exact ih as h (by simpa using hlen)

theorem callState_step (st : State) (cenv : Nat) (names : List String) (args : List Val) :
    FrameStep (newFrame st cenv).1.frames (callState st cenv names args).frames (newFrame st cenv).2 names :=
  FrameStep.set (newFrame st cenv).1.frames st.frames.size { vars := [], parent := some cenv }
    (callFrame cenv names args) names Array.getElem?_push_size rfl (fun _ hx => nomatch hx)
    (fun y hy => (lookupIn_zip_none names args y hy).trans rfl)

theorem push_set_last {α : Type} (xs : Array α) (x y : α) :
    (xs.push x).setIfInBounds xs.size y = xs.push y := by
  apply Array.ext_getElem?
  intro i
  rw [Array.getElem?_setIfInBounds, Array.getElem?_push, Array.getElem?_push, Array.size_push]
  by_cases h : xs.size = i
  · rw [if_pos h, if_pos (h ▸ Nat.lt_succ_self _), if_pos h.symm]
  · rw [if_neg h, if_neg (Ne.symm h), if_neg (Ne.symm h)]

theorem callState_frames (st : State) (cenv : Nat) (names : List String) (args : List Val) :
    (callState st cenv names args).frames = st.frames.push (callFrame cenv names args) :=
  push_set_last ..

theorem callState_frame (st : State) (cenv : Nat) (names : List String) (args : List Val) :
    (callState st cenv names args).frames[st.frames.size]? = some (callFrame cenv names args) := by
  rw [callState_frames]
  exact Array.getElem?_push_size

theorem callState_old {st : State} {i : Nat} (cenv : Nat) (names : List String) (args : List Val)
    (hi : i < st.frames.size) : (callState st cenv names args).frames[i]? = st.frames[i]? := by
  rw [callState_frames, Array.getElem?_push, if_neg (Nat.ne_of_lt hi)]

theorem callState_wf {st : State} {cenv : Nat} (names : List String) (args : List Val) (hwf : WF st)
    (hlt : cenv < st.frames.size) : WF (callState st cenv names args) :=
  (callState_step st cenv names args).wf (push_wf st.frames hwf [] cenv hlt [])

theorem callState_size (st : State) (cenv : Nat) (names : List String) (args : List Val) :
    (callState st cenv names args).frames.size = st.frames.size + 1 := by
  rw [callState_frames]
  exact Array.size_push _

end Noulith.C17Main
