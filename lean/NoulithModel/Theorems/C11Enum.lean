/-
C11 — enumeration order: the streams enumerate exactly the closed forms of the Spec, in
that order, for every input length:
`subsequences(xs)` = `subseqs xs` (big-endian binary counting), `xs ^^ k` = `tuples xs k`
(odometer), `combinations(xs, k)` = `combs k xs` (lexicographic index successor).
(`permutations` is in C11EnumPerm.lean.)

Method: the three successors are odometers — the successor of `d :: v` is the successor of `v` with
`d` back in front, or a carry into `d` when `v` is exhausted (`bump`).  So a run of the tails, with
`d` in front, is a run (`Run.map_cons`), and the run of the index vectors of one length more is the
concatenation of such blocks: it is the Spec's own list over the positions, and picking the elements
is natural in the base.  The runs start at the constructor's initial vector and end with the stream.
-/
import NoulithModel.Theorems.C11
import NoulithModel.Lemmas.PermLex

namespace Noulith.C11
open Noulith Noulith.Stream Noulith.StreamSpec

theorem pickAll_cons {α : Type} (base : List α) (d : Nat) (ds : List Nat) (x : α) (h : base[d]? = some x) :
    pickAll base (d :: ds) = x :: pickAll base ds := by
  simp [pickAll, h]

/-! ## runs of a successor on vectors -/
section Run
variable {V ι : Type}

/-- from `o` the successor passes through exactly the vectors `L` and then stands at `e` -/
def Run (succ : V → Option V) : Option V → List V → Option V → Prop
  | o, [], e => o = e
  | o, v :: L, e => o = some v ∧ Run succ (succ v) L e

theorem Run.append {succ : V → Option V} {o m e : Option V} {L1 L2 : List V}
    (a : Run succ o L1 m) (b : Run succ m L2 e) : Run succ o (L1 ++ L2) e := by
  induction L1 generalizing o with
  | nil => exact a ▸ b
  | cons s r ih => exact ⟨a.1, ih a.2⟩

/-- the successor of `d :: v` for an odometer: the tail's successor with `d` back in front, or the
carry `fb` when the tail is exhausted -/
def bump (d : ι) (fb : Option (List ι)) : Option (List ι) → Option (List ι)
  | some v => some (d :: v)
  | none => fb

theorem Run.map_cons {succ : List ι → Option (List ι)} {o e : Option (List ι)} {L : List (List ι)}
    (h : Run succ o L e) (d : ι) (fb : Option (List ι))
    (hs : ∀ v ∈ L, succ (d :: v) = bump d fb (succ v)) :
    Run succ (bump d fb o) (L.map (d :: ·)) (bump d fb e) := by
  induction L generalizing o with
  | nil => exact congrArg _ h
  | cons s r ih =>
    obtain ⟨rfl, h⟩ := h
    exact ⟨rfl, hs s List.mem_cons_self ▸ ih h fun v hv => hs v (List.mem_cons_of_mem _ hv)⟩

/-- a stream whose state is an optional vector yields, along a run that ends, the picked elements -/
theorem unfolds_of_run {σ β : Type} {next : σ → Option (β × σ)} (st : Option V → σ) (pick : V → β)
    (succ : V → Option V) (hnone : next (st none) = none)
    {o : Option V} {L : List V} (h : Run succ o L none)
    (hsome : ∀ v ∈ L, next (st (some v)) = some (pick v, st (succ v))) :
    Unfolds next (st o) (L.map pick) := by
  induction L generalizing o with
  | nil => cases h; exact .done hnone
  | cons v L ih =>
    obtain ⟨rfl, h⟩ := h
    exact .step (hsome v List.mem_cons_self) (ih h fun w hw => hsome w (List.mem_cons_of_mem _ hw))

end Run

/-! ## subsequences: big-endian binary counting -/
namespace SubseqE

/-- all masks of length `n` in binary order, first position most significant -/
def masks : Nat → List (List Bool)
  | 0 => [[]]
  | n + 1 => (masks n).map (false :: ·) ++ (masks n).map (true :: ·)

theorem masks_length (n : Nat) : ∀ v ∈ masks n, v.length = n := by
  induction n with
  | zero => simp [masks]
  | succ n ih =>
    intro v hv
    simp only [masks, List.mem_append, List.mem_map] at hv
    rcases hv with ⟨w, hw, rfl⟩ | ⟨w, hw, rfl⟩ <;> simp [ih w hw]

theorem masks_run (n : Nat) : Run Subseq.inc (some (List.replicate n false)) (masks n) none := by
  induction n with
  | zero => exact ⟨rfl, rfl⟩
  | succ n ih =>
    have hs (b : Bool) : ∀ v ∈ masks n, Subseq.inc (b :: v)
        = bump b (if b then none else some (true :: List.replicate n false)) (Subseq.inc v) := by
      intro v hv
      rw [Subseq.inc, ← masks_length n v hv, ← List.map_const']
      cases Subseq.inc v <;> rfl
    exact (ih.map_cons false _ (hs false)).append (ih.map_cons true _ (hs true))

theorem masks_pick {α : Type} (xs : List α) :
    (masks xs.length).map (fun v => Subseq.pick v xs) = subseqs xs := by
  induction xs with
  | nil => rfl
  | cons x xs ih =>
    simp only [List.length_cons, masks, List.map_append, List.map_map, subseqs, ← ih]
    congr 1

end SubseqE

/-- **`subsequences(xs)` enumerates `subseqs xs`, in that order**, for every list (any element type) -/
theorem subseqs_enumeration_gen {α : Type} (xs : List α) :
    Unfolds Subseq.next (Subseq.mk xs) (subseqs xs) :=
  SubseqE.masks_pick xs ▸ unfolds_of_run (next := Subseq.next) (Mask.mk xs) (fun v => Subseq.pick v xs)
    Subseq.inc rfl (SubseqE.masks_run xs.length) (fun _ _ => rfl)

theorem subseqs_enumeration : subseqs_enumeration_statement := fun xs => subseqs_enumeration_gen xs

/-! ## cartesian power: the odometer -/
namespace CPowE

theorem tuples_length {α : Type} (base : List α) (k : Nat) : ∀ v ∈ tuples base k, v.length = k := by
  induction k with
  | zero => simp [tuples]
  | succ k ih =>
    intro v hv
    simp only [tuples, List.mem_flatMap, List.mem_map] at hv
    obtain ⟨_, _, w, hw, rfl⟩ := hv
    simp [ih w hw]

/-- the blocks of the leading digits `d, …, m-1`, each a run of the tails -/
theorem blocks_run (m n : Nat) (A : List (List Nat)) (hlen : ∀ v ∈ A, v.length = n)
    (h : Run (CPow.inc m) (some (List.replicate n 0)) A none) (k d : Nat) (hk : d + k = m) :
    Run (CPow.inc m) (if d = m then none else some (d :: List.replicate n 0))
      ((List.range' d k).flatMap fun d => A.map (d :: ·)) none := by
  induction k generalizing d with
  | zero => simp [← hk, Run]
  | succ k ih =>
    have hs : ∀ v ∈ A, CPow.inc m (d :: v)
        = bump d (if d + 1 = m then none else some ((d + 1) :: List.replicate n 0)) (CPow.inc m v) := by
      intro v hv
      rw [CPow.inc, ← hlen v hv, ← List.map_const']
      cases CPow.inc m v <;> rfl
    rw [if_neg (by omega), List.range'_succ, List.flatMap_cons]
    exact (h.map_cons d _ hs).append (ih (d + 1) (by omega))

theorem tuples_run (m k : Nat) (hm : 0 < m) :
    Run (CPow.inc m) (some (List.replicate k 0)) (tuples (List.range m) k) none := by
  induction k with
  | zero => exact ⟨rfl, rfl⟩
  | succ k ih =>
    have := blocks_run m k _ (tuples_length _ k) ih m 0 (Nat.zero_add m)
    rwa [if_neg (Nat.ne_of_lt hm), ← List.range_eq_range'] at this

theorem flatMap_by_index {α β : Type} (xs : List α) (f : α → List β) :
    xs.flatMap f = (List.range xs.length).flatMap fun d => match xs[d]? with | some x => f x | none => [] := by
  induction xs with
  | nil => rfl
  | cons x xs ih =>
    simp only [List.length_cons, List.range_succ_eq_map, List.flatMap_cons, List.flatMap_map, ih]
    rfl

theorem tuples_pick {α : Type} (base : List α) (k : Nat) :
    (tuples (List.range base.length) k).map (pickAll base) = tuples base k := by
  induction k with
  | zero => rfl
  | succ k ih =>
    rw [tuples, tuples, flatMap_by_index base, ← ih, List.map_flatMap]
    apply PermLex.flatMap_congr'
    intro d hd
    rw [List.getElem?_eq_getElem (List.mem_range.mp hd), List.map_map]
    show _ = List.map _ (List.map _ _)
    rw [List.map_map]
    apply List.map_congr_left
    intro v _
    exact pickAll_cons base d v _ (List.getElem?_eq_getElem (List.mem_range.mp hd))

end CPowE

/-- **`xs ^^ k` enumerates `tuples xs k`, in that order**, for every base and every exponent -/
theorem tuples_enumeration_gen {α : Type} (xs : List α) (k : Nat) :
    Unfolds CPow.next (CPow.mk xs k) (tuples xs k) := by
  cases xs with
  | nil =>
    cases k with
    | zero => exact .step rfl (.done rfl)
    | succ k => exact .done rfl
  | cons x xs =>
    exact CPowE.tuples_pick (x :: xs) k ▸ unfolds_of_run (next := CPow.next) (Idx.mk (x :: xs))
      (pickAll (x :: xs)) (CPow.inc (x :: xs).length) rfl (CPowE.tuples_run _ k (Nat.succ_pos _))
      (fun _ _ => rfl)

theorem tuples_enumeration : tuples_enumeration_statement := fun xs k => tuples_enumeration_gen xs k

/-! ## combinations: the lexicographic index successor -/
namespace CombE

theorem combs_length {α : Type} (xs : List α) : ∀ k, ∀ v ∈ combs k xs, v.length = k := by
  induction xs with
  | nil => intro k v hv; cases k <;> simp_all [combs]
  | cons x xs ih =>
    intro k v hv
    cases k with
    | zero => simp_all [combs]
    | succ k =>
      simp only [combs, List.mem_append, List.mem_map] at hv
      rcases hv with ⟨w, hw, rfl⟩ | hv
      · simp [ih k w hw]
      · exact ih (k + 1) v hv

theorem combs_nil_of_lt {α : Type} (xs : List α) : ∀ k, xs.length < k → combs k xs = [] := by
  induction xs with
  | nil => intro k h; cases k with
    | zero => simp at h
    | succ k => rfl
  | cons x xs ih =>
    intro k h
    cases k with
    | zero => simp at h
    | succ k =>
      simp only [combs, ih k (by simpa using h), ih (k + 1) (by simp at h; omega)]
      rfl

theorem combs_run (n m : Nat) : ∀ (lo k : Nat), lo + m = n → k ≤ m →
    Run (fun v => Comb.scan v v.length n) (some (List.range' lo k)) (combs k (List.range' lo m)) none := by
  induction m with
  | zero =>
    intro lo k _ hk
    obtain rfl : k = 0 := by omega
    exact ⟨rfl, rfl⟩
  | succ m ih =>
    intro lo k hn hk
    cases k with
    | zero => exact ⟨rfl, rfl⟩
    | succ k =>
      have hn' := (Nat.add_right_comm lo 1 m).trans hn
      have hb := (ih (lo + 1) k hn' (Nat.le_of_succ_le_succ hk)).map_cons lo
        (if lo + 1 < n - k then some (List.range' (lo + 1) (k + 1)) else none)
        fun v hv => by
          have e := combs_length _ k v hv
          show Comb.scan (lo :: v) (v.length + 1) n = _
          rw [scan_cons, e]
          cases Comb.scan v k n <;> rfl
      simp only [List.range'_succ, combs]
      by_cases hkm : k + 1 ≤ m
      · rw [if_pos (by omega)] at hb
        exact hb.append (ih (lo + 1) (k + 1) hn' hkm)
      · rw [if_neg (by omega)] at hb
        rwa [combs_nil_of_lt (List.range' (lo + 1) m) (k + 1) (by simp; omega), List.append_nil]

theorem combs_pick {α : Type} (xs : List α) (m : Nat) : ∀ (lo k : Nat), lo + m = xs.length →
    (combs k (List.range' lo m)).map (pickAll xs) = combs k (xs.drop lo) := by
  induction m with
  | zero =>
    intro lo k h
    rw [List.drop_eq_nil_of_le (by omega)]
    cases k <;> rfl
  | succ m ih =>
    intro lo k h
    have hlo : lo < xs.length := by omega
    rw [List.range'_succ, List.drop_eq_getElem_cons hlo]
    cases k with
    | zero => rfl
    | succ k =>
      rw [combs, combs, List.map_append, List.map_map, ← ih (lo + 1) k (by omega),
        ← ih (lo + 1) (k + 1) (by omega), List.map_map]
      congr 1
      apply List.map_congr_left
      intro v _
      exact pickAll_cons xs lo v _ (List.getElem?_eq_getElem hlo)

end CombE

/-- **`combinations(xs, k)` enumerates `combs k xs`, in that order**, for every list and every
selection size (also `k > len`: both are empty) -/
theorem combs_enumeration_gen {α : Type} (xs : List α) (k : Nat) :
    Unfolds Comb.next (Comb.mk xs k) (combs k xs) := by
  by_cases hk : k ≤ xs.length
  · have h := unfolds_of_run (next := Comb.next) (Idx.mk xs) (pickAll xs)
      (fun v => Comb.scan v v.length xs.length) rfl
      (List.range_eq_range' ▸ CombE.combs_run xs.length xs.length 0 k (Nat.zero_add _) hk)
      (fun v hv => if_neg (Nat.not_lt.mpr (CombE.combs_length _ k v hv ▸ hk)))
    rwa [CombE.combs_pick xs xs.length 0 k (Nat.zero_add _)] at h
  · rw [CombE.combs_nil_of_lt xs k (by omega)]
    exact .done (by simp [Comb.next, Comb.mk]; omega)

theorem combs_enumeration : combs_enumeration_statement := fun xs k => combs_enumeration_gen xs k

end Noulith.C11
