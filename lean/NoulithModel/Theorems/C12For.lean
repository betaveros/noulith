/-
C12 — patterns in `for` clauses: the pattern is evaluated for every element.

`for_eq_spec`: the interpreter's loop (`forClauses`) is the documented fold (`specClauses`).  Two
facts carry it: an evaluated `for` pattern contains no `or` (`evalU_orClean`), so `assign_eq_spec`
applies to it; and a declaring binding writes only to the innermost frame (`assign_declare_tail`,
which is `Runs.tail` at `assign`), so a refused element leaves nothing behind once its scope is
dropped.  `hoisting_is_observable`: evaluating the pattern once per loop is a different function.
-/
import NoulithModel.Theorems.C12
import NoulithModel.Spec.MatchFor

namespace Noulith.C12

/-! ## A declaring binding stays in its frame -/

theorem assign_declare_tail (t : Env) : ∀ (p : Pat) (T : Ty) (v : Val) (e : Env), e.tail = t →
    (assign e p (some T) v).1.tail = t :=
  fun p T v e he => ((assign_runs p e (some T) v).tail rfl).trans he

theorem assignItems_declare_tail (t : Env) : ∀ (ps : List Pat) (T : Ty) (vs : List Val) (e : Env),
    e.tail = t → (assignItems e ps (some T) vs).1.tail = t :=
  fun ps T vs e he => ((assignItems_runs ps e (some T) vs).tail rfl).trans he

/-! ## What `eval_lvalue` yields for a `for` pattern -/

mutual
/-- no `or` can come out of a `for` pattern, so the transactional reference applies -/
theorem evalU_orClean : ∀ (u : UPat) (e : Env) (q : Pat), (evalU e u).2 = .ok q → orClean q = true
  | .underscore, e, q => by rintro ⟨⟩; rfl
  | .ident x, e, q => by rintro ⟨⟩; rfl
  | .anno p t, e, q => by
      rw [evalU]
      split
      · next q' hp =>
        split
        · rintro ⟨⟩; exact evalU_orClean p e q' (by rw [hp])
        all_goals exact nofun
      · next hr => exact fun h => (hr _ _ (Prod.ext rfl h)).elim
  | .seq ps d, e, q => by
      rw [evalU]
      split
      · next hp => rintro ⟨⟩; exact evalUs_orClean ps e _ _ hp
      all_goals exact nofun
  | .splat p, e, q => by
      rw [evalU]
      split
      · next q' hp => rintro ⟨⟩; exact evalU_orClean p e q' (by rw [hp])
      · next hr => exact fun h => (hr _ _ (Prod.ext rfl h)).elim
  | .call f args, e, q => by
      rw [evalU]
      split
      · split
        · split
          · next hp => rintro ⟨⟩; exact evalUs_orClean args _ _ _ hp
          all_goals exact nofun
        · split
          · next hp => rintro ⟨⟩; exact evalUs_orClean args _ _ _ hp
          all_goals exact nofun
        · exact nofun
      all_goals exact nofun
theorem evalUs_orClean : ∀ (us : List UPat) (e e1 : Env) (qs : List Pat),
    evalUs e us = (e1, .ok qs) → orCleanL qs = true
  | [], e, e1, qs => by rintro ⟨⟩; rfl
  | u :: us, e, e1, qs => by
      rw [evalUs]
      split
      · next q hp =>
        split
        · next hr =>
          rintro ⟨⟩
          exact Bool.and_eq_true_iff.mpr ⟨evalU_orClean u e q (by rw [hp]), evalUs_orClean us _ _ _ hr⟩
        · next hr => exact fun h => (hr _ _ h).elim
      all_goals exact nofun
end

/-! ## The loop is the documented fold -/

/-- **the unfolding law**: the first element is bound to the pattern as evaluated *now* (in a fresh
child frame of the current environment); the remaining elements are handled by the same law in the
environment the first iteration leaves behind — so for them the pattern is evaluated again. -/
theorem for_pattern_evaluated_per_element (k : Env → Env × Out Unit) (pat : UPat) (e : Env)
    (x : Val) (xs : List Val) :
    forItems k pat e (x :: xs) =
      match evalU ([] :: e) pat with
      | (e1, .ok p) =>
        (match assign e1 p (some .any) x with
         | (e2, .ok ()) =>
           (match k e2 with
            | (e3, .ok ()) => forItems k pat e3.tail xs
            | (e3, o) => (e3.tail, o))
         | (e2, o) => (e2.tail, o))
      | (e1, .throw) => (e1.tail, .throw)
      | (e1, .panic) => (e1.tail, .panic) := by
  rw [forItems, forElement]
  rcases evalU ([] :: e) pat with ⟨e1, o⟩
  cases o with
  | ok p =>
    simp only []
    rcases assign e1 p (some .any) x with ⟨e2, o2⟩
    cases o2 with
    | ok u =>
      simp only []
      rcases k e2 with ⟨e3, o3⟩
      cases o3 <;> rfl
    | throw => rfl
    | panic => rfl
  | throw => rfl
  | panic => rfl

/-- an empty iteratee evaluates nothing of the pattern: no side effect, no raise -/
theorem for_empty_iteratee (k : Env → Env × Out Unit) (pat : UPat) (e : Env) :
    forItems k pat e [] = (e, .ok ()) := rfl

theorem okB_ok (e : Env) : okB (e, .ok ()) = (e, true) := rfl
theorem okB_throw (e : Env) : okB (e, .throw) = (e, false) := rfl
theorem okB_panic (e : Env) : okB (e, .panic) = (e, false) := rfl

theorem forElement_eq_spec (k : Env → Env × Out Unit) (k' : Env → Env × Bool)
    (hk : ∀ e, okB (k e) = k' e) (pat : UPat) (e : Env) (x : Val) :
    okB (forElement k pat e x) = specElement k' pat e x := by
  unfold forElement specElement
  rcases hu : evalU ([] :: e) pat with ⟨e1, o⟩
  cases o with
  | ok p =>
    simp only []
    have hc := evalU_orClean pat _ p (by rw [hu])
    have hs := assign_eq_spec e1 p (some .any) x hc
    cases hsp : specAssign e1 p (some .any) x with
    | some e2 =>
      rw [hs.1 e2 hsp]
      simp only []
      rw [← hk e2]
      rcases k e2 with ⟨e3, o3⟩
      cases o3 <;> rfl
    | none =>
      have ht := hs.2 hsp
      have htl := assign_declare_tail e1.tail p .any x e1 rfl
      rcases ha : assign e1 p (some .any) x with ⟨e2, o2⟩
      rw [ha] at ht htl
      simp only [] at ht htl
      subst ht
      simp only [okB, htl]
  | throw => rfl
  | panic => rfl

theorem specItems_nil (k' : Env → Env × Bool) (pat : UPat) (e : Env) :
    specItems k' pat e [] = (e, true) := rfl

theorem specItems_stuck (k' : Env → Env × Bool) (pat : UPat) (e : Env) (xs : List Val) :
    xs.foldl (fun st x => if st.2 then specElement k' pat st.1 x else st) (e, false) = (e, false) := by
  induction xs with
  | nil => rfl
  | cons x xs ih => simpa [List.foldl] using ih

theorem specItems_cons (k' : Env → Env × Bool) (pat : UPat) (e : Env) (x : Val) (xs : List Val) :
    specItems k' pat e (x :: xs) =
      (if (specElement k' pat e x).2 then specItems k' pat (specElement k' pat e x).1 xs
       else specElement k' pat e x) := by
  unfold specItems
  simp only [List.foldl, if_true]
  rcases specElement k' pat e x with ⟨e1, b⟩
  cases b with
  | true => rfl
  | false => simpa using specItems_stuck k' pat e1 xs

theorem forItems_eq_spec (k : Env → Env × Out Unit) (k' : Env → Env × Bool)
    (hk : ∀ e, okB (k e) = k' e) (pat : UPat) : ∀ (xs : List Val) (e : Env),
    okB (forItems k pat e xs) = specItems k' pat e xs
  | [], e => rfl
  | x :: xs, e => by
      rw [specItems_cons, ← forElement_eq_spec k k' hk pat e x, forItems]
      rcases forElement k pat e x with ⟨e1, o⟩
      cases o with
      | ok u => simp only [okB, if_true]; exact forItems_eq_spec k k' hk pat xs e1
      | throw => simp [okB]
      | panic => simp [okB]

/-- **`for_eq_spec`**: for every body, every list of `<-` / `<<-` clauses and every environment the
interpreter's loop is the documented one: same completion, same environment afterwards (also when
an element is refused or a pattern expression raises half-way). -/
theorem for_eq_spec (body : List BStmt) : ∀ (cs : List Clause) (e : Env),
    okB (forClauses body cs e) = specClauses body cs e
  | [], e => rfl
  | c :: cs, e => by
      unfold forClauses specClauses
      cases evalIter e c.iter with
      | ok v =>
        simp only []
        cases clauseItems c.item v with
        | some items =>
          exact forItems_eq_spec _ _ (fun e' => for_eq_spec body cs e') c.pat items e
        | none => rfl
      | throw => rfl
      | panic => rfl

/-! ## Evaluating the pattern once per loop is a different function -/

/-- `ts := [int, str]; i := 0; n := 0; r := []` -/
def forDemoEnv : Env :=
  [[{ name := 0, ty := .any, val := .list [] }, { name := 1, ty := .any, val := .int 0 },
    { name := 2, ty := .any, val := .int 0 },
    { name := 3, ty := .any, val := .list [.type .int, .type .string] }]]

/-- the body `(i += 1; r append= x)` -/
def forDemoBody (e : Env) : Env × Out Unit :=
  runBody e [.stmt (.opAssign (.ident 1 []) .plus (.int 1)), .log 0 10]

/-- `x: ts[i]` -/
def forDemoPat : UPat := .anno (.ident 10) (.index 3 1)

/-- `x: t()` with `t := \ -> (n += 1; int)` -/
def forDemoCounted : UPat := .anno (.ident 10) (.counted 2 (.const (.type .int)))

/-- **`hoisting_is_observable`**: `for (x: ts[i] <- [1, 'a']) (i += 1; r append= x)` completes
when the annotation is evaluated for every element (1 is an int, 'a' is a str) and raises when the
pattern is evaluated once before the loop ('a' is not an int). -/
theorem hoisting_is_observable :
    (forItems forDemoBody forDemoPat forDemoEnv [.int 1, .str [97]]).2 = .ok () ∧
    (forClauseHoisted forDemoBody forDemoPat forDemoEnv [.int 1, .str [97]]).2 = .throw := by
  decide +kernel

/-- the converse direction: `[1, 2]` has to be refused at its second element (2 is not a str), and
the once-per-loop form accepts it -/
theorem hoisting_accepts_wrong_type :
    (forItems forDemoBody forDemoPat forDemoEnv [.int 1, .int 2]).2 = .throw ∧
    (forClauseHoisted forDemoBody forDemoPat forDemoEnv [.int 1, .int 2]).2 = .ok () := by
  decide +kernel

/-- the annotation expression runs once per binding: three elements, three calls; no element, no
call (the once-per-loop form calls it once in both cases) -/
theorem annotation_runs_once_per_binding :
    (((forItems (fun e => (e, .ok ())) forDemoCounted forDemoEnv [.int 1, .int 2, .int 3]).1.get? 2).map
        fun c => c.val matches .int 3) = some true ∧
    (((forItems (fun e => (e, .ok ())) forDemoCounted forDemoEnv []).1.get? 2).map
        fun c => c.val matches .int 0) = some true ∧
    (((forClauseHoisted (fun e => (e, .ok ())) forDemoCounted forDemoEnv []).1.get? 2).map
        fun c => c.val matches .int 1) = some true := by
  decide +kernel

end Noulith.C12
