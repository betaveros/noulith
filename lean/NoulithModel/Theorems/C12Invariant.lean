/-
C12 — the annotation invariant (`annotation_invariant`, `annotation_invariant_history`): a statement
that writes to variables and completes without raising leaves every variable in scope holding a
value of its declared type (`x is T`).

Every write `assign` / `assign_every` / `modify_every` perform goes through `insert_declare`,
`assign_respecting_type` or a checked store, each of which preserves any invariant `Closed` under
checked writes (`Runs.okI`, by rule induction over `Runs` of `Lemmas/C12.lean`).  `drop_lhs` stores
null unchecked, but only at the variables the pattern names (`dropLhs_Q`), and the final `assign`
of an operator-assignment writes exactly those again (`Runs.targets`).  The invariant of the
theorem is `VisWellTyped` (each name's visible cell, `Q x`, is well-typed); `WTP P` — every cell,
shadowed ones included, outside the names `P` — is `Closed` as well.
-/
import NoulithModel.Lemmas.C12
import NoulithModel.Spec.TypedStore

namespace Noulith.C12

/-- every cell whose name is not excepted by `P` holds a value of its declared type -/
def WTP (P : Nat → Prop) (e : Env) : Prop :=
  ∀ f ∈ e, ∀ c ∈ f, ¬ P c.name → isType c.ty c.val = .ok true

theorem wellTyped_iff (e : Env) : WellTyped e ↔ WTP (fun _ => False) e := by
  unfold WellTyped WTP; simp

theorem Frame.set_cells (f : Frame) (x : Nat) (nv : Val) :
    ∀ c' ∈ f.set x nv, c' ∈ f ∨ ∃ c, f.get? x = some c ∧ c' = { c with val := nv } := by
  induction f with
  | nil => intro c' h; simp [Frame.set] at h
  | cons c f ih =>
    intro c' h
    unfold Frame.set at h
    by_cases hx : (c.name == x) = true
    · simp only [hx, if_true] at h
      rcases List.mem_cons.mp h with rfl | h
      · right; exact ⟨c, by simp [Frame.get?, hx], rfl⟩
      · left; exact List.mem_cons_of_mem _ h
    · simp only [hx] at h
      rcases List.mem_cons.mp h with rfl | h
      · left; simp
      · rcases ih c' h with h1 | ⟨c0, h1, h2⟩
        · left; exact List.mem_cons_of_mem _ h1
        · right; exact ⟨c0, by simp [Frame.get?, hx, h1], h2⟩

theorem Frame.get?_eq_find? (f : Frame) (x : Nat) : f.get? x = f.find? (·.name == x) := by
  induction f with
  | nil => rfl
  | cons c f ih => rw [Frame.get?, List.find?_cons, ih]; cases c.name == x <;> rfl

theorem Frame.has_iff_get (f : Frame) (x : Nat) : f.has x = true ↔ ∃ c, f.get? x = some c := by
  rw [Frame.get?_eq_find?, ← Option.isSome_iff_exists, List.find?_isSome]
  exact List.any_eq_true

theorem Frame.getq_name (f : Frame) (x : Nat) (c : Cell) (h : f.get? x = some c) : c.name = x := by
  rw [Frame.get?_eq_find?] at h
  exact eq_of_beq (List.find?_some (p := fun c : Cell => c.name == x) h)

theorem Frame.getq_mem (f : Frame) (x : Nat) (c : Cell) (h : f.get? x = some c) : c ∈ f := by
  rw [Frame.get?_eq_find?] at h
  exact List.mem_of_find?_eq_some h

theorem Frame.getq_set (f : Frame) (x y : Nat) (nv : Val) :
    (f.set y nv).get? x = if x = y then (f.get? y).map (fun c => { c with val := nv }) else f.get? x := by
  induction f with
  | nil => simp [Frame.set, Frame.get?]
  | cons c f ih =>
    unfold Frame.set
    by_cases hy : (c.name == y) = true
    · have hy' : c.name = y := by simpa using hy
      simp only [hy, if_true]
      by_cases hxy : x = y
      · subst hxy; simp [Frame.get?, hy]
      · have : ¬ (c.name == x) = true := by simp [hy']; exact fun h => hxy h.symm
        simp [Frame.get?, this, hxy]
    · simp only [hy]
      by_cases hxy : x = y
      · subst hxy
        simp [Frame.get?, hy, ih]
      · by_cases hcx : (c.name == x) = true
        · simp [Frame.get?, hcx, hxy]
        · simp [Frame.get?, hcx, hxy, ih]

/-! an environment looks names up, and stores, as the concatenation of its frames does -/

theorem Env.get?_flatten (e : Env) (x : Nat) : e.get? x = Frame.get? e.flatten x := by
  induction e with
  | nil => rfl
  | cons f e ih =>
    rw [Env.get?, ih, List.flatten_cons, Frame.get?_eq_find?, Frame.get?_eq_find?, Frame.get?_eq_find?, List.find?_append]
    cases List.find? (·.name == x) f <;> rfl

theorem Frame.set_append (f g : Frame) (x : Nat) (v : Val) :
    Frame.set (f ++ g) x v = if f.has x then f.set x v ++ g else f ++ g.set x v := by
  induction f with
  | nil => rfl
  | cons c f ih =>
    rw [List.cons_append, Frame.set, Frame.set, ih, Frame.has, Frame.has, List.any_cons]
    cases c.name == x <;> cases f.any (·.name == x) <;> rfl

theorem Env.set_flatten (e : Env) (x : Nat) (v : Val) : (e.set x v).flatten = Frame.set e.flatten x v := by
  induction e with
  | nil => rfl
  | cons f e ih =>
    rw [Env.set, List.flatten_cons, Frame.set_append]
    split
    · rfl
    · rw [List.flatten_cons, ih]

theorem Env.getq_mem (e : Env) (x : Nat) (c : Cell) (h : e.get? x = some c) : ∃ f ∈ e, c ∈ f := by
  rw [Env.get?_flatten] at h
  exact List.mem_flatten.mp (Frame.getq_mem _ x c h)

theorem Env.set_cells (e : Env) (x : Nat) (nv : Val) :
    ∀ f' ∈ e.set x nv, ∀ c' ∈ f', (∃ f ∈ e, c' ∈ f) ∨ ∃ c, e.get? x = some c ∧ c' = { c with val := nv } := by
  intro f' hf' c' hc'
  have := Frame.set_cells e.flatten x nv c' (by rw [← Env.set_flatten]; exact List.mem_flatten.mpr ⟨f', hf', hc'⟩)
  rw [← Env.get?_flatten] at this
  exact this.imp_left List.mem_flatten.mp

theorem Env.getq_set (e : Env) (x y : Nat) (nv : Val) :
    (e.set y nv).get? x = if x = y then (e.get? y).map (fun c => { c with val := nv }) else e.get? x := by
  rw [Env.get?_flatten, Env.set_flatten, Frame.getq_set, ← Env.get?_flatten, ← Env.get?_flatten]

theorem WTP_set (P : Nat → Prop) (e : Env) (x : Nat) (nv : Val) (c : Cell)
    (h : WTP P e) (hg : e.get? x = some c) (hv : isType c.ty nv = .ok true) : WTP P (e.set x nv) := by
  intro f' hf' c' hc' hp
  rcases Env.set_cells e x nv f' hf' c' hc' with ⟨f, h1, h2⟩ | ⟨c0, h1, h2⟩
  · exact h f h1 c' h2 hp
  · rw [hg] at h1; simp at h1; subst h1; subst h2; exact hv

/-- a write that is *not* checked keeps everything outside the excepted names -/
theorem WTP_set_excepted (P : Nat → Prop) (e : Env) (x : Nat) (nv : Val)
    (h : WTP P e) (hx : ∀ c, e.get? x = some c → P c.name) : WTP P (e.set x nv) := by
  intro f' hf' c' hc' hp
  rcases Env.set_cells e x nv f' hf' c' hc' with ⟨f, h1, h2⟩ | ⟨c0, h1, h2⟩
  · exact h f h1 c' h2 hp
  · subst h2; exact absurd (hx c0 h1) hp

theorem insertDeclare_ok (e e' : Env) (x : Nat) (T : Ty) (v : Val)
    (hr : insertDeclare e x T v = (e', .ok ())) :
    isType T v = .ok true ∧ ∃ f rest, e = f :: rest ∧ e' = ({ name := x, ty := T, val := v } :: f) :: rest := by
  unfold insertDeclare at hr
  split at hr
  · next hty =>
    refine ⟨hty, ?_⟩
    unfold Env.insert at hr
    split at hr
    · exact absurd (Prod.mk.inj hr).2 nofun
    · next f rest =>
      split at hr
      · exact absurd (Prod.mk.inj hr).2 nofun
      · exact ⟨f, rest, rfl, (Prod.mk.inj hr).1.symm⟩
  all_goals exact absurd (Prod.mk.inj hr).2 nofun

theorem assignRespectingType_ok (e e' : Env) (x : Nat) (ixs : List Ix) (v : Val) (every : Bool)
    (hr : assignRespectingType e x ixs v every = (e', .ok ())) :
    ∃ c nv, e.get? x = some c ∧ isType c.ty nv = .ok true ∧ e' = e.set x nv := by
  unfold assignRespectingType at hr
  split at hr
  · exact absurd (Prod.mk.inj hr).2 nofun
  · next c hg =>
    split at hr
    · split at hr
      · next hty => exact ⟨c, v, hg, hty, (Prod.mk.inj hr).1.symm⟩
      all_goals exact absurd (Prod.mk.inj hr).2 nofun
    · split at hr
      · next nv hs =>
        split at hr
        · next hty => exact ⟨c, nv, hg, hty, (Prod.mk.inj hr).1.symm⟩
        all_goals exact absurd (Prod.mk.inj hr).2 nofun
      all_goals exact absurd (Prod.mk.inj hr).2 nofun

/-- an invariant of environments that every *checked* write preserves.  `decl` and `asg` are the writes of `assign` and `assign_every`,
all that `Runs.okI` asks for; `setc` is `modify_every`'s own check-then-`Env.set` at a plain identifier (`modifyEvery_wtp` only) -/
structure Closed (I : Env → Prop) : Prop where
  decl : ∀ (e e' : Env) (x : Nat) (T : Ty) (v : Val), I e → insertDeclare e x T v = (e', .ok ()) → I e'
  asg : ∀ (e e' : Env) (x : Nat) (ixs : List Ix) (v : Val) (every : Bool), I e →
    assignRespectingType e x ixs v every = (e', .ok ()) → I e'
  setc : ∀ (e : Env) (x : Nat) (c : Cell) (nv : Val), I e → e.get? x = some c → isType c.ty nv = .ok true → I (e.set x nv)

/-- the checked writes are two: a type-checked cell pushed on the innermost frame, and a type-checked
value stored in a visible cell.  `push` is not told that `x` is new to `f` (`insertDeclare` refuses otherwise; `insertDeclare_ok` drops
it): an invariant that needs this, as "no frame declares a name twice", fills the fields of `Closed` from `insertDeclare` itself -/
theorem Closed.of_store {I : Env → Prop}
    (push : ∀ (f : Frame) (rest : Env) (x : Nat) (T : Ty) (v : Val), I (f :: rest) → isType T v = .ok true →
      I (({ name := x, ty := T, val := v } :: f) :: rest))
    (setc : ∀ (e : Env) (x : Nat) (c : Cell) (nv : Val), I e → e.get? x = some c → isType c.ty nv = .ok true →
      I (e.set x nv)) : Closed I := by
  refine ⟨fun e e' x T v h hr => ?_, fun e e' x ixs v ev h hr => ?_, setc⟩
  · obtain ⟨hty, f, rest, rfl, rfl⟩ := insertDeclare_ok e e' x T v hr
    exact push f rest x T v h hty
  · obtain ⟨c, nv, hg, hty, rfl⟩ := assignRespectingType_ok e e' x ixs v ev hr
    exact setc e x c nv h hg hty

theorem WTP_closed (P : Nat → Prop) : Closed (WTP P) := by
  refine Closed.of_store (fun f rest x T v h hty f' hf' c' hc' hp => ?_) (fun e x c nv h hg hv => WTP_set P e x nv c h hg hv)
  rcases List.mem_cons.mp hf' with rfl | hf'
  · rcases List.mem_cons.mp hc' with rfl | hc'
    · exact hty
    · exact h f (List.mem_cons_self ..) c' hc' hp
  · exact h f' (List.mem_cons_of_mem _ hf') c' hc' hp

theorem closed_WTP (I : Env → Prop) (hI : Closed I) : Closed (WTP P) := by
  exact WTP_closed P

/-- "if it completed without raising, the invariant holds of the result".  Only the outcome is spoken of: a fact that relates it to the
start `e` (the same number of frames, say) is had by letting `I` mention `e` (`fun e' => e'.length = e.length`, true of `e` by `rfl`) -/
def OkI (I : Env → Prop) (r : Env × Out Unit) : Prop := r.2 = .ok () → I r.1

theorem okI_step (I : Env → Prop) (r : Env × Out Unit) (k : Env → Env × Out Unit)
    (h : OkI I r) (hk : ∀ e', I e' → OkI I (k e')) : OkI I (stepItems r k) := by
  obtain ⟨e', o⟩ := r
  cases o with
  | ok u => exact hk e' (h rfl)
  | throw => exact nofun
  | panic => exact nofun

theorem Runs.okI {I : Env → Prop} (hI : Closed I) {e rt t r} (h : Runs e rt t r)
    (hc : t.orClean = true) (he : I e) : OkI I r := by
  induction h with
  | stop ho | andL ho | consL ho => exact fun h' => absurd h' ho
  | underscore | lit | nil => exact fun _ => he
  | declare => exact fun h' => hI.decl _ _ _ _ _ he (Prod.ext rfl h')
  | store => exact fun h' => hI.asg _ _ _ _ _ _ he (Prod.ext rfl h')
  | anno _ ih | withDefault _ ih | seq _ _ ih | destr _ ih | destrStruct _ ih => exact ih hc he
  | orL _ _ ih => exact ih (Bool.and_eq_true_iff.mp (Bool.and_eq_true_iff.mp hc).1).2 he
  | orR h1 _ _ ih2 =>
    -- a refused first alternative has bound nothing, so the second starts from `e`
    obtain ⟨hab, hb⟩ := Bool.and_eq_true_iff.mp hc
    cases h1.fixed (Bool.and_eq_true_iff.mp hab).1
    exact ih2 hb he
  | andR _ _ ih1 ih2 =>
    obtain ⟨ha, hb⟩ := Bool.and_eq_true_iff.mp hc
    exact ih2 hb (ih1 ha he rfl)
  | consR _ _ ih1 ih2 =>
    obtain ⟨ha, hb⟩ := (orCleanL_cons _ _).mp hc
    exact ih2 hb (ih1 ha he rfl)

/-- for any `Closed I`, not `WTP P` alone, as are the `_wtp` lemmas below; `I` is an explicit argument in them, implicit in `Runs.okI` -/
theorem assign_wtp (I : Env → Prop) (hI : Closed I) (p : Pat) (hc : orClean p = true)
    (e : Env) (rt : Option Ty) (v : Val) (h : I e) : OkI I (assign e p rt v) :=
  (assign_runs p e rt v).okI hI hc h

/-! ### `assign_every`, `modify_every` -/

theorem assignEveryAll_wtp_of (I : Env → Prop) (v : Val) (ps : List Pat)
    (ih : ∀ p ∈ ps, orClean p = true → ∀ e rt, I e → OkI I (assignEvery e p rt v)) :
    orCleanL ps = true → ∀ (e : Env) (rt : Option Ty), I e → OkI I (assignEveryAll e ps rt v) := by
  induction ps with
  | nil => intro _ e rt h; unfold assignEveryAll; exact fun _ => h
  | cons p ps ihps =>
    intro hc e rt h
    obtain ⟨hp, hps⟩ := Bool.and_eq_true_iff.mp hc
    unfold assignEveryAll
    exact okI_step I _ _ (ih p (List.mem_cons_self ..) hp e rt h)
      (fun e' h' => ihps (fun q hq => ih q (List.mem_cons_of_mem _ hq)) hps e' rt h')

theorem assignEvery_wtp (I : Env → Prop) (hI : Closed I) (p : Pat) (hc : orClean p = true)
    (e : Env) (rt : Option Ty) (v : Val) (h : I e) : OkI I (assignEvery e p rt v) := by
  induction p using Pat.induction_items generalizing e rt with
  | ident x ixs =>
    unfold assignEvery
    cases rt with
    | none => exact fun h' => hI.asg _ _ _ _ _ _ h (Prod.ext rfl h')
    | some T =>
      cases ixs with
      | nil => exact fun h' => hI.decl _ _ _ _ _ h (Prod.ext rfl h')
      | cons i is => exact nofun
  | anno s ann ih =>
    unfold assignEvery
    cases ann with
    | none => exact ih hc e _ h
    | some t =>
      simp only []
      split
      · exact ih hc e _ h
      all_goals exact nofun
  | seq ps _ ih _ => unfold assignEvery; exact assignEveryAll_wtp_of I v ps ih hc e rt h
  | and a b iha ihb =>
    obtain ⟨ha, hb⟩ := Bool.and_eq_true_iff.mp hc
    unfold assignEvery
    exact okI_step I _ _ (iha ha e rt h) (fun e' h' => ihb hb e' rt h')
  | lit l =>
    unfold assignEvery
    split
    · exact fun _ => h
    · exact nofun
  | destr f args _ _ =>
    -- "destructure then assign_all": from here on it is `assign`
    have : assignEvery e (.destr f args) rt v = assign e (.destr f args) rt v := by
      unfold assignEvery assign; rfl
    rw [this]; exact assign_wtp I hI _ hc e rt v h
  | underscore => unfold assignEvery; exact fun _ => h
  | withDefault _ _ _ => unfold assignEvery; exact nofun
  | splat _ _ => unfold assignEvery; exact nofun
  | or _ _ _ _ => unfold assignEvery; exact nofun
  | destrStruct _ _ _ _ => unfold assignEvery; exact nofun

theorem assignEveryAll_wtp (I : Env → Prop) (hI : Closed I) (e : Env) : ∀ (ps : List Pat) (rt : Option Ty) (v : Val),
    orCleanL ps = true → I e → OkI I (assignEveryAll e ps rt v) :=
  fun ps rt v hc h => assignEveryAll_wtp_of I v ps (fun p _ hp e rt h => assignEvery_wtp I hI p hp e rt v h) hc e rt h

theorem modifyEveryAll_wtp_of (I : Env → Prop) (g : Val → Out Val) (ps : List Pat)
    (ih : ∀ p ∈ ps, ∀ e, I e → OkI I (modifyEvery g e p)) :
    ∀ (e : Env), I e → OkI I (modifyEveryAll g e ps) := by
  induction ps with
  | nil => intro e h; unfold modifyEveryAll; exact fun _ => h
  | cons p ps ihps =>
    intro e h
    unfold modifyEveryAll
    exact okI_step I _ _ (ih p (List.mem_cons_self ..) e h)
      (ihps (fun q hq => ih q (List.mem_cons_of_mem _ hq)))

theorem modifyEvery_wtp (I : Env → Prop) (hI : Closed I) (g : Val → Out Val) : ∀ (p : Pat) (e : Env),
    I e → OkI I (modifyEvery g e p) := by
  intro p e h
  induction p using Pat.induction_items generalizing e with
  | ident x ixs =>
    unfold modifyEvery
    split
    · exact nofun
    · next c hg =>
      split
      · split
        · next nv hf =>
          split
          · next hty => exact fun _ => hI.setc e x c nv h hg hty
          all_goals exact nofun
        all_goals exact nofun
      · split
        · exact fun h' => hI.asg e _ x [] _ _ h (Prod.ext rfl h')
        all_goals exact nofun
  | seq ps _ ih _ => unfold modifyEvery; exact modifyEveryAll_wtp_of I g ps ih e h
  | and a b iha ihb =>
    unfold modifyEvery
    exact okI_step I _ _ (iha e h) ihb
  | underscore => unfold modifyEvery; exact nofun
  | anno _ _ _ => unfold modifyEvery; exact nofun
  | withDefault _ _ _ => unfold modifyEvery; exact nofun
  | splat _ _ => unfold modifyEvery; exact nofun
  | or _ _ _ _ => unfold modifyEvery; exact nofun
  | lit _ => unfold modifyEvery; exact nofun
  | destr _ _ _ _ => unfold modifyEvery; exact nofun
  | destrStruct _ _ _ _ => unfold modifyEvery; exact nofun

theorem modifyEveryAll_wtp (I : Env → Prop) (hI : Closed I) (g : Val → Out Val) (e : Env) : ∀ (ps : List Pat),
    I e → OkI I (modifyEveryAll g e ps) :=
  fun ps h => modifyEveryAll_wtp_of I g ps (fun p _ => modifyEvery_wtp I hI g p) e h

/-! ### the visible cell of a name -/

/-- the variable `x`, if it can be referred to, holds a value of its declared type (`x is T`) -/
def Q (x : Nat) (e : Env) : Prop := ∀ c, e.get? x = some c → isType c.ty c.val = .ok true

/-- `x is T` for every variable in scope -/
def VisWellTyped (e : Env) : Prop := ∀ x, Q x e

theorem wellTyped_vis (e : Env) (h : WellTyped e) : VisWellTyped e := by
  intro x c hc
  obtain ⟨f, hf, hcf⟩ := Env.getq_mem e x c hc
  exact h f hf c hcf

theorem Q_set_ne (x : Nat) (e : Env) (y : Nat) (nv : Val) (h : Q x e) (hxy : x ≠ y) : Q x (e.set y nv) := by
  intro c' hc'
  rw [Env.getq_set] at hc'
  simp [hxy] at hc'; exact h c' hc'

theorem Q_set (x : Nat) (e : Env) (y : Nat) (c : Cell) (nv : Val)
    (h : Q x e) (hg : e.get? y = some c) (hv : isType c.ty nv = .ok true) : Q x (e.set y nv) := by
  by_cases hxy : x = y
  · intro c' hc'
    rw [Env.getq_set] at hc'
    simp [hxy, hg] at hc'; subst hc'; exact hv
  · exact Q_set_ne x e y nv h hxy

theorem closed_Q (x : Nat) : Closed (Q x) := by
  refine Closed.of_store (fun f rest y T v h hty c' hc' => ?_) (fun e y c nv h hg hv => Q_set x e y c nv h hg hv)
  by_cases hxy : y = x
  · subst hxy
    simp [Env.get?, Frame.get?] at hc'
    subst hc'; exact hty
  · have hne : ¬ (y == x) = true := by simpa using hxy
    simp only [Env.get?, Frame.get?, hne] at hc'
    exact h c' (by simpa [Env.get?] using hc')

theorem closed_vis : Closed VisWellTyped :=
  ⟨fun e e' x T v h hr y => (closed_Q y).decl e e' x T v (h y) hr,
   fun e e' x ixs v ev h hr y => (closed_Q y).asg e e' x ixs v ev (h y) hr,
   fun e x c nv h hg hv y => (closed_Q y).setc e x c nv (h y) hg hv⟩

/-! ### operator-assignment: `drop_lhs` writes null unchecked, the final `assign` re-establishes the types -/

mutual
/-- the variables a pattern writes to -/
def idents : Pat → List Nat
  | .underscore => []
  | .ident x _ => [x]
  | .anno p _ => idents p
  | .withDefault p _ => idents p
  | .seq ps _ => identsL ps
  | .splat p => idents p
  | .or a b => idents a ++ idents b
  | .and a b => idents a ++ idents b
  | .lit _ => []
  | .destr _ ps => identsL ps
  | .destrStruct _ ps => identsL ps
def identsL : List Pat → List Nat
  | [] => []
  | p :: ps => idents p ++ identsL ps
end

theorem idents_unsplat (p : Pat) : idents (unsplat p) = idents p := by
  cases p with
  | anno q t => cases q <;> rfl
  | _ => rfl

theorem identsL_cons (p : Pat) (ps : List Pat) : identsL (p :: ps) = idents (unsplat p) ++ identsL ps := by
  rw [idents_unsplat]; rfl

theorem opLhsOkAll_cons (p : Pat) (ps : List Pat) :
    opLhsOkAll (p :: ps) = true ↔ opLhsOk (unsplat p) = true ∧ opLhsOkAll ps = true := by
  have : opLhsOkAll (p :: ps) = (opLhsOk (unsplat p) && opLhsOkAll ps) := by
    cases p with
    | anno q t => cases q <;> rfl
    | _ => rfl
  rw [this, Bool.and_eq_true_iff]

theorem dropLhsAll_nil (e : Env) : dropLhsAll e [] = (e, .ok ()) := rfl

theorem dropLhsAll_cons (e : Env) (p : Pat) (ps : List Pat) :
    dropLhsAll e (p :: ps) = stepItems (dropLhs e (unsplat p)) (fun e' => dropLhsAll e' ps) := by
  cases p with
  | anno q t => cases q <;> rfl
  | _ => rfl

theorem dropIdent_Q (x : Nat) (e : Env) (y : Nat) (ixs : List Ix) (h : Q x e) (hxy : x ≠ y) :
    Q x (dropIdent e y ixs).1 := by
  unfold dropIdent
  split
  · exact h
  · split
    · exact Q_set_ne x e y _ h hxy
    · exact h
    · exact h

theorem stepItems_fst (I : Env → Prop) (r : Env × Out Unit) (k : Env → Env × Out Unit)
    (h : I r.1) (hk : ∀ e', I e' → I (k e').1) : I (stepItems r k).1 := by
  obtain ⟨e', o⟩ := r
  cases o with
  | ok u => exact hk e' h
  | throw => exact h
  | panic => exact h

theorem dropLhsAll_Q_of (x : Nat) (ps : List Pat)
    (ih : ∀ p ∈ ps, x ∉ idents (unsplat p) → ∀ e, Q x e → Q x (dropLhs e (unsplat p)).1) :
    x ∉ identsL ps → ∀ e, Q x e → Q x (dropLhsAll e ps).1 := by
  induction ps with
  | nil => exact fun _ e h => h
  | cons p ps ihps =>
    intro hx e h
    rw [identsL_cons, List.mem_append, not_or] at hx
    rw [dropLhsAll_cons]
    exact stepItems_fst (Q x) _ _ (ih p (List.mem_cons_self ..) hx.1 e h)
      (ihps (fun q hq => ih q (List.mem_cons_of_mem _ hq)) hx.2)

theorem dropLhs_Q (x : Nat) : ∀ p : Pat, x ∉ idents p → ∀ e, Q x e → Q x (dropLhs e p).1 := by
  intro p hx e h
  induction p using Pat.induction_items generalizing e with
  | ident y ixs =>
    exact dropIdent_Q x e y ixs h (by simpa [idents] using hx)
  | seq ps _ _ ih => unfold dropLhs; exact dropLhsAll_Q_of x ps ih (by simpa [idents] using hx) e h
  | destr _ ps _ ih => unfold dropLhs; exact dropLhsAll_Q_of x ps ih (by simpa [idents] using hx) e h
  | destrStruct _ ps _ ih => unfold dropLhs; exact dropLhsAll_Q_of x ps ih (by simpa [idents] using hx) e h
  | withDefault s _ ih => unfold dropLhs; exact ih (by simpa [idents] using hx) e h
  | and a b iha ihb =>
    rw [idents, List.mem_append, not_or] at hx
    unfold dropLhs
    exact stepItems_fst (Q x) _ _ (iha hx.1 e h) (ihb hx.2)
  | underscore => exact h
  | anno _ _ _ => exact h
  | splat _ _ => exact h
  | or _ _ _ _ => exact h
  | lit _ => exact h

theorem dropLhsAll_Q (x : Nat) (e : Env) : ∀ ps : List Pat, x ∉ identsL ps → Q x e → Q x (dropLhsAll e ps).1 :=
  fun ps hx h => dropLhsAll_Q_of x ps (fun p _ => dropLhs_Q x (unsplat p)) hx e h

theorem asg_Q_self (e e' : Env) (y : Nat) (ixs : List Ix) (v : Val) (every : Bool)
    (hr : assignRespectingType e y ixs v every = (e', .ok ())) : Q y e' := by
  obtain ⟨c, nv, hg, hty, rfl⟩ := assignRespectingType_ok e e' y ixs v every hr
  intro c' hc'
  rw [Env.getq_set] at hc'
  simp [hg] at hc'
  subst hc'; exact hty

/-- `TargetsOk r xs`: if `r` completed, every variable in `xs` is well-typed in its result -/
def TargetsOk (r : Env × Out Unit) (xs : List Nat) : Prop := r.2 = .ok () → ∀ x ∈ xs, Q x r.1

def Task.opLhsOk : Task → Bool
  | .one p _ => C12.opLhsOk p
  | .all ps _ => opLhsOkAll ps

def Task.idents : Task → List Nat
  | .one p _ => C12.idents p
  | .all ps _ => identsL ps

theorem Runs.targets {e rt t r} (h : Runs e rt t r) (hrt : rt = none) (hf : t.opLhsOk = true)
    (hok : r.2 = .ok ()) : ∀ x, Q x e ∨ x ∈ t.idents → Q x r.1 := by
  induction h with
  | stop ho | andL ho | consL ho => exact absurd hok ho
  | underscore | lit | nil => exact fun x hx => hx.elim id (fun h => nomatch h)
  | declare => cases hrt
  | anno | orL | orR => cases hf
  | store =>
    intro x hx
    rcases hx with hq | hx
    · exact (closed_Q x).asg _ _ _ _ _ _ hq (Prod.ext rfl hok)
    · cases List.mem_singleton.mp hx
      exact asg_Q_self _ _ _ _ _ _ (Prod.ext rfl hok)
  | withDefault _ ih | destr _ ih | destrStruct _ ih => exact ih hrt hf hok
  | @seq _ _ rt' _ _ _ _ _ hs _ ih =>
    subst hrt
    cases rt' with
    | some T => cases hs
    | none => exact ih rfl hf hok
  | andR _ _ ih1 ih2 =>
    obtain ⟨ha, hb⟩ := Bool.and_eq_true_iff.mp hf
    intro x hx
    refine ih2 hrt hb hok x ?_
    rcases hx with hq | hx
    · exact Or.inl (ih1 hrt ha rfl x (Or.inl hq))
    · exact (List.mem_append.mp hx).imp (fun h => ih1 hrt ha rfl x (Or.inr h)) id
  | consR _ _ ih1 ih2 =>
    obtain ⟨ha, hb⟩ := (opLhsOkAll_cons _ _).mp hf
    intro x hx
    refine ih2 hrt hb hok x ?_
    rcases hx with hq | hx
    · exact Or.inl (ih1 hrt ha rfl x (Or.inl hq))
    · rw [Task.idents, identsL_cons] at hx
      exact (List.mem_append.mp hx).imp (fun h => ih1 hrt ha rfl x (Or.inr h)) id

theorem assignItems_targets (e : Env) : ∀ (ps : List Pat) (vs : List Val), opLhsOkAll ps = true →
    TargetsOk (assignItems e ps none vs) (identsL ps) :=
  fun ps vs h hok x hx => (assignItems_runs ps e none vs).targets rfl h hok x (Or.inr hx)

theorem stepItems_ok (r : Env × Out Unit) (k : Env → Env × Out Unit)
    (h : (stepItems r k).2 = .ok ()) : r.2 = .ok () ∧ (k r.1).2 = .ok () := by
  obtain ⟨e', o⟩ := r
  cases o with
  | ok u => exact ⟨rfl, h⟩
  | throw => simp [stepItems] at h
  | panic => simp [stepItems] at h

theorem dropLhsAll_ok_frag_of (ps : List Pat)
    (ih : ∀ p ∈ ps, ∀ e, (dropLhs e (unsplat p)).2 = .ok () → opLhsOk (unsplat p) = true) :
    ∀ (e : Env), (dropLhsAll e ps).2 = .ok () → opLhsOkAll ps = true := by
  induction ps with
  | nil => exact fun _ _ => rfl
  | cons p ps ihps =>
    intro e h
    rw [dropLhsAll_cons] at h
    obtain ⟨h1, h2⟩ := stepItems_ok _ _ h
    exact (opLhsOkAll_cons p ps).mpr ⟨ih p (List.mem_cons_self ..) e h1,
      ihps (fun q hq => ih q (List.mem_cons_of_mem _ hq)) _ h2⟩

theorem dropLhs_ok_frag : ∀ (p : Pat) (e : Env), (dropLhs e p).2 = .ok () → opLhsOk p = true := by
  intro p e h
  induction p using Pat.induction_items generalizing e with
  | seq ps _ _ ih => unfold dropLhs at h; exact dropLhsAll_ok_frag_of ps ih e h
  | destr _ ps _ ih => unfold dropLhs at h; exact dropLhsAll_ok_frag_of ps ih e h
  | destrStruct _ ps _ ih => unfold dropLhs at h; exact dropLhsAll_ok_frag_of ps ih e h
  | withDefault s _ ih => unfold dropLhs at h; exact ih e h
  | and a b iha ihb =>
    unfold dropLhs at h
    obtain ⟨h1, h2⟩ := stepItems_ok _ _ h
    exact Bool.and_eq_true_iff.mpr ⟨iha e h1, ihb _ h2⟩
  | underscore => rfl
  | ident _ _ => rfl
  | lit _ => rfl
  | anno _ _ _ => exact nomatch h
  | splat _ _ => exact nomatch h
  | or _ _ _ _ => exact nomatch h

theorem dropLhsAll_ok_frag : ∀ (ps : List Pat) (e : Env), (dropLhsAll e ps).2 = .ok () → opLhsOkAll ps = true :=
  fun ps => dropLhsAll_ok_frag_of ps (fun p _ => dropLhs_ok_frag (unsplat p))

/-- patterns of the statement are free of `or` alternatives that bind in their first branch
(operator-assignments refuse `or` altogether) -/
def stmtClean : Stmt → Bool
  | .assign p _ => orClean p
  | .assignEvery p _ => orClean p
  | .opAssign _ _ _ => true
  | .opAssignEvery _ _ _ => true
  | .swap a b => orClean a && orClean b

/-- **`annotation_invariant`** (one statement).  If every variable in scope holds a value of its
declared type, then after a declaration with annotation, `=`, index assignment, destructuring
assignment, operator-assignment, `every`-assignment, `every` operator-assignment or `swap` *that
completes without raising*, every variable in scope again holds a value of its declared type:
`x is T` for each `x : T`. -/
theorem annotation_invariant (e : Env) (s : Stmt) (hc : stmtClean s = true) (h : VisWellTyped e)
    (hok : (execStmt e s).2 = .ok ()) : VisWellTyped (execStmt e s).1 := by
  revert hok
  show OkI VisWellTyped (execStmt e s)
  cases s with
  | assign p v => exact assign_wtp VisWellTyped closed_vis p hc e none v h
  | assignEvery p v => exact assignEvery_wtp VisWellTyped closed_vis p hc e none v h
  | opAssignEvery p op v => exact modifyEvery_wtp VisWellTyped closed_vis _ p e h
  | swap a b =>
    obtain ⟨ha, hb⟩ := Bool.and_eq_true_iff.mp hc
    rw [execStmt]
    split
    · exact okI_step _ _ _ (assign_wtp VisWellTyped closed_vis a ha e none _ h)
        (fun e1 h1 => assign_wtp VisWellTyped closed_vis b hb e1 none _ h1)
    all_goals exact nofun
  | opAssign p op v =>
    rw [execStmt]
    split
    · split
      · next e1 hd =>
        split
        · next combined _ =>
          -- `drop_lhs` has stored null at the targets only; the final `assign` writes each of them
          intro hok x
          refine (assign_runs p e1 none combined).targets rfl (dropLhs_ok_frag p e (by rw [hd])) hok x ?_
          by_cases hx : x ∈ idents p
          · exact Or.inr hx
          · have := dropLhs_Q x p hx e (h x)
            rw [hd] at this
            exact Or.inl this
        all_goals exact nofun
      · next hr => exact fun hok => (hr _ (Prod.ext rfl hok)).elim
    all_goals exact nofun

/-- **`annotation_invariant`** (histories): along every history of such statements, after every
statement that completes, every variable in scope holds a value of its declared type. -/
theorem annotation_invariant_history (ss : List Stmt) : ∀ (e : Env), (∀ s ∈ ss, stmtClean s = true) →
    VisWellTyped e → ∀ r ∈ execHistory e ss, r.2 = .ok () → VisWellTyped r.1 := by
  induction ss with
  | nil => intro e _ _ r hr; simp [execHistory] at hr
  | cons s ss ih =>
    intro e hc h r hr hok
    unfold execHistory at hr
    have h1 := annotation_invariant e s (hc s (by simp)) h
    rcases hq : execStmt e s with ⟨e', o⟩
    rw [hq] at hr h1
    cases o with
    | ok u =>
      simp only [] at hr
      rcases List.mem_cons.mp hr with rfl | hr
      · exact h1 rfl
      · exact ih e' (fun s' hs' => hc s' (by simp [hs'])) (h1 rfl) r hr hok
    | throw => simp at hr; subst hr; simp at hok
    | panic => simp at hr; subst hr; simp at hok

/-- non-vacuity: `x: int = 5; x += 3` completes and keeps `x` an int, while `x += 1/2` raises -/
example :
    (execStmt [[{ name := 0, ty := .int, val := .int 5 }]] (.opAssign (.ident 0 []) .plus (.int 3))).2 = .ok () ∧
    (execStmt [[{ name := 0, ty := .int, val := .int 5 }]] (.opAssign (.ident 0 []) .plus (.rat (1/2)))).2 = .throw := by
  constructor <;> decide

end Noulith.C12
