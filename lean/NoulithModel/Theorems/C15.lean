/-
C15 — Lexing and parsing are total and number/string literals decode exactly.

Property theorems about the Impl model of the lexer (`NoulithModel/Impl/Lex.lean`, a transcription of
`/repo/src/lex.rs` plus the literal arms of `Parser::atom`/`evaluate` and the brace scanner of
`parse_format_string`) against the Spec of literals (`NoulithModel/Spec/Literal.lean`).
All statements are for every input / every value / every radix — no bound on lengths or magnitudes.
What one iteration of the lexer can produce is `Step.OK` / `lexStep_ok` in Impl/Lex.lean; helper lemmas
are in Lemmas/C15Basic.lean (digits, escapes) and C15Float.lean (floats); the parser's termination
proof is Lemmas/C15ParseFuel.lean (weights: C15Weight.lean), its soundness proof Lemmas/C15Grammar.lean.
-/
import NoulithModel.Lemmas.C15Basic
import NoulithModel.Lemmas.C15Float
import NoulithModel.Impl.Parse
import NoulithModel.Lemmas.C15ParseFuel
import NoulithModel.Lemmas.C15Grammar

namespace Noulith.C15
open Noulith Noulith.Lex Noulith.LitSpec

/-! ## 1. The lexer is total and never panics

`lex` is defined in the model by well-founded recursion on the remaining input: Lean accepted the
definition only because `lexStep_suffix` proves that every iteration leaves a suffix of what followed
the character it consumed.  That, the bound on the output and the absence of panics (`unwrap`,
`to_digit` radix assertion) are all read off `lexStep_ok`, which says arm by arm what an iteration
can produce. -/

/-- every iteration of the main loop consumes the character it looked at and continues on a suffix
of the rest: progress, and the lexer never invents or re-reads input -/
theorem lexStep_consumes (c : Char) (cs : List Char) :
    (lexStep c cs).rest <:+ cs ∧ (lexStep c cs).rest.length < (c :: cs).length := by
  have h := lexStep_suffix c cs
  exact ⟨h, by have := h.length_le; simp; omega⟩

/-- **`lex_total`**: the defining equations of `lex` hold for every input (the function is total:
no fuel, no `partial`) -/
theorem lex_total (cs : List Char) :
    lex cs = match cs with
      | [] => []
      | c :: cs' => if (lexStep c cs').stop then (lexStep c cs').toks
                    else (lexStep c cs').toks ++ lex (lexStep c cs').rest := by
  cases cs with
  | nil => exact lex_nil
  | cons c cs' => exact lex_cons c cs'

/-- at most two tokens per input character -/
theorem lex_length_le (cs : List Char) : (lex cs).length ≤ 2 * cs.length :=
  Nat.le_trans (length_le_W _) (W_lex_le cs)

/-- **`lex_never_panics`** (`lex_no_panic` as one Boolean): for every input, the lexer never reaches
a place where the Rust would panic (`char::from_u32(..).unwrap()` in `\x`,
`parse::<BigInt>().unwrap()`, `to_digit` with a radix > 36).
The `\u` accumulator is the saturating one of the fixed code (F17). -/
theorem lex_never_panics (cs : List Char) : (lex cs).any Token.isPanic = false := by
  rw [List.any_eq_false]
  intro t ht
  simp [lex_no_panic cs t ht]

theorem parseEvalLit_no_panic (cs : List Char) : parseEvalLit cs ≠ .panic := by
  unfold parseEvalLit
  simp only [lex_never_panics cs]
  simp only [Bool.false_eq_true, if_false]
  split
  · split
    · nofun
    · nofun
  · nofun

/-- a program that lexes to the single token `t` (`hs`: not a comment) is evaluated by the literal
arms alone -/
theorem parseEvalLit_single {cs : List Char} {t : Token} (h : lex cs = [t])
    (hs : (stripComments [t]).1 = [t]) :
    parseEvalLit cs = match atomLit t with
      | some e => .ok (evalLit e)
      | none => .throw := by
  have hp := lex_never_panics cs
  unfold parseEvalLit
  rw [h] at hp ⊢
  simp only [hp, hs, Bool.false_eq_true, if_false]
  rfl

/-! ## 2. Integer literals: every syntax, every radix, every magnitude -/

/-- Spec law: positional notation round-trips -/
theorem ofDigits_digits_roundtrip (b n : Nat) (hb : 2 ≤ b) : ofDigits b (digits b n) = n :=
  horner_digits b n

/-- **`int_literal_token`**: for every `n`, lexing the spelling of `n` in any integer syntax
(decimal, `0x` `0b` `0o` with either case of prefix and digits, `NrDIGITS` for every radix 2..36 with
either case, base-64 with either alphabet), followed by anything that does not continue the literal,
yields exactly the token `IntLit n` and continues after the literal -/
theorem int_literal_token (f : IntForm) (hf : f.valid = true) (n : Nat) (rest : List Char)
    (hs : IntStop f rest) : lex (renderInt f n ++ rest) = .intLit n :: lex rest := by
  cases f with
  | dec =>
    show lex (decimal n ++ rest) = _
    cases rest with
    | nil => rw [lex_run _ (decimal_all n) (decimal_ne_nil n) [] (stops_nil _) _ _ rfl, intLitTok_decimal]; rfl
    | cons d cs2 =>
      have h := hs d (by simp)
      exact lex_run_other _ (decimal_all n) (decimal_ne_nil n) d cs2 h.1 h.2.1 _ _
        (by rw [lexAfterInt_plain _ _ _ h.2.2, intLitTok_decimal])
  | hex ux ud =>
    exact lex_radix ['0'] (if ux then 'X' else 'x') 16 (by decide) nofun (by cases ux <;> rfl)
      (by cases ux <;> decide) (fun _ => by cases ux <;> rfl) (by decide) (by decide) ud n rest hs
  | bin ub =>
    exact lex_radix ['0'] (if ub then 'B' else 'b') 2 (by decide) nofun (by cases ub <;> rfl)
      (by cases ub <;> decide) (fun _ => by cases ub <;> rfl) (by decide) (by decide) false n rest hs
  | oct uo =>
    exact lex_radix ['0'] (if uo then 'O' else 'o') 8 (by decide) nofun (by cases uo <;> rfl)
      (by cases uo <;> decide) (fun _ => by cases uo <;> rfl) (by decide) (by decide) false n rest hs
  | radix r ur ud =>
    simp [IntForm.valid] at hf
    have hsel : ∀ cs2, lexAfterInt (decimal r) (if ur then 'R' else 'r') cs2 = lexBaseTok r cs2 := by
      intro cs2
      unfold lexAfterInt
      rw [if_neg (by cases ur <;> simp), if_neg (by cases ur <;> simp), if_neg (by cases ur <;> simp),
        if_pos (by cases ur <;> simp), parseU32_decimal r (by omega)]
      simp only
      rw [if_pos ⟨hf.1, hf.2⟩]
    have := lex_radix (decimal r) (if ur then 'R' else 'r') r (decimal_all r) (decimal_ne_nil r)
      (by cases ur <;> rfl) (by cases ur <;> decide) hsel hf.1 hf.2 ud n rest hs
    simpa [renderInt] using this
  | b64 ur alt =>
    exact lex_run_other ['6', '4'] (by decide) nofun (if ur then 'R' else 'r') _ (by cases ur <;> rfl)
      (by cases ur <;> decide) _ _ (by
        rw [show lexAfterInt ['6', '4'] (if ur then 'R' else 'r') _
            = ⟨[.intLit (lexBase64 _).1], (lexBase64 _).2, false⟩ by cases ur <;> rfl,
          lexBase64_digits alt n rest hs])

/-- **`int_literal_exact`**: a program that is one integer literal, in any syntax, evaluates to
exactly the integer its digits spell; it is held as `NInt::Small` iff it fits an `i64` -/
theorem int_literal_exact (f : IntForm) (hf : f.valid = true) (n : Nat) :
    parseEvalLit (renderInt f n) = .ok (.int n (decide (n ≤ 9223372036854775807))) := by
  have h := int_literal_token f hf n [] (intStop_nil f)
  rw [List.append_nil, lex_nil] at h
  rw [parseEvalLit_single h rfl]
  simp only [atomLit]
  split <;> simp_all [evalLit]

theorem rat_literal_token (n : Nat) (upper : Bool) (rest : List Char) :
    lex (decimal n ++ (if upper then 'Q' else 'q') :: rest) = .ratLit n :: lex rest := by
  refine lex_run_other _ (decimal_all n) (decimal_ne_nil n) (if upper then 'Q' else 'q') rest (by cases upper <;> rfl)
    (by cases upper <;> decide) [.ratLit n] rest ?_
  unfold lexAfterInt
  rw [if_neg (by cases upper <;> simp), if_neg (by cases upper <;> simp), if_neg (by cases upper <;> simp),
    if_neg (by cases upper <;> simp), if_neg (by cases upper <;> simp), if_pos (by cases upper <;> simp)]
  simp [ratLitTok, parseBigInt_decimal]

theorem rat_literal_exact (n : Nat) (upper : Bool) :
    parseEvalLit (decimal n ++ [if upper then 'Q' else 'q']) = .ok (.rat n) := by
  have h := rat_literal_token n upper []
  rw [lex_nil] at h
  rw [parseEvalLit_single h rfl]
  rfl

/-- non-vacuity: the literal `36rZz` (1295) in the middle of a program -/
example : lex ((renderInt (.radix 36 false true) 1295) ++ " + 1".toList) = .intLit 1295 :: lex " + 1".toList :=
  int_literal_token _ (by decide) 1295 _ (by simp [IntStop, Stops]; decide)

/-! ## 3. String, bytes and format-string literals: the escape table -/

/-- an item is spelled properly inside a literal delimited by `e` -/
def ItemOK (e : Char) : StrItem → Prop
  | .plain c => c ≠ e ∧ c ≠ '\\'
  | .hex d1 d2 => d1.val < 16 ∧ d2.val < 16
  | .uni b ds => (∀ d ∈ ds, d.val < 16) ∧ (b = .none → ds ≠ [])
  | _ => True

/-- a body is spelled properly: every item is, and an unbracketed `\uHH…` is not followed by a
character that would read as a further hex digit -/
def BodyOK (e : Char) : List StrItem → Prop
  | [] => True
  | it :: its =>
    ItemOK e it ∧ BodyOK e its ∧
      (∀ ds, it = .uni .none ds → ∀ c ∈ (renderBody its ++ [e]).head?, isHexDigit c = false)

theorem headOpt_append_cons (a : List Char) (e : Char) (rest : List Char) :
    (a ++ e :: rest).head? = (a ++ [e]).head? := by
  cases a <;> rfl

theorem denoteBody_cons {it : StrItem} {its : List StrItem} {vs : List Nat}
    (h : denoteBody (it :: its) = some vs) :
    ∃ v vs', it.denote = some v ∧ denoteBody its = some vs' ∧ vs = v :: vs' := by
  unfold denoteBody at h
  split at h
  · rename_i v vs' hv hvs
    cases h
    exact ⟨v, vs', hv, hvs, rfl⟩
  · cases h

theorem lexStr_item (e : Char) (he : e ≠ '\\') (it : StrItem) (hok : ItemOK e it) (v : Nat)
    (hv : it.denote = some v) (next : List Char)
    (hnext : ∀ ds, it = .uni .none ds → Stops isHexDigit next) :
    lexStr e (it.render ++ next) = (lexStr e next).push (Char.ofNat v) ∧
    lexStrHex e (it.render ++ next) = it.isHex :: lexStrHex e next := by
  cases it with
  | plain c =>
    cases hv
    rw [Char.ofNat_toNat]
    exact lexStr_plain e c next hok.1 hok.2
  | hex d1 d2 =>
    cases hv
    rw [Nat.mul_comm]
    exact lexStr_esc_x e he _ _ _ _ (toDigit_hexChar d1 hok.1) (toDigit_hexChar d2 hok.2) next
  | uni b ds =>
    simp only [StrItem.denote] at hv
    split at hv
    · have hsc : validScalar (ofDigits 16 (ds.map HexDigit.val)) = true := ‹isScalar _ = true›
      cases hv
      have := lexStr_uni e he b ds hok.1 hok.2 next (fun hb => hnext ds (by rw [hb]))
      rwa [if_pos hsc, if_pos hsc] at this
    · cases hv
  | _ => cases hv; exact lexStr_esc e he _ _ (by decide) next

theorem lexStr_flags_body (e : Char) (he1 : e ≠ '\\') (its : List StrItem)
    (hok : BodyOK e its) (vs : List Nat) (hden : denoteBody its = some vs) (rest : List Char) :
    lexStr e (renderBody its ++ e :: rest) = ⟨[], vs.map Char.ofNat, rest⟩ ∧
    lexStrHex e (renderBody its ++ e :: rest) = its.map StrItem.isHex := by
  induction its generalizing vs with
  | nil => cases hden; exact lexStr_delim e rest
  | cons it its ih =>
    obtain ⟨hit, hrest, hnext⟩ := hok
    obtain ⟨v, vs', hv, hvs, rfl⟩ := denoteBody_cons hden
    have hstop : ∀ ds, it = .uni .none ds → Stops isHexDigit (renderBody its ++ e :: rest) := by
      intro ds hds c hc
      rw [headOpt_append_cons] at hc
      exact hnext ds hds c hc
    have hitem := lexStr_item e he1 it hit v hv _ hstop
    have ih := ih hrest vs' hvs
    rw [show renderBody (it :: its) ++ e :: rest = it.render ++ (renderBody its ++ e :: rest) by
      simp [renderBody], hitem.1, hitem.2, ih.1, ih.2]
    exact ⟨rfl, rfl⟩

/-- **the escape table is decoded exactly**: lexing the spelling of a well-formed body yields the
scalar values its items spell, consumes exactly the body and the closing delimiter, and emits no
`Invalid` token -/
theorem lexStr_body (e : Char) (he1 : e ≠ '\\') (its : List StrItem)
    (hok : BodyOK e its) (vs : List Nat) (hden : denoteBody its = some vs) (rest : List Char) :
    lexStr e (renderBody its ++ e :: rest) = ⟨[], vs.map Char.ofNat, rest⟩ :=
  (lexStr_flags_body e he1 its hok vs hden rest).1

/-- on a well-formed body the flags mark exactly the `\\xHH` items -/
theorem lexStrHex_body (e : Char) (he1 : e ≠ '\\') (its : List StrItem)
    (hok : BodyOK e its) (vs : List Nat) (hden : denoteBody its = some vs) (rest : List Char) :
    lexStrHex e (renderBody its ++ e :: rest) = its.map StrItem.isHex :=
  (lexStr_flags_body e he1 its hok vs hden rest).2

theorem quote_ne_backslash {e : Char} (he : e = '\'' ∨ e = '"') : e ≠ '\\' := by
  rcases he with rfl | rfl <;> decide

theorem lexStep_quote (e : Char) (he : e = '\'' ∨ e = '"') (cs : List Char) : lexStep e cs =
    ⟨(lexStr e cs).pre ++ [.stringLit (lexStr e cs).acc], (lexStr e cs).rest, false⟩ := by
  rcases he with rfl | rfl <;> rfl

/-- `B` and `F` directly followed by a quote: the dispatch on the prefix letter computes, and none of
it looks at `cs` -/
theorem lexStep_B (e : Char) (he : e = '\'' ∨ e = '"') (cs : List Char) : lexStep 'B' (e :: cs) =
    ⟨(lexStr e cs).pre ++ [.bytesLit (bytesOf (lexStr e cs).acc (lexStrHex e cs))], (lexStr e cs).rest, false⟩ := by
  rcases he with rfl | rfl <;> rfl
theorem lexStep_F (e : Char) (he : e = '\'' ∨ e = '"') (cs : List Char) : lexStep 'F' (e :: cs) =
    ⟨(lexStr e cs).pre ++ [.formatString (lexStr e cs).acc], (lexStr e cs).rest, false⟩ := by
  rcases he with rfl | rfl <;> rfl

/-- **`string_escape_exact`**: lexing a string literal whose body is a well-formed item list yields
exactly one `StringLit` token holding the scalar values the items spell -/
theorem string_escape_exact (e : Char) (he : e = '\'' ∨ e = '"') (its : List StrItem) (hok : BodyOK e its)
    (vs : List Nat) (hden : denoteBody its = some vs) (rest : List Char) :
    lex (e :: renderBody its ++ e :: rest) = .stringLit (vs.map Char.ofNat) :: lex rest := by
  have hb := lexStr_body e (quote_ne_backslash he) its hok vs hden rest
  rw [List.cons_append, lex_of_step _ _ _ _ (by rw [lexStep_quote e he, hb])]
  rfl

/-- bytes literals `B"…"`: the token holds, for every decoded character, the byte `HH` if it was
written `\xHH` and its UTF-8 encoding otherwise -/
theorem bytes_literal_token (e : Char) (he : e = '\'' ∨ e = '"') (its : List StrItem) (hok : BodyOK e its)
    (vs : List Nat) (hden : denoteBody its = some vs) (rest : List Char) :
    lex ('B' :: e :: renderBody its ++ e :: rest) =
      .bytesLit (bytesOf (vs.map Char.ofNat) (its.map StrItem.isHex)) :: lex rest := by
  have hb := lexStr_flags_body e (quote_ne_backslash he) its hok vs hden rest
  rw [List.cons_append, List.cons_append, lex_of_step _ _ _ _ (by rw [lexStep_B e he, hb.1, hb.2])]
  rfl

/-- format strings `F"…"`: the token holds the decoded body (braces are interpreted later) -/
theorem format_literal_token (e : Char) (he : e = '\'' ∨ e = '"') (its : List StrItem) (hok : BodyOK e its)
    (vs : List Nat) (hden : denoteBody its = some vs) (rest : List Char) :
    lex ('F' :: e :: renderBody its ++ e :: rest) = .formatString (vs.map Char.ofNat) :: lex rest := by
  have hb := lexStr_body e (quote_ne_backslash he) its hok vs hden rest
  rw [List.cons_append, List.cons_append, lex_of_step _ _ _ _ (by rw [lexStep_F e he, hb])]
  rfl

/-- a program that is one string literal evaluates to the string its escapes spell -/
theorem string_literal_exact (e : Char) (he : e = '\'' ∨ e = '"') (its : List StrItem) (hok : BodyOK e its)
    (vs : List Nat) (hden : denoteBody its = some vs) :
    parseEvalLit (e :: renderBody its ++ [e]) = .ok (.str (vs.map Char.ofNat)) := by
  have h := string_escape_exact e he its hok vs hden []
  rw [lex_nil] at h
  rw [parseEvalLit_single h rfl]
  rfl

/-- a `\u` escape that spells a number which is not a Unicode scalar value (a surrogate, or anything
above 0x10FFFF — with any number of digits: the accumulator saturates instead of overflowing) is
refused with the `Invalid` token "u result too big" followed by the string so far -/
theorem string_u_too_big (e : Char) (he : e ≠ '\\') (ds : List HexDigit) (hds : ∀ d ∈ ds, d.val < 16)
    (hbad : isScalar (ofDigits 16 (ds.map HexDigit.val)) = false) (rest : List Char) :
    lexStr e ('\\' :: 'u' :: '{' :: (ds.map HexDigit.char ++ '}' :: rest)) = strFail .uTooBig rest := by
  have hbad' : ¬ validScalar (ofDigits 16 (ds.map HexDigit.val)) = true := by
    rw [← isScalar_eq_validScalar, hbad]; exact Bool.false_ne_true
  have := (lexStr_uni e he .brace ds hds nofun rest nofun).1
  rw [if_neg hbad'] at this
  simpa [StrItem.render, Bracket.opening, Bracket.closing] using this

/-- non-vacuity of `string_u_too_big`: `"\u{fffffffff}"` (F17) -/
example : lexStr '"' ('\\' :: 'u' :: '{' :: ((List.replicate 9 (⟨15, false⟩ : HexDigit)).map HexDigit.char ++ '}' :: ['"']))
    = strFail .uTooBig ['"'] :=
  string_u_too_big '"' (by decide) _ (by decide) (by decide) _

/-! ## 4. Float and imaginary literals: the text handed to the `f64` parser -/

/-- **`float_token_text`**: for every well-formed float / imaginary literal (`d+.d*`, `d+e[-]d+`,
`d+.d*e[-]d+`, and the `f`/`i`/`j` suffixes, any case, any number of digits), the lexer emits one
`FloatLit` / `ImaginaryFloatLit` token and the text handed to the `f64` parser is exactly the
literal's digits, point and exponent (`E` normalised to `e`, suffix dropped) — and that text is one
the parser accepts -/
theorem float_token_text (l : FloatLit) (hwf : l.wf = true) (rest : List Char) (hstop : FloatStop l rest) :
    lex (l.render ++ rest) = floatTok l :: lex rest := by
  rw [floatTok_eq_emit l hwf]
  obtain ⟨ip, frac, exp, suffix⟩ := l
  simp only [FloatLit.wf, Bool.and_eq_true, decide_eq_true_eq, Bool.or_eq_true] at hwf
  obtain ⟨⟨⟨⟨⟨hipne, hip⟩, hfr⟩, hex⟩, hsx⟩, hfl⟩ := hwf
  simp only [FloatLit.render, FloatLit.text]
  -- the mantissa `M`, then `T` = exponent, suffix or neither
  generalize hM : decDigits ip ++ (match (generalizing := false) frac with | some fs => '.' :: decDigits fs | none => []) = M
  have mant := lex_mantissa (decDigits ip) (decDigits_allDig ip hip) (decDigits_ne_nil ip (by simpa using hipne))
    (frac.map decDigits) (frac_allDig hfr) M (by subst hM; cases frac <;> rfl)
  cases exp with
  | some p =>
    obtain ⟨uE, neg, es⟩ := p
    obtain rfl : suffix = .none := by simpa using hsx
    simp only [Bool.and_eq_true, decide_eq_true_eq] at hex
    have := mant _ (stops_cons _ _ _ (by cases uE <;> decide)) (fun _ => ⟨_, _, rfl, by cases uE <;> decide⟩) _ rest
      (lexAfterFraction_exp _ uE neg _ rest (decDigits_allDig es hex.2) (decDigits_ne_nil es (by simpa using hex.1)) hstop)
    simpa [NumSuffix.chars, NumSuffix.isImag] using this
  | none =>
    by_cases hsn : suffix = .none
    · subst hsn
      have hrest : ∀ c ∈ rest.head?, isDigit10 c = false ∧ c ∉ floatLetters := hstop
      have := mant rest (fun c hc => (hrest c hc).1) (fun h => by cases frac with | none => simp at hfl | some => cases h) _ rest
        (lexAfterFraction_plain _ _ (fun c hc => (hrest c hc).2))
      simpa [NumSuffix.chars, NumSuffix.isImag] using this
    · obtain ⟨d, hd, hdf⟩ := suffix_letter suffix hsn
      have := mant (suffix.chars ++ rest) (by rw [hd]; exact stops_cons _ _ _ (floatLetters_not_digit d hdf))
        (fun _ => ⟨d, rest, by rw [hd]; rfl, hdf⟩) _ rest (lexAfterFraction_suffix _ suffix hsn rest)
      simpa using this

/-- a program that is one float / imaginary literal evaluates to the float whose decimal text is
the literal's digits (the decimal-to-binary conversion is `str::parse::<f64>`, external) -/
theorem float_literal_exact (l : FloatLit) (hwf : l.wf = true) :
    parseEvalLit l.render = .ok (if l.suffix.isImag then .imag l.text else .float l.text) := by
  have h := float_token_text l hwf [] (floatStop_nil l)
  rw [List.append_nil, lex_nil] at h
  rw [parseEvalLit_single h (by unfold floatTok; split <;> rfl)]
  unfold floatTok
  cases l.suffix.isImag <;> rfl

/-- non-vacuity: `12.5E-3` -/
example : lex "12.5E-3".toList = [.floatLit "12.5e-3".toList] := by
  have := float_token_text ⟨[1, 2], some [5], some (true, true, [3]), .none⟩ (by decide) [] (floatStop_nil _)
  rw [lex_nil] at this
  exact this

/-! ## 5. Format strings: the brace scanner is total -/

/-- the nesting counter of the brace scanner never goes below zero -/
theorem fmtLoop_level_nonneg (st : FmtState) (cs : List Char) (h0 : 0 ≤ st.level) (st' : FmtState)
    (h : fmtLoop st cs = .ok st') : 0 ≤ st'.level := by
  fun_induction fmtLoop st cs
  case case1 => cases h; exact h0
  case case5 | case9 => cases h
  -- the counter goes up, or down where it is positive
  case case3 ih | case7 ih | case8 ih | case10 ih => exact ih (by simp only; omega) h
  all_goals (rename_i ih; exact ih h0 h)

theorem fmtFlagsOfComment_err (fl : FmtFlags) (cs : List Char) (e : FmtErr)
    (h : fmtFlagsOfComment fl cs = .error e) : e = .padLength := by
  fun_induction fmtFlagsOfComment fl cs
  case case1 => cases h
  -- the one place that fails: a pad length beyond `usize`
  case case12 => cases h; rfl
  all_goals (rename_i ih; exact ih h)

theorem fmtFlagsOfComments_err (fl : FmtFlags) (cms : List (List Char)) (e : FmtErr)
    (h : fmtFlagsOfComments fl cms = .error e) : e = .padLength := by
  induction cms generalizing fl with
  | nil => simp [fmtFlagsOfComments] at h
  | cons c cms ih =>
    unfold fmtFlagsOfComments at h
    split at h
    · exact ih _ h
    · rename_i e' he
      cases h
      exact fmtFlagsOfComment_err _ _ _ he

/-- the nested lexer never panics, so `fmtExpr` never reports that -/
theorem fmtExpr_no_panic (acc : List Char) : fmtExpr acc ≠ .error .lexPanic := by
  unfold fmtExpr
  simp only [lex_never_panics acc, Bool.false_eq_true, if_false]
  split
  · simp
  · split
    · simp
    · rename_i e he
      have := fmtFlagsOfComments_err _ _ _ he
      subst this
      simp

theorem fmtLoop_no_panic (st : FmtState) (cs : List Char) : fmtLoop st cs ≠ .error .lexPanic := by
  fun_induction fmtLoop st cs
  case case1 | case5 => nofun
  -- the one error that is passed on is that of `fmtExpr`
  case case9 =>
    intro h
    cases h
    exact fmtExpr_no_panic _ ‹_›
  all_goals assumption

/-- **`format_scanner_total`**: the brace scanner of `parse_format_string` always returns — the
parts, or one of its four syntax errors; it never fails because the nested lexer panicked, and
(`fmtLoop_level_nonneg`) its nesting counter never goes negative -/
theorem format_scanner_total (s : List Char) :
    (∃ parts, fmtScan s = .ok parts) ∨ fmtScan s = .error .unmatchedRight ∨ fmtScan s = .error .unmatchedLeft
      ∨ fmtScan s = .error .emptyExpr ∨ fmtScan s = .error .padLength := by
  have hnp := fmtLoop_no_panic {} s
  unfold fmtScan
  split
  · split
    · simp
    · simp
  · rename_i e he
    cases e <;> simp_all

theorem fmtLoop_plain (acc : List Char) (ret : List FmtPart) (s : List Char) (h : ∀ c ∈ s, c ≠ '{' ∧ c ≠ '}') :
    fmtLoop ⟨0, acc, ret⟩ s = .ok ⟨0, acc, ret ++ s.map .lit⟩ := by
  induction s generalizing ret with
  | nil => simp [fmtLoop]
  | cons c cs ih =>
    have hc := h c (by simp)
    rw [fmtLoop]
    simp only [if_true, hc.1, hc.2, if_false]
    rw [ih _ (fun c' hc' => h c' (by simp [hc']))]
    simp

theorem fmtScan_plain (s : List Char) (h : ∀ c ∈ s, c ≠ '{' ∧ c ≠ '}') : fmtScan s = .ok (s.map .lit) := by
  unfold fmtScan
  have := fmtLoop_plain [] [] s h
  simp only [List.nil_append] at this
  rw [show ({} : FmtState) = ⟨0, [], []⟩ from rfl, this]
  simp

theorem fmtLiteralOnly_map (s : List Char) : fmtLiteralOnly (s.map .lit) = some s := by
  induction s with
  | nil => rfl
  | cons c cs ih => simp [fmtLiteralOnly, ih]

/-- a format string without braces evaluates to its decoded body -/
theorem format_literal_exact (e : Char) (he : e = '\'' ∨ e = '"') (its : List StrItem) (hok : BodyOK e its)
    (vs : List Nat) (hden : denoteBody its = some vs)
    (hnb : ∀ c ∈ vs.map Char.ofNat, c ≠ '{' ∧ c ≠ '}') :
    parseEvalLit ('F' :: e :: renderBody its ++ [e]) = .ok (.str (vs.map Char.ofNat)) := by
  have h := format_literal_token e he its hok vs hden []
  rw [lex_nil] at h
  rw [parseEvalLit_single h rfl]
  simp only [atomLit, fmtScan_plain _ hnb, fmtLiteralOnly_map]
  rfl

/-! ## 6. Bytes literals: `\xHH` is the byte `HH`, everything else UTF-8 (F23 fixed) -/

theorem utf8Encode_ofNat (v : Nat) (h : v.isValidChar) : utf8Encode (Char.ofNat v) = utf8 v := by
  unfold utf8Encode utf8
  rw [toNat_ofNat v h]

theorem denote_valid (e : Char) (it : StrItem) (hok : ItemOK e it) (v : Nat) (h : it.denote = some v) :
    v.isValidChar := by
  cases it with
  | plain c => simp [StrItem.denote] at h; subst h; exact c.valid
  | hex d1 d2 =>
    simp [StrItem.denote] at h; subst h
    have := hok.1; have := hok.2
    exact Or.inl (by omega)
  | uni b ds =>
    simp only [StrItem.denote] at h
    split at h
    · rename_i hs
      simp at h; subst h
      simp [isScalar] at hs
      rcases hs with hs | hs
      · exact Or.inl hs
      · exact Or.inr ⟨by omega, by omega⟩
    · simp at h
  | _ => simp [StrItem.denote] at h; subst h; exact Or.inl (by omega)

/-- no `\xHH` escape with `HH ≥ 0x80` -/
def LowHex : List StrItem → Prop
  | [] => True
  | .hex d1 d2 :: its => 16 * d1.val + d2.val < 128 ∧ LowHex its
  | _ :: its => LowHex its

/-- the bytes the lexer builds are the bytes the items spell — for every well-formed body, hex
escapes ≥ `\x80` included (after the fix of F23) -/
theorem bytes_of_body_full (e : Char) (its : List StrItem) (hok : BodyOK e its)
    (vs : List Nat) (hden : denoteBody its = some vs) :
    denoteBodyBytes its = some (bytesOf (vs.map Char.ofNat) (its.map StrItem.isHex)) := by
  induction its generalizing vs with
  | nil => cases hden; rfl
  | cons it its ih =>
    obtain ⟨hit, hrest, _⟩ := hok
    obtain ⟨v, vs', hv, hvs, rfl⟩ := denoteBody_cons hden
    have hvalid := denote_valid e it hit v hv
    unfold denoteBodyBytes
    rw [ih hrest vs' hvs]
    cases it with
    | hex d1 d2 =>
      simp [StrItem.denote] at hv; subst hv
      have h1 := hit.1; have h2 := hit.2
      have hlt : 16 * d1.val + d2.val < 256 := by omega
      simp [StrItem.denoteBytes, StrItem.isHex, bytesOf, toNat_ofNat _ hvalid, Nat.mod_eq_of_lt hlt]
    | _ => simp [StrItem.denoteBytes, StrItem.isHex, bytesOf, hv, utf8Encode_ofNat v hvalid]

/-- the full-strength statement for bytes literals (what the property text asks for) -/
def bytes_literal_exact_statement : Prop :=
  ∀ (e : Char), (e = '\'' ∨ e = '"') → ∀ (its : List StrItem), BodyOK e its → ∀ bs, denoteBodyBytes its = some bs →
    parseEvalLit ('B' :: e :: renderBody its ++ [e]) = .ok (.bytes bs)

theorem denoteBody_of_bytes (its : List StrItem) (bs : List Nat) (h : denoteBodyBytes its = some bs) :
    ∃ vs, denoteBody its = some vs := by
  induction its generalizing bs with
  | nil => exact ⟨[], rfl⟩
  | cons it its ih =>
    unfold denoteBodyBytes at h
    split at h
    · rename_i b bs' hb hbs
      obtain ⟨vs', hvs'⟩ := ih bs' hbs
      -- `denoteBytes` is `denote` followed by the encoding, except on `\xHH`, where both are defined
      obtain ⟨v, hv⟩ : ∃ v, it.denote = some v := by
        unfold StrItem.denoteBytes at hb
        split at hb
        · exact ⟨_, rfl⟩
        · cases hd : it.denote with
          | some v => exact ⟨v, rfl⟩
          | none => rw [hd] at hb; cases hb
      exact ⟨v :: vs', by simp [denoteBody, hv, hvs']⟩
    · cases h

/-- **`bytes_literal_exact`** (F23 fixed): a program that is one bytes literal evaluates to exactly the
bytes its items spell: `\xHH` is the byte `HH` (also for `HH ≥ 0x80`), every other item the UTF-8
encoding of the character it spells -/
theorem bytes_literal_exact : bytes_literal_exact_statement := by
  intro e he its hok bs hbs
  obtain ⟨vs, hden⟩ := denoteBody_of_bytes its bs hbs
  have hb := bytes_of_body_full e its hok vs hden
  rw [hbs] at hb
  have hbs' : bs = bytesOf (vs.map Char.ofNat) (its.map StrItem.isHex) := by simpa using hb
  have h := bytes_literal_token e he its hok vs hden []
  rw [lex_nil] at h
  rw [parseEvalLit_single h rfl, hbs']
  rfl

/-- **`bytes_literal_exact_partial`**: a bytes literal without `\xHH` escapes ≥ `\x80` (the case in
which reading an escape as a byte and as a character agree) denotes exactly the bytes its items spell:
a corollary of `bytes_literal_exact` -/
theorem bytes_literal_exact_partial (e : Char) (he : e = '\'' ∨ e = '"') (its : List StrItem)
    (hok : BodyOK e its) (hlow : LowHex its) (vs : List Nat) (hden : denoteBody its = some vs) :
    ∃ bs, denoteBodyBytes its = some bs ∧ parseEvalLit ('B' :: e :: renderBody its ++ [e]) = .ok (.bytes bs) :=
  ⟨_, bytes_of_body_full e its hok vs hden, bytes_literal_exact e he its hok _ (bytes_of_body_full e its hok vs hden)⟩

/-- regression (F23): `B"\xff"` is the single byte 255 (it was `[195, 191]`, the UTF-8 of U+00FF) -/
example : parseEvalLit ['B', '"', '\\', 'x', 'f', 'f', '"'] = .ok (.bytes [255]) :=
  bytes_literal_exact '"' (Or.inr rfl) [.hex ⟨15, false⟩ ⟨15, false⟩] (by simp [BodyOK, ItemOK]) [255] (by decide)

/-! ## 7. The parser

`Impl/Parse.lean` is a recursive-descent recogniser with the control flow of `Parser` in core.rs; it
is total by construction (structural recursion on a fuel argument).  What is proved here is only that
the fuel `fuelFor` is always sufficient (`parse_terminates`), so the model decides every input. -/

def parse_terminates_statement : Prop := ∀ code : List Char, Parse.parse code ≠ .outOfFuel

/-- **`parse_terminates`**: the parser model never answers `outOfFuel` — for every source text `parse`
returns `ok` or `err`.  Proof (Lemmas/C15ParseFuel.lean): by induction on the fuel, every function of
the mutual block is safe when fuel ≥ 10 · weight(remaining tokens) + its grammar level, because every
recursive call either is made on a strictly lighter token list or descends a grammar level; format-string
tokens weigh twice their body length (the body is lexed and parsed recursively, `pneed_fmtScan`), and
the token stream weighs at most twice the source length (`W_lex_le`). -/
theorem parse_terminates : parse_terminates_statement := parse_never_out_of_fuel

/-- the parser model is a total decision: every source text is accepted or rejected -/
theorem parse_decides (code : List Char) : Parse.parse code = .ok ∨ Parse.parse code = .err := by
  have h := parse_terminates code
  cases hp : Parse.parse code <;> simp_all

/-- the empty program (no tokens but comments and blanks) parses: `Ok(None)` -/
theorem parse_empty_program (code : List Char) (h : (stripComments (lex code)).1 = []) :
    Parse.parse code = .ok := by
  simp [Parse.parse, Parse.parseTokens, h]

/-- tokens that are literals by themselves (format strings excluded: they are parsed further) -/
def isPlainLitTok : Token → Bool
  | .intLit _ => true | .ratLit _ => true | .floatLit _ => true | .imagLit _ => true
  | .stringLit _ => true | .bytesLit _ => true
  | _ => false

/-- a program that lexes to a single literal token parses (one step of `expression` … `atom`): the
model agrees with `parseEvalLit` that these are programs.  The fuel is at least 20, which is all
that one descent to `atom` needs. -/
theorem parse_single_literal {code : List Char} {t : Token} (h : lex code = [t])
    (hl : isPlainLitTok t = true) : Parse.parse code = .ok := by
  have hf : Parse.fuelFor code = (32 * code.length + 44) + 20 := by
    unfold Parse.fuelFor; omega
  unfold Parse.parse
  rw [h, hf]
  generalize 32 * code.length + 44 = m
  unfold isPlainLitTok at hl
  split at hl
  case h_7 => cases hl
  all_goals rfl

/-- every literal syntax of section 2–4 is also a *program* for the parser model -/
theorem parse_int_literal (f : IntForm) (hf : f.valid = true) (n : Nat) :
    Parse.parse (renderInt f n) = .ok := by
  have h := int_literal_token f hf n [] (intStop_nil f)
  rw [List.append_nil, lex_nil] at h
  exact parse_single_literal h rfl

theorem parse_float_literal (l : FloatLit) (hwf : l.wf = true) : Parse.parse l.render = .ok := by
  have h := float_token_text l hwf [] (floatStop_nil l)
  rw [List.append_nil, lex_nil] at h
  exact parse_single_literal h (by unfold floatTok; split <;> rfl)

theorem parse_string_literal (e : Char) (he : e = '\'' ∨ e = '"') (its : List StrItem) (hok : BodyOK e its)
    (vs : List Nat) (hden : denoteBody its = some vs) :
    Parse.parse (e :: renderBody its ++ [e]) = .ok := by
  have h := string_escape_exact e he its hok vs hden []
  rw [lex_nil] at h
  exact parse_single_literal h rfl

/-- `to_lvalue_no_literals` succeeds only where `to_lvalue` does -/
theorem lvalueNoLitOk_imp_lvalueOk (e : Parse.PExpr) (h : Parse.lvalueNoLitOk e = true) : Parse.lvalueOk e = true := by
  unfold Parse.lvalueNoLitOk at h
  unfold Parse.lvalueOk
  split at h
  · rename_i i hi; simp [hi]
  · simp at h

/-! ## 8. The accepted language: soundness on the expression fragment

Grammar (`D` in Lemmas/C15Grammar.lean), over literals, identifiers and `( ) [ ] ,`:

    Atom    ::= literal | ident | '(' Args ')' | '[' ']' | '[' Args ']'
    Operand ::= Atom | Operand '(' ')' | Operand '(' Args ')' | Operand '[' Chain ']'
    OpAtom  ::= ident | '(' OpAtom ')'
    Chain   ::= Operand | Operand Atom | Operand OpAtom Operand (OpAtom Operand)*
    Args    ::= Chain (',' Chain)* [',']
-/

/-- **`parse_sound_fragment`**: if the source lexes to a non-empty token list over the fragment's
alphabet and the parser model accepts it, the token list is an `Args` phrase of the grammar.
Together with `parse_terminates` this characterises acceptance on the fragment from one side:
accepted ⟹ derivable. -/
theorem parse_sound_fragment (code : List Char) (hf : AllFrag (stripComments (lex code)).1)
    (hne : (stripComments (lex code)).1 ≠ []) (h : Parse.parse code = .ok) :
    Lang .args (stripComments (lex code)).1 :=
  parseTokens_sound _ _ hf hne h

/-- non-vacuity: `f(x, [1])[0] + y` is accepted, hence derivable -/
example : Lang .args [.ident ['f'], .leftParen, .ident ['x'], .comma, .leftBracket, .intLit 1, .rightBracket,
    .rightParen, .leftBracket, .intLit 0, .rightBracket, .ident ['+'], .ident ['y']] :=
  parseTokens_sound 200 _ (by simp [frag_ident, frag_leftParen, frag_comma, frag_leftBracket, frag_intLit,
    frag_rightBracket, frag_rightParen]) (by simp) (by rfl)

/-- the operator position is tight: `a 1 b` (a non-identifier where an operator is expected) is not a
phrase of the grammar's `Chain` … and indeed the parser model rejects it -/
example : Parse.parseTokens 200 [.ident ['a'], .intLit 1, .ident ['b']] = .err := by rfl

/-! ## 9. No lexer state between tokens: literals in sequence decode as they do alone -/

inductive QKind where
  | str | bytes | fmt
  deriving DecidableEq, Repr

/-- a quoted literal: its kind (plain / `B` / `F`), delimiter and items -/
structure QLit where
  kind : QKind
  e : Char
  its : List StrItem

def QLit.render (l : QLit) : List Char :=
  (match l.kind with | .str => [] | .bytes => ['B'] | .fmt => ['F']) ++ l.e :: renderBody l.its ++ [l.e]

def QLit.WF (l : QLit) : Prop :=
  (l.e = '\'' ∨ l.e = '"') ∧ BodyOK l.e l.its ∧ ∃ vs, denoteBody l.its = some vs

theorem lex_space (cs : List Char) : lex (' ' :: cs) = lex cs := by
  have : lexStep ' ' cs = ⟨[], cs, false⟩ := rfl
  rw [lex_of_step _ _ _ _ this]; rfl

theorem lex_append_of_token {p : List Char} {t : Token} (h : ∀ rest, lex (p ++ rest) = t :: lex rest)
    (rest : List Char) : lex (p ++ rest) = lex p ++ lex rest := by
  have h0 := h []
  rw [List.append_nil, lex_nil] at h0
  rw [h, h0]
  rfl

/-- what follows a literal does not influence its token, and the literal does not influence what follows -/
theorem lex_literal_append (l : QLit) (h : l.WF) (rest : List Char) :
    lex (l.render ++ rest) = lex l.render ++ lex rest := by
  obtain ⟨he, hok, vs, hden⟩ := h
  obtain ⟨kind, e, its⟩ := l
  cases kind
  · exact lex_append_of_token (fun r => by simpa [QLit.render] using string_escape_exact e he its hok vs hden r) rest
  · exact lex_append_of_token (fun r => by simpa [QLit.render] using bytes_literal_token e he its hok vs hden r) rest
  · exact lex_append_of_token (fun r => by simpa [QLit.render] using format_literal_token e he its hok vs hden r) rest

/-- **`lex_tokens_independent`**: lexing a sequence of string / bytes / format-string literals
(separated by blanks) yields exactly the tokens each literal yields when lexed alone — the lexer
model carries no state from one token to the next (in particular no `\xHH` offsets) -/
theorem lex_tokens_independent (ls : List QLit) (h : ∀ l ∈ ls, l.WF) :
    lex (ls.flatMap fun l => l.render ++ [' ']) = ls.flatMap fun l => lex l.render := by
  induction ls with
  | nil => simp [lex_nil]
  | cons l ls ih =>
    simp only [List.flatMap_cons, List.append_assoc, List.singleton_append]
    rw [lex_literal_append l (h l (by simp)), lex_space, ih (fun l' hl' => h l' (by simp [hl']))]

/-- non-vacuity, the shape of the seeded defect a5: `'\x41bc' B'é' ` — the bytes literal yields the
tokens it yields alone whatever `\xHH` escapes precede it -/
example :
    let ls : List QLit := [⟨.str, '\'', [.hex ⟨4, false⟩ ⟨1, false⟩, .plain 'b', .plain 'c']⟩, ⟨.bytes, '\'', [.plain 'é']⟩]
    lex (ls.flatMap fun l => l.render ++ [' ']) = ls.flatMap fun l => lex l.render := by
  intro ls
  apply lex_tokens_independent
  intro l hl
  simp [ls] at hl
  rcases hl with rfl | rfl
  · exact ⟨Or.inl rfl, by simp [BodyOK, ItemOK], _, rfl⟩
  · exact ⟨Or.inl rfl, by simp [BodyOK, ItemOK], _, rfl⟩

end Noulith.C15
