/-
C06 — Integer arithmetic is exact at every magnitude and representation.

Property theorems about the Impl model `NInt` / `IntOps` (NoulithModel/Impl/NInt.lean) against the
Spec `IntSpec` (plain `Int`).  All statements quantify over BOTH representations of each operand
(`small` = i64 fast path, `big` = BigInt, possibly holding a small value) with no size bound.
-/
import NoulithModel.Spec.IntSpec
import NoulithModel.Lemmas.PowShortcut

namespace Noulith.C06
open Noulith Noulith.NInt

/-! ## every operator computes the exact value, whatever the representations -/

@[simp] theorem val_small (v : Int) : (small v).val = v := rfl
@[simp] theorem val_big (v : Int) : (big v).val = v := rfl

theorem val_add (a b : NInt) : (add a b).val = a.val + b.val := by
  cases a <;> cases b <;> simp only [add] <;> (try split) <;> rfl

theorem val_sub (a b : NInt) : (sub a b).val = a.val - b.val := by
  cases a <;> cases b <;> simp only [sub] <;> (try split) <;> rfl

theorem val_mul (a b : NInt) : (mul a b).val = a.val * b.val := by
  cases a <;> cases b <;> simp only [mul] <;> (try split) <;> rfl

theorem val_neg (a : NInt) : (neg a).val = -a.val := by
  unfold neg ofBigInt; split <;> rfl

theorem val_not (a : NInt) : (NInt.not a).val = -a.val - 1 := by
  cases a <;> rfl

theorem val_and (a b : NInt) : (NInt.and a b).val = band a.val b.val := by
  cases a <;> cases b <;> rfl
theorem val_or (a b : NInt) : (NInt.or a b).val = bor a.val b.val := by
  cases a <;> cases b <;> rfl
theorem val_xor (a b : NInt) : (NInt.xor a b).val = bxor a.val b.val := by
  cases a <;> cases b <;> rfl

theorem val_shl (a : NInt) (s : Nat) : (shl a s).val = a.val * 2 ^ s := rfl
/-- `>>` is floor division by a power of two -/
theorem val_shr (a : NInt) (s : Nat) : (shr a s).val = a.val / 2 ^ s := by
  simp [shr, val, Int.shiftRight_eq_div_pow]

theorem val_divFloor (a b : NInt) : (divFloor a b).val = Int.fdiv a.val b.val := rfl
theorem val_modFloor (a b : NInt) : (modFloor a b).val = Int.fmod a.val b.val := rfl

theorem val_rem (a b : NInt) (hb : b.val ≠ 0) :
    ∃ r, rem a b = .ok r ∧ r.val = Int.tmod a.val b.val := by
  cases a <;> cases b
  case small.small x y =>
    simp only [rem]
    split
    · exact ⟨_, rfl, rfl⟩
    · exact ⟨_, if_neg hb, rfl⟩
  all_goals exact ⟨_, if_neg hb, rfl⟩

theorem val_tdiv (a b : NInt) (hb : b.val ≠ 0) :
    ∃ r, tdiv a b = .ok r ∧ r.val = Int.tdiv a.val b.val := by
  cases a <;> cases b
  case small.small x y =>
    simp only [tdiv]
    split
    · exact ⟨_, rfl, rfl⟩
    · exact ⟨_, if_neg hb, rfl⟩
  all_goals exact ⟨_, if_neg hb, rfl⟩

theorem val_abs (a : NInt) : (abs a).val = (a.val.natAbs : Int) := by
  cases a with
  | small x =>
    simp only [abs, val_small]
    by_cases h : x = -9223372036854775808
    · rw [if_pos h]; simp only [val_big]; omega
    · rw [if_neg h]; simp only [val_small]; split <;> omega
  | big x => simp only [abs, val_big]; split <;> omega

theorem val_signum (a : NInt) : (signum a).val = Int.sign a.val := by
  cases a with
  | small x =>
    simp only [signum, val_small]
    rcases Int.lt_trichotomy x 0 with h | h | h
    · simp [Int.sign_eq_neg_one_of_neg h]; omega
    · subst h; simp
    · simp [Int.sign_eq_one_of_pos h, h]
  | big x =>
    simp only [signum, val_big]
    rcases Int.lt_trichotomy x 0 with h | h | h
    · simp [Int.sign_eq_neg_one_of_neg h, h]
    · subst h; simp
    · have h1 : ¬ x < 0 := by omega
      have h2 : ¬ x = 0 := by omega
      simp [Int.sign_eq_one_of_pos h, h1, h2]

theorem val_gcd (a b : NInt) : (gcd a b).val = (Int.gcd a.val b.val : Int) := rfl
theorem val_lcm (a b : NInt) : (lcm a b).val = (Int.lcm a.val b.val : Int) := rfl

theorem ipow_eq (a : Int) (n : Nat) : ipow a n = a ^ n :=
  shortcut_eq (fun h => by rw [h, int_zero_pow]) (fun h => by rw [h, Int.one_pow])
    (fun h => by rw [h, int_neg_one_pow])

theorem ipow_eq_zero_iff {a : Int} {n : Nat} (hn : n ≠ 0) : ipow a n = 0 ↔ a = 0 := by
  rw [ipow_eq]
  exact ⟨fun h => Decidable.by_contra fun ha => Int.pow_ne_zero ha h, fun h => h ▸ Int.zero_pow hn⟩

theorem val_pow (a b : NInt) (hb : 0 ≤ b.val) :
    (powMaybeRecip a b).1 = false ∧ (powMaybeRecip a b).2.val = a.val ^ b.val.toNat := by
  unfold powMaybeRecip
  by_cases h0 : b.val = 0
  · simp [h0]
  · have : 0 < b.val := by omega
    simp [h0, this, ipow_eq]

/-! ## the representation invariant is preserved (so the theorems compose along any
computation: every operand "however produced" is well-formed) -/

theorem wf_ofBigInt (v : Int) : (ofBigInt v).WF := by
  unfold ofBigInt; split <;> simp_all [WF]

theorem wf_add (a b : NInt) : (add a b).WF := by
  cases a <;> cases b <;> simp only [add] <;> (try split) <;> simp_all [WF]
theorem wf_sub (a b : NInt) : (sub a b).WF := by
  cases a <;> cases b <;> simp only [sub] <;> (try split) <;> simp_all [WF]
theorem wf_mul (a b : NInt) : (mul a b).WF := by
  cases a <;> cases b <;> simp only [mul] <;> (try split) <;> simp_all [WF]
theorem wf_neg (a : NInt) : (neg a).WF := wf_ofBigInt _
theorem wf_not (a : NInt) (h : a.WF) : (NInt.not a).WF := by
  cases a <;> simp_all [NInt.not, WF, bnot, inI64]; omega

/-! ## comparison, equality and hashing ignore the representation -/

theorem beq_exact (a b : NInt) (ha : a.WF) (hb : b.WF) : beq a b = true ↔ a.val = b.val := by
  cases a <;> cases b <;>
    simp only [beq, val_small, val_big, Bool.if_false_right, Bool.and_eq_true, decide_eq_true_eq, beq_iff_eq]
  -- the mixed arms test the `big` for the i64 range first; a well-formed `small` is in it, so equal values pass
  · exact and_iff_right_of_imp (· ▸ ha)
  · exact and_iff_right_of_imp (· ▸ hb)

theorem cmp_exact (a b : NInt) : cmp a b = compare a.val b.val := rfl

theorem lt_exact (a b : NInt) : cmp a b = .lt ↔ a.val < b.val := by
  simp [cmp, Int.compare_eq_lt]

theorem hash_repr_independent (a b : NInt) (ha : a.WF) (hb : b.WF) (h : a.val = b.val) :
    hashWrites a = hashWrites b := by
  cases a <;> cases b <;> cases h
  · rfl
  · exact (if_pos ha).symm
  · exact if_pos hb
  · rfl

/-! ## the floor / truncation laws the property states -/

/-- `(a // b) * b + (a %% b) == a` -/
theorem floor_identity (a b : Int) : Int.fdiv a b * b + Int.fmod a b = a :=
  Int.fdiv_mul_add_fmod a b

/-- `%%` takes the divisor's sign: `0 ≤ a %% b < b` for `b > 0`, `b < a %% b ≤ 0` for `b < 0` -/
theorem mod_floor_sign_pos (a b : Int) (hb : 0 < b) : 0 ≤ Int.fmod a b ∧ Int.fmod a b < b :=
  ⟨Int.fmod_nonneg_of_pos a hb, Int.fmod_lt_of_pos a hb⟩

theorem mod_floor_sign_neg (a b : Int) (hb : b < 0) : b < Int.fmod a b ∧ Int.fmod a b ≤ 0 := by
  have := mod_floor_sign_pos (-a) (-b) (Int.neg_pos_of_neg hb)
  rw [Int.neg_fmod_neg] at this
  omega

/-- `%` truncates: `(a tdiv b) * b + (a % b) = a`, and the remainder has the dividend's sign -/
theorem trunc_identity (a b : Int) : Int.tdiv a b * b + Int.tmod a b = a :=
  Int.tdiv_mul_add_tmod a b

theorem trunc_rem_sign_nonneg (a b : Int) (ha : 0 ≤ a) : 0 ≤ Int.tmod a b :=
  Int.tmod_nonneg b ha

theorem trunc_rem_sign_nonpos (a b : Int) (ha : a ≤ 0) : Int.tmod a b ≤ 0 := by
  have := Int.tmod_nonneg (a := -a) b (by omega)
  rw [Int.neg_tmod] at this; omega

/-! ## two's-complement bit operators: bit `i` of the result is the Boolean operation on bit `i`
of the operands in the infinite two's-complement expansion (`tbit`), for all integers -/

theorem natDiff_testBit (m n i : Nat) : (natDiff m n).testBit i = (m.testBit i && !n.testBit i) := by
  simp [natDiff]; cases m.testBit i <;> cases n.testBit i <;> rfl

theorem bnot_bnot (x : Int) : bnot (bnot x) = x := by unfold bnot; omega

theorem tbit_bnot (x : Int) (i : Nat) : tbit (bnot x) i = !tbit x i := by
  by_cases h : 0 ≤ x
  · have h' : ¬ 0 ≤ bnot x := by unfold bnot; omega
    simp only [tbit, h, h', if_true, if_false, bnot_bnot]
  · have h' : 0 ≤ bnot x := by unfold bnot; omega
    simp only [tbit, h, h', if_true, if_false, Bool.not_not]

theorem tbit_ofNat (n i : Nat) : tbit (n : Int) i = n.testBit i := by
  simp [tbit]

theorem tbit_band (a b : Int) (i : Nat) : tbit (band a b) i = (tbit a i && tbit b i) := by
  unfold band
  by_cases ha : 0 ≤ a <;> by_cases hb : 0 ≤ b <;> simp only [ha, hb, if_true, if_false]
  · simp [tbit, ha, hb]
  · simp [natDiff_testBit, tbit, ha, hb]
  · simp [natDiff_testBit, tbit, ha, hb, Bool.and_comm]
  · rw [tbit_bnot, tbit_ofNat]; simp [tbit, ha, hb]

theorem tbit_bor (a b : Int) (i : Nat) : tbit (bor a b) i = (tbit a i || tbit b i) := by
  unfold bor
  by_cases ha : 0 ≤ a <;> by_cases hb : 0 ≤ b <;> simp only [ha, hb, if_true, if_false]
  · simp [tbit, ha, hb]
  · rw [tbit_bnot, tbit_ofNat]; simp [natDiff_testBit, tbit, ha, hb, Bool.or_comm]
  · rw [tbit_bnot, tbit_ofNat]; simp [natDiff_testBit, tbit, ha, hb]
  · rw [tbit_bnot, tbit_ofNat]; simp [tbit, ha, hb]

theorem tbit_bxor (a b : Int) (i : Nat) : tbit (bxor a b) i = (tbit a i ^^ tbit b i) := by
  unfold bxor
  by_cases ha : 0 ≤ a <;> by_cases hb : 0 ≤ b <;> simp only [ha, hb, if_true, if_false]
  · simp [tbit, ha, hb]
  · rw [tbit_bnot, tbit_ofNat]; simp [tbit, ha, hb]
  · rw [tbit_bnot, tbit_ofNat]; simp [tbit, ha, hb]
  · simp [tbit, ha, hb]

/-- a natural has finitely many 1 bits, so no natural is the bitwise complement of another -/
theorem testBit_ne_not (m n : Nat) : ¬ ∀ i, m.testBit i = !n.testBit i := fun h => by
  have hm : m < 2 ^ (m + n) := Nat.lt_of_le_of_lt (Nat.le_add_right m n) Nat.lt_two_pow_self
  have hn : n < 2 ^ (m + n) := Nat.lt_of_le_of_lt (Nat.le_add_left n m) Nat.lt_two_pow_self
  have := h (m + n)
  rw [Nat.testBit_lt_two_pow hm, Nat.testBit_lt_two_pow hn] at this
  cases this

/-- the expansion determines the integer, so the three theorems above pin the results down -/
theorem tbit_ext (x y : Int) (h : ∀ i, tbit x i = tbit y i) : x = y := by
  unfold tbit at h
  by_cases hx : 0 ≤ x <;> by_cases hy : 0 ≤ y <;> simp only [hx, hy, if_true, if_false] at h
  · have := Nat.eq_of_testBit_eq h; omega
  · exact (testBit_ne_not _ _ h).elim
  · exact (testBit_ne_not _ _ fun i => (h i).symm).elim
  · have : (bnot x).toNat = (bnot y).toNat :=
      Nat.eq_of_testBit_eq fun i => Bool.not_inj (h i)
    unfold bnot at this; omega

/-! ## the builtins as a program sees them: Impl = Spec for every operator name -/

theorem beq_decide (a b : NInt) (ha : a.WF) (hb : b.WF) : beq a b = decide (a.val = b.val) :=
  Bool.eq_iff_iff.mpr ((beq_exact a b ha hb).trans decide_eq_true_iff.symm)

theorem b2i_decide (p : Prop) [Decidable p] : IntSpec.b2i (decide p) = if p then 1 else 0 := by
  by_cases h : p <;> simp only [IntSpec.b2i, h, decide_true, decide_false, if_true, if_false, Bool.false_eq_true]

theorem b2i_not (c : Bool) : IntSpec.b2i (!c) = if c then 0 else 1 := by cases c <;> rfl

/-- what a program can tell apart: the Impl outcome abstracts to the Spec outcome and is not a
Rust panic -/
def Refines (i : Out IRes) (s : Out SRes) : Prop := i.map IRes.abs = s ∧ i ≠ .panic

namespace Refines

theorem ok (r : IRes) : Refines (.ok r) (.ok r.abs) := ⟨rfl, nofun⟩

theorem int {n : NInt} {v : Int} (h : n.val = v) : Refines (.ok (.int n)) (.ok (.int v)) :=
  h ▸ ok (.int n)

theorem throw : Refines .throw .throw := ⟨rfl, nofun⟩

theorem ite {c : Prop} [Decidable c] {i i' : Out IRes} {s s' : Out SRes}
    (h : Refines i s) (h' : Refines i' s') :
    Refines (if c then i else i') (if c then s else s') := by
  split <;> assumption

/-- one arm of a `match` on the operator name, taken on both sides at once; the remaining arms
are compared knowing only that the name is a different one, so no two names are ever compared -/
theorem arm {op lit : String} {i : Out IRes} {s : Out SRes} {i' : ¬ op = lit → Out IRes}
    {s' : ¬ op = lit → Out SRes} (h : Refines i s) (h' : ∀ hne, Refines (i' hne) (s' hne)) :
    Refines (dite (op = lit) (Eq.ndrec_symm (motive := fun _ => Out IRes) i) i')
      (dite (op = lit) (Eq.ndrec_symm (motive := fun _ => Out SRes) s) s') := by
  split
  next h0 => subst h0; exact h
  next h0 => exact h' h0

end Refines

/-- every binary operator name, Impl against Spec; both `binop_refines` and `binop_no_panic` read
off this.  Both dispatchers are the same `match` on the name, which unfolds (`match_5`, `match_1`
are the compiled matches) to a cascade `if op = "+" then … else if op = "-" then …`; `Refines.arm`
takes one name off both cascades, so the proof is one line per operator, in the order of the source. -/
theorem binop_sim (op : String) (a b : NInt) (ha : a.WF) (hb : b.WF) :
    Refines (IntOps.binop op a b) (IntSpec.binop op a.val b.val) := by
  unfold IntOps.binop IntSpec.binop IntOps.binop.match_5 IntSpec.binop.match_1
  refine .arm (.int (val_add a b)) fun _ => ?_
  refine .arm (.int (val_sub a b)) fun _ => ?_
  refine .arm (.int (val_mul a b)) fun _ => ?_
  refine .arm ?_ fun _ => ?_
  · by_cases h : b.val = 0
    · rw [if_pos h, if_pos h]; exact .throw
    · obtain ⟨r, hr, hv⟩ := val_rem a b h
      rw [if_neg h, if_neg h, hr]; exact .int hv
  refine .arm (.ite .throw (.int rfl)) fun _ => ?_
  refine .arm (.ite .throw (.int rfl)) fun _ => ?_
  refine .arm (.ite .throw (.ite .throw (.int rfl))) fun _ => ?_
  refine .arm ?_ fun _ => ?_
  · unfold powMaybeRecip
    by_cases h0 : b.val = 0
    · rw [if_pos h0, if_pos (Int.le_of_eq h0.symm), h0]; exact .int ((ipow_eq a.val 0).trans (Int.pow_zero _)).symm
    · by_cases hp : 0 < b.val
      · rw [if_neg h0, if_pos hp, if_pos (Int.le_of_lt hp)]; exact .int rfl
      · have hneg : b.val < 0 := Int.lt_iff_le_and_ne.2 ⟨Int.not_lt.1 hp, h0⟩
        rw [if_neg h0, if_neg hp, if_neg (Int.not_le.2 hneg)]
        have hz : (big (ipow a.val (-b.val).toNat)).val = 0 ↔ a.val = 0 :=
          ipow_eq_zero_iff (Nat.ne_of_gt (Int.pos_iff_toNat_pos.1 (Int.neg_pos_of_neg hneg)))
        by_cases ha0 : a.val = 0
        · show Refines (if _ then _ else _) _
          rw [if_pos (hz.mpr ha0), if_pos ha0]; exact .ok .inf
        · show Refines (if _ then _ else _) _
          rw [if_neg (mt hz.mp ha0), if_neg ha0]; exact .ok (.ratRecip _)
  refine .arm (.int (val_and a b)) fun _ => ?_
  refine .arm (.int (val_or a b)) fun _ => ?_
  refine .arm (.int (val_xor a b)) fun _ => ?_
  refine .arm (.ite (.int rfl) (.ok .nan)) fun _ => ?_
  refine .arm (.ite (.int rfl) (.ok .nan)) fun _ => ?_
  refine .arm (.int rfl) fun _ => ?_
  refine .arm (.int rfl) fun _ => ?_
  refine .arm (.int (congrArg IntSpec.b2i (beq_decide a b ha hb))) fun _ => ?_
  refine .arm (.int ((b2i_not _).symm.trans (congrArg IntSpec.b2i ?_))) fun _ => ?_
  · rw [beq_decide a b ha hb, decide_not]
  refine .arm (.int (congrArg IntSpec.b2i (decide_eq_decide.mpr Int.compare_eq_lt))) fun _ => ?_
  refine .arm (.int (congrArg IntSpec.b2i ?_)) fun _ => ?_
  · exact (decide_not ..).symm.trans (decide_eq_decide.mpr Int.compare_ne_gt)
  refine .arm (.int (congrArg IntSpec.b2i (decide_eq_decide.mpr Int.compare_eq_gt))) fun _ => ?_
  refine .arm (.int (congrArg IntSpec.b2i ?_)) fun _ => ?_
  · exact (decide_not ..).symm.trans (decide_eq_decide.mpr Int.compare_ne_lt)
  refine .arm (.int ?_) fun _ => .throw
  unfold cmp
  rcases Int.lt_trichotomy a.val b.val with h | h | h
  · rw [Int.compare_eq_lt.mpr h, if_pos h]; rfl
  · rw [Int.compare_eq_eq.mpr h, if_neg (Int.not_lt.2 (Int.le_of_eq h.symm)), if_pos h]; rfl
  · rw [Int.compare_eq_gt.mpr h, if_neg (Int.lt_asymm h), if_neg (Int.ne_of_gt h)]; rfl

/-- **C06 main theorem (binary operators)**: for every operator name, every pair of well-formed
integers in any representation, the result a program sees (value / error / non-integer result) is
the Spec's result on the mathematical values. In particular no binary integer operator panics. -/
theorem binop_refines (op : String) (a b : NInt) (ha : a.WF) (hb : b.WF) :
    (IntOps.binop op a b).map IRes.abs = IntSpec.binop op a.val b.val :=
  (binop_sim op a b ha hb).1

/-- no binary integer operator panics on well-formed operands (feeds C14) -/
theorem binop_no_panic (op : String) (a b : NInt) (ha : a.WF) (hb : b.WF) :
    IntOps.binop op a b ≠ .panic :=
  (binop_sim op a b ha hb).2

/-- **C06 (unary operators)**; `is_prime` and `factorize`, which `IntSpec.unop` leaves out, are
`Theorems/C06Prime` -/
theorem unop_refines (op : String) (a : NInt) (h : op ∈ ["neg", "not", "abs", "signum", "even", "odd"]) :
    (IntOps.unop op a).map IRes.abs = IntSpec.unop op a.val := by
  have e : Int.fmod a.val 2 = a.val % 2 := Int.fmod_eq_emod_of_nonneg _ (by decide)
  unfold IntOps.unop IntSpec.unop IntOps.unop.match_1 IntSpec.unop.match_1
  refine (Refines.arm (.int (val_neg a)) fun h1 => ?_).1
  refine .arm (.int (val_not a)) fun h2 => ?_
  refine .arm (.int (val_abs a)) fun h3 => ?_
  refine .arm (.int (val_signum a)) fun h4 => ?_
  refine .arm (.int ?_) fun h5 => ?_
  · rw [b2i_decide, ← e]; rfl
  refine .arm (.int ?_) fun h6 => ?_
  · rw [b2i_decide, ← e]; rfl
  simp only [List.mem_cons, h1, h2, h3, h4, h5, h6, List.mem_nil_iff, or_self] at h

end Noulith.C06
