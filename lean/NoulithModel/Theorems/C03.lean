/-
C03 — Infix chains group by the operators' runtime precedence and associativity.

Objects (see the files for the transcription notes):
  Impl   `Noulith.Chain.evalChain`  = ChainEvaluator::{new, give, finish}   (Impl/Chain.lean)
         `Noulith.Chain.chainArm`   = the `Expr::Chain` arm of `evaluate`
         `Noulith.Chain.chainArmS`  = the same arm with the interpreter state threaded through
         `Noulith.Chain.runChainSection` = `Func::ChainSection` in `Func::run`
         `Noulith.Chain.Gen.*`      = the registration tables regenerated from /repo/src
                                      (Generated/C03Tables.lean)
  Spec   `Noulith.Chain.Valid`      = declarative grouping predicate on trees (Spec/ChainTree.lean)
         `Noulith.Chain.climb`      = precedence climbing (second, executable spec)
         `Noulith.Chain.semM`       = bottom-up value of a tree (post-order, first failure wins)
         `Noulith.Chain.SpecTables.*` = the README's precedence rule and the chain-compatibility
                                      lists, written by hand (Spec/ChainTables.lean)

Sections 1–4 are proved for EVERY chain length, EVERY assignment of precedences (ties and NaN
included), EVERY mix of associativities, EVERY `tryChain : F → F → Option F` and EVERY
interpretation `run : F → List V → Out V` of the operators (including failing ones); section 5 is
evaluated by the kernel on the tables.
-/
import NoulithModel.Lemmas.C03Arm
import NoulithModel.Lemmas.C03ArmS
import NoulithModel.Lemmas.C03Climb
import NoulithModel.Lemmas.C03Sim
import NoulithModel.Generated.C03Tables
import NoulithModel.Spec.ChainTables

namespace Noulith.Chain.C03
open Noulith Noulith.Chain Noulith.Chain.Tree

/-! ## 1. the tightness test -/

theorem tighter_fin (a b : Int) (x y : Assoc) :
    tighter ⟨.fin a, x⟩ ⟨.fin b, y⟩ = (decide (a > b) || (decide (a = b) && decide (x = .left))) := by
  unfold tighter Prec.partialCmp
  simp only [compare, compareOfLessAndEq]
  by_cases h1 : a < b
  · have : ¬ a > b := by omega
    have : ¬ a = b := by omega
    simp [*]
  · by_cases h2 : a = b
    · subst h2; cases x <;> simp
    · have : a > b := by omega
      simp [*]

/-- NaN on either side: only the left operator's associativity decides ("oh my god nan as a
precedence") -/
theorem tighter_nan_left (o : Precedence) (x : Assoc) :
    tighter ⟨.nan, x⟩ o = decide (x = .left) := by
  unfold tighter Prec.partialCmp; cases x <;> simp
theorem tighter_nan_right (p : Prec) (x y : Assoc) :
    tighter ⟨p, x⟩ ⟨.nan, y⟩ = decide (x = .left) := by
  unfold tighter Prec.partialCmp; cases p <;> cases x <;> simp

theorem tighter_right_assoc_irrelevant (s : Precedence) (p : Prec) (y y' : Assoc) :
    tighter s ⟨p, y⟩ = tighter s ⟨p, y'⟩ := rfl

/-- only the ORDER of the precedence values matters (this is what licenses modelling the `f64`
by its rank): any strictly monotone relabelling leaves `tighter` unchanged -/
def Prec.relabel (φ : Int → Int) : Prec → Prec
  | .nan => .nan
  | .fin r => .fin (φ r)
theorem tighter_order_only (φ : Int → Int) (hφ : ∀ a b, a < b ↔ φ a < φ b) (s o : Precedence) :
    tighter ⟨Prec.relabel φ s.p, s.a⟩ ⟨Prec.relabel φ o.p, o.a⟩ = tighter s o := by
  obtain ⟨sp, sa⟩ := s
  obtain ⟨op, oa⟩ := o
  cases sp with
  | nan => simp [Prec.relabel, tighter_nan_left]
  | fin a =>
    cases op with
    | nan => simp [Prec.relabel, tighter_nan_right]
    | fin b =>
      simp only [Prec.relabel, tighter_fin]
      have h1 : (φ a > φ b) ↔ (a > b) := (hφ b a).symm
      have h2 : (φ a = φ b) ↔ (a = b) := by
        constructor
        · intro h
          have := hφ a b; have := hφ b a; omega
        · intro h; rw [h]
      simp [h1, h2]

/-! ## 2. the evaluator groups by `Valid`, and `Valid` determines the tree -/

section main
variable {F L V : Type} (run : F → List V → Out V) (tc : F → F → Option F) (lv : L → V)

/-- **shunt_valid**.  For every chain and every interpretation, `ChainEvaluator` returns the
bottom-up value of a tree that (a) satisfies the declarative grouping predicate and (b) has
exactly the chain as its in-order yield. -/
theorem shunt_valid (c : ChainOf F L) :
    ∃ t : Tree F L, Valid tc t ∧ yield t = c.syms ∧
      evalChain run tc (lv c.first) (givenOps lv c.rest) = semM run tc lv t :=
  ⟨shunt tc c, shunt_is_valid tc c, shunt_yield tc c, evalChain_eq_sem run tc lv c⟩

/-- **valid_unique**.  The grouping predicate determines the tree: two valid trees over the same
chain are equal — for an arbitrary `tryChain` and all precedences (no transitivity of `tighter`
is used, so NaN is covered). -/
theorem valid_unique (t₁ t₂ : Tree F L) (h₁ : Valid tc t₁) (h₂ : Valid tc t₂)
    (hy : yield t₁ = yield t₂) : t₁ = t₂ := by
  have hc : chain t₁ = chain t₂ := by
    apply syms_inj
    rw [← yield_eq_syms, ← yield_eq_syms, hy]
  rw [← shunt_of_valid tc t₁ h₁, ← shunt_of_valid tc t₂ h₂, hc]

theorem evalChain_is_the_valid_tree (t : Tree F L) (hv : Valid tc t) :
    evalChain run tc (lv (first t)) (givenOps lv (rest t)) = semM run tc lv t := by
  have := evalChain_eq_sem run tc lv (chain t)
  rw [shunt_of_valid tc t hv] at this
  exact this

/-- **reduction order is post-order**: `semM` applies the operators bottom-up, operands left to
right, and stops at the first failing application; the evaluator — whose applications happen
while later operators are still arriving — produces the same outcome for every (failing)
interpretation, i.e. the first application to fail and its failure class coincide. -/
theorem reduction_order_is_postorder (c : ChainOf F L) :
    evalChain run tc (lv c.first) (givenOps lv c.rest) = semM run tc lv (shunt tc c) :=
  evalChain_eq_sem run tc lv c

/-- precedence climbing and the declarative predicate agree (all precedences, NaN included) -/
theorem valid_iff_climb (t : Tree F L) :
    Valid tc t ↔ climbTree tc (chain t) = t := by
  constructor
  · intro hv; exact climbTree_of_valid tc t hv
  · intro h
    have : climbTree tc (chain t) = shunt tc (chain t) := climbTree_eq_shunt tc (chain t)
    rw [← h, this]; exact shunt_is_valid tc _

/-- so the harness's oracle (`climbTree` + `semM`) is the evaluator, for every input -/
theorem evalChain_eq_climb (c : ChainOf F L) :
    evalChain run tc (lv c.first) (givenOps lv c.rest) = semM run tc lv (climbTree tc c) := by
  rw [climbTree_eq_shunt]; exact evalChain_eq_sem run tc lv c

end main

/-- with comparable (non-NaN) precedences the context test of the climbing spec is the textbook
one: stop when the next operator binds less than the context, or equally and the context is
left-associative -/
theorem stops_textbook {F : Type} (p q : Int) (a : Assoc) (h : Op F) (hq : h.prec.p = .fin q) :
    stops (some ⟨.fin p, a⟩) h = (decide (q < p) || (decide (q = p) && decide (a = .left))) := by
  obtain ⟨fn, ⟨hp, ha⟩⟩ := h
  simp only at hq
  subst hq
  simp only [stops, tighter_fin]
  have : (p = q) ↔ (q = p) := eq_comm
  simp [this]

/-- **well_behaved_corollary**: `Valid` ⇔ climbing, and with comparable precedences the climbing
is the textbook one (`stops_textbook`) -/
theorem well_behaved_corollary {F L : Type} (tc : F → F → Option F) (t : Tree F L) :
    (Valid tc t ↔ climbTree tc (chain t) = t) ∧
    (∀ (p q : Int) (a : Assoc) (h : Op F), h.prec.p = .fin q →
      stops (some ⟨.fin p, a⟩) h = (decide (q < p) || (decide (q = p) && decide (a = .left)))) :=
  ⟨valid_iff_climb tc t, stops_textbook⟩

/-! ## 3. the `Expr::Chain` arm -/

section arm
variable {E F V : Type} (I : Lang E F V)

/-- the trace of the arm is always a prefix of "every non-hole sub-expression once, in source
order" … -/
theorem each_operand_at_most_once_in_order (op1 : E) (ops : List (E × E)) :
    (chainArm I op1 ops).1 <+: expectedTrace I op1 ops :=
  (chainArm_within I op1 ops).1

/-- … and when the chain produces a value it is exactly that: **every operand and operator
expression is evaluated exactly once, left to right**. -/
theorem each_operand_once_in_order (op1 : E) (ops : List (E × E)) (r : V)
    (h : (chainArm I op1 ops).2 = .ok r) :
    (chainArm I op1 ops).1 = expectedTrace I op1 ops :=
  (chainArm_within I op1 ops).2 r h

/-- **fast_path_agrees**: the one-operator micro-optimisation (`run2`, precedence ignored) is the
general path, provided `run2 f a b` is `run f [a, b]` (the `Builtin` trait's default; C04's
subject for the builtins that override it). -/
theorem fast_path_agrees (hrun2 : ∀ f a b, I.run2 f a b = I.run f [a, b]) (op1 oper opd : E) :
    fastPath I op1 oper opd = generalPath I op1 [(oper, opd)] := by
  unfold fastPath generalPath
  congr 1; funext lhs
  simp only [generalLoop]
  congr 1; funext oprr
  cases I.asFunc oprr with
  | none => rfl
  | some bp =>
    simp only
    congr 1; funext oprd
    rw [Tr.bind_lift_lift, give_new_finish, hrun2]

theorem chainArm_eq_generalPath (hrun2 : ∀ f a b, I.run2 f a b = I.run f [a, b]) (op1 : E)
    (ops : List (E × E))
    (hno : (I.isUnderscore op1 || ops.any (fun p => I.isUnderscore p.2)) = false) :
    chainArm I op1 ops = generalPath I op1 ops := by
  unfold chainArm
  simp only [hno, Bool.false_eq_true, if_false]
  split
  · exact fast_path_agrees I hrun2 _ _ _
  · rfl

/-- **section_agrees**: a section applied to as many arguments as it has holes runs the general
evaluator on the chain with the holes filled left to right … -/
theorem section_agrees_some (x : V) (ops : List (F × Precedence × Option V)) (args : List V)
    (h : args.length = holesOf ops) :
    runChainSection I (some x) ops args = evalChain I.run I.tryChain x (fillOps ops args) := by
  unfold runChainSection evalChain
  simp only
  rw [sectionGives_enough I ops args _ (Nat.le_of_eq h.symm), Out.bind_assoc]
  congr 1; funext ce'
  rw [Out.bind_ok, List.drop_eq_nil_of_le (Nat.le_of_eq h)]
theorem section_agrees_none (a : V) (ops : List (F × Precedence × Option V)) (args : List V)
    (h : args.length = holesOf ops) :
    runChainSection I none ops (a :: args) = evalChain I.run I.tryChain a (fillOps ops args) :=
  section_agrees_some I a ops args h

/-- … and with any other number of arguments it never produces a value -/
theorem section_wrong_arity (seed : Option V) (ops : List (F × Precedence × Option V))
    (args : List V)
    (h : args.length ≠ holesOf ops + (if seed.isNone then 1 else 0)) :
    ∀ v, runChainSection I seed ops args ≠ .ok v :=
  match seed, args with
  | some x, args => runChainSection_wrong I x ops args h
  | none, [] => nofun
  -- a hole in front is filled by the first argument
  | none, a :: args => runChainSection_wrong I a ops args fun h' => h (congrArg (· + 1) h')

/-- the value of a direct chain whose sub-expressions all evaluate: the evaluator on the
evaluated operators and operands (hence, by `shunt_valid`, the value of the valid tree) -/
theorem direct_chain_value (hrun2 : ∀ f a b, I.run2 f a b = I.run f [a, b]) (op1 : E)
    (ops : List (E × E)) (v1 : V) (acc : List (F × Precedence × Option V))
    (hno : (I.isUnderscore op1 || ops.any (fun p => I.isUnderscore p.2)) = false)
    (h1 : I.evaluate op1 = .ok v1) (hops : evalOps I ops = some acc) :
    (chainArm I op1 ops).2 = evalChain I.run I.tryChain v1 (fillOps acc []) := by
  rw [chainArm_eq_generalPath I hrun2 op1 ops hno, generalPath, Tr.bind_snd, evalT_snd, h1]
  exact generalLoop_value I ops acc _ (Bool.or_eq_false_iff.1 hno).2 hops

/-- a chain with `_` operands evaluates its other sub-expressions and yields the section -/
theorem section_value (op1 : E) (ops : List (E × E)) (acc : List (F × Precedence × Option V))
    (seed : Option V)
    (hsec : (I.isUnderscore op1 || ops.any (fun p => I.isUnderscore p.2)) = true)
    (h1 : if I.isUnderscore op1 then seed = none else I.evaluate op1 = .ok (seed.getD (I.mkSection none [])) ∧ seed.isSome)
    (hops : evalOps I ops = some acc) :
    (chainArm I op1 ops).2 = .ok (I.mkSection seed acc) := by
  unfold chainArm
  simp only [hsec, if_true, sectionPath, Tr.bind_snd, sectionOps_value I ops acc hops]
  split at h1
  · rw [if_pos ‹_›, h1]; rfl
  · obtain ⟨x, rfl⟩ := Option.isSome_iff_exists.1 h1.2
    rw [if_neg ‹_›, Tr.bind_snd, evalT_snd, h1.1]; rfl

end arm

/-! ## 3b. operands with effects: every operator is looked up at its position

`chainArmS` is the arm with an interpreter state threaded through `evaluate` (an operand may
reassign an operator of its own chain, or its `::precedence`). -/

section armS
variable {σ E F V : Type} (J : LangS σ E F V)

theorem fast_path_agrees_stateful (hrun2 : ∀ f a b, J.run2 f a b = J.run f [a, b])
    (op1 oper opd : E) : fastPathS J op1 oper opd = generalPathS J op1 [(oper, opd)] := by
  unfold fastPathS generalPathS
  congr 1; funext lhs
  simp only [generalLoopS]
  congr 1; funext oprr
  cases J.asFunc oprr with
  | none => rfl
  | some bp =>
    simp only
    congr 1; funext oprd
    rw [SM.bind_lift_lift, give_new_finish, hrun2]

theorem chainArmS_eq_generalPathS (hrun2 : ∀ f a b, J.run2 f a b = J.run f [a, b]) (op1 : E)
    (ops : List (E × E))
    (hno : (J.isUnderscore op1 || ops.any (fun p => J.isUnderscore p.2)) = false) :
    chainArmS J op1 ops = generalPathS J op1 ops := by
  unfold chainArmS
  simp only [hno, Bool.false_eq_true, if_false]
  split
  · exact fast_path_agrees_stateful J hrun2 _ _ _
  · rfl

/-- **each_operator_looked_up_at_its_position**.  A direct chain is the evaluator run on the
(function, precedence, operand) triples of `resolveOps`: the operator of position `i` is the value
its expression has in the state left by `e0 f1 e1 … e(i-1)` — after operand `i-1`, before operand
`i`, evaluated afresh at every position (nothing is carried over from an earlier occurrence of
the same identifier) — and, by `shunt_valid`, the chain's value is the value of the valid tree over
THOSE operators.  If a value results, the final state is the one after the last operand. -/
theorem each_operator_looked_up_at_its_position
    (hrun2 : ∀ f a b, J.run2 f a b = J.run f [a, b]) (op1 : E) (ops : List (E × E))
    (s s1 s2 : σ) (v1 : V) (ts : List (F × Precedence × V))
    (hno : (J.isUnderscore op1 || ops.any (fun p => J.isUnderscore p.2)) = false)
    (h1 : J.evaluate op1 s = (.ok v1, s1)) (hr : resolveOps J ops s1 = (some ts, s2)) :
    (chainArmS J op1 ops s).1 = evalChain J.run J.tryChain v1 ts ∧
    (∀ r, (chainArmS J op1 ops s).1 = .ok r → (chainArmS J op1 ops s).2 = s2) := by
  rw [chainArmS_eq_generalPathS J hrun2 op1 ops hno]
  unfold generalPathS SM.bind
  simp only [h1]
  exact generalLoopS_resolved J ops s1 (CE.new v1) ts s2 hr

/-- **lookup order = operator order interleaved with operand order**: recording every call of
`evaluate` in the state, a chain that produces a value has made exactly the calls
`e0, f1, e1, f2, e2, …` in this order — one lookup per operator position -/
theorem lookup_order_is_source_order
    (hrun2 : ∀ f a b, J.run2 f a b = J.run f [a, b]) (op1 : E) (ops : List (E × E))
    (s s1 s2 : σ) (v1 : V) (ts : List (F × Precedence × V)) (r : V)
    (hno : (J.isUnderscore op1 || ops.any (fun p => J.isUnderscore p.2)) = false)
    (h1 : J.evaluate op1 s = (.ok v1, s1)) (hr : resolveOps J ops s1 = (some ts, s2))
    (hok : (chainArmS J.traced op1 ops (s, [])).1 = .ok r) :
    (chainArmS J.traced op1 ops (s, [])).2 = (s2, op1 :: ops.flatMap (fun p => [p.1, p.2])) :=
  (each_operator_looked_up_at_its_position J.traced hrun2 op1 ops (s, []) (s1, [op1]) _ v1 ts hno
    (by rw [traced_evaluate, h1]; rfl) (resolve_traced J ops s1 s2 ts [op1] hr)).2 r hok

theorem stateless_arm_is_special_case (I : Lang E F V) (op1 : E) (ops : List (E × E)) (s : σ) :
    chainArmS (I.toS (σ := σ)) op1 ops s = ((chainArm I op1 ops).2, s) := by
  revert s
  show Stateless _ _
  unfold chainArmS chainArm
  refine stateless_ite ?_ ?_
  · exact stateless_bind
      (stateless_ite (fun _ => rfl) (stateless_bind (stateless_evalT I op1) fun _ _ => rfl))
      fun v1 => stateless_bind (sectionOpsS_of_pure I ops) fun _ _ => rfl
  · split
    · refine stateless_bind (stateless_evalT I op1) fun lhs =>
        stateless_bind (stateless_evalT I _) fun oprr => ?_
      simp only [toS_asFunc]
      cases I.asFunc oprr with
      | none => exact fun _ => rfl
      | some bp => exact stateless_bind (stateless_evalT I _) fun _ _ => rfl
    · exact stateless_bind (stateless_evalT I op1) fun v1 => generalLoopS_of_pure I ops _

end armS

/-! ## 3c. op-assignments on a precedence -/

/-- while the operator function of the op-assignment runs, the operator still carries its OLD
precedence (dropping a precedence is a no-op), and a completed op-assignment stores exactly the
function's result, keeping the associativity -/
theorem opassign_operator_sees_old_precedence (pr : Precedence)
    (combine : Prec → Precedence → Out (Option Prec)) :
    precedenceOpAssign pr combine =
      match combine pr.p pr with
      | .ok (some p) => (.ok (), ⟨p, pr.a⟩)
      | .ok none => (.throw, pr)
      | .throw => (.throw, pr)
      | .panic => (.panic, pr) := by
  unfold precedenceOpAssign
  simp only [setPrecedence]
  cases combine pr.p pr with
  | ok o => cases o <;> rfl
  | throw | panic => rfl

/-- **failed_precedence_opassign_preserves**: an op-assignment `f::precedence op= v` that does not
complete (its operator function raises or panics, or its result is not a number) leaves the
operator with the precedence — and associativity — it had -/
theorem failed_precedence_opassign_preserves (pr : Precedence)
    (combine : Prec → Precedence → Out (Option Prec))
    (h : (precedenceOpAssign pr combine).1 ≠ .ok ()) : (precedenceOpAssign pr combine).2 = pr := by
  rw [opassign_operator_sees_old_precedence] at h ⊢
  generalize combine pr.p pr = c at h ⊢
  match c with
  | .ok (some p) => exact absurd rfl h
  | .ok none | .throw | .panic => rfl

-- non-vacuity: a failing and a succeeding op-assignment on precedence 5
example : precedenceOpAssign ⟨.fin 5, .right⟩ (fun _ _ => .throw) = (.throw, ⟨.fin 5, .right⟩) := rfl
example : precedenceOpAssign ⟨.fin 5, .right⟩ (fun old _ => .ok (some (match old with | .fin r => .fin (r + 2) | .nan => .nan)))
    = (.ok (), ⟨.fin 7, .right⟩) := rfl

/-! ## 4. `LvalueChainEvaluator` is the same evaluator -/

/-- destructuring chains group exactly like expression chains (C12 proves the same for its own
pattern type, `C12.resolveChain_eq_spec`, from the two lemmas this rests on) -/
theorem lvalue_chain_groups_alike {B A L : Type} (tc : LFunc B → LFunc B → Option (LFunc B))
    (lv : L → ELvalue B A) (c : ChainOf (LFunc B) L) :
    evalLvalueChain tc (lv c.first) (givenOps lv c.rest) = semM lvalueRun tc lv (climbTree tc c) :=
  evalChain_eq_climb lvalueRun tc lv c

/-! ## 4b. the property, in one statement -/

/-- C03 at full strength over the transcription: (a) grouping — the evaluator's outcome under
any interpretation is the bottom-up value of THE tree over the chain that satisfies the declarative
predicate, which is also what precedence climbing builds; (b) every sub-expression is evaluated
exactly once, left to right; (c) a direct chain is the evaluator on the evaluated operands; (d) a
section applied later is the evaluator on the chain with the holes filled. -/
def C03_statement : Prop :=
  (∀ (F L V : Type) (run : F → List V → Out V) (tc : F → F → Option F) (lv : L → V)
      (c : ChainOf F L),
    ∃ t : Tree F L, Valid tc t ∧ yield t = c.syms ∧
      (∀ t', Valid tc t' → yield t' = c.syms → t' = t) ∧ climbTree tc c = t ∧
      evalChain run tc (lv c.first) (givenOps lv c.rest) = semM run tc lv t) ∧
  (∀ (E F V : Type) (I : Lang E F V) (op1 : E) (ops : List (E × E)) (r : V),
    (chainArm I op1 ops).2 = .ok r → (chainArm I op1 ops).1 = expectedTrace I op1 ops) ∧
  (∀ (E F V : Type) (I : Lang E F V), (∀ f a b, I.run2 f a b = I.run f [a, b]) →
    ∀ (op1 : E) (ops : List (E × E)) (v1 : V) (acc : List (F × Precedence × Option V)),
      (I.isUnderscore op1 || ops.any (fun p => I.isUnderscore p.2)) = false →
      I.evaluate op1 = .ok v1 → evalOps I ops = some acc →
      (chainArm I op1 ops).2 = evalChain I.run I.tryChain v1 (fillOps acc [])) ∧
  (∀ (E F V : Type) (I : Lang E F V) (ops : List (F × Precedence × Option V)) (args : List V),
    args.length = holesOf ops →
    (∀ x, runChainSection I (some x) ops args = evalChain I.run I.tryChain x (fillOps ops args)) ∧
    (∀ a, runChainSection I none ops (a :: args) = evalChain I.run I.tryChain a (fillOps ops args)))

theorem C03_holds : C03_statement := by
  refine ⟨?_, ?_, ?_, ?_⟩
  · intro F L V run tc lv c
    refine ⟨shunt tc c, shunt_is_valid tc c, shunt_yield tc c, ?_, climbTree_eq_shunt tc c,
      evalChain_eq_sem run tc lv c⟩
    intro t' hv hy
    exact valid_unique tc t' (shunt tc c) hv (shunt_is_valid tc c) (by rw [hy, shunt_yield])
  · intro E F V I op1 ops r h; exact each_operand_once_in_order I op1 ops r h
  · intro E F V I hrun2 op1 ops v1 acc hno h1 hops
    exact direct_chain_value I hrun2 op1 ops v1 acc hno h1 hops
  · intro E F V I ops args h
    exact ⟨fun x => section_agrees_some I x ops args h, fun a => section_agrees_none I a ops args h⟩

/-! ## 5. registration facts, re-checked against the regenerated tables -/

section tables
open Gen

/-- every `env.insert_*builtin*` call was classified by the extractor -/
theorem all_registrations_classified : registrations.all (·.known) = true := by decide +kernel

/-- the generated constants are the ones the model's `default_precedence` uses -/
theorem constants_agree :
    (Gen.DEFAULT_PRECEDENCE, Gen.COMPARISON_PRECEDENCE, Gen.STRING_PRECEDENCE, Gen.OR_PRECEDENCE,
      Gen.PLUS_PRECEDENCE, Gen.MULTIPLY_PRECEDENCE, Gen.EXPONENT_PRECEDENCE, Gen.INDEX_PRECEDENCE,
      Gen.DOT_PRECEDENCE) = (0, 1, 2, 3, 4, 5, 6, 7, 8) ∧ charDefault = 8 := ⟨rfl, rfl⟩

def isAsciiName (s : String) : Bool := s.toList.all (fun c => c.toNat < 128)

theorem ofNat_lt_128 (n : Nat) (h : n < 256) : UInt8.ofNat n < 128 ↔ n < 128 := by
  rw [UInt8.lt_iff_toNat_lt, UInt8.toNat_ofNat', Nat.mod_eq_of_lt h]
  rfl

/-- a leading byte `a % k + b` with marker bits `b ≥ 0x80` is not ASCII -/
theorem lead_byte_not_ascii (a k b : Nat) (hk : 0 < k) (hkb : k + b ≤ 256) (hb : 128 ≤ b) :
    decide (UInt8.ofNat (a % k + b) < 128) = false :=
  decide_eq_false fun h =>
    Nat.not_lt.2 (Nat.le_trans hb (Nat.le_add_left b _))
      ((ofNat_lt_128 _ (Nat.lt_of_lt_of_le (Nat.add_lt_add_right (Nat.mod_lt a hk) b) hkb)).1 h)

/-- a character is ASCII iff every byte of its UTF-8 encoding is: a multi-byte encoding starts
with a byte `≥ 0xc0` -/
theorem utf8EncodeChar_all_ascii (c : Char) :
    (String.utf8EncodeChar c).all (· < 128) = decide (c.toNat < 128) := by
  fun_cases String.utf8EncodeChar c
  case case1 v h =>
    rw [List.all_cons, List.all_nil, Bool.and_true, decide_eq_decide]
    exact ofNat_lt_128 v (Nat.lt_of_le_of_lt h (by decide))
  all_goals
    rw [List.all_cons, lead_byte_not_ascii _ _ _ (by decide) (by decide) (by decide),
      Bool.false_and]
    exact (decide_eq_false (Nat.not_lt.2 (Nat.lt_of_not_le ‹¬ _ ≤ 127›))).symm

/-- `isAsciiName` read off the bytes: the kernel decodes a string literal into characters far more
slowly than it lists its bytes -/
theorem isAsciiName_eq_bytes (s : String) :
    isAsciiName s = s.toByteArray.data.toList.all (· < 128) := by
  rw [← String.utf8Encode_toList, List.utf8Encode, List.toList_data_toByteArray, List.all_flatMap]
  simp only [utf8EncodeChar_all_ascii]
  rfl

/-- two names are compared through their bytes: the kernel takes a string literal apart anew at
every `String.decEq`, which is several times dearer than one comparison of byte lists -/
theorem beq_eq_bytes (a b : String) :
    (a == b) = (a.toByteArray.data.toList == b.toByteArray.data.toList) := by
  rw [Bool.eq_iff_iff, beq_iff_eq, beq_iff_eq]
  exact ⟨fun h => h ▸ rfl, fun h => String.toByteArray_inj.1 (ByteArray.ext (Array.toList_inj.1 h))⟩

def effective (r : Reg) : Int :=
  match r.explicit with
  | some e => e
  | none => defaultPrecedence charTable charDefault r.name

/-- the `match c` arms of `default_precedence` are the README's character table, for every
character: the listed ones by evaluation, any other falls through to the last arm on both sides -/
theorem charPrecedence_eq_specChar (c : Char) :
    charPrecedence charTable charDefault c = SpecTables.specChar c := by
  by_cases hm : c ∈ charTable.map (·.1)
  · have listed : ∀ k ∈ charTable.map (·.1),
        charPrecedence charTable charDefault k = SpecTables.specChar k := by decide +kernel
    exact listed c hm
  · have hl : charTable.lookup c = none := by
      rw [List.lookup_eq_none_iff]
      intro p hp
      simp only [bne_iff_ne, ne_eq]
      exact fun h => hm (h ▸ List.mem_map_of_mem hp)
    simp only [charTable, List.map, List.mem_cons, List.not_mem_nil, or_false, not_or,
      ← beq_eq_false_iff_ne] at hm
    simp only [charPrecedence, SpecTables.specChar, hl, hm, Bool.or_self, Bool.false_eq_true,
      if_false]
    rfl

/-- so `default_precedence` is the README's rule on every name but the two it excepts -/
theorem defaultPrecedence_eq_spec (name : String) (h : (name == "<<" || name == ">>") = false) :
    defaultPrecedence charTable charDefault name = SpecTables.specPrecedence name := by
  unfold defaultPrecedence SpecTables.specPrecedence
  rw [h, funext charPrecedence_eq_specChar]
  rfl

/-- **every registration agrees with the hand-written Spec tables** (README character rule with
the `<<`/`>>` exception, associativity, `builtin_name` of aliases) — including the rows behind
`#[cfg(feature …)]` -/
theorem registrations_match_spec :
    registrations.all (fun r =>
      effective r == SpecTables.specPrecedence r.name &&
      (r.rassoc == SpecTables.specRassoc r.name) &&
      (r.bname == SpecTables.specBuiltinName r.name)) = true := by
  -- a row that leaves its precedence to `default_precedence` only has to be none of the two
  -- excepted names (`defaultPrecedence_eq_spec`); no name is taken apart into characters here,
  -- which is what the kernel is slow at
  have rows : registrations.all (fun r =>
      (match r.explicit with
        | some e => e == SpecTables.specPrecedence r.name
        | none => !(r.name == "<<" || r.name == ">>")) &&
      (r.rassoc == SpecTables.specRassoc r.name) &&
      (r.bname == SpecTables.specBuiltinName r.name)) = true := by
    simp only [SpecTables.specRassoc, SpecTables.specBuiltinName, beq_eq_bytes]
    decide +kernel
  simp only [List.all_eq_true, Bool.and_eq_true] at rows ⊢
  intro r hr
  obtain ⟨⟨hp, ha⟩, hb⟩ := rows r hr
  refine ⟨⟨?_, ha⟩, hb⟩
  unfold effective
  cases he : r.explicit with
  | some e => simpa only [he] using hp
  | none =>
    simp only [he, Bool.not_eq_true'] at hp
    simp only [defaultPrecedence_eq_spec r.name hp, beq_self_eq_true]

/-- the chain-compatibility table read from the `try_chain` bodies is the Spec's -/
theorem chain_table_matches_spec :
    chainTable =
      registrations.filterMap (fun r =>
        if SpecTables.comparisonNames.contains r.name then some (r.name, true, [])
        else if SpecTables.specAccepts r.name != [] then some (r.name, false, SpecTables.specAccepts r.name)
        else none) := by
  simp only [SpecTables.comparisonNames, SpecTables.specAccepts, List.contains_cons,
    List.contains_nil, beq_eq_bytes]
  decide +kernel

/-- the non-ASCII names and their precedences (the README does not list them) -/
theorem unicode_names :
    (registrations.filter (fun r => !isAsciiName r.name)).map (fun r => (r.name, effective r)) =
      [("⊕", 4), ("≤", 1), ("≥", 1), ("∈", 1), ("∉", 1), ("∋", 1), ("∌", 1), ("∘", 1), ("⧺", 4),
       ("×", 5)] := by
  simp only [isAsciiName_eq_bytes]
  decide +kernel

/-- "the only exceptions to this rule are `<<` and `>>`, which have precedence like `^`" -/
theorem shifts_have_exponent_precedence :
    (registrations.filter (fun r => r.explicit.isSome)).map (fun r => (r.name, r.explicit, r.rassoc)) =
      [("<<", some 6, false), (">>", some 6, false)] ∧
    (registrations.filter (fun r => r.name == "^")).map effective = [6] := by decide +kernel

/-- the right-associative builtins are exactly `^` and list prepend; so `^` is the only
right-associative arithmetic one -/
theorem right_associative_builtins :
    (registrations.filter (·.rassoc)).map (·.name) = ["^", "prepend", ".+"] := by decide +kernel

theorem chain_compatibility :
    chainTable =
      [("==", true, []), ("!=", true, []), ("=~", true, []), ("!~", true, []), ("<", true, []),
       (">", true, []), ("<=", true, []), ("≤", true, []), (">=", true, []), ("≥", true, []),
       ("til", false, ["by"]), ("to", false, ["by"]), ("zip", false, ["zip", "with"]),
       ("ziplongest", false, ["ziplongest", "with"]), ("lazy_zip", false, ["lazy_zip", "with"]),
       ("***", false, ["***"]), ("&&&", false, ["&&&"]), ("equals", false, ["equals"]),
       ("rearrange", false, ["with"]), ("merge", false, ["merge", "with"]),
       ("fold", false, ["from"]), ("scan", false, ["from"]), ("replace", false, ["with"]),
       ("**", false, ["**"]), ("×", false, ["**"]), ("split", false, ["by"]),
       ("rsplit", false, ["by"]), ("split_re", false, ["by"])] ∧
    unregisteredChainStructs = [] := by decide +kernel

/-- the comparison operators: all left-associative, all on the comparison level except `!~`
(whose `~` puts it on the `+` level by the character rule) — so a run of `== != < > <= >= =~`
always merges into one n-ary comparison -/
theorem comparison_levels :
    (registrations.filter (fun r => r.struct == "ComparisonOperator")).map
      (fun r => (r.name, effective r, r.rassoc)) =
      [("==", 1, false), ("!=", 1, false), ("=~", 1, false), ("!~", 4, false), ("<", 1, false),
       (">", 1, false), ("<=", 1, false), ("≤", 1, false), (">=", 1, false), ("≥", 1, false)] := by
  decide +kernel

end tables

/-! ## 6. non-vacuity: concrete instances -/

section examples
/-- operators as in the README: `+` (4, left), `*` (5, left), `^` (6, right), `<`/`<=` (1, left,
chaining with each other by concatenating their names) -/
def plus : Op String := ⟨"+", ⟨.fin 4, .left⟩⟩
def times : Op String := ⟨"*", ⟨.fin 5, .left⟩⟩
def pow : Op String := ⟨"^", ⟨.fin 6, .right⟩⟩
def lt : Op String := ⟨"<", ⟨.fin 1, .left⟩⟩
def nanop : Op String := ⟨"?", ⟨.nan, .right⟩⟩
def tcCmp (a b : String) : Option String :=
  if a.startsWith "<" && b.startsWith "<" then some (a ++ "," ++ b) else none

/-- `1 + 2 * 3 < 4 < 5 ^ 6 ^ 7` groups as `(<,<)(1 + (2 * 3), 4, 5 ^ (6 ^ 7))` -/
def exTree : Tree String Nat :=
  .ext (.bin (.bin (.leaf 1) plus (.bin (.leaf 2) times (.leaf 3))) lt (.leaf 4)) lt
    (.bin (.leaf 5) pow (.bin (.leaf 6) pow (.leaf 7)))

example : Valid tcCmp exTree := by decide +kernel
example : climbTree tcCmp (chain exTree) = exTree := by decide +kernel
example : shunt tcCmp (chain exTree) = exTree := by decide +kernel
-- the left-nested alternative for `^` is not valid (right-associativity) …
example : ¬ Valid tcCmp (.bin (.bin (.leaf 5) pow (.leaf 6)) pow (.leaf 7) : Tree String Nat) := by
  decide +kernel
-- … and neither is leaving the comparisons unmerged
example : ¬ Valid tcCmp (.bin (.bin (.leaf 1) lt (.leaf 2)) lt (.leaf 3) : Tree String Nat) := by
  decide +kernel
-- a NaN, right-associative operator between two others: still exactly one valid tree
example : Valid tcCmp (.bin (.leaf 1) nanop (.bin (.bin (.leaf 2) plus (.leaf 3)) nanop (.leaf 4)) :
    Tree String Nat) := by decide +kernel
-- the interpretation "build a string" evaluates the example tree bottom-up
example :
    evalChain (fun f (xs : List String) => Out.ok ("(" ++ f ++ " " ++ joinWith " " xs ++ ")")) tcCmp
      "1" (givenOps (fun n : Nat => toString n) (rest exTree)) =
      .ok "(<,< (+ 1 (* 2 3)) 4 (^ 5 (^ 6 7)))" := by decide +kernel
/-- a toy interpreter for the arm: expressions are numbers evaluating to themselves, `0` is `_`,
numbers >= 100 are functions with precedence = last digit, applying `f` adds `f` to the sum of the
arguments -/
def exLang : Lang Nat Nat Nat where
  evaluate := fun e => .ok e
  isUnderscore := fun e => e == 0
  asFunc := fun v => if v ≥ 100 then some (v, ⟨.fin (v % 10), .left⟩) else none
  mkSection := fun _ _ => 0
  run := fun f args => .ok (f + args.sum)
  run2 := fun f a b => .ok (f + [a, b].sum)
  tryChain := fun _ _ => none

-- hypotheses of `direct_chain_value` / `fast_path_agrees` / `each_operand_once_in_order` are satisfiable:
example : ∀ f a b, exLang.run2 f a b = exLang.run f [a, b] := fun _ _ _ => rfl
example : chainArm exLang 1 [(104, 2), (105, 3)] = ([1, 104, 2, 105, 3], .ok (104 + (1 + ((105 + (2 + (3 + 0))) + 0)))) := by
  decide +kernel
example : evalOps exLang [(104, 2), (105, 3)] = some [(104, ⟨.fin 4, .left⟩, some 2), (105, ⟨.fin 5, .left⟩, some 3)] := by
  decide +kernel
-- a section (`_ 104 2`) applied to one argument, and to the wrong number of arguments
example : runChainSection exLang none [(104, ⟨.fin 4, .left⟩, some 2)] [7] = .ok (104 + (7 + (2 + 0))) := by
  decide +kernel
example : runChainSection exLang none [(104, ⟨.fin 4, .left⟩, some 2)] [7, 8] = .throw := by decide +kernel
example : runChainSection exLang none [(104, ⟨.fin 4, .left⟩, none)] [7] = .throw := by decide +kernel
/-! the README-style example with an effect: `1 + (+::precedence = 6; 2) + 3 * 4` is
`1 + ((2 + 3) * 4) = 21` — the state is the precedence of `+`, `*` has 5 -/
inductive XE where
  | lit (n : Nat)
  | litSetPlus (n : Nat) (p : Int)
  | plus
  | times
  deriving DecidableEq
inductive XV where
  | num (n : Nat)
  | fn (isPlus : Bool) (p : Int)
  deriving DecidableEq
def xnum : XV → Nat
  | .num n => n
  | _ => 0
def exLangS : LangS Int XE Bool XV where
  evaluate
    | .lit n, s => (.ok (.num n), s)
    | .litSetPlus n p, _ => (.ok (.num n), p)
    | .plus, s => (.ok (.fn true s), s)
    | .times, s => (.ok (.fn false 5), s)
  isUnderscore := fun _ => false
  asFunc | .fn b p => some (b, ⟨.fin p, .left⟩) | .num _ => none
  mkSection := fun _ _ => .num 0
  run := fun f args => .ok (.num (if f then (args.map xnum).sum else (args.map xnum).foldl (· * ·) 1))
  run2 := fun f a b => .ok (.num (if f then ([a, b].map xnum).sum else ([a, b].map xnum).foldl (· * ·) 1))
  tryChain := fun _ _ => none

example : chainArmS exLangS (.lit 1) [(.plus, .litSetPlus 2 6), (.plus, .lit 3), (.times, .lit 4)] 4
    = (.ok (.num 21), 6) := by decide +kernel
-- without the assignment the same chain is `(1 + 2) + (3 * 4) = 15`
example : chainArmS exLangS (.lit 1) [(.plus, .lit 2), (.plus, .lit 3), (.times, .lit 4)] 4
    = (.ok (.num 15), 4) := by decide +kernel
example : resolveOps exLangS [(.plus, .litSetPlus 2 6), (.plus, .lit 3), (.times, .lit 4)] 4
    = (some [(true, ⟨.fin 4, .left⟩, .num 2), (true, ⟨.fin 6, .left⟩, .num 3),
             (false, ⟨.fin 5, .left⟩, .num 4)], 6) := by decide +kernel
end examples

end Noulith.Chain.C03
