/-
C09 — Dictionaries are finite maps keyed by value equality: the Impl model of key hashing and key
equality (Impl/NNumCmp.lean `totalHash`, Impl/ObjCmp.lean `writes`, `totalEq`, `keyHit`) and of the
dictionary operations (Impl/Dict.lean) against the finite map on `≈`-classes (Spec/DictSpec.lean).
The hash is modelled as the SEQUENCE OF HASHER WRITES; SipHash is an opaque function of that sequence.

Here: hash consistency on numbers, the Spec's `≈` on dictionary-free keys, the finite-map laws for any
equivalence hit relation, `agree_*` (two hit relations that agree on the keys in use give the same
dictionary operations), order independence of the dict arm of the hash, the hash before the `fix:`
commit refuted (F6).  What a key is (`KeyWF`), hash consistency for all keys and the refinement:
Theorems/C09Keys.lean.
-/
import NoulithModel.Theorems.C08
import NoulithModel.Spec.DictSpec

namespace Noulith.C09
open Noulith OrdSpec Noulith.C08 Noulith.DictOps

/-! ## numbers: `total_eq` keys hash to the same write sequence -/

def hashERat : ERat → List HWrite
  | .fin q => hashRational q
  | .pinf => [.u64 0x7FF0000000000000]
  | .ninf => [.u64 0xFFF0000000000000]

def hashVal2 (p : ERat × ERat) : List HWrite :=
  if p.2 = .fin 0 then hashERat p.1 else hashERat p.1 ++ hashERat p.2

theorem hashNInt_val (a : NInt) (ha : a.WF) : hashNInt a = hashRational (a.val : Rat) := by
  have h1 : ((a.val : Int) : Rat).isInt = true := by simp [Rat.isInt]
  simp only [hashRational, h1, if_true, Rat.num_intCast]
  cases a with
  | small v =>
    have : inI64 v := ha
    simp [hashNInt, NInt.hashWrites, NInt.val, this]
  | big v => rfl

theorem hashF64_ext (f : F64) (hn : f.isNan = false) : consistentHashF64 f = hashERat f.ext := by
  rcases f with _ | neg | ⟨m, e⟩ | _
  · simp [F64.isNan] at hn
  · cases neg <;>
    simp [consistentHashF64, toNIntIfInt, F64.eqTrunc, F64.toBigInt?, F64.isNan, F64.toRat?, F64.isSignPositive,
      F64.ext, hashERat]
  · simp only [F64.ext, hashERat]
    by_cases h : (F64.finVal m e).isInt = true
    · simp only [consistentHashF64, toNIntIfInt_fin_int m e h, hashRational, h, if_true]
      have hq := (isInt_iff _).mp h
      have hd : (F64.finVal m e).den = 1 := by simpa [Rat.isInt] using h
      have : (F64.finVal m e).floor = (F64.finVal m e).num := by
        rw [Rat.floor_def, hd]; simp
      rw [this]
    · simp only [consistentHashF64, toNIntIfInt_fin_nonint m e h, F64.isNan, F64.toRat?]
      rfl
  · simp only [consistentHashF64, toNIntIfInt, F64.eqTrunc, F64.toBigInt?, if_true, Option.map, F64.ext, hashERat,
      hashRational]
    have : (0 : Rat).isInt = true := by decide +kernel
    simp [this]

theorem realValue_float (f : F64) (hn : f.isNan = false) : realValue (.float f) = some f.ext := by
  rw [realValue_float_eq, hn]; rfl

theorem feq_zero (f : F64) (hn : f.isNan = false) : F64.feq f (.fin 0 0) = decide (f.ext = .fin 0) := by
  rcases f with _ | ⟨_ | _⟩ | ⟨m, e⟩ | _ <;> simp_all [F64.feq, F64.isNan, F64.ext, F64.finVal]

theorem isNan_iff_hasNan (a : NNum) : a.isNan = hasNan a := by
  rw [hasNan, ← re_project, ← im_project, ← isNan_realValue, ← isNan_realValue]
  cases a with
  | float f => exact (Bool.or_false _).symm
  | _ => rfl

/-- a NaN-free number is hashed as a function of the pair of points it denotes -/
theorem totalHash_val2 (a : NNum) (hw : a.WF) (hn : nanFree a) : a.totalHash = hashVal2 (val2 a) := by
  cases a with
  | int a =>
    simp only [NNum.totalHash, hashVal2, val2, reVal, imVal, realValue, Option.getD, if_true, hashERat]
    exact hashNInt_val a hw
  | rat q => simp [NNum.totalHash, hashVal2, val2, reVal, imVal, realValue, hashERat]
  | float f =>
    have hf : f.isNan = false := (isNan_iff_hasNan (.float f)).trans hn
    simp only [NNum.totalHash, hashVal2, val2, reVal, imVal, realValue_float f hf, Option.getD, if_true]
    exact hashF64_ext f hf
  | complex re im =>
    have hh : (re.isNan || im.isNan) = false := (isNan_iff_hasNan (.complex re im)).trans hn
    have hre : re.isNan = false := by cases h : re.isNan <;> simp_all
    have him : im.isNan = false := by cases h : im.isNan <;> simp_all
    simp only [NNum.totalHash, hh, Bool.false_eq_true, if_false, hashVal2, val2, reVal, imVal,
      realValue_float re hre, realValue_float im him, Option.getD, feq_zero im him, decide_eq_true_eq]
    split
    · exact hashF64_ext re hre
    · rw [hashF64_ext re hre, hashF64_ext im him]

theorem totalHash_nan (a : NNum) (h : a.isNan = true) : a.totalHash = [.u64 0x7FF0000000000001] := by
  cases a with
  | int a => simp [NNum.isNan] at h
  | rat q => simp [NNum.isNan] at h
  | float f =>
    rcases f with _ | ⟨_ | _⟩ | ⟨m, e⟩ | _ <;> simp [NNum.isNan, F64.isNan] at h
    simp [NNum.totalHash, consistentHashF64, toNIntIfInt, F64.eqTrunc, F64.isNan]
  | complex re im =>
    simp only [NNum.isNan] at h
    simp [NNum.totalHash, h]

/-- what a number is as a key: the pair of points it denotes; all numbers with a NaN in them are one key -/
def numKey (a : NNum) : Option (ERat × ERat) := if hasNan a then none else some (val2 a)

def hashKey : Option (ERat × ERat) → List HWrite
  | none => [.u64 0x7FF0000000000001]
  | some p => hashVal2 p

theorem totalHash_numKey (a : NNum) (hw : a.WF) : a.totalHash = hashKey (numKey a) := by
  unfold numKey
  cases h : hasNan a
  · exact totalHash_val2 a hw h
  · exact totalHash_nan a (isNan_iff_hasNan a ▸ h)

theorem numEq_of_nan {a b : NNum} (h : hasNan a = true ∨ hasNan b = true) : numEq a b = false := by
  have none_l : ∀ y, optEq none y = false := fun _ => rfl
  have none_r : ∀ x, optEq x none = false := fun x => by cases x <;> rfl
  unfold hasNan at h
  simp only [Bool.or_eq_true, Option.isNone_iff_eq_none] at h
  unfold numEq
  rcases h with (h | h) | (h | h) <;> rw [h] <;> simp only [none_l, none_r, Bool.false_and, Bool.and_false]

theorem numKeyEq_iff (a b : NNum) : numKeyEq a b = true ↔ numKey a = numKey b := by
  unfold numKeyEq numKey
  cases ha : hasNan a <;> cases hb : hasNan b
  · simp only [Bool.and_false, Bool.or_false, Bool.false_eq_true, if_false, Option.some.injEq]
    exact numEq_val ha hb
  · simp [numEq_of_nan (Or.inr hb)]
  · simp [numEq_of_nan (Or.inl ha)]
  · simp

theorem numTotalEq_spec (a b : NNum) (hwa : a.WF) (hwb : b.WF) : a.totalEq b = numKeyEq a b := by
  unfold NNum.totalEq numKeyEq
  rw [num_eq_exact a b hwa hwb, isNan_iff_hasNan, isNan_iff_hasNan]

/-- **hash consistency on numbers** (the obligation F6 violated): keys that are `total_eq` perform
the same hasher writes, across int (both representations) / rational / float / complex, NaNs
included -/
theorem num_hash_consistent (a b : NNum) (hwa : a.WF) (hwb : b.WF) (h : a.totalEq b = true) :
    a.totalHash = b.totalHash := by
  rw [numTotalEq_spec a b hwa hwb, numKeyEq_iff] at h
  rw [totalHash_numKey a hwa, totalHash_numKey b hwb, h]

/-! ## keys without dictionaries inside -/

/- well-formed hashable keys without dictionaries inside: lists and vectors at any nesting (all keys,
dictionaries included, are `KeyWF`, Theorems/C09Keys.lean; these are its dictionary-free members, `keyWF_of_keyOK`) -/
mutual
def KeyOK : Val → Prop
  | .null => True
  | .num n => n.WF
  | .str _ => True
  | .bytes _ => True
  | .vec xs => ∀ n ∈ xs, NNum.WF n
  | .list xs => KeyOKList xs
  | .dict _ _ => False
  | .func _ => False
def KeyOKList : List Val → Prop
  | [] => True
  | x :: xs => KeyOK x ∧ KeyOKList xs
end

theorem keyOKList_iff (xs : List Val) : KeyOKList xs ↔ ∀ x ∈ xs, KeyOK x := by
  induction xs with
  | nil => simp [KeyOKList]
  | cons x xs ih => simp [KeyOKList, ih]

theorem vec_hash_consistent (xs ys : List NNum) (hx : ∀ n ∈ xs, NNum.WF n) (hy : ∀ n ∈ ys, NNum.WF n)
    (h : vecTotalEq xs ys = true) :
    xs.length = ys.length ∧ xs.flatMap NNum.totalHash = ys.flatMap NNum.totalHash :=
  ⟨listEq_length xs ys h,
    listEq_flatMap _ xs ys (fun x hx' y hy' => num_hash_consistent x y (hx x hx') (hy y hy')) h⟩

theorem vecTotalEq_spec (xs ys : List NNum) (hx : ∀ n ∈ xs, NNum.WF n) (hy : ∀ n ∈ ys, NNum.WF n) :
    vecTotalEq xs ys = listEq numKeyEq xs ys :=
  listEq_congr xs ys (fun x hx' y hy' => numTotalEq_spec x y (hx x hx') (hy y hy'))

theorem totalEqList_eq (xs : List Val) : ∀ ys, totalEqList xs ys = listEq totalEq xs ys := by
  induction xs with
  | nil => intro ys; cases ys <;> rfl
  | cons x xs ih => intro ys; cases ys <;> simp only [totalEqList, listEq, ih]

theorem keyEqList_eq (xs : List Val) : ∀ ys, keyEqList xs ys = listEq keyEq xs ys := by
  induction xs with
  | nil => intro ys; cases ys <;> rfl
  | cons x xs ih => intro ys; cases ys <;> simp only [keyEqList, listEq, ih]

theorem writesList_eq (xs : List Val) : writesList xs = xs.flatMap writes := by
  induction xs with
  | nil => rfl
  | cons x xs ih => rw [writesList, ih, List.flatMap_cons]

theorem unequal_never_collide (k k' : Val) (h : totalEq k k' = false) : keyHit k k' = false := by
  simp [keyHit, h]

/-! ## the Spec's `≈` is symmetric and transitive once its FIRST operand is dictionary-free
(it never looks at the representation of an integer, so nothing is asked of the other operands) -/

theorem numKeyEq_refl (a : NNum) : numKeyEq a a = true := (numKeyEq_iff a a).mpr rfl

theorem numKeyEq_symm (a b : NNum) : numKeyEq a b = numKeyEq b a :=
  Bool.eq_iff_iff.mpr (by rw [numKeyEq_iff, numKeyEq_iff]; exact eq_comm)

theorem numKeyEq_trans (a b c : NNum) (h1 : numKeyEq a b = true) (h2 : numKeyEq b c = true) :
    numKeyEq a c = true :=
  (numKeyEq_iff a c).mpr (((numKeyEq_iff a b).mp h1).trans ((numKeyEq_iff b c).mp h2))

theorem keyEq_symm (a b : Val) (ha : KeyOK a) : keyEq a b = keyEq b a := by
  induction a using val_induction generalizing b with | step a ih _ => ?_
  cases a with
  | null => cases b <;> rfl
  | num x => cases b <;> simp only [keyEq]; exact numKeyEq_symm x _
  | str x => cases b <;> simp only [keyEq]; exact BEq.comm
  | bytes x => cases b <;> simp only [keyEq]; exact BEq.comm
  | vec x => cases b <;> simp only [keyEq]; exact listEq_comm_of x _ (fun n _ m => numKeyEq_symm n m)
  | list xs =>
    cases b <;> simp only [keyEq, keyEqList_eq]
    exact listEq_comm_of xs _ (fun x hx y => ih xs rfl x hx y ((keyOKList_iff xs).mp ha x hx))
  | dict kvs d => exact absurd ha (by simp [KeyOK])
  | func i => exact absurd ha (by simp [KeyOK])

theorem keyEqList_symm (xs ys : List Val) (hx : KeyOKList xs) : keyEqList xs ys = keyEqList ys xs :=
  keyEq_symm (.list xs) (.list ys) hx

theorem keyEq_trans (a b c : Val) (ha : KeyOK a) (h1 : keyEq a b = true) (h2 : keyEq b c = true) :
    keyEq a c = true := by
  induction a using val_induction generalizing b c with | step a ih _ => ?_
  -- `h1` decides the constructor of `a` and `b`, then `h2` that of `c`
  unfold keyEq at h1
  split at h1
  · cases c <;> cases h2
    rfl
  · cases c <;> first | cases h2 | skip
    exact numKeyEq_trans _ _ _ h1 h2
  · cases c <;> first | cases h2 | skip
    exact beq_iff_eq.mpr ((beq_iff_eq.mp h1).trans (beq_iff_eq.mp h2))
  · cases c <;> first | cases h2 | skip
    exact beq_iff_eq.mpr ((beq_iff_eq.mp h1).trans (beq_iff_eq.mp h2))
  · cases c <;> first | cases h2 | skip
    exact listEq_trans_of _ _ _ (fun a _ b _ c _ => numKeyEq_trans a b c) h1 h2
  · cases c <;> first | cases h2 | skip
    rw [keyEqList_eq] at h1
    simp only [keyEq, keyEqList_eq] at h2 ⊢
    exact listEq_trans_of _ _ _ (fun x hx y _ z _ => ih _ rfl x hx y z ((keyOKList_iff _).mp ha x hx)) h1 h2
  · exact absurd ha (by simp [KeyOK])
  · cases h1

theorem keyEqList_trans (xs ys zs : List Val) (hx : KeyOKList xs) (h1 : keyEqList xs ys = true)
    (h2 : keyEqList ys zs = true) : keyEqList xs zs = true :=
  keyEq_trans (.list xs) (.list ys) (.list zs) hx h1 h2

/-! ## finite-map laws of the operations, for ANY key-hit relation that is an equivalence on
the keys in use -/
section FinMap
variable {hit : Val → Val → Bool} {P : Val → Prop}

/-- The map laws hold for any `P`; to carry them to the operations on values, `agree_point`, `agree_update` and the like ask in addition
`V : ∀ k, P k → validKey k`, which a `P` that admits a `.func` key cannot give. -/
structure IsEquivOn (hit : Val → Val → Bool) (P : Val → Prop) : Prop where
  refl : ∀ k, P k → hit k k = true
  symm : ∀ a b, P a → P b → hit a b = hit b a
  trans : ∀ a b c, P a → P b → P c → hit a b = true → hit b c = true → hit a c = true

/-- dictionary invariant: keys are valid and pairwise not `≈` (one representative per class) -/
def Inv (hit : Val → Val → Bool) (P : Val → Prop) (d : Entries) : Prop :=
  (∀ e ∈ d, P e.1) ∧ d.Pairwise (fun e f => hit e.1 f.1 = false)

theorem IsEquivOn.mono {Q : Val → Prop} (E : IsEquivOn hit P) (h : ∀ k, Q k → P k) : IsEquivOn hit Q where
  refl := fun k hk => E.refl k (h k hk)
  symm := fun a b ha hb => E.symm a b (h a ha) (h b hb)
  trans := fun a b c ha hb hc => E.trans a b c (h a ha) (h b hb) (h c hc)

theorem IsEquivOn.congr {hit' : Val → Val → Bool} (E : IsEquivOn hit P)
    (H : ∀ a b, P a → P b → hit a b = hit' a b) : IsEquivOn hit' P where
  refl := fun k hk => H k k hk hk ▸ E.refl k hk
  symm := fun a b ha hb => H a b ha hb ▸ H b a hb ha ▸ E.symm a b ha hb
  trans := fun a b c ha hb hc => H a b ha hb ▸ H b c hb hc ▸ H a c ha hc ▸ E.trans a b c ha hb hc

theorem Inv.mono {Q : Val → Prop} {d : Entries} (hd : Inv hit Q d) (h : ∀ k, Q k → P k) : Inv hit P d :=
  ⟨fun e he => h _ (hd.1 e he), hd.2⟩

theorem hit_congr_left (E : IsEquivOn hit P) {a b c : Val} (ha : P a) (hb : P b) (hc : P c)
    (hab : hit a b = true) : hit a c = hit b c := by
  cases h : hit b c with
  | true => exact E.trans a b c ha hb hc hab h
  | false =>
    cases h' : hit a c with
    | false => rfl
    | true =>
      have hba : hit b a = true := by rw [E.symm b a hb ha]; exact hab
      have := E.trans b a c hb ha hc hba h'
      rw [h] at this; cases this

theorem hit_congr_right (E : IsEquivOn hit P) {a b c : Val} (ha : P a) (hb : P b) (hc : P c)
    (hab : hit a b = true) : hit c a = hit c b := by
  rw [E.symm c a hc ha, E.symm c b hc hb]; exact hit_congr_left E ha hb hc hab

theorem hit_false_of_class (E : IsEquivOn hit P) {k k' f : Val} (hk : P k) (hk' : P k') (hf : P f)
    (hkf : hit k f = false) (h1 : hit k' f = true) : hit k' k = false := by
  rw [hit_congr_left E hk' hf hk h1, E.symm f k hf hk]; exact hkf

theorem lookup_none_of_class (E : IsEquivOn hit P) {d : Entries} {k' a : Val} (hk' : P k') (ha : P a)
    (hd : ∀ f ∈ d, P f.1) (h1 : hit k' a = true) (hno : ∀ f ∈ d, hit a f.1 = false) : lookup hit d k' = none := by
  simp only [lookup, find?]
  rw [List.find?_eq_none.mpr]
  · rfl
  · intro x hx
    rw [hit_congr_left E hk' ha (hd x hx) h1, hno x hx]
    exact Bool.false_ne_true

theorem lookup_nil (k : Val) : lookup hit [] k = none := rfl

theorem lookup_cons (e : Val × Val) (d : Entries) (k : Val) :
    lookup hit (e :: d) k = if hit k e.1 then some e.2 else lookup hit d k := by
  simp only [lookup, find?, List.find?_cons]
  cases hit k e.1 <;> rfl

theorem lookup_insert (E : IsEquivOn hit P) (d : Entries) (k k' v : Val) (hd : ∀ e ∈ d, P e.1)
    (hk : P k) (hk' : P k') :
    lookup hit (DictOps.insert hit d k v) k' = if hit k' k then some v else lookup hit d k' := by
  induction d with
  | nil => simp [DictOps.insert, lookup_cons, lookup_nil]
  | cons e d ih =>
    have he : P e.1 := hd e (List.mem_cons_self ..)
    have ih := ih (forall_mem_tail hd)
    simp only [DictOps.insert]
    cases hke : hit k e.1 with
    | true =>
      simp only [if_true, lookup_cons]
      have : hit k' k = hit k' e.1 := hit_congr_right E hk he hk' hke
      rw [this]
      cases hit k' e.1 <;> rfl
    | false =>
      simp only [Bool.false_eq_true, if_false, lookup_cons, ih]
      cases h1 : hit k' e.1 with
      | false => rfl
      | true => simp [hit_false_of_class E hk hk' he hke h1]

theorem lookup_erase (E : IsEquivOn hit P) (d : Entries) (k k' : Val) (hd : Inv hit P d)
    (hk : P k) (hk' : P k') :
    lookup hit (DictOps.erase hit d k) k' = if hit k' k then none else lookup hit d k' := by
  induction d with
  | nil => simp [DictOps.erase, lookup_nil]
  | cons e d ih =>
    have he : P e.1 := hd.1 e (List.mem_cons_self ..)
    have hp := List.pairwise_cons.mp hd.2
    have ih := ih ⟨forall_mem_tail hd.1, hp.2⟩
    simp only [DictOps.erase]
    cases hke : hit k e.1 with
    | true =>
      simp only [if_true, lookup_cons]
      have hcongr : hit k' k = hit k' e.1 := hit_congr_right E hk he hk' hke
      cases h1 : hit k' e.1 with
      | false => simp [hcongr, h1]
      | true =>
        simp only [hcongr, h1, if_true]
        -- no other entry of d is ≈ e.1
        exact lookup_none_of_class E hk' he (forall_mem_tail hd.1) h1 hp.1
    | false =>
      simp only [Bool.false_eq_true, if_false, lookup_cons, ih]
      cases h1 : hit k' e.1 with
      | false => rfl
      | true => simp [hit_false_of_class E hk hk' he hke h1]

theorem contains_eq (d : Entries) (k : Val) : contains hit d k = (lookup hit d k).isSome := by
  simp [contains, lookup]

theorem mem_insert_key (d : Entries) (k v : Val) (e : Val × Val) (he : e ∈ DictOps.insert hit d k v) :
    e.1 = k ∨ ∃ f ∈ d, f.1 = e.1 := by
  induction d with
  | nil => simp [DictOps.insert] at he; left; rw [he]
  | cons f d ih =>
    simp only [DictOps.insert] at he
    split at he
    · rcases List.mem_cons.mp he with h | h
      · right; exact ⟨f, List.mem_cons_self .., by rw [h]⟩
      · right; exact ⟨e, List.mem_cons_of_mem _ h, rfl⟩
    · rcases List.mem_cons.mp he with h | h
      · right; exact ⟨f, List.mem_cons_self .., by rw [h]⟩
      · rcases ih h with h | ⟨g, hg, hge⟩
        · left; exact h
        · right; exact ⟨g, List.mem_cons_of_mem _ hg, hge⟩

theorem insert_keys (hit : Val → Val → Bool) (d : Entries) (k v : Val) (hd : ∀ e ∈ d, P e.1) (hk : P k) :
    ∀ e ∈ DictOps.insert hit d k v, P e.1 := by
  intro e he
  rcases mem_insert_key d k v e he with h | ⟨g, hg, hge⟩
  · rw [h]; exact hk
  · rw [← hge]; exact hd g hg

theorem inv_insert (E : IsEquivOn hit P) (d : Entries) (k v : Val) (hd : Inv hit P d) (hk : P k) :
    Inv hit P (DictOps.insert hit d k v) := by
  refine ⟨insert_keys hit d k v hd.1 hk, ?_⟩
  obtain ⟨hP, hd⟩ := hd
  induction d with
  | nil => exact List.pairwise_singleton _ _
  | cons f d ih =>
    have hp := List.pairwise_cons.mp hd
    simp only [DictOps.insert]
    cases hkf : hit k f.1 with
    | true => exact List.pairwise_cons.mpr hp
    | false =>
      refine List.pairwise_cons.mpr ⟨fun e he => ?_, ih (forall_mem_tail hP) hp.2⟩
      rcases mem_insert_key d k v e he with h | ⟨g, hg, hge⟩
      · rw [h, E.symm f.1 k (hP f (List.mem_cons_self ..)) hk]; exact hkf
      · rw [← hge]; exact hp.1 g hg

theorem erase_sublist (d : Entries) (k : Val) : (DictOps.erase hit d k).Sublist d := by
  induction d with
  | nil => exact List.Sublist.slnil
  | cons f d ih =>
    simp only [DictOps.erase]
    split
    · exact List.sublist_cons_self f d
    · exact List.Sublist.cons_cons f ih

theorem inv_erase (d : Entries) (k : Val) (hd : Inv hit P d) : Inv hit P (DictOps.erase hit d k) :=
  ⟨fun e he => hd.1 e ((erase_sublist d k).subset he), hd.2.sublist (erase_sublist d k)⟩

theorem contains_cons (e : Val × Val) (d : Entries) (k : Val) :
    contains hit (e :: d) k = (hit k e.1 || contains hit d k) := by
  simp only [contains, find?, List.find?_cons]
  cases hit k e.1 <;> rfl

theorem contains_congr_key (y : Entries) (a b : Val) (h : ∀ z ∈ y, hit a z.1 = hit b z.1) :
    contains hit y a = contains hit y b := by
  induction y with
  | nil => rfl
  | cons z y ih =>
    rw [contains_cons, contains_cons, h z (List.mem_cons_self ..),
      ih (forall_mem_tail h)]

theorem length_insert (d : Entries) (k v : Val) :
    (DictOps.insert hit d k v).length = if contains hit d k then d.length else d.length + 1 := by
  induction d with
  | nil => simp [DictOps.insert, contains, find?]
  | cons f d ih =>
    rw [contains_cons]
    simp only [DictOps.insert]
    cases hit k f.1 with
    | true => simp
    | false =>
      simp only [Bool.false_eq_true, if_false, List.length_cons, ih, Bool.false_or]
      split <;> rfl

theorem length_erase (d : Entries) (k : Val) :
    (DictOps.erase hit d k).length = if contains hit d k then d.length - 1 else d.length := by
  induction d with
  | nil => simp [DictOps.erase, contains, find?]
  | cons f d ih =>
    rw [contains_cons]
    simp only [DictOps.erase]
    cases hit k f.1 with
    | true => simp
    | false =>
      simp only [Bool.false_eq_true, if_false, List.length_cons, ih, Bool.false_or]
      split
      · rename_i hc
        have : 0 < d.length := by
          cases d with
          | nil => simp [contains, find?] at hc
          | cons _ _ => simp
        omega
      · rfl

/-- union (`||`): the right operand wins on common classes -/
theorem lookup_insertAll (E : IsEquivOn hit P) (a b : Entries) (k' : Val) (ha : ∀ e ∈ a, P e.1)
    (hb : Inv hit P b) (hk' : P k') :
    lookup hit (insertAll hit a b) k' = match lookup hit b k' with
      | some v => some v
      | none => lookup hit a k' := by
  induction b generalizing a with
  | nil => simp [insertAll, lookup_nil]
  | cons f b ih =>
    obtain ⟨fk, fv⟩ := f
    have hf : P fk := hb.1 (fk, fv) (List.mem_cons_self ..)
    have hp := List.pairwise_cons.mp hb.2
    have hb' : Inv hit P b := ⟨forall_mem_tail hb.1, hp.2⟩
    simp only [insertAll]
    rw [ih (DictOps.insert hit a fk fv) (insert_keys hit a fk fv ha hf) hb', lookup_cons,
      lookup_insert E a fk k' fv ha hf hk']
    cases h1 : hit k' fk with
    | false => simp
    | true =>
      -- k' ≈ fk, and no later entry of b is ≈ fk
      simp [lookup_none_of_class E hk' hf hb'.1 h1 hp.1]

/-- intersection (`&&`) and difference (`--`): keep exactly the classes (not) present on the right -/
theorem lookup_filter_contains (E : IsEquivOn hit P) (x y : Entries) (k' : Val) (keep : Bool)
    (hx : ∀ e ∈ x, P e.1) (hy : ∀ e ∈ y, P e.1) (hk' : P k') :
    lookup hit (x.filter fun e => contains hit y e.1 == keep) k' =
      if contains hit y k' == keep then lookup hit x k' else none := by
  induction x with
  | nil => simp [lookup_nil]
  | cons e x ih =>
    have he : P e.1 := hx e (List.mem_cons_self ..)
    have ih := ih (forall_mem_tail hx)
    -- membership on the right only depends on the class
    have hcls : hit k' e.1 = true → contains hit y e.1 = contains hit y k' := fun h =>
      (contains_congr_key y k' e.1 fun z hz => hit_congr_left E hk' he (hy z hz) h).symm
    simp only [List.filter_cons]
    cases h1 : hit k' e.1 with
    | true =>
      rw [hcls h1]
      cases hc : (contains hit y k' == keep) with
      | true => simp [lookup_cons, h1]
      | false => simp only [Bool.false_eq_true, if_false]; rw [ih]; simp [hc]
    | false =>
      split
      · rw [lookup_cons, h1, ih, lookup_cons, h1]; simp
      · rw [ih, lookup_cons, h1]; simp

end FinMap

/-! ## every operation uses the hit relation only at the keys in use -/

theorem find_pred_congr {α : Type} (p q : α → Bool) (l : List α) (h : ∀ x ∈ l, p x = q x) :
    l.find? p = l.find? q := by
  induction l with
  | nil => rfl
  | cons a l ih =>
    simp only [List.find?_cons]
    rw [h a (List.mem_cons_self ..), ih (forall_mem_tail h)]

section Refine
variable {h1 h2 : Val → Val → Bool} {P : Val → Prop} (H : ∀ k e, P k → P e → h1 k e = h2 k e)
include H

theorem find_congr (d : Entries) (k : Val)
    (hd : ∀ e ∈ d, P e.1) (hk : P k) : find? h1 d k = find? h2 d k :=
  find_pred_congr _ _ d fun e he => H k e.1 hk (hd e he)

theorem lookup_congr (d : Entries) (k : Val)
    (hd : ∀ e ∈ d, P e.1) (hk : P k) : lookup h1 d k = lookup h2 d k := by
  simp only [lookup, find_congr H d k hd hk]

theorem contains_congr_hit (d : Entries) (k : Val)
    (hd : ∀ e ∈ d, P e.1) (hk : P k) : contains h1 d k = contains h2 d k := by
  simp only [contains, find_congr H d k hd hk]

theorem insert_congr (d : Entries) (k v : Val)
    (hd : ∀ e ∈ d, P e.1) (hk : P k) : DictOps.insert h1 d k v = DictOps.insert h2 d k v := by
  induction d with
  | nil => rfl
  | cons e d ih =>
    simp only [DictOps.insert]
    rw [H k e.1 hk (hd e (List.mem_cons_self ..)), ih (forall_mem_tail hd)]

theorem erase_congr (d : Entries) (k : Val)
    (hd : ∀ e ∈ d, P e.1) (hk : P k) : DictOps.erase h1 d k = DictOps.erase h2 d k := by
  induction d with
  | nil => rfl
  | cons e d ih =>
    simp only [DictOps.erase]
    rw [H k e.1 hk (hd e (List.mem_cons_self ..)), ih (forall_mem_tail hd)]

theorem insertAll_congr (a b : Entries)
    (ha : ∀ e ∈ a, P e.1) (hb : ∀ e ∈ b, P e.1) : insertAll h1 a b = insertAll h2 a b := by
  induction b generalizing a with
  | nil => rfl
  | cons f b ih =>
    obtain ⟨fk, fv⟩ := f
    have hf : P fk := hb (fk, fv) (List.mem_cons_self ..)
    simp only [insertAll]
    rw [insert_congr H a fk fv ha hf]
    exact ih _ (insert_keys h2 a fk fv ha hf) (forall_mem_tail hb)

theorem filter_congr (x y : Entries) (keep : Bool)
    (hx : ∀ e ∈ x, P e.1) (hy : ∀ e ∈ y, P e.1) :
    (x.filter fun e => contains h1 y e.1 == keep) = (x.filter fun e => contains h2 y e.1 == keep) := by
  apply List.filter_congr
  intro e he
  rw [contains_congr_hit H y e.1 hy (hx e he)]

theorem uniqueLoop_congr (xs : List Val) (seen : Entries)
    (hs : ∀ e ∈ seen, P e.1) (hx : ∀ x ∈ xs, P x) : uniqueLoop h1 seen xs = uniqueLoop h2 seen xs := by
  induction xs generalizing seen with
  | nil => rfl
  | cons x xs ih =>
    have hxP : P x := hx x (List.mem_cons_self ..)
    simp only [uniqueLoop]
    rw [contains_congr_hit H seen x hs hxP, insert_congr H seen x _ hs hxP,
      ih seen hs (forall_mem_tail hx),
      ih _ (insert_keys h2 seen x .null hs hxP) (forall_mem_tail hx)]

theorem freqLoop_congr (xs : List Val) (acc : Entries)
    (hs : ∀ e ∈ acc, P e.1) (hx : ∀ x ∈ xs, P x) : freqLoop h1 acc xs = freqLoop h2 acc xs := by
  induction xs generalizing acc with
  | nil => rfl
  | cons x xs ih =>
    have hxP : P x := hx x (List.mem_cons_self ..)
    simp only [freqLoop]
    rw [lookup_congr H acc x hs hxP, insert_congr H acc x _ hs hxP,
      ih _ (insert_keys h2 acc x _ hs hxP) (forall_mem_tail hx)]

theorem groupLoop_congr (xs : List Val) (acc : Entries)
    (hs : ∀ e ∈ acc, P e.1) (hx : ∀ x ∈ xs, P x) : groupLoop h1 acc xs = groupLoop h2 acc xs := by
  induction xs generalizing acc with
  | nil => rfl
  | cons x xs ih =>
    have hxP : P x := hx x (List.mem_cons_self ..)
    simp only [groupLoop]
    rw [lookup_congr H acc x hs hxP, insert_congr H acc x _ hs hxP,
      ih _ (insert_keys h2 acc x _ hs hxP) (forall_mem_tail hx)]

theorem memoLoop_congr (xs : List Val) (memo : Entries)
    (hs : ∀ e ∈ memo, P e.1) (hx : ∀ x ∈ xs, P x) : memoLoop h1 memo xs = memoLoop h2 memo xs := by
  induction xs generalizing memo with
  | nil => rfl
  | cons x xs ih =>
    have hxP : P x := hx x (List.mem_cons_self ..)
    simp only [memoLoop]
    rw [lookup_congr H memo x hs hxP, insert_congr H memo x _ hs hxP,
      ih memo hs (forall_mem_tail hx),
      ih _ (insert_keys h2 memo x _ hs hxP) (forall_mem_tail hx)]

theorem memoCallsLoop_congr (calls : List (List Val)) (memo : Entries)
    (hs : ∀ e ∈ memo, P e.1) (hx : ∀ args ∈ calls, P (.list args)) :
    memoCallsLoop h1 memo calls = memoCallsLoop h2 memo calls := by
  induction calls generalizing memo with
  | nil => rfl
  | cons args rest ih =>
    have hP : P (.list args) := hx args (List.mem_cons_self ..)
    simp only [memoCallsLoop]
    rw [lookup_congr H memo _ hs hP, insert_congr H memo _ _ hs hP,
      ih memo hs (forall_mem_tail hx),
      ih _ (insert_keys h2 memo _ _ hs hP) (forall_mem_tail hx)]

theorem unionAddLoop_congr (y x : Entries)
    (hx : ∀ e ∈ x, P e.1) (hy : ∀ e ∈ y, P e.1) : unionAddLoop h1 x y = unionAddLoop h2 x y := by
  induction y generalizing x with
  | nil => rfl
  | cons f y ih =>
    obtain ⟨k, v⟩ := f
    have hk : P k := hy (k, v) (List.mem_cons_self ..)
    have hy' : ∀ e ∈ y, P e.1 := forall_mem_tail hy
    simp only [unionAddLoop]
    rw [lookup_congr H x k hx hk]
    cases lookup h2 x k with
    | none =>
      simp only
      rw [insert_congr H x k v hx hk]
      exact ih _ (insert_keys h2 x k v hx hk) hy'
    | some old =>
      simp only
      cases addVals old v with
      | ok s =>
        simp only
        rw [insert_congr H x k s hx hk]
        exact ih _ (insert_keys h2 x k s hx hk) hy'
      | throw => rfl
      | panic => rfl

end Refine

/-! ### two hit relations that agree on the keys in use give the same dictionary operations -/

def DictKeys (P : Val → Prop) : Val → Prop
  | .dict kvs _ => ∀ e ∈ kvs, P e.1
  | _ => True

section Agree
variable {h1 h2 : Val → Val → Bool} {P : Val → Prop}
  (H : ∀ k e, P k → P e → h1 k e = h2 k e) (V : ∀ k, P k → validKey k = true)

include H V in
theorem agree_point (d k v : Val) (hd : DictKeys P d) (hk : P k) :
    DictOps.index h1 d k = DictOps.index h2 d k ∧
    DictOps.safeIndex h1 d k = DictOps.safeIndex h2 d k ∧
    DictOps.isIn h1 k d = DictOps.isIn h2 k d ∧
    DictOps.setIndex h1 d k v = DictOps.setIndex h2 d k v ∧
    DictOps.addKey h1 d k = DictOps.addKey h2 d k ∧
    DictOps.delKey h1 d k = DictOps.delKey h2 d k ∧
    DictOps.remove h1 d k = DictOps.remove h2 d k := by
  cases d with
  | dict kvs dflt =>
    have hkv : ∀ e ∈ kvs, P e.1 := hd
    simp only [DictOps.index, DictOps.safeIndex, DictOps.isIn, DictOps.setIndex, DictOps.addKey, DictOps.delKey,
      DictOps.remove, DictOps.toKey, V k hk, if_true, Out.bind, Out.map,
      lookup_congr H kvs k hkv hk, contains_congr_hit H kvs k hkv hk, insert_congr H kvs k _ hkv hk,
      erase_congr H kvs k hkv hk, and_self]
  | _ => exact ⟨rfl, rfl, rfl, rfl, rfl, rfl, rfl⟩

include H in
theorem agree_binary (a b : Val) (ha : DictKeys P a) (hb : DictKeys P b) :
    DictOps.union h1 a b = DictOps.union h2 a b ∧
    DictOps.inter h1 a b = DictOps.inter h2 a b ∧
    DictOps.diff h1 a b = DictOps.diff h2 a b := by
  cases a with
  | dict x dx =>
    cases b with
    | dict y dy =>
      have hx : ∀ e ∈ x, P e.1 := ha
      have hy : ∀ e ∈ y, P e.1 := hb
      have keep := filter_congr H x y true hx hy
      have drop := filter_congr H x y false hx hy
      simp only [beq_true, beq_false] at keep drop
      simp only [DictOps.union, DictOps.inter, DictOps.diff]
      rw [insertAll_congr H x y hx hy, keep, drop]
      exact ⟨rfl, rfl, rfl⟩
    | _ => exact ⟨rfl, rfl, rfl⟩
  | _ => exact ⟨rfl, rfl, rfl⟩

include H in
theorem agree_builders (xs : List Val) (ps : Entries) (dflt : Option Val)
    (hx : ∀ x ∈ xs, P x) (hp : ∀ e ∈ ps, P e.1) :
    DictOps.literal h1 dflt ps = DictOps.literal h2 dflt ps ∧
    DictOps.mkSet h1 xs = DictOps.mkSet h2 xs ∧
    DictOps.unique h1 xs = DictOps.unique h2 xs ∧
    DictOps.frequencies h1 xs = DictOps.frequencies h2 xs ∧
    DictOps.countDistinct h1 xs = DictOps.countDistinct h2 xs ∧
    DictOps.classify h1 xs = DictOps.classify h2 xs ∧
    DictOps.groupAll h1 xs = DictOps.groupAll h2 xs ∧
    DictOps.memoize h1 xs = DictOps.memoize h2 xs := by
  have hnil : ∀ e ∈ ([] : Entries), P e.1 := by intro e he; cases he
  have hxs : ∀ e ∈ xs.map (fun x => (x, Val.null)), P e.1 := by
    intro e he
    obtain ⟨x, hx', rfl⟩ := List.mem_map.mp he
    exact hx x hx'
  refine ⟨?_, ?_, ?_, ?_, ?_, ?_, ?_, ?_⟩
  · simp only [DictOps.literal, insertAll_congr H [] ps hnil hp]
  · simp only [DictOps.mkSet, insertAll_congr H [] _ hnil hxs]
  · simp only [DictOps.unique, uniqueLoop_congr H xs [] hnil hx]
  · simp only [DictOps.frequencies, freqLoop_congr H xs [] hnil hx]
  · simp only [DictOps.countDistinct, uniqueLoop_congr H xs [] hnil hx]
  · simp only [DictOps.classify, groupLoop_congr H xs [] hnil hx]
  · simp only [DictOps.groupAll, groupLoop_congr H xs [] hnil hx]
  · simp only [DictOps.memoize, memoLoop_congr H xs [] hnil hx]

include H V in
theorem agree_update (a b d k v : Val) (f : String) (ha : DictKeys P a) (hb : DictKeys P b) (hd : DictKeys P d)
    (hk : P k) :
    DictOps.unionAdd h1 a b = DictOps.unionAdd h2 a b ∧
    DictOps.opAssign h1 d k f v = DictOps.opAssign h2 d k f v ∧
    DictOps.insertPair h1 d (.list [k, v]) = DictOps.insertPair h2 d (.list [k, v]) := by
  refine ⟨?_, ?_, (agree_point H V d k v hd hk).2.2.2.1⟩
  · cases a with
    | dict x dx =>
      cases b with
      | dict y dy => simp only [DictOps.unionAdd]; rw [unionAddLoop_congr H y x ha hb]
      | _ => rfl
    | _ => rfl
  · have hidx := (agree_point H V d k v hd hk).1
    cases d with
    | dict kvs dflt =>
      have hkv : ∀ e ∈ kvs, P e.1 := hd
      simp only [DictOps.opAssign, hidx, insert_congr H kvs k .null hkv hk]
      cases DictOps.index h2 (.dict kvs dflt) k with
      | ok lhs =>
        simp only
        cases combine f lhs v with
        | ok c =>
          simp only
          rw [insert_congr H _ k c (insert_keys h2 kvs k .null hkv hk) hk]
        | throw => rfl
        | panic => rfl
      | throw => rfl
      | panic => rfl
    | _ => rfl

include H V in
theorem agree_rhsEval (d k2 : Val) (form : String) (hd : DictKeys P d) (hk2 : P k2) :
    DictOps.rhsEval h1 d form k2 = DictOps.rhsEval h2 d form k2 := by
  have h := agree_point H V d k2 .null hd hk2
  unfold DictOps.rhsEval
  split
  · exact h.1
  · exact h.2.1
  · rfl
  · rfl
  · exact h.2.2.1
  · rfl

include H V in
theorem agree_opAssignRhs (d k k2 : Val) (f form : String) (hd : DictKeys P d) (hk : P k) (hk2 : P k2) :
    DictOps.opAssignRhs h1 d k f form k2 = DictOps.opAssignRhs h2 d k f form k2 := by
  unfold DictOps.opAssignRhs
  rw [(agree_point H V d k .null hd hk).1, agree_rhsEval H V d k2 form hd hk2]
  cases DictOps.index h2 d k with
  | ok lhs =>
    simp only
    cases DictOps.rhsEval h2 d form k2 with
    | ok v => exact (agree_update H V d d d k v f hd hd hd hk).2.1
    | throw => rfl
    | panic => rfl
  | throw => rfl
  | panic => rfl

include H in
theorem agree_memoizeCalls (calls : List (List Val)) (h : ∀ args ∈ calls, P (.list args)) :
    DictOps.memoizeCalls h1 calls = DictOps.memoizeCalls h2 calls := by
  simp only [DictOps.memoizeCalls, memoCallsLoop_congr H calls [] (fun e he => nomatch he) h]

end Agree

/-! ## the dict arm of the hash does not depend on the iteration order of the `HashMap` -/

theorem foldl_add_mod (g : Nat → Nat) (M : Nat) (hM : 0 < M) (l : List Nat) (a : Nat) (ha : a < M) :
    l.foldl (fun acc f => (acc + g f) % M) a = (a + (l.map g).sum) % M := by
  induction l generalizing a with
  | nil => simp [Nat.mod_eq_of_lt ha]
  | cons x xs ih =>
    simp only [List.foldl_cons, List.map_cons, List.sum_cons]
    rw [ih _ (Nat.mod_lt _ hM), Nat.mod_add_mod, Nat.add_assoc]

theorem entryHashes_eq_map (kvs : Entries) :
    entryHashes kvs = kvs.map fun e => sipFinish (writes e.1 ++ writes e.2) := by
  induction kvs with
  | nil => rfl
  | cons e kvs ih => obtain ⟨k, v⟩ := e; simp [entryHashes, ih]

/-- **dict_hash_order_independent**: the writes of a dictionary key are invariant under any
permutation of its entries (commutativity of the wrapping sums), whatever SipHash is -/
theorem dict_hash_order_independent (kvs kvs' : Entries) (d d' : Option Val) (h : kvs.Perm kvs') :
    writes (.dict kvs d) = writes (.dict kvs' d') := by
  have hp : (entryHashes kvs).Perm (entryHashes kvs') := by
    rw [entryHashes_eq_map, entryHashes_eq_map]; exact h.map _
  simp only [writes]
  have hM : 0 < U64 := by decide
  have e1 := foldl_add_mod (fun f => f) U64 hM (entryHashes kvs) 0 hM
  have e2 := foldl_add_mod (fun f => f) U64 hM (entryHashes kvs') 0 hM
  have e3 := foldl_add_mod (fun f => (f * f) % U64) U64 hM (entryHashes kvs) 0 hM
  have e4 := foldl_add_mod (fun f => (f * f) % U64) U64 hM (entryHashes kvs') 0 hM
  simp only [List.map_id'] at e1 e2
  rw [e1, e2, e3, e4, hp.sum_nat, (hp.map _).sum_nat]

/-! ## the hash at the pinned commit (finding F6), refuted -/

/-- `NNum::total_hash` as it was before the `fix:` commit: rationals as raw numerator /
denominator `BigInt`s, complex numbers as two float hashes, non-integral floats by their bits -/
def totalHashOld : NNum → List HWrite
  | .int a => hashNInt a
  | .rat q => hashBigInt q.num ++ (if q.den = 1 then [] else hashBigInt (q.den : Int))
  | .float f => match toNIntIfInt f with
    | some s => hashNInt s
    | none => [.u64 0]      -- stands for `f.to_bits().hash`: never an integer / fraction hash
  | .complex re im => (match toNIntIfInt re with
      | some s => hashNInt s
      | none => [.u64 0]) ++ (match toNIntIfInt im with
      | some s => hashNInt s
      | none => [.u64 0])

/-- `2/2 == 1`, `1+0i == 1`, `1/2 == 0.5` but the old hashes differ: the three lookups of F6 -/
theorem old_hash_inconsistent :
    (NNum.totalEq (.rat 1) (.int (.small 1)) = true ∧ totalHashOld (.rat 1) ≠ totalHashOld (.int (.small 1))) ∧
    (NNum.totalEq (.complex (.fin 1 0) (.fin 0 0)) (.int (.small 1)) = true ∧
      totalHashOld (.complex (.fin 1 0) (.fin 0 0)) ≠ totalHashOld (.int (.small 1))) ∧
    (NNum.totalEq (.rat (1/2)) (.float (.fin 1 (-1))) = true ∧
      totalHashOld (.rat (1/2)) ≠ totalHashOld (.float (.fin 1 (-1)))) := by
  decide +kernel

/-! ## non-vacuity -/
example : KeyOK (.list [.num (.rat (1/2)), .vec [.float (.fin 1 (-1))], .str [97]]) := by
  simp [KeyOK, KeyOKList, NNum.WF]
example : keyHit (.list [.num (.rat 1)]) (.list [.num (.complex (.fin 1 0) .nzero)]) = true := by decide +kernel
example : keyHit (.num (.float .nan)) (.num (.complex (.fin 1 0) .nan)) = true := by decide +kernel
example : keyHit (.num (.int (.big (2^64)))) (.num (.float (.fin 1 64))) = true := by decide +kernel
example : keyHit (.num (.float (.fin 0 0))) (.num (.float .nzero)) = true := by decide +kernel
example : keyHit (.num (.int (.small 1))) (.num (.int (.small 2))) = false := by decide +kernel
example : DictOps.index keyHit (.dict [(.num (.int (.small 1)), .str [97])] none) (.num (.rat 1)) = .ok (.str [97]) → True :=
  fun _ => trivial

end Noulith.C09
