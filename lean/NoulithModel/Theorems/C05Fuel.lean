/-
C05 — fuel monotonicity of the core evaluator (Impl/CoreEval.lean).

The evaluator is a `mutual` block of eleven functions, structurally recursive on `fuel`; `Res.fuelOut`
means "not enough fuel".  Here: once a call does not run out of fuel, more fuel gives the SAME result
(value, state, accumulator), for all eleven functions simultaneously.  Consequently every statement about
`eval` that excludes `fuelOut` is independent of the fuel, and `runProgram` is deterministic across
fuels.

`Mono n m` is one half of `Runs n m` (Theorems/C05RelSound.lean), the induction on the fuel that also names the
derivation of every outcome: the two runs take the same path through each arm, and that induction follows it once.
So this fact about the evaluator alone is proved through a statement that mentions the rules (`BigStep`); they are
carried along and play no part in it.
-/
import NoulithModel.Theorems.C05RelSound

namespace Noulith.C05Fuel
open Noulith Noulith.Core

/-- "the eleven functions at fuel `m` refine fuel `n`": equal results, or fuel `n` ran out.  Each field
is stated with the fuel-`n` result named (`∃ x, … = x ∧ …`); `Mono.resolve` reads it. -/
structure Mono (n m : Nat) : Prop where
  ev : ∀ st env e, ∃ x, eval n st env e = x ∧ (eval m st env e = x ∨ x.1 = .fuelOut)
  evSeq : ∀ st env es, ∃ x, evalSeq n st env es = x ∧ (evalSeq m st env es = x ∨ x.1 = .fuelOut)
  evList : ∀ st env es, ∃ x, evalList n st env es = x ∧ (evalList m st env es = x ∨ x.1 = .stop .fuelOut)
  evInto : ∀ st env o, ∃ x, evalInto n st env o = x ∧ (evalInto m st env o = x ∨ x.1 = .inr .fuelOut)
  evWhile : ∀ st env c b, ∃ x, evalWhile n st env c b = x ∧ (evalWhile m st env c b = x ∨ x.1 = .fuelOut)
  evFor : ∀ st env its body acc, ∃ x, evalFor n st env its body acc = x ∧
      (evalFor m st env its body acc = x ∨ x.1 = .fuelOut)
  fItems : ∀ st env p items its body acc, ∃ x, forItems n st env p items its body acc = x ∧
      (forItems m st env p items its body acc = x ∨ x.1 = .fuelOut)
  fBody : ∀ st env body acc, ∃ x, forBody n st env body acc = x ∧
      (forBody m st env body acc = x ∨ x.1 = .fuelOut)
  finDict : ∀ st env post d done, ∃ x, finishDict n st env post d done = x ∧
      (finishDict m st env post d done = x ∨ x.1 = .fuelOut)
  call : ∀ st env f args, ∃ x, callVal n st env f args = x ∧ (callVal m st env f args = x ∨ x.1 = .fuelOut)
  evSwitch : ∀ st env v arms, ∃ x, evalSwitch n st env v arms = x ∧
      (evalSwitch m st env v arms = x ∨ x.1 = .fuelOut)

theorem Mono.resolve {ρ σ : Type} {out : ρ} {a b : ρ × σ} (h : ∃ x, a = x ∧ (b = x ∨ x.1 = out))
    (hn : a.1 ≠ out) : b = a := by
  obtain ⟨x, rfl, hs⟩ := h
  exact hs.resolve_right hn

theorem mono_le {n m : Nat} (h : n ≤ m) : Mono n m :=
  have R := runs_le h
  { ev := fun _ _ _ => ⟨_, rfl, (R.ev ..).same⟩, evSeq := fun _ _ _ => ⟨_, rfl, (R.sq ..).same⟩,
    evList := fun _ _ _ => ⟨_, rfl, (R.ls ..).same⟩, evInto := fun _ _ _ => ⟨_, rfl, (R.into ..).same⟩,
    evWhile := fun _ _ _ _ => ⟨_, rfl, (R.wh ..).same⟩, evFor := fun _ _ _ _ _ => ⟨_, rfl, (R.fr ..).same⟩,
    fItems := fun _ _ _ _ _ _ _ => ⟨_, rfl, (R.items ..).same⟩, fBody := fun _ _ _ _ => ⟨_, rfl, (R.body ..).same⟩,
    finDict := fun _ _ _ _ _ => ⟨_, rfl, (R.fin ..).same⟩, call := fun _ _ _ _ => ⟨_, rfl, (R.call ..).same⟩,
    evSwitch := fun _ _ _ _ => ⟨_, rfl, (R.sw ..).same⟩ }

/-- all eleven at once: one more unit of fuel changes nothing unless the fuel ran out -/
theorem fuel_mono_all (n : Nat) :
    (∀ st env e, (eval n st env e).1 ≠ .fuelOut → eval (n + 1) st env e = eval n st env e) ∧
    (∀ st env es, (evalSeq n st env es).1 ≠ .fuelOut → evalSeq (n + 1) st env es = evalSeq n st env es) ∧
    (∀ st env es, (evalList n st env es).1 ≠ .stop .fuelOut → evalList (n + 1) st env es = evalList n st env es) ∧
    (∀ st env o, (evalInto n st env o).1 ≠ .inr .fuelOut → evalInto (n + 1) st env o = evalInto n st env o) ∧
    (∀ st env c b, (evalWhile n st env c b).1 ≠ .fuelOut → evalWhile (n + 1) st env c b = evalWhile n st env c b) ∧
    (∀ st env its body acc, (evalFor n st env its body acc).1 ≠ .fuelOut →
      evalFor (n + 1) st env its body acc = evalFor n st env its body acc) ∧
    (∀ st env p items its body acc, (forItems n st env p items its body acc).1 ≠ .fuelOut →
      forItems (n + 1) st env p items its body acc = forItems n st env p items its body acc) ∧
    (∀ st env body acc, (forBody n st env body acc).1 ≠ .fuelOut →
      forBody (n + 1) st env body acc = forBody n st env body acc) ∧
    (∀ st env post d done, (finishDict n st env post d done).1 ≠ .fuelOut →
      finishDict (n + 1) st env post d done = finishDict n st env post d done) ∧
    (∀ st env f args, (callVal n st env f args).1 ≠ .fuelOut →
      callVal (n + 1) st env f args = callVal n st env f args) ∧
    (∀ st env v arms, (evalSwitch n st env v arms).1 ≠ .fuelOut →
      evalSwitch (n + 1) st env v arms = evalSwitch n st env v arms) :=
  have M := mono_le (Nat.le_succ n)
  ⟨fun st env e => Mono.resolve (M.ev st env e), fun st env es => Mono.resolve (M.evSeq st env es),
   fun st env es => Mono.resolve (M.evList st env es), fun st env o => Mono.resolve (M.evInto st env o),
   fun st env c b => Mono.resolve (M.evWhile st env c b),
   fun st env its body acc => Mono.resolve (M.evFor st env its body acc),
   fun st env p items its body acc => Mono.resolve (M.fItems st env p items its body acc),
   fun st env body acc => Mono.resolve (M.fBody st env body acc),
   fun st env post d done => Mono.resolve (M.finDict st env post d done),
   fun st env f args => Mono.resolve (M.call st env f args),
   fun st env v arms => Mono.resolve (M.evSwitch st env v arms)⟩

/-- once `eval` terminates with fuel `n`, every larger fuel gives the same result and the same final state -/
theorem eval_fuel_mono_le {n m : Nat} (st env e) (hnm : n ≤ m) (h : (eval n st env e).1 ≠ .fuelOut) :
    eval m st env e = eval n st env e :=
  Mono.resolve ((mono_le hnm).ev st env e) h

theorem callVal_fuel_mono_le {n m : Nat} (st env f args) (hnm : n ≤ m)
    (h : (callVal n st env f args).1 ≠ .fuelOut) : callVal m st env f args = callVal n st env f args :=
  Mono.resolve ((mono_le hnm).call st env f args) h

/-- two fuels that both suffice give the same answer (result and state) -/
theorem runProgram_deterministic {n m : Nat} (e : Expr)
    (hn : (runProgram n e).1 ≠ .fuelOut) (hm : (runProgram m e).1 ≠ .fuelOut) :
    runProgram n e = runProgram m e := by
  rcases Nat.le_total n m with h | h
  · exact (eval_fuel_mono_le _ _ e h hn).symm
  · exact eval_fuel_mono_le _ _ e h hm

/-- "terminates" is upward closed in the fuel -/
theorem eval_terminates_mono {n m : Nat} (st env e) (hnm : n ≤ m) (h : (eval n st env e).1 ≠ .fuelOut) :
    (eval m st env e).1 ≠ .fuelOut := by
  rw [eval_fuel_mono_le st env e hnm h]; exact h

/-! ## non-vacuity: a program with a loop, a closure call, a `switch` and a `for … yield` terminates with fuel 40
(so the hypotheses above are satisfiable on non-trivial programs), and does run out with fuel 3 -/

/-- Boolean test used to discharge `≠ .fuelOut` hypotheses by kernel evaluation -/
def isFuelOut : Res → Bool
  | .fuelOut => true
  | _ => false

theorem ne_fuelOut_of {r : Res} (h : isFuelOut r = false) : r ≠ .fuelOut := by
  intro hr; subst hr; exact absurd h (by decide)

def sampleProg : Expr :=
  .seq [
    .declare (.ident "i") (.int 0),
    .declare (.ident "f") (.lambda [.mk "a" none false none] (.op "+" (.ident "a") (.int 1))),
    .while_ (.op "<" (.ident "i") (.int 3)) (.assign "i" (.call (.ident "f") [.ident "i"])),
    .for_ [.iter .normal (.ident "x") (.list [.int 1, .int 2])]
      (.yield (.switch_ (.ident "x") [.mk (.lit 1) (.ident "i"), .mk (.ident "y") (.op "*" (.ident "y") (.ident "i"))])
        none)
  ] false

/-- the sample program at fuel 40, evaluated by the kernel once; the examples here and in C05Rel.lean read this -/
theorem sampleProg_runs : (runProgram 40 sampleProg).1 matches .val (.list [.int 3, .int 6]) := by decide +kernel

theorem sampleProg_ends : (runProgram 40 sampleProg).1 ≠ .fuelOut := fun h => by
  have := sampleProg_runs
  rw [h] at this
  cases this

example : (runProgram 40 sampleProg).1 matches .val (.list [.int 3, .int 6]) := sampleProg_runs
example : (runProgram 40 sampleProg).1 ≠ .fuelOut := sampleProg_ends
example : (runProgram 3 sampleProg).1 matches .fuelOut := by decide +kernel
/-- hence, by the theorem and without further computation, fuel 1000 gives the same answer -/
example : runProgram 1000 sampleProg = runProgram 40 sampleProg :=
  eval_fuel_mono_le _ _ _ (by decide) sampleProg_ends

end Noulith.C05Fuel
