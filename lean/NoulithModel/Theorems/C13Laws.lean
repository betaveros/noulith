/-
C13 — laws of the Spec functions of Spec/SeqLibSpec.lean, which say that the one-liners mean what the
documentation says: `sort` is the stable ordered permutation, the `…E` forms collapse to the plain `List`
functions, `unique` keeps first occurrences, classify / frequencies / merge are finite maps (`upsert`), the
enumerations list exactly the documented sets, min / max return the first of several equal extrema
(`pick_first`), early exit as a call count, the pieces of `words`.  A law stated for a Rust loop mostly goes through
its equation in Theorems/C13.lean; the dictionary loops and a few `_ignores_tail` are taken as they are.
-/
import NoulithModel.Theorems.C13
import NoulithModel.Lemmas.PermLex

namespace Noulith.C13
open Noulith Noulith.SeqLib
variable {α β γ κ : Type}

/-! ## sort is the stable ordered permutation -/

/-- `le` is a total preorder on the elements of `xs` (what "comparable elements" means) -/
structure TotalPreorderOn (le : α → α → Bool) (xs : List α) : Prop where
  trans : ∀ a ∈ xs, ∀ b ∈ xs, ∀ c ∈ xs, le a b = true → le b c = true → le a c = true
  total : ∀ a ∈ xs, ∀ b ∈ xs, (le a b || le b a) = true

theorem mergeSort_attach (le : α → α → Bool) (xs : List α) :
    (xs.attach.mergeSort (fun p q => le p.1 q.1)).map Subtype.val = xs.mergeSort le := by
  have := List.map_mergeSort (f := (Subtype.val : {a // a ∈ xs} → α)) (l := xs.attach)
    (r := fun p q => le p.1 q.1) (s := le) (by intros; rfl)
  rw [this, List.attach_map_subtype_val]

/-- For a comparison that is a total preorder on the input, `sort` returns
(1) an ordered list, (2) a permutation of the input, and (3) is stable: every subsequence of the
input that is already in order — in particular any two elements with equal keys, in their input
order — is still a subsequence of the result. -/
theorem sort_stable_perm (le : α → α → Bool) (xs : List α) (h : TotalPreorderOn le xs) :
    List.Pairwise (fun a b => le a b = true) (SeqSpec.sort le xs)
    ∧ (SeqSpec.sort le xs).Perm xs
    ∧ ∀ ys : List α, List.Pairwise (fun a b => le a b = true) ys → ys.Sublist xs → ys.Sublist (SeqSpec.sort le xs) := by
  let le' : {a // a ∈ xs} → {a // a ∈ xs} → Bool := fun p q => le p.1 q.1
  have tr : ∀ a b c, le' a b = true → le' b c = true → le' a c = true :=
    fun a b c => h.trans a.1 a.2 b.1 b.2 c.1 c.2
  have to : ∀ a b, (le' a b || le' b a) = true := fun a b => h.total a.1 a.2 b.1 b.2
  have e := mergeSort_attach le xs
  unfold SeqSpec.sort
  refine ⟨?_, ?_, ?_⟩
  · rw [← e, List.pairwise_map]
    exact List.pairwise_mergeSort tr to xs.attach
  · rw [← e]
    have := (List.mergeSort_perm xs.attach le').map Subtype.val
    rwa [List.attach_map_subtype_val] at this
  · intro ys hp hs
    rw [← List.attach_map_subtype_val xs] at hs
    obtain ⟨ys', hs', rfl⟩ := List.sublist_map_iff.mp hs
    rw [← e]
    apply List.Sublist.map
    apply List.sublist_mergeSort tr to _ hs'
    rwa [List.pairwise_map] at hp

/-- stability in the usual wording: two elements that compare equal keep their input order -/
theorem sort_stable_pair (le : α → α → Bool) (xs : List α) (h : TotalPreorderOn le xs) (a b : α)
    (hab : le a b = true) (hs : [a, b].Sublist xs) : [a, b].Sublist (SeqSpec.sort le xs) :=
  (sort_stable_perm le xs h).2.2 [a, b] (by simp [hab]) hs

/-- non-vacuity: `x % 3` is a total preorder on `[4, 5, 3, 1, 2]`, so 4 stays before 1 (both ≡ 1) -/
theorem mod3_total : TotalPreorderOn (fun a b : Nat => decide (a % 3 ≤ b % 3)) [4, 5, 3, 1, 2] :=
  ⟨by intro a _ b _ c _; simp only [decide_eq_true_eq]; exact Nat.le_trans,
   by intro a _ b _; simp only [Bool.or_eq_true, decide_eq_true_eq]; exact Nat.le_total _ _⟩
example : [4, 1].Sublist (SeqSpec.sort (fun a b : Nat => decide (a % 3 ≤ b % 3)) [4, 5, 3, 1, 2]) :=
  sort_stable_pair _ _ mod3_total 4 1 (by decide) (by decide)

theorem mem_pairs {p : α × α} {xs : List α} (hp : p ∈ SeqSpec.pairs xs) : p.1 ∈ xs ∧ p.2 ∈ xs := by
  induction xs with
  | nil => cases hp
  | cons x r ih =>
    rcases List.mem_append.mp hp with hp | hp
    · obtain ⟨y, hy, rfl⟩ := List.mem_map.mp hp
      simp [hy]
    · simp [ih hp]

/-- the Impl side: when the Noulith comparator is a total preorder on the input (answers for every
pair, consistently in both directions, transitively), `sort` does not raise and returns that
stable ordered permutation -/
theorem sortWith_total (cmp : α → α → Out Ordering) (xs : List α)
    (hok : ∀ a ∈ xs, ∀ b ∈ xs, ∃ o, cmp a b = .ok o) (hsw : SwapConsistent cmp xs) :
    sortWith cmp xs = .ok (SeqSpec.sort (SeqSpec.leOfCmp cmp) xs) := by
  have : (SeqSpec.pairs xs).findSome?
      (fun p => (SeqSpec.failureOf (cmp p.1 p.2)).or (SeqSpec.failureOf (cmp p.2 p.1))) = none :=
    List.findSome?_eq_none_iff.mpr fun p hp => by
      obtain ⟨o1, h1⟩ := hok p.1 (mem_pairs hp).1 p.2 (mem_pairs hp).2
      obtain ⟨o2, h2⟩ := hok p.2 (mem_pairs hp).2 p.1 (mem_pairs hp).1
      simp [h1, h2, SeqSpec.failureOf]
  rw [sortWith_eq cmp xs hsw, SeqSpec.sortE, this]


/-! ## the `…E` specifications collapse to the plain `List` functions for callbacks that never fail -/

theorem mapE_pure (g : α → β) (xs : List α) : SeqSpec.mapE (fun x => .ok (g x)) xs = .ok (xs.map g) := by
  induction xs with
  | nil => rfl
  | cons x xs ih => simp [SeqSpec.mapE, ih]

theorem filterE_pure (p : α → Bool) (neg : Bool) (xs : List α) :
    SeqSpec.filterE (fun x => .ok (p x)) neg xs = .ok (xs.filter fun x => p x != neg) := by
  induction xs with
  | nil => rfl
  | cons x xs ih => simp only [SeqSpec.filterE, ih, SeqSpec.bind_ok, List.filter_cons]

theorem filter_pure (p : α → Bool) (xs : List α) :
    filtered (fun x => .ok (p x)) xs false = .ok (xs.filter p) := by
  rw [filtered_eq, filterE_pure]; simp

theorem reject_pure (p : α → Bool) (xs : List α) :
    filtered (fun x => .ok (p x)) xs true = .ok (xs.filter (fun x => !p x)) := by
  rw [filtered_eq, filterE_pure]; congr 2; funext x; cases p x <;> rfl

theorem takeWhileE_pure (p : α → Bool) (xs : List α) :
    SeqSpec.takeWhileE (fun x => .ok (p x)) xs = .ok (xs.takeWhile p) := by
  induction xs with
  | nil => rfl
  | cons x xs ih => simp only [SeqSpec.takeWhileE, ih, SeqSpec.bind_ok, List.takeWhile_cons]; split <;> rfl

theorem dropWhileE_pure (p : α → Bool) (xs : List α) :
    SeqSpec.dropWhileE (fun x => .ok (p x)) xs = .ok (xs.dropWhile p) := by
  induction xs with
  | nil => rfl
  | cons x xs ih => simp only [SeqSpec.dropWhileE, ih, SeqSpec.bind_ok, List.dropWhile_cons]; split <;> rfl

theorem anyE_pure (p : α → Bool) (xs : List α) : SeqSpec.anyE (fun x => .ok (p x)) xs = .ok (xs.any p) := by
  induction xs with
  | nil => rfl
  | cons x xs ih => simp only [SeqSpec.anyE, ih, SeqSpec.bind_ok, List.any_cons]; cases p x <;> rfl

theorem allE_pure (p : α → Bool) (xs : List α) : SeqSpec.allE (fun x => .ok (p x)) xs = .ok (xs.all p) := by
  induction xs with
  | nil => rfl
  | cons x xs ih => simp only [SeqSpec.allE, ih, SeqSpec.bind_ok, List.all_cons]; cases p x <;> rfl

theorem findE_pure (p : α → Bool) (xs : List α) : SeqSpec.findE (fun x => .ok (p x)) xs = .ok (xs.find? p) := by
  induction xs with
  | nil => rfl
  | cons x xs ih => simp only [SeqSpec.findE, ih, SeqSpec.bind_ok, List.find?_cons]; cases p x <;> rfl

theorem locateE_pure (p : α → Bool) (xs : List α) :
    SeqSpec.locateE (fun x => .ok (p x)) xs = .ok (xs.findIdx? p) := by
  induction xs with
  | nil => rfl
  | cons x xs ih =>
    simp only [SeqSpec.locateE, ih, SeqSpec.bind_ok, List.findIdx?_cons]
    cases p x <;> rfl

theorem countE_pure (p : α → Bool) (xs : List α) :
    SeqSpec.countE (fun x => .ok (p x)) xs = .ok (xs.countP p) := by
  simp [SeqSpec.countE, mapE_pure, List.count, List.countP_map, Function.comp_def]

theorem partitionE_pure (p : α → Bool) (xs : List α) :
    SeqSpec.partitionE (fun x => .ok (p x)) xs = .ok (xs.filter p, xs.filter (fun x => !p x)) := by
  simp [SeqSpec.partitionE, mapE_pure, ← List.map_prod_left_eq_zip, List.filter_map, Function.comp_def]

theorem foldlE_pure (g : β → α → β) (s : β) (xs : List α) :
    SeqSpec.foldlE (fun s x => .ok (g s x)) s xs = .ok (xs.foldl g s) := by
  induction xs generalizing s with
  | nil => rfl
  | cons x xs ih => simp [SeqSpec.foldlE, ih]

theorem scanlE_pure (g : β → α → β) (s : β) (xs : List α) :
    SeqSpec.scanlE (fun s x => .ok (g s x)) s xs = .ok (xs.scanl g s) := by
  induction xs generalizing s with
  | nil => rfl
  | cons x xs ih => simp [SeqSpec.scanlE, ih, List.scanl_cons]

theorem pairwiseE_pure (g : α → α → β) (xs : List α) :
    SeqSpec.pairwiseE (fun a b => .ok (g a b)) xs = .ok (List.zipWith g xs xs.tail) := by
  simp [SeqSpec.pairwiseE, mapE_pure, List.zip_eq_zipWith, List.map_zipWith]

theorem flatMapE_pure (g : α → List β) (xs : List α) :
    SeqSpec.flatMapE (fun x => .ok (g x)) xs = .ok (xs.flatMap g) := by
  simp [SeqSpec.flatMapE, mapE_pure, List.flatMap_def]

/-! ## unique keeps first occurrences, in order -/

theorem uniqueBy_sublist [BEq κ] (key : α → κ) (xs : List α) : (SeqSpec.uniqueBy key xs).Sublist xs := by
  induction xs with
  | nil => exact List.Sublist.slnil
  | cons x xs ih =>
    simp only [SeqSpec.uniqueBy]
    exact List.Sublist.cons_cons x (List.Sublist.trans List.filter_sublist ih)

theorem uniqueBy_distinct [BEq κ] [PartialEquivBEq κ] (key : α → κ) (xs : List α) :
    (SeqSpec.uniqueBy key xs).Pairwise (fun a b => (key a == key b) = false) := by
  induction xs with
  | nil => exact List.Pairwise.nil
  | cons x xs ih =>
    simp only [SeqSpec.uniqueBy, List.pairwise_cons]
    refine ⟨?_, List.Pairwise.sublist List.filter_sublist ih⟩
    intro y hy
    have := (List.mem_filter.mp hy).2
    cases h : key x == key y with
    | false => rfl
    | true => rw [PartialEquivBEq.symm h] at this; cases this

/-- every input element is represented, and by the FIRST element of its class: an element with no
equal-keyed predecessor is kept -/
theorem uniqueBy_first_kept [BEq κ] [PartialEquivBEq κ] (key : α → κ) (pre : List α) (x : α) (post : List α)
    (h : ∀ y ∈ pre, (key x == key y) = false) : x ∈ SeqSpec.uniqueBy key (pre ++ x :: post) := by
  induction pre with
  | nil => simp [SeqSpec.uniqueBy]
  | cons p pre ih =>
    simp only [List.cons_append, SeqSpec.uniqueBy, List.mem_cons, List.mem_filter]
    right
    refine ⟨ih (fun y hy => h y (List.mem_cons_of_mem _ hy)), ?_⟩
    simp [h p (List.mem_cons_self)]

theorem uniqueBy_covers [BEq κ] [EquivBEq κ] (key : α → κ) (xs : List α) (x : α) (hx : x ∈ xs) :
    ∃ y ∈ SeqSpec.uniqueBy key xs, (key y == key x) = true := by
  induction xs with
  | nil => cases hx
  | cons a xs ih =>
    simp only [SeqSpec.uniqueBy]
    rcases List.mem_cons.mp hx with rfl | hx
    · exact ⟨x, List.mem_cons_self, BEq.refl _⟩
    · obtain ⟨y, hy, hyx⟩ := ih hx
      cases hya : key y == key a with
      | true => exact ⟨a, List.mem_cons_self, PartialEquivBEq.trans (PartialEquivBEq.symm hya) hyx⟩
      | false => exact ⟨y, List.mem_cons_of_mem _ (List.mem_filter.mpr ⟨hy, by simp [hya]⟩), hyx⟩


/-! ## classify / group_all / frequencies: the result as a finite map
The entries come out of a `HashMap`, so their order is unspecified; what is specified is the map:
the group stored under `k` is `xs.filter (key · == k)` (input order), and the count is its length. -/

/-- insert-or-update on an association list kept in first-insertion order; the entry loops of
`classify`, `frequencies` and `merge` are instances -/
def upsert [BEq κ] (k : κ) (new : β) (upd : β → β) : List (κ × β) → List (κ × β)
  | [] => [(k, new)]
  | (k', v) :: m => if k' == k then (k', upd v) :: m else (k', v) :: upsert k new upd m

theorem entryPush_eq [BEq κ] (k : κ) (i : α) (m : List (κ × List α)) :
    entryPush k i m = upsert k [i] (· ++ [i]) m := by
  induction m with
  | nil => rfl
  | cons e m ih => simp only [entryPush, upsert, ih]

theorem entryIncr_eq [BEq κ] (k : κ) (m : List (κ × Nat)) : entryIncr k m = upsert k 1 (· + 1) m := by
  induction m with
  | nil => rfl
  | cons e m ih => simp only [entryIncr, upsert, ih]

theorem lookup_upsert [BEq κ] [LawfulBEq κ] (k k' : κ) (new : β) (upd : β → β) (m : List (κ × β)) :
    (upsert k' new upd m).lookup k = if k == k' then some ((m.lookup k).elim new upd) else m.lookup k := by
  induction m with
  | nil => simp only [upsert, List.lookup]; cases k == k' <;> rfl
  | cons e m ih =>
    obtain ⟨k2, v⟩ := e
    by_cases h2 : k2 = k'
    · subst h2
      simp only [upsert, BEq.rfl, if_true, List.lookup]
      cases k == k2 <;> rfl
    · simp only [upsert, beq_false_of_ne h2, Bool.false_eq_true, if_false, List.lookup, ih]
      cases h : k == k2 with
      | false => rfl
      | true => rw [eq_of_beq h, beq_false_of_ne h2]; rfl

theorem upsert_keys [BEq κ] (k : κ) (new : β) (upd : β → β) (m : List (κ × β)) :
    (upsert k new upd m).map (·.1) = if m.any (·.1 == k) then m.map (·.1) else m.map (·.1) ++ [k] := by
  induction m with
  | nil => rfl
  | cons e m ih =>
    simp only [upsert, List.any_cons, List.map_cons]
    cases e.1 == k with
    | true => rfl
    | false => simp only [Bool.false_eq_true, if_false, List.map_cons, Bool.false_or, ih]; split <;> rfl

theorem lookup_foldl_upsert [BEq κ] [LawfulBEq κ] (key : α → κ) (new : α → β) (upd : α → β → β) (k : κ)
    (xs : List α) (m : List (κ × β)) :
    (xs.foldl (fun m x => upsert (key x) (new x) (upd x) m) m).lookup k
      = (xs.filter (key · == k)).foldl (fun o x => some (o.elim (new x) (upd x))) (m.lookup k) := by
  induction xs generalizing m with
  | nil => rfl
  | cons x xs ih =>
    rw [List.foldl_cons, ih, lookup_upsert, List.filter_cons, BEq.comm (a := key x)]
    split <;> rfl

theorem classifiedGo_eq [BEq κ] (key : α → Out κ) (m : List (κ × List α)) (xs : List α) :
    classifiedGo key m xs
      = (SeqSpec.mapE key xs).map fun ks => (xs.zip ks).foldl (fun m p => entryPush p.2 p.1 m) m := by
  induction xs generalizing m with
  | nil => rfl
  | cons x xs ih => cases h : key x <;> simp [classifiedGo, SeqSpec.mapE, h, ih, Function.comp_def]

theorem foldl_push (l : List α) (o : Option (List α)) :
    l.foldl (fun o x => some (o.elim [x] (· ++ [x]))) o = if l.isEmpty then o else some (o.getD [] ++ l) := by
  induction l generalizing o with
  | nil => rfl
  | cons x l ih => cases o <;> simp [ih]

theorem foldl_incr (l : List α) (o : Option Nat) :
    l.foldl (fun o _ => some (o.elim 1 (· + 1))) o = if l.isEmpty then o else some (o.getD 0 + l.length) := by
  induction l generalizing o with
  | nil => rfl
  | cons x l ih => cases o <;> cases l <;> simp [ih] <;> omega

/-- **classify / group_all as a finite map**: for a key function that never fails, the entry under
`k` is exactly the elements with key `k`, in input order (absent iff there is none) -/
theorem classified_lookup [BEq κ] [LawfulBEq κ] (key : α → κ) (xs : List α) (k : κ) :
    ∃ m, classifiedWith (fun x => .ok (key x)) xs = .ok m
      ∧ m.lookup k = (if (xs.filter (key · == k)).isEmpty then none else some (xs.filter (key · == k))) := by
  refine ⟨xs.foldl (fun m x => upsert (key x) [x] (· ++ [x]) m) [], ?_, ?_⟩
  · simp [classifiedWith, classifiedGo_eq, mapE_pure, ← List.map_prod_left_eq_zip, List.foldl_map, entryPush_eq]
  · rw [lookup_foldl_upsert, foldl_push]; rfl

theorem frequenciesGo_pure [BEq κ] (key : α → κ) (c : List (κ × Nat)) (xs : List α) :
    frequenciesGo (fun x => .ok (key x)) c xs = .ok (xs.foldl (fun c x => entryIncr (key x) c) c) := by
  induction xs generalizing c with
  | nil => rfl
  | cons x xs ih => simp [frequenciesGo, ih]

theorem frequencies_lookup [BEq κ] [LawfulBEq κ] (key : α → κ) (xs : List α) (k : κ) :
    ∃ m, frequencies (fun x => .ok (key x)) xs = .ok m
      ∧ m.lookup k = (if (xs.filter (key · == k)).isEmpty then none else some (xs.filter (key · == k)).length) := by
  refine ⟨xs.foldl (fun c x => upsert (key x) 1 (· + 1) c) [], ?_, ?_⟩
  · simp [frequencies, frequenciesGo_pure, entryIncr_eq]
  · rw [lookup_foldl_upsert (new := fun _ => 1) (upd := fun _ => (· + 1)), foldl_incr]
    simp [List.lookup]

theorem lookup_map_graph [BEq κ] [LawfulBEq κ] (f : κ → β) (k : κ) (l : List κ) :
    (l.map fun a => (a, f a)).lookup k = if k ∈ l then some (f k) else none := by
  induction l with
  | nil => rfl
  | cons a l ih =>
    simp only [List.map_cons, List.lookup, ih, List.mem_cons]
    cases h : k == a with
    | true => simp [eq_of_beq h]
    | false => simp [ne_of_beq_false h]

theorem mem_uniqueBy_id [BEq κ] [LawfulBEq κ] (k : κ) (ks : List κ) : k ∈ SeqSpec.uniqueBy id ks ↔ k ∈ ks := by
  induction ks with
  | nil => rfl
  | cons a ks ih =>
    by_cases h : k = a <;> simp [SeqSpec.uniqueBy, List.mem_filter, ih, h]

/-- the Spec's `groupAll` denotes the same finite map -/
theorem groupAll_lookup [BEq κ] [LawfulBEq κ] (key : α → κ) (xs : List α) (k : κ) :
    (SeqSpec.groupAll key xs).lookup k
      = (if (xs.filter (key · == k)).isEmpty then none else some (xs.filter (key · == k))) := by
  have hk : k ∈ xs.map key ↔ (xs.filter (key · == k)).isEmpty = false := by
    simp [List.filter_eq_nil_iff]
  simp only [SeqSpec.groupAll, lookup_map_graph, mem_uniqueBy_id, hk]
  cases (xs.filter (key · == k)).isEmpty <;> rfl


theorem frequenciesSpec_eq [BEq κ] (key : α → κ) (xs : List α) :
    SeqSpec.frequencies key xs = (SeqSpec.groupAll key xs).map fun e => (e.1, e.2.length) := by
  simp [SeqSpec.frequencies, SeqSpec.groupAll, List.map_map, Function.comp_def]

/-! ## the combinatorial enumerations: exactly the documented sets -/

theorem subsequences_mem (xs l : List α) : l ∈ SeqSpec.subsequences xs ↔ l.Sublist xs := by
  induction xs generalizing l with
  | nil => simp [SeqSpec.subsequences]
  | cons x xs ih =>
    simp only [SeqSpec.subsequences, List.mem_append, List.mem_map, ih, List.sublist_cons_iff]
    exact or_congr_right (exists_congr fun r => by rw [and_comm, eq_comm])

theorem subsequences_length (xs : List α) : (SeqSpec.subsequences xs).length = 2 ^ xs.length := by
  induction xs with
  | nil => rfl
  | cons x xs ih => simp [SeqSpec.subsequences, ih, Nat.pow_succ]; omega

theorem subsequences_nodup (xs : List α) (h : xs.Nodup) : (SeqSpec.subsequences xs).Nodup := by
  induction xs with
  | nil => simp [SeqSpec.subsequences]
  | cons x xs ih =>
    have hx : x ∉ xs := (List.nodup_cons.mp h).1
    have hxs := ih (List.nodup_cons.mp h).2
    simp only [SeqSpec.subsequences]
    rw [List.nodup_append]
    refine ⟨hxs, ?_, ?_⟩
    · exact List.Pairwise.map _ (fun a b hab h => hab (by injection h)) hxs
    · intro a ha b hb hab
      subst hab
      obtain ⟨r, _, rfl⟩ := List.mem_map.mp hb
      have := (subsequences_mem xs (x :: r)).mp ha
      exact hx (this.subset List.mem_cons_self)

theorem product_mem (seqs : List (List α)) (l : List α) :
    l ∈ SeqSpec.product seqs ↔ l.length = seqs.length ∧ ∀ p ∈ l.zip seqs, p.1 ∈ p.2 := by
  induction seqs generalizing l with
  | nil => cases l <;> simp [SeqSpec.product]
  | cons s rest ih =>
    simp only [SeqSpec.product, List.mem_flatMap, List.mem_map, ih]
    constructor
    · rintro ⟨x, hx, t, ⟨hl, hall⟩, rfl⟩
      refine ⟨by simp [hl], ?_⟩
      intro p hp
      simp only [List.zip_cons_cons, List.mem_cons] at hp
      rcases hp with rfl | hp
      · exact hx
      · exact hall p hp
    · rintro ⟨hl, hall⟩
      cases l with
      | nil => simp at hl
      | cons a l =>
        refine ⟨a, hall (a, s) (by simp), l, ⟨by simpa using hl, ?_⟩, rfl⟩
        intro p hp
        exact hall p (by simp [hp])

theorem length_flatMap_const (l : List α) (f : α → List β) (c : Nat) (h : ∀ x ∈ l, (f x).length = c) :
    (l.flatMap f).length = l.length * c := by
  induction l with
  | nil => simp
  | cons x l ih =>
    rw [List.flatMap_cons, List.length_append, h x List.mem_cons_self,
      ih fun y hy => h y (List.mem_cons_of_mem _ hy), List.length_cons, Nat.succ_mul, Nat.add_comm]

theorem product_length (seqs : List (List α)) :
    (SeqSpec.product seqs).length = (seqs.map List.length).foldr (· * ·) 1 := by
  induction seqs with
  | nil => rfl
  | cons s rest ih =>
    rw [SeqSpec.product, length_flatMap_const _ _ _ fun x _ => List.length_map _, ih]
    rfl

/-! `xs ^^ n`: exactly the length-`n` tuples over `xs`; there are `|xs| ^ n` of them; in particular
`xs ^^ 0 = [[]]` for every `xs`, the empty one included (F21) -/

theorem power_succ (xs : List α) (n : Nat) :
    SeqSpec.power xs (n + 1) = xs.flatMap fun x => (SeqSpec.power xs n).map (x :: ·) := rfl

theorem power_mem (xs : List α) (n : Nat) (l : List α) :
    l ∈ SeqSpec.power xs n ↔ l.length = n ∧ ∀ a ∈ l, a ∈ xs := by
  rw [SeqSpec.power, product_mem, List.length_replicate]
  refine and_congr_right fun hl => ?_
  subst hl
  rw [← List.map_const', ← List.map_prod_left_eq_zip]
  simp

theorem power_length (xs : List α) (n : Nat) : (SeqSpec.power xs n).length = xs.length ^ n := by
  induction n with
  | zero => rfl
  | succ n ih =>
    rw [power_succ, length_flatMap_const _ _ _ fun x _ => List.length_map _, ih, Nat.pow_succ, Nat.mul_comm]

theorem power_zero (xs : List α) : SeqSpec.power xs 0 = [[]] := rfl

theorem combinations_mem (xs : List α) (k : Nat) (l : List α) :
    l ∈ SeqSpec.combinations xs k ↔ l.Sublist xs ∧ l.length = k := by
  induction xs generalizing k l with
  | nil =>
    cases k with
    | zero => simp [SeqSpec.combinations]
    | succ k => simp [SeqSpec.combinations]; intro h; subst h; simp
  | cons x xs ih =>
    cases k with
    | zero =>
      simp only [SeqSpec.combinations, List.mem_singleton]
      constructor
      · rintro rfl; simp
      · rintro ⟨_, h⟩; exact List.length_eq_zero_iff.mp h
    | succ k =>
      simp only [SeqSpec.combinations, List.mem_append, List.mem_map, ih, List.sublist_cons_iff]
      constructor
      · rintro (⟨r, ⟨hr, hl⟩, rfl⟩ | ⟨h, hl⟩)
        · exact ⟨Or.inr ⟨r, rfl, hr⟩, by simp [hl]⟩
        · exact ⟨Or.inl h, hl⟩
      · rintro ⟨h | ⟨r, rfl, hr⟩, hl⟩
        · exact Or.inr ⟨h, hl⟩
        · exact Or.inl ⟨r, ⟨hr, by simpa using hl⟩, rfl⟩

theorem combinations_map (f : α → β) (xs : List α) (k : Nat) :
    SeqSpec.combinations (xs.map f) k = (SeqSpec.combinations xs k).map (List.map f) := by
  induction xs generalizing k with
  | nil => cases k <;> rfl
  | cons x xs ih =>
    cases k with
    | zero => rfl
    | succ k => simp [SeqSpec.combinations, ih, List.map_map, Function.comp_def]

theorem combinations_length_le (xs : List α) (k : Nat) : (SeqSpec.combinations xs k).length ≤ 2 ^ xs.length := by
  induction xs generalizing k with
  | nil => cases k <;> simp [SeqSpec.combinations]
  | cons x xs ih =>
    cases k with
    | zero => simp [SeqSpec.combinations]; exact Nat.one_le_two_pow
    | succ k =>
      simp only [SeqSpec.combinations, List.length_append, List.length_map, List.length_cons, Nat.pow_succ]
      have := ih k; have := ih (k + 1); omega

/-! `permutations`: every entry is a permutation of the input (there are `n!` of them: `permsN_length`) -/

theorem picks_bridge (l : List α) : SeqSpec.picks l = PermLex.picks l := by
  induction l with
  | nil => rfl
  | cons x xs ih => simp [SeqSpec.picks, PermLex.picks, ih]

theorem permsN_bridge (n : Nat) (l : List α) : SeqSpec.permsN n l = PermLex.permsN n l := by
  induction n generalizing l with
  | zero => rfl
  | succ n ih => simp [SeqSpec.permsN, PermLex.permsN, picks_bridge, ih]

theorem permutations_perm (xs l : List α) (h : l ∈ SeqSpec.permutations xs) : l.Perm xs :=
  PermLex.permsN_perm xs.length xs rfl l (permsN_bridge _ xs ▸ h)

theorem picks_len (l : List α) : (SeqSpec.picks l).length = l.length := by
  induction l with
  | nil => rfl
  | cons x xs ih => simp [SeqSpec.picks, ih]

theorem permsN_length (n : Nat) (l : List α) (h : l.length = n) :
    (SeqSpec.permsN n l).length = factorial n := by
  induction n generalizing l with
  | zero => rfl
  | succ n ih =>
    rw [SeqSpec.permsN, length_flatMap_const _ _ (factorial n) fun p hp => by
      rw [List.length_map, ih p.2 (by have := PermLex.picks_length l p (picks_bridge l ▸ hp); omega)], picks_len, h]
    rfl

theorem permutations_nil : SeqSpec.permutations ([] : List α) = [[]] := rfl


/-! ## merge as a finite map
`merge(d1, d2, …[, f])`: under each key, the values the dictionaries hold for it, left to right,
combined with `f` (without `f`: the last one wins).  The entry order comes out of a `HashMap`. -/

/-- the combining step of `merge` for a callback that never fails (`none` = overwrite) -/
def mergeOp (g : Option (β → β → β)) (old v : β) : β :=
  match g with
  | none => v
  | some g => g old v

def liftOp (g : Option (β → β → β)) : Option (β → β → Out β) := g.map fun g a b => .ok (g a b)

def foldVals (g : Option (β → β → β)) (cur : Option β) (v : Option β) : Option β :=
  match v with
  | none => cur
  | some v => some (match cur with
                    | some old => mergeOp g old v
                    | none => v)

theorem mergeEntry_upsert [BEq κ] (f : Option (β → β → Out β)) (k : κ) (v : β) (m m' : List (κ × β))
    (h : mergeEntry f k v m = .ok m') : ∃ upd, m' = upsert k v upd m := by
  induction m generalizing m' with
  | nil => cases h; exact ⟨id, rfl⟩
  | cons e m ih =>
    simp only [mergeEntry] at h
    cases hk : e.1 == k <;> simp only [hk, if_true, Bool.false_eq_true, if_false] at h
    · cases hm : mergeEntry f k v m <;> rw [hm] at h <;> cases h
      obtain ⟨upd, rfl⟩ := ih _ hm
      exact ⟨upd, by simp only [upsert, hk, Bool.false_eq_true, if_false]⟩
    · cases f with
      | none => cases h; exact ⟨fun _ => v, by simp only [upsert, hk, if_true]⟩
      | some f =>
        simp only at h
        cases hf : f e.2 v <;> rw [hf] at h <;> cases h
        rename_i r
        exact ⟨fun _ => r, by simp only [upsert, hk, if_true]⟩

theorem mergeEntry_pure [BEq κ] (g : Option (β → β → β)) (k : κ) (v : β) (m : List (κ × β)) :
    mergeEntry (liftOp g) k v m = .ok (upsert k v (mergeOp g · v) m) := by
  induction m with
  | nil => rfl
  | cons e m ih =>
    simp only [mergeEntry, upsert, ih]
    split
    · cases g <;> rfl
    · rfl

theorem mergeDict_pure [BEq κ] (g : Option (β → β → β)) (ret d : List (κ × β)) :
    mergeDict (liftOp g) ret d = .ok (d.foldl (fun m e => upsert e.1 e.2 (mergeOp g · e.2) m) ret) := by
  induction d generalizing ret with
  | nil => rfl
  | cons e d ih => simp only [mergeDict, mergeEntry_pure, ih, List.foldl_cons]

theorem mergeAll_pure [BEq κ] (g : Option (β → β → β)) (ret : List (κ × β)) (ds : List (List (κ × β))) :
    mergeAll (liftOp g) ret ds
      = .ok (ds.foldl (fun m d => d.foldl (fun m e => upsert e.1 e.2 (mergeOp g · e.2) m) m) ret) := by
  induction ds generalizing ret with
  | nil => rfl
  | cons d ds ih => simp only [mergeAll, mergeDict_pure, ih, List.foldl_cons]

theorem filter_key_eq [BEq κ] [LawfulBEq κ] (k : κ) (d : List (κ × β)) (hd : (d.map (·.1)).Nodup) :
    d.filter (·.1 == k) = (d.lookup k).toList.map (k, ·) := by
  induction d with
  | nil => rfl
  | cons e d ih =>
    obtain ⟨k1, v1⟩ := e
    obtain ⟨hk, hd⟩ := List.nodup_cons.mp hd
    cases h : k1 == k with
    | false => simp only [List.filter_cons, List.lookup, BEq.comm (a := k), h, ih hd]; rfl
    | true =>
      have hnil : d.filter (·.1 == k) = [] :=
        List.filter_eq_nil_iff.mpr fun p hp hpk =>
          hk (eq_of_beq h ▸ (eq_of_beq hpk).symm ▸ List.mem_map_of_mem (f := (·.1)) hp)
      simp only [List.filter_cons, List.lookup, BEq.comm (a := k), h, hnil, if_true]
      rw [← eq_of_beq h]; rfl

/-- **merge as a finite map**: the value under `k` is the fold of the values the dictionaries
hold for `k`, left to right (absent iff no dictionary has `k`) -/
theorem merge_lookup [BEq κ] [LawfulBEq κ] (g : Option (β → β → β)) (ds : List (List (κ × β)))
    (hd : ∀ d ∈ ds, (d.map (·.1)).Nodup) :
    ∃ r, merge (liftOp g) ds = .ok r ∧
      ∀ k, r.lookup k = (ds.map fun d => d.lookup k).foldl (foldVals g) none := by
  refine ⟨_, mergeAll_pure g [] ds, fun k => ?_⟩
  suffices h : ∀ ret : List (κ × β),
      (ds.foldl (fun m d => d.foldl (fun m e => upsert e.1 e.2 (mergeOp g · e.2) m) m) ret).lookup k
        = (ds.map fun d => d.lookup k).foldl (foldVals g) (ret.lookup k) from h []
  induction ds with
  | nil => intro ret; rfl
  | cons d ds ih =>
    intro ret
    rw [List.foldl_cons, ih (fun x hx => hd x (List.mem_cons_of_mem _ hx)), lookup_foldl_upsert,
      filter_key_eq k d (hd d List.mem_cons_self), List.map_cons, List.foldl_cons]
    cases d.lookup k <;> cases ret.lookup k <;> rfl

/-- non-vacuity: `merge({1: 2, 3: 4}, {1: 10, 5: 6}, -)` -/
example : merge (liftOp (some fun a b : Int => a - b)) [[(1, 2), (3, 4)], [(1, 10), (5, 6)]]
    = .ok [((1 : Nat), (-8 : Int)), (3, 4), (5, 6)] := by decide


/-! ## min / max: the FIRST of several equal extrema wins -/

/-- the fold behind `min` / `max` for a comparison that never fails: `b` replaces the current
extremum `r` only if it beats it -/
def pickStep (beats : α → α → Bool) (r b : α) : α := if beats b r then b else r

theorem extremumE_pure (cmp : α → α → Ordering) (bias : Ordering) (x : α) (xs : List α) :
    SeqSpec.extremumE (fun a b => .ok (cmp a b)) bias (x :: xs)
      = .ok (xs.foldl (pickStep fun b r => cmp b r == bias) x) := by
  simp only [SeqSpec.extremumE, SeqSpec.fold1E, SeqSpec.bind_ok]
  have := foldlE_pure (pickStep fun b r => cmp b r == bias) x xs
  simpa [pickStep] using this

/-- the invariant of the fold: everything before the current extremum is beaten by it, nothing
after it (so far) beats it -/
theorem pick_first (beats : α → α → Bool) (L : List α)
    (htr : ∀ a ∈ L, ∀ b ∈ L, ∀ c ∈ L, beats a b = true → beats b c = true → beats a c = true)
    (hneg : ∀ a ∈ L, ∀ b ∈ L, ∀ c ∈ L, beats a b = true → beats c b = false → beats a c = true) :
    ∀ (xs pre : List α) (c : α) (mid : List α), L = pre ++ c :: mid ++ xs →
      (∀ y ∈ pre, beats c y = true) → (∀ y ∈ mid, beats y c = false) →
      ∃ pre' post, L = pre' ++ xs.foldl (pickStep beats) c :: post
        ∧ (∀ y ∈ pre', beats (xs.foldl (pickStep beats) c) y = true)
        ∧ (∀ y ∈ post, beats y (xs.foldl (pickStep beats) c) = false) := by
  intro xs
  induction xs with
  | nil =>
    intro pre c mid hL h1 h2
    exact ⟨pre, mid, by simpa using hL, h1, h2⟩
  | cons b xs ih =>
    intro pre c mid hL h1 h2
    have hc : c ∈ L := by rw [hL]; simp
    have hb : b ∈ L := by rw [hL]; simp
    simp only [List.foldl_cons]
    by_cases hbc : beats b c = true
    · have hstep : pickStep beats c b = b := by simp [pickStep, hbc]
      rw [hstep]
      apply ih (pre ++ c :: mid) b [] (by rw [hL]; simp)
      · intro y hy
        rcases List.mem_append.mp hy with hy | hy
        · exact htr b hb c hc y (by rw [hL]; simp [hy]) hbc (h1 y hy)
        · rcases List.mem_cons.mp hy with rfl | hy
          · exact hbc
          · exact hneg b hb c hc y (by rw [hL]; simp [hy]) hbc (h2 y hy)
      · intro y hy; cases hy
    · have hbc' : beats b c = false := by simpa using hbc
      have hstep : pickStep beats c b = c := by simp [pickStep, hbc']
      rw [hstep]
      apply ih pre c (mid ++ [b]) (by rw [hL]; simp) h1
      intro y hy
      rcases List.mem_append.mp hy with hy | hy
      · exact h2 y hy
      · simp at hy; subst hy; exact hbc'

/-- `max` (and `min`): for a comparison that is a strict weak order on the input
(`beats` transitive and negatively transitive), the result of `min` / `max` — in every call form,
they all run this loop — splits the input as `pre ++ r :: post` where `r` beats every element of
`pre` and no element of `post` beats `r`: of several equal extrema the FIRST one is returned, with
its own representation (`max([1, 1.0]) = 1`, `max([1.0, 1]) = 1.0`) -/
theorem max_first_of_ties (cmp : α → α → Ordering) (bias : Ordering) (xs : List α) (r : α)
    (htr : ∀ a ∈ xs, ∀ b ∈ xs, ∀ c ∈ xs, cmp a b = bias → cmp b c = bias → cmp a c = bias)
    (hneg : ∀ a ∈ xs, ∀ b ∈ xs, ∀ c ∈ xs, cmp a b = bias → cmp c b ≠ bias → cmp a c = bias)
    (h : extremum (fun a b => .ok (cmp a b)) bias xs = .ok r) :
    ∃ pre post, xs = pre ++ r :: post ∧ (∀ y ∈ pre, cmp r y = bias) ∧ (∀ y ∈ post, cmp y r ≠ bias) := by
  rw [extremum_eq] at h
  cases xs with
  | nil => simp [SeqSpec.extremumE, SeqSpec.fold1E] at h
  | cons x xs =>
    rw [extremumE_pure] at h
    injection h with h
    have key := pick_first (fun b r => cmp b r == bias) (x :: xs)
      (by intro a ha b hb c hc h1 h2; simp only [beq_iff_eq] at *; exact htr a ha b hb c hc h1 h2)
      (by intro a ha b hb c hc h1 h2; simp only [beq_iff_eq, beq_eq_false_iff_ne] at *; exact hneg a ha b hb c hc h1 h2)
      xs [] x [] (by simp) (by intro y hy; cases hy) (by intro y hy; cases hy)
    rw [h] at key
    obtain ⟨pre, post, e, h1, h2⟩ := key
    exact ⟨pre, post, e, fun y hy => by simpa using h1 y hy, fun y hy => by simpa using h2 y hy⟩


theorem head_sort_first_min (le : α → α → Bool) (xs : List α) (h : TotalPreorderOn le xs) :
    (SeqSpec.sort le xs).head? = (xs.filter fun y => xs.all fun z => le y z).head? := by
  obtain ⟨hsorted, hperm, hstab⟩ := sort_stable_perm le xs h
  generalize SeqSpec.sort le xs = S at *
  let isMin := fun y => xs.all fun z => le y z
  -- the minimal elements are mutually in order, so they keep their places among themselves; there are
  -- as many of them in the sorted list, so they are exactly its minimal elements, in the same order
  have hys : (xs.filter isMin).Pairwise (fun a b => le a b = true) :=
    List.pairwise_of_forall_mem_list fun a ha b hb =>
      List.all_eq_true.mp (List.mem_filter.mp ha).2 b (List.mem_filter.mp hb).1
  have hM : xs.filter isMin = S.filter isMin :=
    List.Sublist.eq_of_length (by simpa using (hstab _ hys List.filter_sublist).filter isMin)
      (hperm.filter isMin).length_eq.symm
  show S.head? = (xs.filter isMin).head?
  rw [hM]
  cases S with
  | nil => rfl
  | cons hd T =>
    have hmin : isMin hd = true := List.all_eq_true.mpr fun z hz => by
      rcases List.mem_cons.mp (hperm.mem_iff.mpr hz) with rfl | hz'
      · simpa using h.total z hz z hz
      · exact (List.pairwise_cons.mp hsorted).1 z hz'
    rw [List.filter_cons, hmin]
    rfl

theorem head_filter_of_split (p : α → Bool) (pre post : List α) (r : α)
    (hpre : ∀ y ∈ pre, p y = false) (hr : p r = true) : ((pre ++ r :: post).filter p).head? = some r := by
  rw [List.head?_filter, List.find?_eq_some_iff_append]
  exact ⟨hr, pre, post, rfl, fun a ha => by simp [hpre a ha]⟩

/-- **min(xs) = first(sort(xs))**, representation included: for a comparison that is a total
preorder on the input, the fold of `min` returns exactly the head of the stable sort -/
theorem min_eq_head_sort (le : α → α → Bool) (x0 : α) (rest : List α) (h : TotalPreorderOn le (x0 :: rest)) :
    (SeqSpec.sort le (x0 :: rest)).head? = some (rest.foldl (pickStep fun b r => !(le r b)) x0) := by
  rw [head_sort_first_min le _ h]
  have htot : ∀ a ∈ x0 :: rest, ∀ b ∈ x0 :: rest, le a b = false → le b a = true := by
    intro a ha b hb hab
    simpa [hab] using h.total a ha b hb
  -- "strictly below" is transitive and negatively transitive, so the fold returns the first
  -- element that nothing is strictly below
  obtain ⟨pre, post, e, h1, h2⟩ := pick_first (fun b r => !(le r b)) (x0 :: rest)
    (by
      intro a ha b hb c hc hab hbc
      simp only [Bool.not_eq_true'] at *
      exact Bool.eq_false_iff.mpr fun hca => by
        rw [h.trans c hc a ha b hb hca (htot b hb a ha hab)] at hbc; cases hbc)
    (by
      intro a ha b hb c hc hab hcb
      simp only [Bool.not_eq_true', Bool.not_eq_false'] at *
      exact Bool.eq_false_iff.mpr fun hca => by
        rw [h.trans b hb c hc a ha hcb hca] at hab; cases hab)
    rest [] x0 [] (by simp) (by simp) (by simp)
  generalize rest.foldl (pickStep fun b r => !(le r b)) x0 = r at e h1 h2 ⊢
  generalize x0 :: rest = L at *
  subst e
  have hr : r ∈ pre ++ r :: post := by simp
  refine head_filter_of_split _ pre post r (fun y hy => ?_) ?_
  · exact List.all_eq_false.mpr ⟨r, hr, by simpa using h1 y hy⟩
  · rw [List.all_eq_true]
    intro z hz
    rcases List.mem_append.mp hz with hz | hz
    · exact htot z (by simp [hz]) r hr (by simpa using h1 z hz)
    · rcases List.mem_cons.mp hz with rfl | hz
      · simpa using h.total z hr z hr
      · simpa using h2 z hz


/-- the same on the Impl side: with a comparator that answers consistently in both directions and is
a total preorder on the input, `min(xs)` (any call form) is `first(sort(xs))` -/
theorem min_impl_eq_head_sort (cmp : α → α → Ordering) (hsw : ∀ a b, cmp b a = (cmp a b).swap)
    (x0 : α) (rest : List α)
    (h : TotalPreorderOn (SeqSpec.leOfCmp fun a b => .ok (cmp a b)) (x0 :: rest)) :
    (extremum (fun a b => .ok (cmp a b)) .lt (x0 :: rest)).map some
      = .ok (SeqSpec.sort (SeqSpec.leOfCmp fun a b => .ok (cmp a b)) (x0 :: rest)).head? := by
  rw [extremum_eq, extremumE_pure, min_eq_head_sort _ x0 rest h]
  have : (pickStep fun b r => cmp b r == Ordering.lt)
      = (pickStep fun b r => !(SeqSpec.leOfCmp (fun a b => Out.ok (cmp a b)) r b)) := by
    funext r b
    have hb : (cmp b r == Ordering.lt) = !(SeqSpec.leOfCmp (fun a b => Out.ok (cmp a b)) r b) := by
      simp only [SeqSpec.leOfCmp, hsw r b]
      cases cmp r b <;> rfl
    simp only [pickStep, hb]
  rw [this]
  rfl

/-- non-vacuity: of two elements tied for the minimum the first is returned, as `min([1.5, 3/2])`
is the float -/
example : SeqSpec.extremumE (fun a b : Nat × Bool => .ok (compare a.1 b.1)) .lt [(3, true), (3, false), (5, true)]
    = .ok (3, true) := by decide


/-! ## dictionary-building loops keep the FIRST spelling of a key
(`1`, `1.0` and `1/1` are one key; `frequencies`, `classify` / `group_all`, `set` and `merge` store
the representation that arrived first — an existing entry is updated in place, never re-keyed) -/

theorem entryIncr_keys [BEq κ] (k : κ) (m : List (κ × Nat)) :
    (entryIncr k m).map (·.1) = if m.any (·.1 == k) then m.map (·.1) else m.map (·.1) ++ [k] := by
  rw [entryIncr_eq]; exact upsert_keys ..

theorem entryPush_keys [BEq κ] (k : κ) (i : α) (m : List (κ × List α)) :
    (entryPush k i m).map (·.1) = if m.any (·.1 == k) then m.map (·.1) else m.map (·.1) ++ [k] := by
  rw [entryPush_eq]; exact upsert_keys ..

theorem mergeEntry_keys [BEq κ] (f : Option (β → β → Out β)) (k : κ) (v : β) (m m' : List (κ × β))
    (h : mergeEntry f k v m = .ok m') :
    m'.map (·.1) = if m.any (·.1 == k) then m.map (·.1) else m.map (·.1) ++ [k] := by
  obtain ⟨upd, rfl⟩ := mergeEntry_upsert f k v m m' h
  exact upsert_keys ..


/-! ## early exit: the callback is not called after the deciding element
(`SeqAndMappedFoldBuiltin::run` / `run1` / `run2` are the same loop: whatever the call form —
`any(xs, f)`, `xs any f`, a longer chain, `any(f)(xs)`, `flip(any)(f, xs)`, `x any= f` — the number
of calls of `f` is the index of the deciding element + 1) -/

theorem seqFoldGoN_skip (f : α → Out β) (body : γ → β → Step γ) (s : γ) (n : Nat) (pre rest : List α)
    (h : ∀ y ∈ pre, ∃ v, f y = .ok v ∧ body s v = .next s) :
    seqFoldGoN f body s n (pre ++ rest) = seqFoldGoN f body s (n + pre.length) rest := by
  induction pre generalizing n with
  | nil => rfl
  | cons y pre ih =>
    obtain ⟨v, hv, hb⟩ := h y List.mem_cons_self
    simp only [List.cons_append, seqFoldGoN, hv, hb]
    rw [ih _ fun z hz => h z (List.mem_cons_of_mem _ hz), List.length_cons, Nat.add_assoc, Nat.add_comm 1]

/-- When `p` is false on `pre` and true on `x`, `any` answers true after
exactly `pre.length + 1` calls — whatever follows (`post` is never evaluated: it may even contain
elements on which `p` raises) -/
theorem any_short_circuits (p : α → Out Bool) (pre : List α) (x : α) (post : List α)
    (hpre : ∀ y ∈ pre, p y = .ok false) (hx : p x = .ok true) (n : Nat) :
    seqFoldGoN p anyBody false n (pre ++ x :: post) = (.ok true, n + pre.length + 1) := by
  rw [seqFoldGoN_skip _ _ _ _ _ _ fun y hy => ⟨false, hpre y hy, rfl⟩]
  simp [seqFoldGoN, hx, anyBody]

theorem all_short_circuits (p : α → Out Bool) (pre : List α) (x : α) (post : List α)
    (hpre : ∀ y ∈ pre, p y = .ok true) (hx : p x = .ok false) (n : Nat) :
    seqFoldGoN p allBody true n (pre ++ x :: post) = (.ok false, n + pre.length + 1) := by
  rw [seqFoldGoN_skip _ _ _ _ _ _ fun y hy => ⟨true, hpre y hy, rfl⟩]
  simp [seqFoldGoN, hx, allBody]

theorem any_stops_at_failure (p : α → Out Bool) (pre : List α) (x : α) (post : List α)
    (hpre : ∀ y ∈ pre, p y = .ok false) (hx : p x = .throw) (n : Nat) :
    seqFoldGoN p anyBody false n (pre ++ x :: post) = (.throw, n + pre.length + 1) := by
  rw [seqFoldGoN_skip _ _ _ _ _ _ fun y hy => ⟨false, hpre y hy, rfl⟩]
  simp [seqFoldGoN, hx]

theorem any_visits_all (p : α → Out Bool) (xs : List α) (h : ∀ y ∈ xs, p y = .ok false) (n : Nat) :
    seqFoldGoN p anyBody false n xs = (.ok false, n + xs.length) := by
  simpa [seqFoldGoN] using seqFoldGoN_skip p anyBody false n xs [] fun y hy => ⟨false, h y hy, rfl⟩

theorem any_ignores_tail (p : α → Out Bool) (pre : List α) (x : α) (post : List α)
    (hpre : ∀ y ∈ pre, p y = .ok false) (hx : p x = .ok true) : any p (pre ++ x :: post) = .ok true := by
  rw [any, seqFold, ← seqFoldGoN_fst _ _ _ 0, any_short_circuits p pre x post hpre hx]

theorem all_ignores_tail (p : α → Out Bool) (pre : List α) (x : α) (post : List α)
    (hpre : ∀ y ∈ pre, p y = .ok true) (hx : p x = .ok false) : all p (pre ++ x :: post) = .ok false := by
  rw [all, seqFold, ← seqFoldGoN_fst _ _ _ 0, all_short_circuits p pre x post hpre hx]

theorem find_ignores_tail (p : α → Out Bool) (pre : List α) (x : α) (post : List α)
    (hpre : ∀ y ∈ pre, p y = .ok false) (hx : p x = .ok true) : find p (pre ++ x :: post) = .ok (some x) := by
  induction pre with
  | nil => simp [find, hx]
  | cons y pre ih => simp [find, hpre y (by simp), ih (fun z hz => hpre z (by simp [hz]))]

theorem locate_ignores_tail (p : α → Out Bool) (pre : List α) (x : α) (post : List α)
    (hpre : ∀ y ∈ pre, p y = .ok false) (hx : p x = .ok true) (i : Nat) :
    locateGo p i (pre ++ x :: post) = .ok (some (i + pre.length)) := by
  induction pre generalizing i with
  | nil => simp [locateGo, hx]
  | cons y pre ih =>
    simp only [List.cons_append, locateGo, hpre y (by simp)]
    rw [ih (fun z hz => hpre z (by simp [hz])) (i + 1)]
    simp; omega

theorem takeWhile_ignores_tail (p : α → Out Bool) (pre : List α) (x : α) (post : List α)
    (hpre : ∀ y ∈ pre, p y = .ok true) (hx : p x = .ok false) : takeWhile p (pre ++ x :: post) = .ok pre := by
  rw [takeWhile_eq]
  induction pre with
  | nil => simp [SeqSpec.takeWhileE, hx]
  | cons y pre ih =>
    simp [SeqSpec.takeWhileE, hpre y (by simp), ih (fun z hz => hpre z (by simp [hz]))]

theorem dropWhile_ignores_tail (p : α → Out Bool) (pre : List α) (x : α) (post : List α)
    (hpre : ∀ y ∈ pre, p y = .ok true) (hx : p x = .ok false) : dropWhile p (pre ++ x :: post) = .ok (x :: post) := by
  induction pre with
  | nil => simp [dropWhile, hx]
  | cons y pre ih => simp [dropWhile, hpre y (by simp), ih (fun z hz => hpre z (by simp [hz]))]

theorem callsUntil_eq (stop : Out β → Bool) (f : α → Out β) (xs : List α) :
    callsUntil stop f xs = (match xs.findIdx? fun x => stop (f x) with
                            | some i => i + 1
                            | none => xs.length) := by
  induction xs with
  | nil => rfl
  | cons x xs ih =>
    simp only [callsUntil, List.findIdx?_cons]
    cases stop (f x) with
    | true => rfl
    | false =>
      simp only [Bool.false_eq_true, if_false, ih]
      cases List.findIdx? (fun x => stop (f x)) xs <;> simp [Nat.add_comm]

theorem callsUntil_decided (stop : Out β → Bool) (f : α → Out β) (pre : List α) (x : α) (post : List α)
    (hpre : ∀ y ∈ pre, stop (f y) = false) (hx : stop (f x) = true) :
    callsUntil stop f (pre ++ x :: post) = pre.length + 1 := by
  rw [callsUntil_eq, List.findIdx?_append, List.findIdx?_eq_none_iff.mpr hpre, List.findIdx?_cons, hx, if_pos rfl]
  exact congrArg (· + 1) (Nat.zero_add _)

theorem any_calls (p : α → Out Bool) (xs : List α) (n : Nat) :
    (seqFoldGoN p anyBody false n xs).2 = n + callsUntil (fun o => !isOkFalse o) p xs := by
  rw [seqFoldGoN_any]

theorem all_calls (p : α → Out Bool) (xs : List α) (n : Nat) :
    (seqFoldGoN p allBody true n xs).2 = n + callsUntil (fun o => !isOkTrue o) p xs := by
  rw [seqFoldGoN_all]

/-- non-vacuity: `[1, 'a'] any (> 0)` is true although `'a' > 0` raises -/
example : any (fun x : Option Nat => match x with | some n => .ok (decide (n > 0)) | none => .throw)
    [some 1, none] = .ok true := by decide


/-! ## split at a predicate, words -/

theorem splitOnP_flatten (p : γ → Bool) (s : List γ) : (SeqSpec.splitOnP p s).flatten = s.filter (!p ·) := by
  induction s with
  | nil => rfl
  | cons x xs ih => rw [splitOnP_cons]; cases h : p x <;> simp [flatten_consHead, ih, h]

theorem splitOnP_no_sep (p : γ → Bool) (s : List γ) : ∀ w ∈ SeqSpec.splitOnP p s, ∀ c ∈ w, p c = false := by
  intro w hw c hc
  have := List.mem_flatten.mpr ⟨w, hw, hc⟩
  rw [splitOnP_flatten] at this
  simpa using (List.mem_filter.mp this).2

theorem words_pieces (p : γ → Bool) (s : List γ) :
    ∀ w ∈ words p s, w ≠ [] ∧ ∀ c ∈ w, p c = false := by
  intro w hw
  rw [words_eq] at hw
  simp only [SeqSpec.words, List.mem_filter] at hw
  exact ⟨by intro h; rw [h] at hw; simp at hw, splitOnP_no_sep p s w hw.1⟩


end Noulith.C13
