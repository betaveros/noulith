/-
C12 — the relational matcher.

`specAssign_iff_Matches`: in a declaring context the executable reference succeeds with `e'` iff the
pattern `Matches` the value (relation of `Spec/Match.lean`) with a binding list whose declarations
lead from `e` to `e'`.  With `assign_eq_spec` this gives `assign_sound_complete`, the DESIGN's
statement.  `specAssign_iff_Matches_statement` of `Theorems/C12.lean` is discharged here
(`specAssign_iff_Matches_holds`).
-/
import NoulithModel.Theorems.C12Matches0

namespace Noulith.C12

theorem MatchesItems_nil (T : Ty) (β : Binding) : MatchesItems [] T [] β = (β = []) := rfl
theorem MatchesItems_nil_cons (T : Ty) (v : Val) (vs : List Val) (β : Binding) :
    MatchesItems [] T (v :: vs) β = False := rfl
theorem MatchesItems_cons_nil (p : Pat) (ps : List Pat) (T : Ty) (β : Binding) :
    MatchesItems (p :: ps) T [] β = False := rfl
theorem MatchesItems_cons (p : Pat) (ps : List Pat) (T : Ty) (v : Val) (vs : List Val) (β : Binding) :
    MatchesItems (p :: ps) T (v :: vs) β =
      ∃ β1 β2, MatchesItems ps T vs β2 ∧ β = β1 ++ β2 ∧ Matches (unsplat p) T v β1 := by
  cases p with
  | anno q ann =>
    cases q with
    | splat inner => cases ann <;> rfl
    | _ => rfl
  | _ => rfl

theorem declareAll_append (e : Env) (β1 β2 : Binding) :
    declareAll e (β1 ++ β2) = (declareAll e β1).bind (fun e1 => declareAll e1 β2) := by
  induction β1 generalizing e with
  | nil => simp [declareAll]
  | cons b β1 ih =>
    obtain ⟨x, T, v⟩ := b
    simp only [List.cons_append, declareAll]
    rcases hi : e.insert x T v with ⟨e1, o⟩
    cases o with
    | ok u => simp only []; exact ih e1
    | throw => simp
    | panic => simp

theorem declareAll_single (e : Env) (x : Nat) (T : Ty) (v : Val) :
    declareAll e [(x, T, v)] = outToOption (match e.insert x T v with | (e', r) => r.map fun _ => e') := by
  simp only [declareAll]
  rcases hi : e.insert x T v with ⟨e1, o⟩
  cases o <;> simp [outToOption, Out.map]

theorem MatchesItems_noIdents_nil_of (ps : List Pat)
    (ih : ∀ p ∈ ps, noIdents (unsplat p) = true → ∀ T v β, Matches (unsplat p) T v β → β = []) :
    ∀ (T : Ty) (vs : List Val) (β : Binding), noIdentsL ps = true → MatchesItems ps T vs β → β = [] := by
  induction ps with
  | nil =>
    intro T vs β _ h
    cases vs with
    | nil => exact h
    | cons v vs => exact h.elim
  | cons p ps ihps =>
    intro T vs β hn h
    obtain ⟨hp, hps⟩ := (noIdentsL_cons p ps).mp hn
    cases vs with
    | nil => exact h.elim
    | cons v vs =>
      rw [MatchesItems_cons] at h
      obtain ⟨β1, β2, h2, rfl, h1⟩ := h
      rw [ih p (List.mem_cons_self ..) hp T v β1 h1,
        ihps (fun q hq => ih q (List.mem_cons_of_mem _ hq)) T vs β2 hps h2]
      rfl

theorem Matches_noIdents_nil : ∀ (p : Pat), noIdents p = true →
    ∀ (T : Ty) (v : Val) (β : Binding), Matches p T v β → β = [] := by
  intro p hn T v β h
  induction p using Pat.induction_items generalizing T v β with
  | underscore => unfold Matches at h; exact h.2
  | ident _ _ => exact absurd hn nofun
  | anno p ann ih =>
    cases ann with
    | none => unfold Matches at h; exact ih hn _ v β h
    | some t =>
      unfold Matches at h
      obtain ⟨T', _, h⟩ := h
      exact ih hn _ v β h
  | withDefault p _ ih => unfold Matches at h; exact ih hn _ v β h
  | seq ps d _ ih =>
    unfold Matches at h
    obtain ⟨_, items, arr, _, _, h⟩ := h
    exact MatchesItems_noIdents_nil_of ps ih _ arr β hn h
  | splat _ _ => unfold Matches at h; exact h.elim
  | or a b iha ihb =>
    obtain ⟨ha, hb⟩ := Bool.and_eq_true_iff.mp hn
    unfold Matches at h
    rcases h with h | ⟨_, h⟩
    · exact iha ha T v β h
    · exact ihb hb T v β h
  | and a b iha ihb =>
    obtain ⟨ha, hb⟩ := Bool.and_eq_true_iff.mp hn
    unfold Matches at h
    obtain ⟨β1, β2, h1, h2, rfl⟩ := h
    rw [iha ha T v β1 h1, ihb hb T v β2 h2]; rfl
  | lit _ => unfold Matches at h; exact h.2
  | destr f args _ ih =>
    unfold Matches at h
    obtain ⟨parts, arr, _, _, _, h⟩ := h
    exact MatchesItems_noIdents_nil_of args ih _ arr β hn h
  | destrStruct sid args _ ih =>
    unfold Matches at h
    obtain ⟨fields, arr, _, _, h⟩ := h
    exact MatchesItems_noIdents_nil_of args ih _ arr β hn h

theorem MatchesItems_noIdents_nil : ∀ (ps : List Pat) (T : Ty) (vs : List Val) (β : Binding),
    noIdentsL ps = true → MatchesItems ps T vs β → β = [] :=
  fun ps => MatchesItems_noIdents_nil_of ps (fun p _ => Matches_noIdents_nil (unsplat p))

/-- a reference that refuses against a relation nothing satisfies -/
theorem refuses {e' : Env} {A : Binding → Prop} {D : Binding → Prop} (h : ∀ β, ¬ A β) :
    (none : Option Env) = some e' ↔ ∃ β, A β ∧ D β :=
  ⟨nofun, fun ⟨β, ha, _⟩ => (h β ha).elim⟩

/-- `underscore` and `lit`: a test that binds nothing -/
theorem guard_matches (e e' : Env) (c : Prop) [Decidable c] :
    (if c then some e else none) = some e' ↔ ∃ β, (c ∧ β = []) ∧ declareAll e β = some e' := by
  by_cases hc : c
  · rw [if_pos hc]
    exact ⟨fun h => ⟨[], ⟨hc, rfl⟩, h⟩, fun ⟨_, ⟨_, hβ⟩, hd⟩ => by rw [hβ] at hd; exact hd⟩
  · rw [if_neg hc]
    exact refuses fun _ h => hc h.1

/-- the common tail of `seq` / `destr` / `destrStruct`: what the pattern takes apart (`W`) is
`items` and nothing else; arrange them, then match the items -/
theorem tail_matches (e e' : Env) (ss : List Pat) (T' : Ty) (items : List Val)
    (W : List Val → List Val → Binding → Prop)
    (hW : ∀ x arr β, W x arr β ↔ x = items ∧ Arranged ss x arr ∧ MatchesItems ss T' arr β)
    (ih : ∀ (e e' : Env) (arr : List Val), specAssignItems e ss (some T') arr = some e' ↔
      ∃ β, MatchesItems ss T' arr β ∧ declareAll e β = some e') :
    (match specArrange ss items with
      | some arr => specAssignItems e ss (some T') arr
      | none => none) = some e' ↔
    ∃ β, (∃ x arr, W x arr β) ∧ declareAll e β = some e' := by
  simp only [hW]
  cases hs : specArrange ss items with
  | none =>
    refine refuses fun β ⟨_, arr, hx, ha, _⟩ => ?_
    rw [hx, ← specArrange_iff_Arranged, hs] at ha
    exact nomatch ha
  | some arr =>
    simp only []
    rw [ih e e' arr]
    constructor
    · rintro ⟨β, hm, hd⟩
      exact ⟨β, ⟨items, arr, rfl, (specArrange_iff_Arranged ss items arr).mp hs, hm⟩, hd⟩
    · rintro ⟨β, ⟨_, arr', rfl, ha, hm⟩, hd⟩
      rw [← specArrange_iff_Arranged, hs] at ha
      cases ha
      exact ⟨β, hm, hd⟩

/-- a sequence pattern whose check `c` of the whole value (a delimited one has one) has passed:
the items of the value's sequence view, bound under `T'` -/
theorem seq_matches (e e' : Env) (ps : List Pat) (T' : Ty) (v : Val) (c : Prop) (hc : c)
    (ih : ∀ (e e' : Env) (arr : List Val), specAssignItems e ps (some T') arr = some e' ↔
      ∃ β, MatchesItems ps T' arr β ∧ declareAll e β = some e') :
    (match seqView v with
      | some items =>
        (match specArrange ps items with
         | some arr => specAssignItems e ps (some T') arr
         | none => none)
      | none => none) = some e' ↔
    ∃ β, (c ∧ ∃ items arr, seqView v = some items ∧ Arranged ps items arr ∧ MatchesItems ps T' arr β) ∧
      declareAll e β = some e' := by
  simp only [and_iff_right hc]
  cases seqView v with
  | none => exact refuses fun _ ⟨_, _, hi, _⟩ => nomatch hi
  | some items =>
    exact tail_matches e e' ps T' items _
      (fun x arr β => and_congr_left' (Option.some_inj.trans eq_comm)) ih

theorem bind_matches (e e' : Env) (o : Option Env) (k : Env → Option Env)
    (A : Binding → Prop) (B : Binding → Prop)
    (h1 : ∀ e1, o = some e1 ↔ ∃ β1, A β1 ∧ declareAll e β1 = some e1)
    (h2 : ∀ e1 e2, k e1 = some e2 ↔ ∃ β2, B β2 ∧ declareAll e1 β2 = some e2) :
    o.bind k = some e' ↔ ∃ β1 β2, A β1 ∧ B β2 ∧ declareAll e (β1 ++ β2) = some e' := by
  constructor
  · intro h
    cases ho : o with
    | none => simp [ho] at h
    | some e1 =>
      simp [ho] at h
      obtain ⟨β1, ha, hd1⟩ := (h1 e1).mp ho
      obtain ⟨β2, hb, hd2⟩ := (h2 e1 e').mp h
      exact ⟨β1, β2, ha, hb, by rw [declareAll_append, hd1]; simpa using hd2⟩
  · rintro ⟨β1, β2, ha, hb, hd⟩
    rw [declareAll_append] at hd
    cases hd1 : declareAll e β1 with
    | none => simp [hd1] at hd
    | some e1 =>
      simp [hd1] at hd
      have ho := (h1 e1).mpr ⟨β1, ha, hd1⟩
      rw [ho]
      simp
      exact (h2 e1 e').mpr ⟨β2, hb, hd⟩

theorem specAssignItems_iff_Matches_of (ps : List Pat)
    (ih : ∀ p ∈ ps, ∀ (e e' : Env) (T : Ty) (v : Val), orClean (unsplat p) = true →
      (specAssign e (unsplat p) (some T) v = some e' ↔
        ∃ β, Matches (unsplat p) T v β ∧ declareAll e β = some e')) :
    ∀ (e e' : Env) (T : Ty) (vs : List Val), orCleanL ps = true →
      (specAssignItems e ps (some T) vs = some e' ↔ ∃ β, MatchesItems ps T vs β ∧ declareAll e β = some e') := by
  induction ps with
  | nil =>
    intro e e' T vs _
    cases vs with
    | nil =>
      rw [specAssignItems_nil]
      constructor
      · intro h; simp at h; subst h; exact ⟨[], by rw [MatchesItems_nil], rfl⟩
      · rintro ⟨β, hm, hd⟩
        rw [MatchesItems_nil] at hm; subst hm; simpa [declareAll] using hd
    | cons v vs =>
      rw [specAssignItems_nil_cons]
      exact refuses fun _ hm => hm
  | cons p ps ihps =>
    intro e e' T vs h
    obtain ⟨hp, hps⟩ := (orCleanL_cons p ps).mp h
    cases vs with
    | nil =>
      rw [specAssignItems_cons_nil]
      exact refuses fun _ hm => hm
    | cons v vs =>
      rw [specAssignItems_cons]; simp only [MatchesItems_cons]
      rw [bind_matches e e' _ _ (fun β => Matches (unsplat p) T v β) (fun β => MatchesItems ps T vs β)
        (fun e1 => ih p (List.mem_cons_self ..) e e1 T v hp)
        (fun e1 e2 => ihps (fun q hq => ih q (List.mem_cons_of_mem _ hq)) e1 e2 T vs hps)]
      constructor
      · rintro ⟨β1, β2, h1, h2, hd⟩; exact ⟨β1 ++ β2, ⟨β1, β2, h2, rfl, h1⟩, hd⟩
      · rintro ⟨β, ⟨β1, β2, h2, rfl, h1⟩, hd⟩; exact ⟨β1, β2, h1, h2, hd⟩

/-- **`specAssign` = the relational matcher** in declaring contexts: the reference succeeds with
environment `e'` iff the pattern `Matches` the value with some binding list `β` whose declarations,
made one after the other, lead from `e` to `e'`. -/
theorem specAssign_iff_Matches : ∀ (p : Pat) (e e' : Env) (T : Ty) (v : Val), orClean p = true →
    (specAssign e p (some T) v = some e' ↔ ∃ β, Matches p T v β ∧ declareAll e β = some e') := by
  intro p e e' T v h
  induction p using Pat.induction_items generalizing e e' T v with
  | underscore => unfold specAssign Matches; exact guard_matches e e' _
  | ident x ixs =>
      unfold specAssign Matches
      simp only []
      by_cases hc : ixs.isEmpty ∧ isType T v = .ok true
      · rw [if_pos hc, ← declareAll_single]
        have hix : ixs = [] := List.isEmpty_iff.mp hc.1
        exact ⟨fun hd => ⟨_, ⟨hix, hc.2, rfl⟩, hd⟩, fun ⟨_, ⟨_, _, hβ⟩, hd⟩ => by rw [hβ] at hd; exact hd⟩
      · rw [if_neg hc]
        exact refuses fun _ ⟨hix, hty, _⟩ => hc ⟨by rw [hix]; rfl, hty⟩
  | anno p ann ih =>
    cases ann with
    | none => unfold specAssign Matches; exact ih e e' .any v h
    | some t =>
      unfold specAssign Matches
      cases toType t with
      | ok T' =>
        simp only []
        rw [ih e e' T' v h]
        exact ⟨fun ⟨β, hm, hd⟩ => ⟨β, ⟨T', rfl, hm⟩, hd⟩,
          fun ⟨β, ⟨_, hT, hm⟩, hd⟩ => ⟨β, by cases hT; exact hm, hd⟩⟩
      | throw => exact refuses fun _ ⟨_, hT, _⟩ => nomatch hT
      | panic => exact refuses fun _ ⟨_, hT, _⟩ => nomatch hT
  | withDefault p _ ih => unfold specAssign Matches; exact ih e e' T v h
  | seq ps d _ ih =>
      unfold specAssign Matches
      have ihs := fun (T' : Ty) (e1 e2 : Env) (arr : List Val) =>
        specAssignItems_iff_Matches_of ps ih e1 e2 T' arr h
      cases d with
      | false => exact seq_matches e e' ps T v _ nofun (ihs T)
      | true =>
        by_cases hty : isType T v = .ok true
        · rw [if_pos (decide_eq_true hty)]
          exact seq_matches e e' ps .any v _ (fun _ => hty) (ihs .any)
        · rw [if_neg (fun hc => hty (of_decide_eq_true hc))]
          exact refuses fun _ hm => hty (hm.1 rfl)
  | splat _ _ => unfold specAssign Matches; exact refuses fun _ hm => hm
  | or a b iha ihb =>
      unfold specAssign Matches
      obtain ⟨hna, hb⟩ := Bool.and_eq_true_iff.mp h
      obtain ⟨hna, ha⟩ := Bool.and_eq_true_iff.mp hna
      have iha := fun e1 => iha e e1 T v ha
      cases hsa : specAssign e a (some T) v with
      | some e1 =>
        obtain ⟨β1, hm1, hd1⟩ := (iha e1).mp hsa
        simp only []
        constructor
        · rintro ⟨⟩; exact ⟨β1, Or.inl hm1, hd1⟩
        · rintro ⟨β, hm | ⟨hno, _⟩, hd⟩
          · rw [← hsa]; exact (iha e').mpr ⟨β, hm, hd⟩
          · exact absurd hm1 (hno β1)
      | none =>
        -- `a` binds nothing, so it accepts `v` only if the reference succeeds on it (with `e`)
        have hno : ∀ β', ¬ Matches a T v β' := fun β' hm' => by
          have hd : declareAll e β' = some e := by rw [Matches_noIdents_nil a hna T v β' hm']; rfl
          exact nomatch hsa.symm.trans ((iha e).mpr ⟨β', hm', hd⟩)
        simp only []
        rw [ihb e e' T v hb]
        constructor
        · rintro ⟨β, hm, hd⟩; exact ⟨β, Or.inr ⟨hno, hm⟩, hd⟩
        · rintro ⟨β, hm | ⟨_, hm⟩, hd⟩
          · exact absurd hm (hno β)
          · exact ⟨β, hm, hd⟩
  | and a b iha ihb =>
      unfold specAssign Matches
      obtain ⟨ha, hb⟩ := Bool.and_eq_true_iff.mp h
      have hb := bind_matches e e' (specAssign e a (some T) v) (fun e1 => specAssign e1 b (some T) v)
        (fun β => Matches a T v β) (fun β => Matches b T v β)
        (fun e1 => iha e e1 T v ha)
        (fun e1 e2 => ihb e1 e2 T v hb)
      refine Iff.trans (Eq.to_iff (congrArg (· = some e') ?_)) (hb.trans ?_)
      · cases specAssign e a (some T) v <;> rfl
      constructor
      · rintro ⟨β1, β2, h1, h2, hd⟩; exact ⟨β1 ++ β2, ⟨β1, β2, h1, h2, rfl⟩, hd⟩
      · rintro ⟨β, ⟨β1, β2, h1, h2, rfl⟩, hd⟩; exact ⟨β1, β2, h1, h2, hd⟩
  | lit l => unfold specAssign Matches; exact guard_matches e e' _
  | destr f args _ ih =>
      unfold specAssign Matches
      simp only [← destructure_iff_Inverts]
      cases destructure f v (args.map knownOf) with
      | ok parts =>
        simp only []
        by_cases hl : parts.length = args.length
        · rw [if_pos hl]
          exact tail_matches e e' args T parts _
            (fun x arr β => ⟨fun ⟨hx, _, r⟩ => ⟨(Out.ok.inj hx).symm, r⟩,
              fun ⟨hx, r⟩ => ⟨by rw [hx], by rw [hx]; exact hl, r⟩⟩)
            (fun e1 e2 arr => specAssignItems_iff_Matches_of args ih e1 e2 T arr h)
        · rw [if_neg hl]
          exact refuses fun _ ⟨x, _, hx, hl', _⟩ => hl (by rw [Out.ok.inj hx]; exact hl')
      | throw => exact refuses fun _ ⟨_, _, hx, _⟩ => nomatch hx
      | panic => exact refuses fun _ ⟨_, _, hx, _⟩ => nomatch hx
  | destrStruct sid args _ ih =>
      unfold specAssign Matches
      split
      · next sid' fields =>
        by_cases hs : sid = sid'
        · rw [if_pos hs, ← hs]
          exact tail_matches e e' args T fields _
            (fun x arr β => and_congr_left' ⟨fun hv => (Val.inst.inj hv).2.symm, fun hx => by rw [hx]⟩)
            (fun e1 e2 arr => specAssignItems_iff_Matches_of args ih e1 e2 T arr h)
        · rw [if_neg hs]
          exact refuses fun _ ⟨_, _, hv, _⟩ => hs (Val.inst.inj hv).1.symm
      · next hv' => exact refuses fun _ ⟨fields, _, hv, _⟩ => hv' sid fields hv

theorem specAssignItems_iff_Matches : ∀ (ps : List Pat) (e e' : Env) (T : Ty) (vs : List Val),
    orCleanL ps = true →
    (specAssignItems e ps (some T) vs = some e' ↔ ∃ β, MatchesItems ps T vs β ∧ declareAll e β = some e') :=
  fun ps => specAssignItems_iff_Matches_of ps (fun p _ => specAssign_iff_Matches (unsplat p))

theorem specAssign_iff_Matches_holds : specAssign_iff_Matches_statement :=
  fun e e' p T v h => specAssign_iff_Matches p e e' T v h

/-- **`assign_sound_complete`** (relational form): in a declaring context, `assign` succeeds with
environment `e'` iff the pattern `Matches` the value with a binding list whose declarations lead
from `e` to `e'`; otherwise it raises (it never panics). -/
theorem assign_sound_complete (e e' : Env) (p : Pat) (T : Ty) (v : Val) (h : orClean p = true) :
    assign e p (some T) v = (e', .ok ()) ↔ ∃ β, Matches p T v β ∧ declareAll e β = some e' := by
  rw [← specAssign_iff_Matches p e e' T v h]
  have hs := assign_eq_spec e p (some T) v h
  refine ⟨fun ha => ?_, hs.1 e'⟩
  cases hq : specAssign e p (some T) v with
  | none => have := hs.2 hq; rw [ha] at this; exact nomatch this
  | some e1 => cases ha.symm.trans (hs.1 e1 hq); rfl

end Noulith.C12
