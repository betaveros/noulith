/-
C17 — the fragment `localOk T S e`: what frozen first-order code looks like.  Every identifier read or assigned is in
`S`, the names surely declared so far (the check returns them with those `e` declares); a callee or `into` function is
a `Frozen` builtin of the table `T`.  Theorems/C17Insensitive.lean says what the check means, Theorems/C17Bridge.lean
that `freeze` produces code that passes it.  (Namespace `C17Insensitive`.)
-/
import NoulithModel.Impl.CoreEval

namespace Noulith.C17Insensitive
open Noulith Noulith.Core

/-- entry `i` of the table of frozen values is a builtin -/
def builtinAt (T : List Val) (i : Nat) : Bool :=
  match T[i]? with
  | some (.builtin _) => true
  | _ => false

def localInto (T : List Val) : Option Expr → Bool
  | none => true
  | some (.frozen i) => builtinAt T i
  | some _ => false

mutual
  def localOk (T : List Val) : List String → Expr → Option (List String)
    | S, .null => some S
    | S, .int _ => some S
    | S, .str _ => some S
    | S, .cont _ => some S
    | S, .frozen _ => some S
    | S, .ident x => if S.contains x then some S else none
    | S, .list xs => localList T S xs
    | S, .op _ a b => match localOk T S a with | some S1 => localOk T S1 b | none => none
    | S, .index a b => match localOk T S a with | some S1 => localOk T S1 b | none => none
    | S, .call (.frozen i) args => if builtinAt T i then localList T S args else none
    | S, .and_ a b =>
      match localOk T S a with
      | some S1 => match localOk T S1 b with | some _ => some S1 | none => none
      | none => none
    | S, .or_ a b =>
      match localOk T S a with
      | some S1 => match localOk T S1 b with | some _ => some S1 | none => none
      | none => none
    | S, .coalesce a b =>
      match localOk T S a with
      | some S1 => match localOk T S1 b with | some _ => some S1 | none => none
      | none => none
    | S, .seq xs _ => localList T S xs
    | S, .ite c t e =>
      match localOk T S c with
      | some S1 =>
        match localOk T S1 t with
        | some _ => match localOpt T S1 e with | some _ => some S1 | none => none
        | none => none
      | none => none
    | S, .while_ c b =>
      match localOk T S c with
      | some S1 => match localOk T S1 b with | some _ => some S | none => none
      | none => none
    | S, .for_ its body =>
      match localIts T S its with
      | some S2 => if localBody T S2 body then some S else none
      | none => none
    | S, .declare p rhs =>
      match localOk T S rhs with
      | some S1 => some (S1 ++ Pat.idents p)
      | none => none
    | S, .assign x rhs => if S.contains x then localOk T S rhs else none
    | S, .opassign x _ rhs => if S.contains x then localOk T S rhs else none
    | S, .brk _ e => localOpt T S e
    | S, .ret e => localOpt T S e
    | S, .throw_ e => localOk T S e
    | S, .try_ b p c =>
      match localOk T S b with
      | some _ => match localOk T (S ++ Pat.idents p) c with | some _ => some S | none => none
      | none => none
    | S, .switch_ sc arms =>
      match localOk T S sc with
      | some S1 => if localArms T S1 arms then some S1 else none
      | none => none
    | _, _ => none
  def localArms (T : List Val) : List String → List SwitchArm → Bool
    | _, [] => true
    | S, .mk p body :: rest => (localOk T (S ++ Pat.idents p) body).isSome && localArms T S rest
  def localList (T : List Val) : List String → List Expr → Option (List String)
    | S, [] => some S
    | S, x :: xs => match localOk T S x with | some S1 => localList T S1 xs | none => none
  def localOpt (T : List Val) : List String → Option Expr → Option (List String)
    | S, none => some S
    | S, some x => localOk T S x
  def localIts (T : List Val) : List String → List ForIt → Option (List String)
    | S, [] => some S
    | S, .guard g :: rest => match localOk T S g with | some S1 => localIts T S1 rest | none => none
    | S, .iter _ p e :: rest =>
      match localOk T S e with | some S1 => localIts T (S1 ++ Pat.idents p) rest | none => none
  def localBody (T : List Val) : List String → ForBody → Bool
    | S, .exec e => (localOk T S e).isSome
    | S, .yield e into => (localOk T S e).isSome && localInto T into
    | S, .yieldItem k v into =>
      match localOk T S k with
      | some S1 => (localOk T S1 v).isSome && localInto T into
      | none => false
end

theorem prefix_get {α : Type} {T L : List α} {i : Nat} {v : α} (h : T <+: L) (hv : T[i]? = some v) : L[i]? = some v := by
  obtain ⟨hi, rfl⟩ := List.getElem?_eq_some_iff.mp hv
  exact List.prefix_iff_getElem?.mp h i hi

theorem builtinAt_get {i : Nat} {st : State} {T : List Val} (h : builtinAt T i = true) (htab : T <+: st.frozenTab) :
    ∃ f, st.frozenTab[i]? = some (.builtin f) := by
  unfold builtinAt at h
  split at h
  · rename_i f hf
    exact ⟨f, prefix_get htab hf⟩
  · cases h

theorem localInto_inv {T : List Val} {o : Option Expr} (h : localInto T o = true) :
    o = none ∨ ∃ i, o = some (.frozen i) ∧ builtinAt T i = true := by
  unfold localInto at h
  split at h
  · exact .inl rfl
  · exact .inr ⟨_, rfl, h⟩
  · cases h

theorem local_mono_all (T : List Val) :
    (∀ S e S', localOk T S e = some S' → S ⊆ S') ∧ (∀ S es S', localList T S es = some S' → S ⊆ S') ∧
    (∀ S o S', localOpt T S o = some S' → S ⊆ S') ∧ (∀ S its S', localIts T S its = some S' → S ⊆ S') := by
  suffices h : (∀ S e S', localOk T S e = some S' → S ⊆ S') ∧ (∀ (_ : List String) (_ : List SwitchArm), True) ∧
      (∀ (_ : List String) (_ : ForBody), True) ∧ (∀ S its S', localIts T S its = some S' → S ⊆ S') ∧
      (∀ S o S', localOpt T S o = some S' → S ⊆ S') ∧ (∀ S es S', localList T S es = some S' → S ⊆ S') from
    ⟨h.1, h.2.2.2.2.2, h.2.2.2.2.1, h.2.2.2.1⟩
  apply localOk.mutual_induct_unfolding (T := T)
    (motive_1 := fun S _ r => ∀ S', r = some S' → S ⊆ S')
    (motive_2 := fun _ _ _ => True)
    (motive_3 := fun _ _ _ => True)
    (motive_4 := fun S _ r => ∀ S', r = some S' → S ⊆ S')
    (motive_5 := fun S _ r => ∀ S', r = some S' → S ⊆ S')
    (motive_6 := fun S _ r => ∀ S', r = some S' → S ⊆ S')
  all_goals intros
  -- a failed check; a form that gives back the names it got; a form that gives what its one sub-check gives
  all_goals try trivial
  all_goals try (rename_i h; cases h; first | done | exact List.Subset.refl _)
  all_goals try (rename_i ih _ _; exact ih _ ‹_›)
  case case9 h iha ihb _ h' => exact (iha _ h).trans (ihb _ h') -- `op`
  case case11 h iha ihb _ h' => exact (iha _ h).trans (ihb _ h') -- `index`
  case case15 ha _ _ iha _ _ h' => cases h'; exact iha _ ha -- `and_`, `or_`, `coalesce`
  case case18 ha _ _ iha _ _ h' => cases h'; exact iha _ ha
  case case21 ha _ _ iha _ _ h' => cases h'; exact iha _ ha
  case case25 hc _ _ _ _ ihc _ _ _ h' => cases h'; exact ihc _ hc -- `ite`
  case case35 hr ihr _ h' => cases h'; exact (ihr _ hr).trans (List.subset_append_left _ _) -- `declare`
  case case47 hs _ ihs _ _ h' => cases h'; exact ihs _ hs -- `switch`
  case case56 hx ihx ihxs _ h' => exact (ihx _ hx).trans (ihxs _ h')
  case case61 hg ihg ihr _ h' => exact (ihg _ hg).trans (ihr _ h')
  case case63 he ihe ihr _ h' => exact ((ihe _ he).trans (List.subset_append_left _ _)).trans (ihr _ h')

theorem localOk_mono {T : List Val} {S S' : List String} {e : Expr} (h : localOk T S e = some S') : S ⊆ S' :=
  (local_mono_all T).1 S e S' h

end Noulith.C17Insensitive
