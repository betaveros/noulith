/-
C02 — Mutating an unshared collection is in place: no hidden copies.

The logic half of the property — *when does `Rc::make_mut` copy* — is the reference-count bookkeeping
of the C01 heap (`Impl/Heap.lean`) with its cost ledger: `copied` is increased by the payload length
exactly when `makeMut` meets a strong count > 1.  The runtime half (allocator, `Vec` growth policy,
`HashMap`) is outside any theorem and is MEASURED by `harness/src/bin/c02.rs`.
-/
import NoulithModel.Lemmas.HeapNested
import NoulithModel.Theorems.C01

namespace Noulith.C02
open Noulith.RcHeap
open Noulith.Store (Tree Store)

theorem makeMut_copies_iff_shared (h : Heap) (id : Nat) :
    (makeMut h id).1.copied = h.copied + (if rcOf h id ≤ 1 then 0 else (payloadOf h id).length) :=
  makeMut_copied h id

theorem evalAtom_const_heap (s : State) (h : Heap) (a : Atom) (ha : ∀ y, a ≠ .var y) :
    (evalAtom s h a).1 = h := by
  cases a with
  | null => rfl
  | int n => rfl
  | var y => exact absurd rfl (ha y)

theorem atom_val (s : State) (h : Heap) (a : Atom) (ha : ∀ y, a ≠ .var y) : ∀ j, (evalAtom s h a).2 ≠ .ref j := by
  cases a with
  | null => intro j; simp [evalAtom]
  | int n => intro j; simp [evalAtom]
  | var y => exact absurd rfl (ha y)

theorem step_setIdx_atom (s : State) (x : Nat) (path : List Int) (a : Atom) (ha : ∀ y, a ≠ .var y)
    (hx : x < s.cells.length) :
    step s (.setIdx x path (.atom a)) =
      (⟨(setIndex s.h (cellOf s x) path (evalAtom s s.h a).2).h,
        s.cells.set x (setIndex s.h (cellOf s x) path (evalAtom s s.h a).2).v⟩,
        (setIndex s.h (cellOf s x) path (evalAtom s s.h a).2).ok) := by
  have hd : declared s x = true := by simp [declared, hx]
  have e1 : (evalRhs s (.atom a)).1 = s.h := evalAtom_const_heap s s.h a ha
  simp only [step, hd, if_true, withCell, e1]; rfl

/-- the count invariant is all that is needed (no representation relation): the walk only has to know
that a count of 1 means a single handle -/
theorem setIdx_atom_copies_nothing (s : State) (x : Nat) (path : List Int) (a : Atom)
    (ha : ∀ y, a ≠ .var y) (I : Inv s.h s.cells) (hx : x < s.cells.length)
    (pu : PathUniq s.h (cellOf s x) path) :
    (step s (.setIdx x path (.atom a))).1.h.copied = s.h.copied := by
  rw [step_setIdx_atom s x path a ha hx]
  have i0 : Inv s.h ([(evalAtom s s.h a).2] ++ s.cells) :=
    I.congr (fun k => by rw [occ_append, occ_singleton_ne (atom_val s s.h a ha k), Nat.zero_add])
  exact setIndex_nocopy path (inv_take_cell hx i0) pu

/-- If every level of the index path of variable `x` has strong count 1 then `x[i]…[j] = <int or null>`
copies nothing, at any nesting depth. -/
theorem index_assignment_copies_nothing (s : State) (σ : Store) (x : Nat) (path : List Int) (a : Atom)
    (ha : ∀ y, a ≠ .var y) (R : Refines s σ) (hx : x < s.cells.length)
    (pu : PathUniq s.h (cellOf s x) path) :
    (step s (.setIdx x path (.atom a))).1.h.copied = s.h.copied :=
  setIdx_atom_copies_nothing s x path a ha R.inv hx pu

/-- pop and remove (below) and consume (with `takeLeaf_nocopy`) in place -/
theorem extract_copies_nothing {leaf : Leaf} (L : LeafNoCopy leaf)
    (s : State) (x y : Nat) (path : List Int) (I : Inv s.h s.cells) (hx : x < s.cells.length)
    (pu : PathUniq s.h (cellOf s x) path) (eu : EndUniq s.h (cellOf s x) path) :
    (extractStep leaf s y x path).1.h.copied = s.h.copied := by
  have i1 : Inv s.h (cellOf s x :: s.cells.set x .null) := inv_take_cell (T := []) hx I
  have := walk_nocopy L path s.h (cellOf s x) _ i1 pu eu
  unfold extractStep
  split
  · dsimp only
    split
    · simp only [writeCell, drop_copied]; exact this
    · exact this
  · rfl

theorem pop_copies_nothing (s : State) (y x : Nat) (path : List Int) (I : Inv s.h s.cells)
    (hx : x < s.cells.length) (pu : PathUniq s.h (cellOf s x) path) (eu : EndUniq s.h (cellOf s x) path) :
    (step s (.pop y x path)).1.h.copied = s.h.copied :=
  extract_copies_nothing popLeaf_nocopy s x y path I hx pu eu

theorem remove_copies_nothing (s : State) (y x : Nat) (path : List Int) (i : Int) (I : Inv s.h s.cells)
    (hx : x < s.cells.length) (pu : PathUniq s.h (cellOf s x) path) (eu : EndUniq s.h (cellOf s x) path) :
    (step s (.remove y x path i)).1.h.copied = s.h.copied :=
  extract_copies_nothing (removeLeaf_nocopy i) s x y path I hx pu eu

/-! ### operator-assignment: why `drop_lhs` exists -/

/-- what `x append= a` does to a variable holding the only handle of a list, as the exact final state:
`drop_lhs` undoes the clone the variable read made, so the operator finds the heap as it was, with count
1, and pushes in place -/
theorem append_unique_state (s : State) (x id : Nat) (a : Atom) (ha : ∀ y, a ≠ .var y)
    (hx : x < s.cells.length) (hc : cellOf s x = .ref id) (h1 : rcOf s.h id = 1)
    (hk : keysOf s.h id = none) :
    step s (.append x [] (.atom a)) =
      (⟨{ setPayload s.h id (payloadOf s.h id ++ [(evalAtom s s.h a).2]) with pushes := s.h.pushes + 1 }, s.cells⟩,
        true) := by
  have hd : declared s x = true := by simp [declared, hx]
  have hcx : s.cells.getD x .null = .ref id := hc
  have ea : ∀ h, (evalRhs ⟨h, s.cells⟩ (.atom a)).1 = h := fun h => evalAtom_const_heap _ h a ha
  have ev : ∀ h, (evalRhs ⟨h, s.cells⟩ (.atom a)).2 = (evalAtom s s.h a).2 := by
    intro h; cases a with
    | null => rfl
    | int n => rfl
    | var y => exact absurd rfl (ha y)
  have e2 : drop (dup s.h (.ref id)) (.ref id) = s.h :=
    drop_dup_dup (c := .null) (by omega) (fun _ e => nomatch e)
  have hnull : (s.cells.set x Val.null).getD x Val.null = .null := getD_set_self _ _ _ _ hx
  simp only [step, appendFinish, hd, if_true, readVar, readPath, ea, ev, withCell, cellOf, hcx, setIndex, walk_nil,
    setLeaf, e2, appendOp, hk, makeMut_of_unique h1, hnull, drop_atom (v := Val.null) _ (by intro j; simp), List.set_set]
  rw [← hcx, set_getD_self]
  rfl

/-- In `x append= v` on a variable that holds the only handle of its list, the operator is called with the
ONLY handle (the variable read made the count 2, `drop_lhs` made it 1 again), so `Append::run2`'s
`make_mut` is in place: nothing is copied, one element is pushed. -/
theorem opassign_callee_unique (s : State) (x id : Nat) (a : Atom) (ha : ∀ y, a ≠ .var y)
    (hx : x < s.cells.length) (hc : cellOf s x = .ref id) (h1 : rcOf s.h id = 1)
    (hk : keysOf s.h id = none) :
    (step s (.append x [] (.atom a))).1.h.copied = s.h.copied ∧
    (step s (.append x [] (.atom a))).1.h.pushes = s.h.pushes + 1 := by
  rw [append_unique_state s x id a ha hx hc h1 hk]; exact ⟨rfl, rfl⟩

/-- Without `drop_lhs`: calling the operator on the value just read from the variable (count 2: the
variable still holds its handle) copies the whole list. -/
theorem opassign_without_drop_lhs_copies (h : Heap) (id : Nat) (b : Val) (h1 : rcOf h id = 1)
    (hk : keysOf h id = none) :
    (appendOp (dup h (.ref id)) (.ref id) b).1.copied = h.copied + (payloadOf h id).length := by
  have hl : id < h.allocs.length := lt_of_rcOf_pos (by omega)
  have r2 : rcOf (setRc h id 2) id = 2 := by simp [rcOf_setRc, hl]
  rw [appendOp_ref _ _ _ (by rw [keysOf_dup]; exact hk)]
  simp only [appendHeap, setPayload_copied, makeMut_copied]
  simp [dup, h1, r2, payloadOf_setRc]

/-! ### whole sequences on an unshared flat list -/

def Atoms (p : List Val) : Prop := ∀ v ∈ p, ∀ j, v ≠ .ref j

/-- variable `x` holds the only handle of a list of atoms -/
def FlatUniq (s : State) (x : Nat) : Prop :=
  ∃ id, cellOf s x = .ref id ∧ rcOf s.h id = 1 ∧ keysOf s.h id = none ∧ Atoms (payloadOf s.h id)

/-- `v` is the only handle of the flat list `id` in `h` -/
def FlatAt (h : Heap) (v : Val) (id : Nat) : Prop :=
  v = .ref id ∧ rcOf h id = 1 ∧ keysOf h id = none ∧ Atoms (payloadOf h id)

/-- the in-place-eligible statements on a flat list held by `x` -/
inductive FlatStmt (x : Nat) : Stmt → Prop
  | setIdx (i : Int) (a : Atom) : (∀ y, a ≠ .var y) → FlatStmt x (.setIdx x [i] (.atom a))
  | append (a : Atom) : (∀ y, a ≠ .var y) → FlatStmt x (.append x [] (.atom a))
  | pop (y : Nat) : y ≠ x → FlatStmt x (.pop y x [])
  | remove (y : Nat) (i : Int) : y ≠ x → FlatStmt x (.remove y x [] i)

theorem Atoms.set {p : List Val} (ha : Atoms p) (j : Nat) {v : Val} (hv : ∀ k, v ≠ .ref k) : Atoms (p.set j v) := by
  intro w hw k
  rcases List.mem_or_eq_of_mem_set hw with h | rfl
  · exact ha w h k
  · exact hv k

theorem Atoms.dropLast {p : List Val} (ha : Atoms p) : Atoms p.dropLast :=
  fun v hv k => ha v (List.dropLast_subset p hv) k

theorem Atoms.eraseIdx {p : List Val} (ha : Atoms p) (j : Nat) : Atoms (p.eraseIdx j) :=
  fun v hv k => ha v (List.mem_of_mem_eraseIdx hv) k

theorem FlatAt.setPayload {h : Heap} {id : Nat} {p : List Val} (f : FlatAt h (.ref id) id) (hp : Atoms p) :
    FlatAt (setPayload h id p) (.ref id) id := by
  refine ⟨rfl, by rw [rcOf_setPayload]; exact f.2.1, by rw [keysOf_setPayload]; exact f.2.2.1, ?_⟩
  rw [payloadOf_setPayload, if_pos ⟨rfl, lt_of_rcOf_pos (by rw [f.2.1]; exact Nat.one_pos)⟩]
  exact hp

theorem setIndex_flat {h : Heap} {id : Nat} {v : Val} (i : Int) (h1 : rcOf h id = 1) (hk : keysOf h id = none)
    (ha : Atoms (payloadOf h id)) (hv : ∀ k, v ≠ .ref k) :
    FlatAt (setIndex h (.ref id) [i] v).h (setIndex h (.ref id) [i] v).v id := by
  unfold setIndex
  rw [walk_ref_cons, makeMut_of_unique h1]
  dsimp only
  cases hp : slotOf h id i with
  | none =>
    have e : walkMissing (setLeaf v) h id i [] = ⟨h, .ref id, .null, false⟩ := by
      simp only [walkMissing, hk]
    rw [e]
    simp only [Bool.false_eq_true, if_false, drop_atom _ hv]
    exact ⟨rfl, h1, hk, ha⟩
  | some j =>
    have hj := slotOf_lt hp
    have hc : ∀ k, (payloadOf h id).getD j .null ≠ .ref k := ha _ (getD_mem _ hj)
    simp only [walkStep, walk_nil, setLeaf, drop_atom _ hc, if_true]
    have f := FlatAt.setPayload (p := (payloadOf h id).set j .null) ⟨rfl, h1, hk, ha⟩ (ha.set j (by intro k; simp))
    exact f.setPayload (f.2.2.2.set j hv)

theorem cellOf_set_same (cells : List Val) (h : Heap) (x : Nat) (v : Val) (hx : x < cells.length) :
    cellOf ⟨h, cells.set x v⟩ x = v := getD_set_self _ _ _ _ hx

theorem cellOf_set_ne (cells : List Val) (h : Heap) (x y : Nat) (v : Val) (hne : y ≠ x) :
    cellOf ⟨h, cells.set y v⟩ x = cells.getD x .null := getD_set_ne _ _ _ _ _ hne

/-- writing `v` into the cell of another variable `y`: the old value of `y` is dropped next to `v` and
the other cells, that of `x` among them -/
theorem writeCell_frame {h : Heap} {cells : List Val} {x y : Nat} {v : Val}
    (i : Inv h (v :: cells)) (hx : x < cells.length) (hy : y < cells.length) (hne : y ≠ x) :
    Inv h (cells.getD y .null :: (v :: cells.set y .null)) ∧ cells.getD x .null ∈ v :: cells.set y .null := by
  refine ⟨inv_take_cell (T := [v]) hy i, List.mem_cons_of_mem _ ?_⟩
  rw [← getD_set_ne cells y x .null .null hne]
  exact getD_mem _ (by rw [List.length_set]; exact hx)

/-- `y = pop / remove / consume x[path]` with `y ≠ x`: whatever holds of the heap and the new value of `x`
after the walk, and survives dropping some other owned value, holds of `x` after the statement -/
theorem extractStep_keeps {P : Heap → Val → Prop}
    (hP : ∀ {h : Heap} {u v : Val} {F : List Val}, Inv h (u :: F) → v ∈ F → P h v → P (drop h u) v)
    {leaf : Leaf} {φ : Store.LeafT} (L : LeafSpec leaf.act [] [] φ.act) (LI : InsSpec leaf.ins φ.ins [] [])
    {s : State} {σ : Store} {x y : Nat} (path : List Int) (R : Refines s σ) (hx : x < s.cells.length) (hne : y ≠ x)
    (hs : P s.h (cellOf s x))
    (hw : P (walk leaf s.h (cellOf s x) path).h (walk leaf s.h (cellOf s x) path).v) :
    P (extractStep leaf s y x path).1.h (cellOf (extractStep leaf s y x path).1 x) := by
  unfold extractStep
  by_cases hd : declared s x = true ∧ declared s y = true
  · have hy := lt_of_declared hd.2
    have W := withCell_walk L LI path hx R.cfg rfl
    simp only [hd, and_self, if_true, withCell] at W ⊢
    obtain ⟨w, hww⟩ : ∃ w, walk leaf s.h (cellOf s x) path = w := ⟨_, rfl⟩
    simp only [hww] at W hw ⊢
    cases hm : Store.modPath φ (σ.getD x .null) path with
    | none =>
      rw [hm] at W
      simp only [W.1, Bool.false_eq_true, if_false]
      rw [cellOf_set_same _ _ _ _ hx]; exact hw
    | some tr =>
      rw [hm] at W
      simp only [W.1, if_true]
      obtain ⟨iy, hmem⟩ := writeCell_frame (x := x) (cells := s.cells.set x w.v) W.2.inv
        (by rw [List.length_set]; exact hx) (by rw [List.length_set]; exact hy) hne
      rw [getD_set_self _ _ _ _ hx] at hmem
      simp only [writeCell]
      rw [cellOf_set_ne _ _ _ _ _ hne, getD_set_self _ _ _ _ hx]
      exact hP iy hmem hw
  · simp only [hd, if_false]; exact hs

theorem FlatAt.drop {id : Nat} {h : Heap} {u v : Val} {F : List Val} (i : Inv h (u :: F)) (hm : v ∈ F)
    (f : FlatAt h v id) : FlatAt (drop h u) v id := by
  obtain ⟨hc, h1, hk, ha⟩ := f
  have D := drop_tr i
  rw [hc] at hm
  obtain ⟨k1, k2, k3⟩ := D.keeps_unique hm h1
  exact ⟨hc, k1, by rw [k3]; exact hk, by rw [k2]; exact ha⟩

theorem popAct_flat {h : Heap} {id : Nat} (f : FlatAt h (.ref id) id) :
    FlatAt (popAct h (.ref id)).h (popAct h (.ref id)).v id := by
  simp only [popAct, f.2.2.1, makeMut_of_unique f.2.1]
  cases (payloadOf h id).getLast? with
  | none => exact f
  | some xv => exact f.setPayload f.2.2.2.dropLast

theorem removeAct_flat {h : Heap} {id : Nat} (i : Int) (f : FlatAt h (.ref id) id) :
    FlatAt (removeAct i h (.ref id)).h (removeAct i h (.ref id)).v id := by
  simp only [removeAct, f.2.2.1, makeMut_of_unique f.2.1]
  cases pyIndex (payloadOf h id).length i with
  | none => exact f
  | some j => exact f.setPayload (f.2.2.2.eraseIdx j)

theorem extract_flat {leaf : Leaf} {φ : Store.LeafT} (L : LeafSpec leaf.act [] [] φ.act)
    (LI : InsSpec leaf.ins φ.ins [] []) {s : State} {σ : Store} {x y id : Nat} (R : Refines s σ)
    (hx : x < s.cells.length) (hne : y ≠ x) (f : FlatAt s.h (cellOf s x) id)
    (hleaf : FlatAt (leaf.act s.h (.ref id)).h (leaf.act s.h (.ref id)).v id) :
    FlatUniq (extractStep leaf s y x []).1 x :=
  ⟨id, extractStep_keeps (P := (FlatAt · · id)) FlatAt.drop L LI [] R hx hne f (by rw [walk_nil, f.1]; exact hleaf)⟩

theorem flat_step (s : State) (σ : Store) (x : Nat) (st : Stmt) (R : Refines s σ) (hx : x < s.cells.length)
    (fu : FlatUniq s x) (hst : FlatStmt x st) :
    (step s st).1.h.copied = s.h.copied ∧ FlatUniq (step s st).1 x := by
  obtain ⟨id, hc, h1, hk, ha⟩ := fu
  cases hst with
  | setIdx i a hna =>
    refine ⟨index_assignment_copies_nothing s σ x [i] a hna R hx (by rw [hc]; simp [PathUniq, h1]), ?_⟩
    obtain ⟨f1, f2, f3, f4⟩ := setIndex_flat i h1 hk ha (atom_val s s.h a hna)
    rw [step_setIdx_atom s x [i] a hna hx, hc]
    exact ⟨id, by rw [cellOf_set_same _ _ _ _ hx]; exact f1, f2, f3, f4⟩
  | append a hna =>
    rw [append_unique_state s x id a hna hx hc h1 hk]
    refine ⟨rfl, id, hc, (FlatAt.setPayload ⟨rfl, h1, hk, ha⟩ (fun v hv k => ?_)).2⟩
    rcases List.mem_append.1 hv with h | h
    · exact ha v h k
    · simp at h; rw [h]; exact atom_val s s.h a hna k
  | pop y hne =>
    exact ⟨pop_copies_nothing s y x [] R.inv hx (by simp [PathUniq]) (by rw [hc]; simpa [EndUniq] using h1),
      extract_flat popLeaf_spec popLeaf_ins R hx hne ⟨hc, h1, hk, ha⟩ (popAct_flat ⟨rfl, h1, hk, ha⟩)⟩
  | remove y i hne =>
    exact ⟨remove_copies_nothing s y x [] i R.inv hx (by simp [PathUniq]) (by rw [hc]; simpa [EndUniq] using h1),
      extract_flat (removeLeaf_spec i) (removeLeaf_ins i) R hx hne ⟨hc, h1, hk, ha⟩ (removeAct_flat i ⟨rfl, h1, hk, ha⟩)⟩

theorem step_cells_length {s : State} {σ : Store} (R : Refines s σ) (st : Stmt) :
    (step s st).1.cells.length = s.cells.length := by
  have R' := (step_ok R st).1
  rw [R'.len, (Noulith.C01.spec_step_writes σ st).length, ← R.len]

/-- On a variable holding the only handle of a flat list, ANY sequence of k in-place-eligible statements
(`x[i] = v`, `x append= v`, `pop x`, `remove x[i]`) copies nothing — `copied` is unchanged after the whole
sequence, for every k and every list length — and the list is still unshared afterwards. -/
theorem unshared_mutation_copies_nothing (x : Nat) (stmts : List Stmt) :
    ∀ (s : State) (σ : Store), Refines s σ → x < s.cells.length → FlatUniq s x →
      (∀ st ∈ stmts, FlatStmt x st) →
      (RcHeap.run s stmts).h.copied = s.h.copied ∧ FlatUniq (RcHeap.run s stmts) x ∧
      (RcHeap.run s stmts).h.pushes ≤ s.h.pushes + stmts.length := by
  induction stmts with
  | nil => intro s σ _ _ fu _; exact ⟨rfl, fu, by simp [RcHeap.run]⟩
  | cons st rest ih =>
    intro s σ R hx fu hall
    obtain ⟨c1, fu1⟩ := flat_step s σ x st R hx fu (hall st (by simp))
    have R1 := (step_ok R st).1
    have hx1 : x < (step s st).1.cells.length := by rw [step_cells_length R]; exact hx
    obtain ⟨c2, fu2, p2⟩ := ih _ _ R1 hx1 fu1 (fun st' h' => hall st' (by simp [h']))
    have p1 := step_pushes_le s st
    refine ⟨by simp only [RcHeap.run]; rw [c2, c1], fu2, ?_⟩
    simp only [RcHeap.run, List.length_cons]
    omega

/-- k eligible statements on an unshared list cost at most k element moves in total (0 copied + ≤ k
pushed), independent of the list's length n — O(n + k) overall rather than O(n·k). -/
theorem total_cost_linear (x : Nat) (stmts : List Stmt) (s : State) (σ : Store) (R : Refines s σ)
    (hx : x < s.cells.length) (fu : FlatUniq s x) (hall : ∀ st ∈ stmts, FlatStmt x st) :
    (RcHeap.run s stmts).h.copied + (RcHeap.run s stmts).h.pushes ≤ s.h.copied + s.h.pushes + stmts.length := by
  obtain ⟨c, _, p⟩ := unshared_mutation_copies_nothing x stmts s σ R hx fu hall
  omega

/-- non-vacuity: a fresh list of 5 zeros in variable 0 is `FlatUniq`, and 4 mixed statements copy nothing -/
example : (RcHeap.run (State.init 2)
    [.assign 0 (.rep (.int 0) 5), .setIdx 0 [2] (.atom (.int 7)), .append 0 [] (.atom (.int 1)),
     .pop 1 0 [], .remove 1 0 [] (-1)]).h.copied = 0 := by decide +kernel

/-- … whereas with one alias the first mutation copies the 5 elements exactly once -/
example : (RcHeap.run (State.init 2)
    [.assign 0 (.rep (.int 0) 5), .assign 1 (.atom (.var 0)), .setIdx 0 [2] (.atom (.int 7)),
     .append 0 [] (.atom (.int 1)), .setIdx 0 [0] (.atom (.int 7))]).h.copied = 5 := by decide +kernel

/-! ### shared: copied once, then in place again -/

theorem setIndex_via_makeMut (h : Heap) (id : Nat) (i : Int) (rest : List Int) (v : Val)
    (h1 : rcOf (makeMut h id).1 (makeMut h id).2 = 1) :
    setIndex h (.ref id) (i :: rest) v = setIndex (makeMut h id).1 (.ref (makeMut h id).2) (i :: rest) v := by
  unfold setIndex
  rw [walk_ref_cons, walk_ref_cons, makeMut_of_unique h1]

/-- The variable's list has additional holders (strong count ≥ 2).  The first index assignment copies the
payload exactly once (`copied` grows by the list's length — even when the index turns out to be out of
range, because `make_mut` runs before the bounds check) and leaves the variable with a fresh allocation of
count 1. -/
theorem shared_mutation_copies_once (s : State) (σ : Store) (x id : Nat) (i : Int) (a : Atom)
    (hna : ∀ y, a ≠ .var y) (R : Refines s σ) (hx : x < s.cells.length)
    (hc : cellOf s x = .ref id) (hr : 2 ≤ rcOf s.h id) (hkn : keysOf s.h id = none)
    (hat : Atoms (payloadOf s.h id)) :
    (step s (.setIdx x [i] (.atom a))).1.h.copied = s.h.copied + (payloadOf s.h id).length ∧
    FlatUniq (step s (.setIdx x [i] (.atom a))).1 x := by
  obtain ⟨v, hvv⟩ : ∃ v, (evalAtom s s.h a).2 = v := ⟨_, rfl⟩
  have hv : ∀ j, v ≠ .ref j := hvv ▸ atom_val s s.h a hna
  have i1 : Inv s.h (.ref id :: s.cells.set x .null) := by
    rw [← hc]; exact inv_take_cell (T := []) hx R.inv
  have MS := makeMut_spec i1 rfl
  have hat' : Atoms (payloadOf (makeMut s.h id).1 (makeMut s.h id).2) := by rw [MS.pay]; exact hat
  obtain ⟨f1, f2, f3, f4⟩ := setIndex_flat (v := v) i MS.rc1 (by rw [MS.keys]; exact hkn) hat' hv
  have hcop := setIndex_nocopy (new := v) (T := s.cells.set x .null) [i]
    (by simpa using MS.tr.inv) (by simp [PathUniq, MS.rc1])
  rw [step_setIdx_atom s x [i] a hna hx, hvv, hc, setIndex_via_makeMut _ _ _ _ _ MS.rc1]
  -- the result is named, so that the facts about it are matched without unfolding `setIndex`
  generalize setIndex (makeMut s.h id).1 (.ref (makeMut s.h id).2) [i] v = w at f1 f2 f3 f4 hcop ⊢
  refine ⟨?_, (makeMut s.h id).2, by rw [cellOf_set_same _ _ _ _ hx]; exact f1, f2, f3, f4⟩
  rw [hcop, makeMut_copied]
  have : ¬ rcOf s.h id ≤ 1 := by omega
  simp [this]

/-- Every later eligible statement is in place again: over the whole sequence the list is copied exactly
once (one copy for the one mutation by a non-last holder). -/
theorem shared_then_in_place (s : State) (σ : Store) (x id : Nat) (i : Int) (a : Atom) (rest : List Stmt)
    (hna : ∀ y, a ≠ .var y) (R : Refines s σ) (hx : x < s.cells.length)
    (hc : cellOf s x = .ref id) (hr : 2 ≤ rcOf s.h id) (hkn : keysOf s.h id = none)
    (hat : Atoms (payloadOf s.h id))
    (hall : ∀ st ∈ rest, FlatStmt x st) :
    (RcHeap.run s (.setIdx x [i] (.atom a) :: rest)).h.copied = s.h.copied + (payloadOf s.h id).length := by
  obtain ⟨c1, fu1⟩ := shared_mutation_copies_once s σ x id i a hna R hx hc hr hkn hat
  have R1 := (step_ok R (.setIdx x [i] (.atom a))).1
  have hx1 : x < (step s (.setIdx x [i] (.atom a))).1.cells.length := by rw [step_cells_length R]; exact hx
  obtain ⟨c2, _, _⟩ := unshared_mutation_copies_nothing x rest _ _ R1 hx1 fu1 hall
  simp only [RcHeap.run]
  rw [c2, c1]

/-! ### the statements for nested values -/

/-- Proved as `nested_opassign_copies_nothing` below (the special case `path = []` is
`opassign_callee_unique`). -/
def nested_opassign_copies_nothing_statement : Prop :=
  ∀ (s : State) (σ : Store) (x : Nat) (path : List Int) (a : Atom), (∀ y, a ≠ .var y) → Refines s σ →
    x < s.cells.length → PathUniq s.h (cellOf s x) path → EndUniq s.h (cellOf s x) path →
    (step s (.append x path (.atom a))).1.h.copied = s.h.copied

/-- every allocation reachable from `v` has count 1 (`Uniq` of `Lemmas/HeapNested`, whose lemmas are used
for it, is the same definition) -/
def FullUniq (h : Heap) (v : Val) : Prop := ∀ id, Reach h [v] (.ref id) → rcOf h id = 1

/-- Proved as `unshared_nested_sequence` below. -/
def unshared_nested_sequence_statement : Prop :=
  ∀ (x : Nat) (stmts : List Stmt) (s : State) (σ : Store), Refines s σ → x < s.cells.length →
    FullUniq s.h (cellOf s x) →
    (∀ st ∈ stmts, (∃ p n, st = .setIdx x p (.atom (.int n))) ∨ (∃ y p, y ≠ x ∧ st = .pop y x p)) →
    (RcHeap.run s stmts).h.copied = s.h.copied

/-! ### whole sequences on a fully unshared NESTED value -/

/-- in-place-eligible statements on a nested value held by `x` -/
inductive NestedStmt (x : Nat) : Stmt → Prop
  | setIdx (p : List Int) (n : Int) : NestedStmt x (.setIdx x p (.atom (.int n)))
  | pop (y : Nat) (p : List Int) : y ≠ x → NestedStmt x (.pop y x p)

theorem nested_step (s : State) (σ : Store) (x : Nat) (st : Stmt) (R : Refines s σ) (hx : x < s.cells.length)
    (nu : FullUniq s.h (cellOf s x)) (hst : NestedStmt x st) :
    (step s st).1.h.copied = s.h.copied ∧ FullUniq (step s st).1.h (cellOf (step s st).1 x) := by
  have rx := C01.cell_rep R x
  cases hst with
  | setIdx p n =>
    refine ⟨index_assignment_copies_nothing s σ x p (.int n) (by intro y; simp) R hx (Uniq_pathUniq p nu), ?_⟩
    have i1 : Inv s.h (cellOf s x :: [Val.int n] ++ s.cells.set x .null) :=
      inv_take_cell (T := [.int n]) hx (R.inv.congr (fun k => (occ_cons_int k n _).symm))
    have W := walk_uniq (setLeaf_spec (.int n) (.int n)) (setLeaf_ins _ _) (setLeaf_leafU (.int n) (by intro j; simp))
      (setLeaf_insAtom _ (by intro j; simp)) p s.h
      (cellOf s x) (s.cells.set x .null) _ i1 rx (by simpa using Rep_int n) nu
    obtain ⟨eh, ev⟩ := setIndex_atom s.h (cellOf s x) p (.int n) (by intro j; simp)
    rw [step_setIdx_atom s x p (.int n) (by intro y; simp) hx]
    rw [cellOf_set_same _ _ _ _ hx]; exact eh ▸ ev ▸ W.1
  | pop y p hne =>
    have i1 : Inv s.h (cellOf s x :: [] ++ s.cells.set x .null) := inv_take_cell (T := []) hx R.inv
    exact ⟨pop_copies_nothing s y x p R.inv hx (Uniq_pathUniq p nu) (Uniq_endUniq p nu),
      extractStep_keeps (P := Uniq) (fun i hm u => drop_uniq i hm u) popLeaf_spec popLeaf_ins p R hx hne nu
        (walk_uniq popLeaf_spec popLeaf_ins popLeaf_leafU popLeaf_insAtom p s.h (cellOf s x) (s.cells.set x .null) _ i1 rx
          trivial nu).1⟩

theorem nested_run (x : Nat) (stmts : List Stmt) :
    ∀ (s : State) (σ : Store), Refines s σ → x < s.cells.length → FullUniq s.h (cellOf s x) →
      (∀ st ∈ stmts, NestedStmt x st) →
      (RcHeap.run s stmts).h.copied = s.h.copied ∧ FullUniq (RcHeap.run s stmts).h (cellOf (RcHeap.run s stmts) x) := by
  induction stmts with
  | nil => intro s σ _ _ nu _; exact ⟨rfl, nu⟩
  | cons st rest ih =>
    intro s σ R hx nu hall
    obtain ⟨c1, nu1⟩ := nested_step s σ x st R hx nu (hall st (by simp))
    have R1 := (step_ok R st).1
    have hx1 : x < (step s st).1.cells.length := by rw [step_cells_length R]; exact hx
    obtain ⟨c2, nu2⟩ := ih _ _ R1 hx1 nu1 (fun st' h' => hall st' (by simp [h']))
    exact ⟨by simp only [RcHeap.run]; rw [c2, c1], nu2⟩

/-- A whole sequence of in-place-eligible statements (index assignments of ints at ANY index paths, pops
at any paths) on a fully unshared NESTED value copies nothing: the invariant "every allocation reachable
from the variable has count 1" is preserved by every eligible statement (`nested_step`), and under it
every `make_mut` on every path is in place. -/
theorem unshared_nested_sequence : unshared_nested_sequence_statement := by
  intro x stmts s σ R hx fu hall
  refine (nested_run x stmts s σ R hx fu (fun st hst => ?_)).1
  rcases hall st hst with ⟨p, n, rfl⟩ | ⟨y, p, hne, rfl⟩
  · exact .setIdx p n
  · exact .pop y p hne

/-! ### operator-assignment through an index path -/

theorem appendOp_nocopy {h : Heap} {a b : Val} (h1 : ∀ m, a = .ref m → rcOf h m = 1) :
    (appendOp h a b).1.copied = h.copied := by
  cases a with
  | null => simp [appendOp, drop_copied]
  | int n => simp [appendOp, drop_copied]
  | ref m =>
    cases hk : keysOf h m with
    | none => rw [appendOp_ref h m b hk]; simp [appendHeap, makeMut_of_unique (h1 m rfl)]
    | some ks => rw [appendOp_dict h m b hk]; simp [drop_copied]

theorem appendOp_unique {h : Heap} {a b c : Val} (h1 : ∀ m, a = .ref m → rcOf h m = 1)
    (hs : (appendOp h a b).2 = some c) :
    ∃ m, a = .ref m ∧ c = .ref m ∧ (appendOp h a b).1.allocs = (setPayload h m (payloadOf h m ++ [b])).allocs := by
  cases a with
  | null => simp [appendOp] at hs
  | int n => simp [appendOp] at hs
  | ref m =>
    cases hk : keysOf h m with
    | none =>
      rw [appendOp_ref h m b hk] at hs ⊢
      simp only [makeMut_of_unique (h1 m rfl), Option.some.injEq] at hs
      exact ⟨m, rfl, hs.symm, by simp [appendHeap, makeMut_of_unique (h1 m rfl)]⟩
    | some ks => rw [appendOp_dict h m b hk] at hs; cases hs

/-- the second half of `x[path] append= v` (drop_lhs, operator, assign) copies nothing when the levels of
the path have count 1 and the operator's argument `l` (the old slot value) shares its allocation only
with the slot (count 2 = slot + argument) -/
theorem appendFinish_nocopy {s : State} {h : Heap} {σ : Store} {x : Nat} {l ev : Val} {tl tv : Tree}
    (path : List Int) (hx : x < s.cells.length) (c : Cfg h [ev, l] [tv, tl] s.cells σ)
    (pu : PathUniq h (cellOf s x) path) (hv : valAt h (cellOf s x) path = some l)
    (h2 : ∀ m, l = .ref m → rcOf h m = 2) :
    (appendFinish s h x path l ev).1.h.copied = h.copied := by
  have rx : Rep h (cellOf s x) (σ.getD x .null) := All2.getD x c.sim Rep_null
  have iv : Inv h (cellOf s x :: (ev :: l :: s.cells.set x .null)) := inv_take_cell (T := [ev, l]) hx c.inv
  obtain ⟨eh, evv⟩ := setIndex_atom h (cellOf s x) path .null (by intro j; simp)
  have D := withCell_setIndex (s := s) path hx c.null rfl
  have cD : (setIndex h (cellOf s x) path .null).h.copied = h.copied := setIndex_nocopy path iv pu
  -- drop_lhs is in place: the levels keep count 1, and the operator's argument becomes the only handle
  have W := walk_set_inplace (new := .null) (tn := .null) path h (cellOf s x) (ev :: l :: s.cells.set x .null) _
    (iv.congr (fun k => by simp [occ_cons])) rx Rep_null pu
  simp only [appendFinish]
  simp only [withCell] at D ⊢
  obtain ⟨d, hd⟩ : ∃ d, setIndex h (cellOf s x) path .null = d := ⟨_, rfl⟩
  simp only [hd] at D cD eh evv ⊢
  have rc1 : ∀ m, l = .ref m → rcOf d.h m = 1 := fun m e => by rw [eh]; exact W.2 m (e ▸ hv) (h2 m e)
  have cA : (appendOp d.h l ev).1.copied = h.copied := (appendOp_nocopy rc1).trans cD
  -- whether or not drop_lhs raised, the two temporaries and the cells are a configuration again
  obtain ⟨σ', cd⟩ : ∃ σ', Cfg d.h [l, ev] [tl, tv] (s.cells.set x d.v) σ' := by
    cases hsp : Store.setPath (σ.getD x .null) path .null <;> rw [hsp] at D <;> exact ⟨_, D.2.swap⟩
  split
  · rcases Tree.list_or_not tl with ⟨ts, rfl⟩ | hnl
    · obtain ⟨v, hv', cv⟩ := appendOp_list cd
      obtain ⟨m, rfl, rfl, ea⟩ := appendOp_unique rc1 hv'
      obtain ⟨hzm, _, hcm, _⟩ := Inv.sole (o := []) (cd.inv : Inv d.h (.ref m :: ev :: s.cells.set x d.v))
        (Nat.le_of_eq (rc1 m rfl))
      have hxl : x < (s.cells.set x d.v).length := by simpa using hx
      have hv3 : (s.cells.set x d.v).getD x .null = d.v := getD_set_self _ _ _ _ hx
      have hmem := getD_mem (l := s.cells.set x d.v) Val.null hxl
      rw [hv3] at hmem
      have hv3ne : d.v ≠ .ref m := ne_ref_of_occ_zero hcm (List.mem_cons_of_mem _ hmem)
      -- the levels of the path have count 1 after drop_lhs and after the (in place) push
      have pu4 : PathUniq (appendOp d.h (.ref m) ev).1 d.v path :=
        (((eh ▸ evv ▸ W.1 : PathUniq d.h d.v path).same path (.setAlloc _ hzm hv3ne)).same path (.of_allocs_eq ea _))
      have i4 := inv_take_cell (T := [Val.ref m]) hxl (by simpa using cv.inv)
      rw [hv3] at i4
      simp only [hv']
      dsimp only [cellOf]
      rw [hv3, setIndex_nocopy path (by simpa using i4) pu4]
      exact cA
    · simp only [(appendOp_raise cd hnl).1]; exact cA
  · simp only [drop_copied]; exact cD

/-- `x[i]…[j] append= v` with strong count 1 on every level of the path and on the addressed list copies
nothing, at any nesting depth.  The variable read clones the handles level by level and drops them again
(`readPath_dup`: the heap afterwards is exactly the old heap plus one clone of the addressed list, count
2); `drop_lhs` walks the path in place and removes the slot's handle (count 1); `Append::run2`'s
`make_mut` is therefore in place; the final assignment walks the same, still count-1, path (both halves of
`walk_set_inplace`). -/
theorem nested_opassign_copies_nothing : nested_opassign_copies_nothing_statement := by
  intro s σ x path a hna R hx pu eu
  have hd : declared s x = true := by simp [declared, hx]
  have rx := C01.cell_rep R x
  simp only [step, hd, if_true, readVar]
  rw [readPath_dup R.inv path (cellOf s x) (fun id e => R.inv.rc_pos_of_mem (mem_of_getD_ref e))]
  cases hv : valAt s.h (cellOf s x) path with
  | none => rfl
  | some l =>
    obtain ⟨tl, _, rl⟩ := (valAt_getPath path rx).1 l hv
    dsimp only
    have e1 : (evalRhs ⟨dup s.h l, s.cells⟩ (.atom a)).1 = dup s.h l := evalAtom_const_heap _ _ a hna
    have ce := evalRhs_spec (s := ⟨dup s.h l, s.cells⟩) (.atom a) (R.cfg.dup rl)
    obtain ⟨ev, hevv⟩ : ∃ ev, (evalRhs ⟨dup s.h l, s.cells⟩ (.atom a)).2 = ev := ⟨_, rfl⟩
    rw [e1, hevv] at ce
    rw [e1, hevv]
    obtain ⟨pu2, hv2, h22⟩ := dup_leaf path rx pu eu hv
    have := appendFinish_nocopy (s := s) path hx ce pu2 hv2 h22
    rw [this, dup_copied]

end Noulith.C02
