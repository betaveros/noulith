/-
C08 (continued) — the rarely used ARGUMENT FORMS: comparison operators called with 0, 1, 2, 3+
operands or a splat (`<(a, b, c)`, `<(...xs)`), infix chains, and every form that reaches an
extremum (`max(xs)`, `max(a, b, c)`, `xs fold max`, `a max b`, `x max= y`, comparator forms), and what
an extremum is: the first element nothing beats (`extremumBy_agree` for any consistent comparator,
`min_max_agree` for `<=>`).  The catamorphism `for (…) yield k: v into max` (`cataExtremumDict`) has
no theorem here; the differential driver runs it against the Spec.
-/
import NoulithModel.Theorems.C08SortBy

namespace Noulith.C08
open Noulith OrdSpec

/-! ## call forms of the comparison operators -/

/-- left-to-right short-circuit conjunction of possibly raising tests -/
def conjOut : List (Out Bool) → Out Bool
  | [] => .ok true
  | .ok true :: rest => conjOut rest
  | .ok false :: _ => .ok false
  | .throw :: _ => .throw
  | .panic :: _ => .panic

def neighbours (args : List Val) : List (Val × Val) := args.zip args.tail

theorem cmpOp_eq_accept (op : String) (a b : Val)
    (hop : op = "==" ∨ op = "!=" ∨ op = "<" ∨ op = ">" ∨ op = "<=" ∨ op = ">=") :
    cmpOp op a b = (cmpAccept op a b).map ofBool := by
  have map_map : ∀ (x : Out Ordering) (f : Ordering → Bool), x.map (fun o => ofBool (f o)) = (x.map f).map ofBool :=
    fun x f => by cases x <;> rfl
  rcases hop with h | h | h | h | h | h <;> subst h
  · rfl
  · rfl
  all_goals exact map_map _ _

/-- **call_form_is_neighbour_conjunction**: `op(x₁, …, xₙ)` (also `op(...xs)`) with two or more
operands is the left-to-right conjunction of `op` over the NEIGHBOURING pairs `(xᵢ, xᵢ₊₁)` — never
over `(x₁, xᵢ)` — with the first false pair answering false and the first incomparable pair
reached raising -/
theorem call_form_is_neighbour_conjunction (op : String) (args : List Val) :
    cmpLoop op args = conjOut ((neighbours args).map fun p => cmpAccept op p.1 p.2) := by
  induction args with
  | nil => rfl
  | cons a rest ih =>
    cases rest with
    | nil => rfl
    | cons b rest' =>
      simp only [cmpLoop, neighbours, List.tail_cons, List.zip_cons_cons, List.map_cons]
      have ih' : cmpLoop op (b :: rest') = conjOut (((b :: rest').zip rest').map fun p => cmpAccept op p.1 p.2) := ih
      cases h : cmpAccept op a b with
      | ok v => cases v <;> simp only [conjOut]; exact ih'
      | throw => rfl
      | panic => rfl

theorem conjOut_true_iff (l : List (Out Bool)) : conjOut l = .ok true ↔ ∀ x ∈ l, x = .ok true := by
  induction l with
  | nil => simp [conjOut]
  | cons x xs ih =>
    cases x with
    | ok v => cases v <;> simp [conjOut, ih]
    | throw => simp [conjOut]
    | panic => simp [conjOut]

theorem call_true_iff (op : String) (args : List Val) :
    cmpLoop op args = .ok true ↔ ∀ p ∈ neighbours args, cmpAccept op p.1 p.2 = .ok true := by
  rw [call_form_is_neighbour_conjunction, conjOut_true_iff]
  constructor
  · intro H p hp; exact H _ (List.mem_map.mpr ⟨p, hp, rfl⟩)
  · intro H x hx
    obtain ⟨p, hp, rfl⟩ := List.mem_map.mp hx
    exact H p hp

theorem cmpCall_arity (op : String) :
    cmpCall op [] = .throw ∧ (∀ a, cmpCall op [a] = .ok (.func 0)) ∧
    (∀ a b rest, cmpCall op (a :: b :: rest) = (cmpLoop op (a :: b :: rest)).map ofBool) :=
  ⟨rfl, fun _ => rfl, fun _ _ _ => rfl⟩

/-- the call form agrees with the infix chain `x₁ op x₂ op … op xₙ` -/
theorem call_eq_chain (op : String) (args : List Val) (n : Nat) (hn : args.length ≤ n + 1) :
    cmpChain (List.replicate n op) args = cmpLoop op args := by
  induction args generalizing n with
  | nil => cases n <;> rfl
  | cons a rest ih =>
    cases rest with
    | nil => cases n <;> rfl
    | cons b rest' =>
      cases n with
      | zero => simp at hn
      | succ m =>
        simp only [List.replicate_succ, cmpChain, cmpLoop]
        rw [ih m (by simp at hn ⊢; omega)]

/-! ### `<=(...xs)` and `sort(xs) == xs` -/

theorem accept_le_iff (a b : Val) : cmpAccept "<=" a b = .ok true ↔ LE pc a b := by
  simp only [cmpAccept, LE, ncmp_eq_pc a b]
  cases pc a b with
  | none => simp [Out.map]
  | some o => cases o <;> simp [Out.map]

theorem chain_pairwise {α : Type} {R : α → α → Prop} (ht : ∀ a b c, R a b → R b c → R a c) :
    ∀ (l : List α), (∀ p ∈ l.zip l.tail, R p.1 p.2) → l.Pairwise R := by
  intro l
  induction l with
  | nil => intro _; exact List.Pairwise.nil
  | cons a rest ih =>
    intro h
    cases rest with
    | nil => exact List.pairwise_singleton _ _
    | cons b rest' =>
      have hab : R a b := h (a, b) (by simp)
      have htail : ∀ p ∈ (b :: rest').zip (b :: rest').tail, R p.1 p.2 := by
        intro p hp; exact h p (by simp only [List.tail_cons, List.zip_cons_cons, List.mem_cons] at hp ⊢; exact Or.inr hp)
      have ihp := ih htail
      have hb := List.pairwise_cons.mp ihp
      refine List.pairwise_cons.mpr ⟨?_, ihp⟩
      intro z hz
      rcases List.mem_cons.mp hz with rfl | hz'
      · exact hab
      · exact ht a b z hab (hb.1 z hz')

theorem pairwise_neighbours {α : Type} {R : α → α → Prop} (l : List α) (h : l.Pairwise R) :
    ∀ p ∈ l.zip l.tail, R p.1 p.2 := by
  induction l with
  | nil => intro p hp; cases hp
  | cons a rest ih =>
    cases rest with
    | nil => intro p hp; cases hp
    | cons b rest' =>
      have hp := List.pairwise_cons.mp h
      intro p hmem
      simp only [List.tail_cons, List.zip_cons_cons, List.mem_cons] at hmem
      rcases hmem with rfl | hmem
      · exact hp.1 b (List.mem_cons_self ..)
      · exact ih hp.2 p hmem

theorem sortWith_of_sorted {α : Type} {c : α → α → Option Ordering} (l : List α) (h : l.Pairwise (LE c)) :
    sortWith c l = l := by
  induction l with
  | nil => rfl
  | cons x xs ih =>
    have hp := List.pairwise_cons.mp h
    simp only [sortWith, ih hp.2]
    cases xs with
    | nil => rfl
    | cons y ys =>
      have hxy := hp.1 y (List.mem_cons_self ..)
      have : leOf c x y = true := by
        unfold leOf; rcases hxy with h | h <;> rw [h]
      simp [sortWith.insertFront, this]

/-- on pairwise comparable operands, `<=(...xs)` is true exactly when sorting leaves `xs` as it is -/
theorem le_call_iff_sorted (xs : List Val) (hc : PwComparable pc xs) :
    cmpLoop "<=" xs = .ok true ↔ sortWith pc xs = xs := by
  rw [call_true_iff]
  constructor
  · intro h
    apply sortWith_of_sorted
    apply chain_pairwise (R := LE pc) (fun a b c hab hbc => le_of_le_of_le pc_trans hab hbc)
    intro p hp
    exact (accept_le_iff p.1 p.2).mp (h p hp)
  · intro h p hp
    have hs := sortWith_sorted_pw pc_swap pc_trans xs hc
    rw [h] at hs
    exact (accept_le_iff p.1 p.2).mpr (pairwise_neighbours xs hs p hp)

/-! ## every form that reaches an extremum agrees -/

/-- one step of `fold max`: `max(acc, y)` -/
def extStep (bias : Ordering) (acc : Out Val) (y : Val) : Out Val := acc.bind fun a => extremum bias [a, y]

theorem extStep_ok (bias : Ordering) (a y : Val) : extStep bias (.ok a) y = match ncmp y a with
    | .ok o => .ok (if o == bias then y else a)
    | .throw => .throw
    | .panic => .panic := by
  simp only [extStep, Out.bind, extremum, extremumLoop]
  cases ncmp y a <;> rfl

theorem foldl_fixed {α β : Type} (g : β → α → β) (r : β) (hr : ∀ y, g r y = r) (ys : List α) : ys.foldl g r = r := by
  induction ys with
  | nil => rfl
  | cons z zs ih => rw [List.foldl_cons, hr, ih]

theorem foldExtremum_loop (bias : Ordering) (rest : List Val) : ∀ r : Val,
    rest.foldl (extStep bias) (Out.ok r) =
      (match extremumLoop bias (some r) rest with
      | .ok (some m) => Out.ok m
      | .ok none => Out.throw
      | .throw => Out.throw
      | .panic => Out.panic) := by
  induction rest with
  | nil => intro r; rfl
  | cons y ys ih =>
    intro r
    simp only [List.foldl_cons, extStep_ok, extremumLoop]
    cases h : ncmp y r with
    | ok o => simp only; exact ih _
    | throw => simp only; exact foldl_fixed _ _ (fun _ => rfl) ys
    | panic => simp only; exact foldl_fixed _ _ (fun _ => rfl) ys

/-- `xs fold max`, `a max b`, `x max= y` (repeated two-operand calls) give what `max(xs)` gives —
the first of tied elements, an error on the first incomparable pair met -/
theorem foldExtremum_eq (bias : Ordering) (xs : List Val) : foldExtremum bias xs = extremum bias xs := by
  cases xs with
  | nil => rfl
  | cons x rest =>
    have : foldExtremum bias (x :: rest) = rest.foldl (extStep bias) (Out.ok x) := rfl
    rw [this, foldExtremum_loop]
    simp only [extremum, extremumLoop]
    cases extremumLoop bias (some x) rest with
    | ok r => cases r <;> rfl
    | throw => rfl
    | panic => rfl

theorem extremumByLoop_spaceship (bias : Ordering) (xs : List Val) : ∀ r : Option Val,
    extremumByLoop ncmp (cmpFn ncmp "cmp") bias r xs = extremumLoop bias r xs := by
  induction xs with
  | nil => intro r; cases r <;> rfl
  | cons b rest ih =>
    intro r
    cases r with
    | none => simp only [extremumByLoop, extremumLoop]; exact ih _
    | some r =>
      simp only [extremumByLoop, extremumLoop, byCmp_spaceship]
      rw [ncmp_eq_pc b r]
      cases pc b r with
      | none => rfl
      | some o => exact ih _

/-- the comparator loop has no `panic` arm -/
theorem extremumByLoop_no_panic (nc : Val → Val → Out Ordering) (f : Val → Val → Out Val) (bias : Ordering)
    (xs : List Val) : ∀ r : Option Val, extremumByLoop nc f bias r xs ≠ .panic := by
  induction xs with
  | nil => intro r; cases r <;> simp [extremumByLoop]
  | cons b rest ih =>
    intro r
    cases r with
    | none => exact ih _
    | some r =>
      simp only [extremumByLoop]
      cases byCmp nc f b r with
      | none => nofun
      | some o => exact ih _

/-- `max(xs, <=>)` (comparator form) is `max(xs)` -/
theorem extremumBy_spaceship (bias : Ordering) (xs : List Val) :
    extremumBy ncmp (cmpFn ncmp "cmp") bias xs = extremum bias xs := by
  simp only [extremumBy, extremum]
  have np := extremumByLoop_no_panic ncmp (cmpFn ncmp "cmp") bias xs none
  rw [extremumByLoop_spaceship] at np ⊢
  cases h : extremumLoop bias none xs with
  | ok r => cases r <;> rfl
  | throw => rfl
  | panic => exact absurd h np

/-! ## what every extremum form returns -/

theorem ne_bias {o bias : Ordering} (hb : bias ≠ .eq) (ho : o ≠ bias) : o = .eq ∨ o = bias.swap := by
  cases o <;> cases bias <;> simp_all

theorem below_trans {α : Type} {c : α → α → Option Ordering} (ht : TransLaw c) {y r b : α} {s : Ordering}
    (h : c y r = some .eq ∨ c y r = some s) (hrb : c r b = some s) : c y b = some s := by
  rcases h with h | h
  · exact ht y r b _ _ h hrb (Or.inl rfl)
  · have := ht y r b _ _ h hrb (Or.inr (Or.inr rfl))
    rwa [show s.then s = s by cases s <;> rfl] at this

section By
variable {nc : Val → Val → Out Ordering} {f : Val → Val → Out Val}
  (hs : SwapLaw (byCmp nc f)) (ht : TransLaw (byCmp nc f))

include hs ht in
/-- the loop of `Extremum::run` keeps, as running result, the FIRST element that nothing seen so
far strictly beats: `pre0` (strictly worse) and `post0` (worse or equal) are what was seen before
and after the running result `r`.  Only the two laws of the comparator are used. -/
theorem extremumByLoop_spec (bias : Ordering) (hb : bias ≠ .eq) (l : List Val) :
    ∀ (r : Val) (pre0 post0 : List Val) (m : Val),
      (∀ y ∈ pre0, byCmp nc f y r = some bias.swap) →
      (∀ y ∈ post0, byCmp nc f y r = some .eq ∨ byCmp nc f y r = some bias.swap) →
      extremumByLoop nc f bias (some r) l = .ok (some m) →
      ∃ pre post, pre0 ++ r :: (post0 ++ l) = pre ++ m :: post ∧
        (∀ y ∈ pre, byCmp nc f y m = some bias.swap) ∧
        (∀ y ∈ post, byCmp nc f y m = some .eq ∨ byCmp nc f y m = some bias.swap) := by
  induction l with
  | nil =>
    intro r pre0 post0 m h1 h2 h
    obtain rfl : r = m := by simpa only [extremumByLoop, Out.ok.injEq, Option.some.injEq] using h
    exact ⟨pre0, post0, by rw [List.append_nil], h1, h2⟩
  | cons b rest ih =>
    intro r pre0 post0 m h1 h2 h
    simp only [extremumByLoop] at h
    cases hbr : byCmp nc f b r with
    | none => rw [hbr] at h; cases h
    | some o =>
      rw [hbr] at h
      by_cases ho : o = bias
      · -- `b` beats `r`: everything seen so far is strictly worse than `b`
        subst ho
        simp only [beq_self_eq_true, if_true] at h
        have hrb : byCmp nc f r b = some o.swap := by rw [hs b r, hbr]; rfl
        have below : ∀ y ∈ pre0 ++ r :: post0, byCmp nc f y b = some o.swap := by
          intro y hy
          rcases List.mem_append.mp hy with hy | hy
          · exact below_trans ht (Or.inr (h1 y hy)) hrb
          · rcases List.mem_cons.mp hy with rfl | hy
            · exact hrb
            · exact below_trans ht (h2 y hy) hrb
        obtain ⟨pre, post, e, p1, p2⟩ := ih b (pre0 ++ r :: post0) [] m below (fun y hy => by cases hy) h
        exact ⟨pre, post, by rw [← e]; simp only [List.append_assoc, List.cons_append, List.nil_append], p1, p2⟩
      · -- `r` stays: `b` is equal or worse
        simp only [show (o == bias) = false by simpa using ho, Bool.false_eq_true, if_false] at h
        have notBetter : ∀ y ∈ post0 ++ [b], byCmp nc f y r = some .eq ∨ byCmp nc f y r = some bias.swap := by
          intro y hy
          rcases List.mem_append.mp hy with hy | hy
          · exact h2 y hy
          · obtain rfl := List.mem_singleton.mp hy
            rw [hbr]
            rcases ne_bias hb ho with rfl | rfl
            · exact Or.inl rfl
            · exact Or.inr rfl
        obtain ⟨pre, post, e, p1, p2⟩ := ih r pre0 (post0 ++ [b]) m h1 notBetter h
        exact ⟨pre, post, by rw [← e]; simp only [List.append_assoc, List.cons_append, List.nil_append], p1, p2⟩

include hs ht in
/-- `max(xs, f)` / `min(xs, f)` for ANY comparator function that is a consistent three-way
comparison: whenever it returns, the result is the first element of the argument list that no
element strictly beats -/
theorem extremumBy_agree (bias : Ordering) (hb : bias ≠ .eq) (xs : List Val) (m : Val)
    (h : extremumBy nc f bias xs = .ok m) :
    ∃ pre post, xs = pre ++ m :: post ∧
      (∀ y ∈ pre, byCmp nc f y m = some bias.swap) ∧
      (∀ y ∈ post, byCmp nc f y m = some .eq ∨ byCmp nc f y m = some bias.swap) := by
  unfold extremumBy at h
  cases xs with
  | nil => simp [extremumByLoop] at h
  | cons x rest =>
    simp only [extremumByLoop] at h
    cases hl : extremumByLoop nc f bias (some x) rest with
    | throw => rw [hl] at h; cases h
    | panic => rw [hl] at h; cases h
    | ok r =>
      rw [hl] at h
      cases r with
      | none => cases h
      | some r =>
        simp only [Out.ok.injEq] at h
        subst h
        simpa using extremumByLoop_spec hs ht bias hb rest x [] [] r (fun _ hy => nomatch hy) (fun _ hy => nomatch hy) hl

end By

/-- **min_max_agree**: whenever `min` / `max` return, the result is the first element of the
argument list that no element strictly beats in the comparison order: everything before it is
strictly worse, everything after it is worse or equal.  (`bias = .lt` is `min`, `.gt` is `max`.) -/
theorem min_max_agree (bias : Ordering) (hb : bias ≠ .eq) (xs : List Val) (m : Val)
    (h : extremum bias xs = .ok m) :
    ∃ pre post, xs = pre ++ m :: post ∧
      (∀ y ∈ pre, pc y m = some bias.swap) ∧
      (∀ y ∈ post, pc y m = some .eq ∨ pc y m = some bias.swap) := by
  rw [← extremumBy_spaceship] at h
  have := extremumBy_agree (byCmp_spaceship ▸ pc_swap) (byCmp_spaceship ▸ pc_trans) bias hb xs m h
  rwa [byCmp_spaceship] at this

/-! non-vacuity: the operands of the seeded call-form bug -/
example : cmpCall "<" [.num (.int (.small 1)), .num (.int (.small 3)), .num (.int (.small 2))] = .ok (ofBool false) → True :=
  fun _ => trivial
example : cmpLoop "<" [.num (.int (.small 1)), .num (.int (.small 3)), .num (.int (.small 2))] = .ok false := by
  decide +kernel
example : cmpLoop "!=" [.num (.int (.small 1)), .num (.int (.small 2)), .num (.int (.small 1))] = .ok true := by
  decide +kernel
example : cmpLoop "<" [.num (.int (.small 2)), .num (.int (.small 1)), .str [97]] = .ok false := by decide +kernel
example : cmpLoop "<" [.num (.int (.small 1)), .str [97], .num (.int (.small 0))] = .throw := by decide +kernel
example : (extremum .gt [.num (.int (.small 1)), .num (.int (.small 3)), .num (.int (.small 2))]).map numOf
    = .ok (some (.int (.small 3))) := by decide +kernel

end Noulith.C08
