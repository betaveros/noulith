/-
C17 — the induction behind `freeze_preserves_first_order` (Theorems/C17FirstOrder.lean; side condition and
invariants: Theorems/C17Preserve.lean, whose namespace goes on here).  Frozen code against the original on ONE store
is an instance `presLogic` of the rules of Theorems/C17Logic.lean; an arm of `Pres.step` inverts the successful freeze
and the passed check and applies the rule: the table a part was frozen against is a prefix of the one the whole ends
with (`Froze.tab`), its bound set a subset (`Froze.mono`: the `le` of the rules).  By hand: the identifier freeze
resolved (`ev_ident`), and that the name of a builtin that is not bound, frozen or not, evaluates to the builtin
(`builtin_ident`: the callee and the `into` function).
-/
import NoulithModel.Theorems.C17Logic
import NoulithModel.Theorems.C17Preserve

namespace Noulith.C17Preserve
open Noulith Noulith.Core Noulith.C17Closed Noulith.C17Frames Noulith.C17Sim

variable {look : String → Option Val}

/-! ### frozen against original code, as an instance of the rules -/

variable (look) (Tf : List Val)

/-- `c = (b, S)`: the bound set freeze has reached, the names surely declared.  Before a step `Pre look b`, the final
table `Tf` is there and `S ⊆ b`; the postcondition is `Post`, with what the checker knows statically carried along:
bound sets only grow, and the surely declared names are bound. -/
def presLogic : PLogic id (List String × List String) where
  Pre c st env := Pre look c.1 st env ∧ Tf <+: st.frozenTab ∧ ∀ x, x ∈ c.2 → x ∈ c.1
  Post c st env c' nm s :=
    Post look c.2 st env c'.1 c'.2 nm s ∧ (∀ x, x ∈ c.1 → x ∈ c'.1) ∧ (nm → ∀ x, x ∈ c'.2 → x ∈ c'.1)
  PatOk c p c' := c'.2 = c.2 ++ Pat.idents p ∧ (∀ x, x ∈ c.1 → x ∈ c'.1) ∧ ∀ x, x ∈ Pat.idents p → x ∈ c'.1
  Var c x := x ∈ c.2
  le c1 c2 := ∀ x, x ∈ c1.1 → x ∈ c2.1
  rst c1 c2 := (c2.1, c1.2)
  f := id
  frames _ := rfl
  le_refl _ _ h := h
  still g hf ht := ⟨Post.of_frames_eq _ g.1 hf ht (fun _ h => h) (fun _ h => h), fun _ h => h, fun _ => g.2.2⟩
  toPre g p hn := ⟨p.1.toPre g.1.lt, tab_step g.2.1 p.1.ext, p.2.2 hn⟩
  abort p hn h := ⟨p.1.abort hn h, fun x hx => h x (p.2.1 x hx), fun h' => absurd h' hn⟩
  imp p h := ⟨p.1.imp h, p.2.1, fun hn => p.2.2 (h hn)⟩
  seq hn p1 p2 := ⟨Post.seq hn p1.1 p2.1, fun x hx => p2.2.1 x (p1.2.1 x hx), p2.2.2⟩
  weaken p h := ⟨p.1.weaken h fun _ h => h, fun x hx => h x (p.2.1 x hx), fun hn x hx => h x (p.2.2 hn x hx)⟩
  keep g p h := ⟨p.1.keepS h, fun x hx => h x (p.2.1 x hx), fun _ x hx => h x (p.2.1 x (g.2.2 x hx))⟩
  fresh := fun {c st env} g =>
    ⟨rfl, ⟨pre_clone g.1 (FrameStep.refl _ _ []) (fun _ h => h) (fun _ hx => nomatch hx), g.2.1, g.2.2⟩,
      fun inner => ⟨post_clone g.1 g.2.2 inner.1, fun _ h => h, fun _ => g.2.2⟩⟩
  bind := fun {c c' st env p} d v g hp => by
    obtain ⟨b', S'⟩ := c'
    obtain ⟨rfl, hb, hpb⟩ := hp
    refine ⟨rfl, fun hnm => ⟨post_declare g.1 hb hpb hnm, hb, fun _ x hx => ?_⟩⟩
    rcases List.mem_append.mp hx with h | h
    · exact hb x (g.2.2 x h)
    · exact hpb x h
  lookup _ _ := rfl
  wf g := g.1.wf
  assign _ _ _ := Option.map_id'.symm
  drop _ _ := Option.map_id'.symm
  write g hx ws := ⟨post_write g.1 hx (g.2.2 _ hx) ws, fun _ h => h, fun _ => g.2.2⟩

/-! ### the statements -/

structure Pres (n : Nat) : Prop where
  ev : ∀ {s s' : FState Val} {e e' : Expr} {S S' : List String}, freezeExpr look s e = .ok (e', s') →
    okExpr S s.bound e = some S' → s'.tab <+: Tf → (presLogic look Tf).Ev n (s.bound, S) e' e (s'.bound, S')
  evList : ∀ {s s' : FState Val} {es es' : List Expr} {S S' : List String}, freezeList look s es = .ok (es', s') →
    okList S s.bound es = some S' → s'.tab <+: Tf → (presLogic look Tf).EvList n (s.bound, S) es' es (s'.bound, S')
  evSeq : ∀ {s s' : FState Val} {es es' : List Expr} {S S' : List String}, freezeList look s es = .ok (es', s') →
    okList S s.bound es = some S' → s'.tab <+: Tf → (presLogic look Tf).EvSeq n (s.bound, S) es' es (s'.bound, S')
  evSwitch : ∀ {s s' : FState Val} {arms arms' : List SwitchArm} {S : List String},
    freezeArms look s arms = .ok (arms', s') → okArms S s.bound arms = true → s'.tab <+: Tf →
    (presLogic look Tf).EvSwitch n (s.bound, S) arms' arms
  evWhile : ∀ {s s2 s3 : FState Val} {c c' b b' : Expr} {S S1 S2 : List String},
    freezeExpr look s c = .ok (c', s2) → freezeExpr look s2 b = .ok (b', s3) → okExpr S s.bound c = some S1 →
    okExpr S1 s2.bound b = some S2 → s3.tab <+: Tf → (presLogic look Tf).EvWhile n (s.bound, S) c' b' c b
  evFor : ∀ {s s2 s3 : FState Val} {its its' : List ForIt} {body body' : ForBody} {S S2 : List String},
    freezeIts look s its = .ok (its', s2) → freezeBody look s2 body = .ok (body', s3) →
    okIts S s.bound its = some S2 → okBody S2 s2.bound body = true → s3.tab <+: Tf →
    (presLogic look Tf).EvFor n (s.bound, S) its' body' its body (headAfter s.bound its body, S)
  fItems : ∀ {s s2 s3 : FState Val} {b : List String} {p : Pat} {rest rest' : List ForIt} {body body' : ForBody}
    {S S2 : List String}, s.bound = b ++ Pat.idents p → freezeIts look s rest = .ok (rest', s2) →
    freezeBody look s2 body = .ok (body', s3) → okIts (S ++ Pat.idents p) s.bound rest = some S2 →
    okBody S2 s2.bound body = true → s3.tab <+: Tf → (presLogic look Tf).EvItems n (b, S) p rest' body' rest body
  fBody : ∀ {s s' : FState Val} {body body' : ForBody} {S : List String}, freezeBody look s body = .ok (body', s') →
    okBody S s.bound body = true → s'.tab <+: Tf → (presLogic look Tf).EvBody n (s.bound, S) body' body (s'.bound, S)

theorem Pres.zero : Pres look Tf 0 where
  ev hf _ _ := PLogic.Ev.zero (freezeExpr_froze hf).mono
  evList hf _ _ := PLogic.EvList.zero (freezeList_froze hf).mono
  evSeq hf _ _ := PLogic.EvSeq.zero (freezeList_froze hf).mono
  evSwitch _ _ _ := PLogic.EvSwitch.zero
  evWhile _ _ _ _ _ := PLogic.EvWhile.zero
  evFor _ _ _ _ _ := PLogic.EvFor.zero (headAfter_mono _ _ _)
  fItems _ _ _ _ _ _ := PLogic.EvItems.zero
  fBody hf _ _ := PLogic.EvBody.zero (freezeBody_froze hf).mono

variable {look Tf}

/-! ### leaves -/

theorem ev_leaf {n : Nat} {s s' : FState Val} {e e' : Expr} {S S' : List String} {st : State} {env : Nat}
    (hf : freezeExpr look s e = .ok (e', s')) (he : e' = e) (hs : s' = s) (hS : S' = S)
    (hp : Pre look s.bound st env) (hst : (eval (n + 1) st env e).2 = st) :
    eval (n + 1) st env e' = eval (n + 1) st env e ∧
      Post look S st env s'.bound S' (IsVal (eval (n + 1) st env e).1) (eval (n + 1) st env e).2 := by
  subst he hs hS
  refine ⟨rfl, ?_⟩
  rw [hst]
  exact Post.refl _ hp (fun _ h => h) (fun _ h => h)

/-- a bound name stays; a free one was replaced by its value at freeze time, which `Agree` says is its
value now -/
theorem ev_ident {n : Nat} {s s' : FState Val} {x : String} {e' : Expr} {S S' : List String} {st : State}
    {env : Nat} (hf : freezeExpr look s (.ident x) = .ok (e', s')) (hok : okExpr S s.bound (.ident x) = some S')
    (htab : s'.tab <+: st.frozenTab) (hp : Pre look s.bound st env) :
    eval (n + 1) st env e' = eval (n + 1) st env (.ident x) ∧
      Post look S st env s'.bound S' (IsVal (eval (n + 1) st env (.ident x)).1)
        (eval (n + 1) st env (.ident x)).2 := by
  have hok : S = S' := Option.some.inj hok
  have hst : (eval (n + 1) st env (.ident x)).2 = st := by rw [eval_ident_lookOf]
  rcases freeze_ident_inv hf with ⟨_, he, hs⟩ | ⟨hnb, v, hv, rfl, rfl⟩
  · exact ev_leaf hf he hs hok.symm hp hst
  · refine ⟨?_, ?_⟩
    · rw [eval_ident_lookOf, hp.agree x hnb, hv]
      simp only [eval, tab_get htab]
    · rw [hst, ← hok]; exact Post.refl _ hp (fun _ h => h) (fun _ h => h)

/-! ### lists, sequences, switch arms, loops -/

theorem list_step {n : Nat} (ih : Pres look Tf n) {s s' : FState Val} {es es' : List Expr} {S S' : List String}
    (hf : freezeList look s es = .ok (es', s')) (hok : okList S s.bound es = some S') (htab : s'.tab <+: Tf) :
    (presLogic look Tf).EvList (n + 1) (s.bound, S) es' es (s'.bound, S') := by
  cases es with
  | nil =>
    simp only [freezeList] at hf
    cases hf; cases hok
    exact PLogic.list_nil
  | cons x xs =>
    obtain ⟨x', s1, xs', hx, hxs, rfl⟩ := freezeList_cons_inv hf
    obtain ⟨S1, hokX, hokXs⟩ := ok_bind hok
    rw [← (freezeExpr_froze hx).bound] at hokXs
    exact PLogic.list_cons (ih.ev hx hokX ((freezeList_froze hxs).tab.trans htab)) (ih.evList hxs hokXs htab)
      (freezeList_froze hxs).mono

theorem seq_step {n : Nat} (ih : Pres look Tf n) {s s' : FState Val} {es es' : List Expr} {S S' : List String}
    (hf : freezeList look s es = .ok (es', s')) (hok : okList S s.bound es = some S') (htab : s'.tab <+: Tf) :
    (presLogic look Tf).EvSeq (n + 1) (s.bound, S) es' es (s'.bound, S') := by
  cases es with
  | nil =>
    simp only [freezeList] at hf
    cases hf; cases hok
    exact PLogic.seq_nil
  | cons x xs =>
    obtain ⟨x', s1, xs', hx, hxs, rfl⟩ := freezeList_cons_inv hf
    obtain ⟨S1, hokX, hokXs⟩ := ok_bind hok
    rw [← (freezeExpr_froze hx).bound] at hokXs
    cases xs with
    | nil =>
      simp only [freezeList] at hxs
      cases hxs; cases hokXs
      exact PLogic.seq_one (ih.ev hx hokX htab)
    | cons y ys =>
      obtain ⟨y', s2, ys', _, _, rfl⟩ := freezeList_cons_inv hxs
      exact PLogic.seq_cons (ih.ev hx hokX ((freezeList_froze hxs).tab.trans htab)) (ih.evSeq hxs hokXs htab)
        (freezeList_froze hxs).mono

/-- a pattern bound in a fresh scope: freeze binds its names on top of the bound set it has reached -/
theorem patOk_fresh (b S : List String) (p : Pat) :
    (presLogic look Tf).PatOk (b, S) p (b ++ Pat.idents p, S ++ Pat.idents p) :=
  ⟨rfl, fun _ h => List.mem_append_left _ h, fun _ h => List.mem_append_right _ h⟩

/-- …bound in the scope one is in: its names are bound already -/
theorem patOk_here {b S : List String} {p : Pat} (h : ∀ x, x ∈ Pat.idents p → x ∈ b) :
    (presLogic look Tf).PatOk (b, S) p (b, S ++ Pat.idents p) := ⟨rfl, fun _ h => h, h⟩

theorem switch_step {n : Nat} (ih : Pres look Tf n) {s s' : FState Val} {arms arms' : List SwitchArm} {S : List String}
    (hf : freezeArms look s arms = .ok (arms', s')) (hok : okArms S s.bound arms = true) (htab : s'.tab <+: Tf) :
    (presLogic look Tf).EvSwitch (n + 1) (s.bound, S) arms' arms := by
  cases arms with
  | nil =>
    simp only [freezeArms, Except.ok.injEq, Prod.mk.injEq] at hf
    obtain ⟨rfl, rfl⟩ := hf
    exact PLogic.switch_nil
  | cons a rest =>
    obtain ⟨p, body⟩ := a
    simp only [freezeArms] at hf
    obtain ⟨body', s2, hbody, hf⟩ := fz_bindE hf
    obtain ⟨rest', s3, hrest, hf⟩ := fz_bindA hf
    cases hf
    obtain ⟨⟨Sb, hokB⟩, hokR⟩ := isSome_and_inv hok
    exact PLogic.switch_cons (patOk_fresh s.bound S p)
      (ih.ev (s := { s with bound := s.bound ++ Pat.idents p }) hbody hokB ((freezeArms_froze hrest).tab.trans htab))
      (ih.evSwitch (s := { s with tab := s2.tab }) hrest hokR htab)

theorem while_step {n : Nat} (ih : Pres look Tf n) {s s2 s3 : FState Val} {c c' b b' : Expr} {S S1 S2 : List String}
    (hc : freezeExpr look s c = .ok (c', s2)) (hb : freezeExpr look s2 b = .ok (b', s3))
    (hokC : okExpr S s.bound c = some S1) (hokB : okExpr S1 s2.bound b = some S2) (htab : s3.tab <+: Tf) :
    (presLogic look Tf).EvWhile (n + 1) (s.bound, S) c' b' c b :=
  PLogic.while_step (ih.ev hc hokC ((freezeExpr_froze hb).tab.trans htab)) (ih.ev hb hokB htab)
    (ih.evWhile hc hb hokC hokB htab)

/-! ### `for` -/

theorem body_step {n : Nat} (ih : Pres look Tf n) {s s' : FState Val} {body body' : ForBody} {S : List String}
    (hf : freezeBody look s body = .ok (body', s')) (hok : okBody S s.bound body = true) (htab : s'.tab <+: Tf) :
    (presLogic look Tf).EvBody (n + 1) (s.bound, S) body' body (s'.bound, S) := by
  cases body with
  | exec e =>
    simp only [freezeBody] at hf
    obtain ⟨e', s1, he, hf⟩ := fz_bindE hf
    cases hf
    obtain ⟨Se, hokE⟩ := Option.isSome_iff_exists.mp hok
    exact PLogic.body_exec (ih.ev he hokE htab)
  | yield e into =>
    simp only [freezeBody] at hf
    obtain ⟨e', s1, he, hf⟩ := fz_bindE hf
    obtain ⟨into', s2, hi, hf⟩ := fz_bindO hf
    cases hf
    obtain ⟨⟨Se, hokE⟩, _⟩ := isSome_and_inv hok
    exact PLogic.body_yield (c2 := (s'.bound, S)) into into'
      (ih.ev he hokE ((freezeOpt_froze hi).tab.trans htab)) (freezeOpt_froze hi).mono
  | yieldItem k v into =>
    simp only [freezeBody] at hf
    obtain ⟨k', s1, hk, hf⟩ := fz_bindE hf
    obtain ⟨v', s2, hv, hf⟩ := fz_bindE hf
    obtain ⟨into', s3, hi, hf⟩ := fz_bindO hf
    cases hf
    obtain ⟨Sk, hokK, hok⟩ := ok_bindB hok
    rw [← (freezeExpr_froze hk).bound] at hok
    obtain ⟨⟨Sv, hokV⟩, _⟩ := isSome_and_inv hok
    have fi := freezeOpt_froze hi
    exact PLogic.body_item (c3 := (s'.bound, S)) into into'
      (ih.ev hk hokK ((freezeExpr_froze hv).tab.trans (fi.tab.trans htab))) (ih.ev hv hokV (fi.tab.trans htab))
      (fun x hx => fi.mono x ((freezeExpr_froze hv).mono x hx)) fi.mono

theorem items_step {n : Nat} (ih : Pres look Tf n) {s s2 s3 : FState Val} {b : List String} {p : Pat}
    {rest rest' : List ForIt} {body body' : ForBody} {S S2 : List String} (hsb : s.bound = b ++ Pat.idents p)
    (hrest : freezeIts look s rest = .ok (rest', s2)) (hbody : freezeBody look s2 body = .ok (body', s3))
    (hokR : okIts (S ++ Pat.idents p) s.bound rest = some S2) (hokB : okBody S2 s2.bound body = true)
    (htab : s3.tab <+: Tf) : (presLogic look Tf).EvItems (n + 1) (b, S) p rest' body' rest body :=
  PLogic.items_step (hsb ▸ patOk_fresh b S p)
    (ih.evFor hrest hbody hokR hokB htab) (ih.fItems hsb hrest hbody hokR hokB htab)

theorem for_step {n : Nat} (ih : Pres look Tf n) {s s2 s3 : FState Val} {its its' : List ForIt} {body body' : ForBody}
    {S S2 : List String} (hits : freezeIts look s its = .ok (its', s2)) (hbody : freezeBody look s2 body = .ok (body', s3))
    (hokI : okIts S s.bound its = some S2) (hokB : okBody S2 s2.bound body = true) (htab : s3.tab <+: Tf) :
    (presLogic look Tf).EvFor (n + 1) (s.bound, S) its' body' its body (headAfter s.bound its body, S) := by
  cases its with
  | nil =>
    simp only [freezeIts, Except.ok.injEq, Prod.mk.injEq] at hits
    obtain ⟨rfl, rfl⟩ := hits
    obtain rfl := Option.some.inj hokI
    simp only [headAfter]
    rw [← (freezeBody_froze hbody).bound]
    exact PLogic.for_nil (ih.fBody hbody hokB htab)
  | cons it rest =>
    cases it with
    | guard g =>
      simp only [freezeIts] at hits
      obtain ⟨g', s1, hg, hits⟩ := fz_bindE hits
      obtain ⟨rest', s2', hrest, hits⟩ := fz_bindI hits
      cases hits
      obtain ⟨S1, hokG, hokR⟩ := ok_bind hokI
      rw [← (freezeExpr_froze hg).bound] at hokR
      simp only [headAfter]
      rw [← (freezeExpr_froze hg).bound]
      exact PLogic.for_guard (ih.ev hg hokG ((freezeIts_froze hrest).tab.trans ((freezeBody_froze hbody).tab.trans htab)))
        (ih.evFor hrest hbody hokR hokB htab) (headAfter_mono rest s1.bound body)
    | iter kind p e =>
      simp only [freezeIts] at hits
      obtain ⟨e', s1, he, hits⟩ := fz_bindE hits
      obtain ⟨rest', s2', hrest, hits⟩ := fz_bindI hits
      cases hits
      obtain ⟨S1, hokE, hokR⟩ := ok_bind hokI
      rw [← (freezeExpr_froze he).bound] at hokR
      simp only [headAfter]
      rw [← (freezeExpr_froze he).bound]
      exact PLogic.for_iter kind (ih.ev he hokE ((freezeIts_froze hrest).tab.trans ((freezeBody_froze hbody).tab.trans htab)))
        (patOk_fresh s1.bound S1 p)
        (ih.evFor (s := { s1 with bound := s1.bound ++ Pat.idents p }) hrest hbody hokR hokB htab)
        (ih.fItems (s := { s1 with bound := s1.bound ++ Pat.idents p }) rfl hrest hbody hokR hokB htab)

/-! ### calls of builtins -/

/-- the name of a builtin that is not bound: freeze has put the builtin itself in its place -/
theorem builtin_ident (hB : HBuiltins look) {s s1 : FState Val} {g : String} {f' : Expr} {b S : List String}
    (hg : g ∈ builtinNames) (hgb : g ∉ s.bound) (hf : freezeExpr look s (.ident g) = .ok (f', s1))
    (htab : s1.tab <+: Tf) (hle : ∀ x, x ∈ b → x ∈ s.bound) (k : Nat) :
    (presLogic look Tf).EvBuiltin k (b, S) f' (.ident g) := fun {st env} gp => by
  obtain ⟨rfl, hget⟩ := freeze_builtin_name hB hg hgb hf (htab.trans gp.2.1)
  cases k with
  | zero => exact .inl ⟨by simp only [eval], by simp only [eval]⟩
  | succ j =>
    refine .inr ⟨g, ?_, ?_⟩
    · show eval (j + 1) st env _ = (_, st)
      simp only [eval, hget]
    · rw [eval_ident_lookOf, gp.1.agree g (fun h => hgb (hle g h)), hB g hg]

theorem into_ok (hB : HBuiltins look) {sI s3 : FState Val} {o o' : Option Expr} {b S : List String} {n : Nat}
    (hi : freezeOpt look sI o = .ok (o', s3)) (hok : okInto sI.bound o = true) (hle : ∀ x, x ∈ b → x ∈ sI.bound)
    (htab : s3.tab <+: Tf) : PLogic.IntoOk (presLogic look Tf) n (b, S) o' o := by
  rcases okInto_inv hok with rfl | ⟨f, rfl, hf, hfb⟩
  · simp only [freezeOpt, Except.ok.injEq, Prod.mk.injEq] at hi
    obtain ⟨rfl, rfl⟩ := hi
    exact .absent
  · obtain ⟨e', he, rfl⟩ := freezeOpt_some_inv hi
    exact .builtin (builtin_ident hB hf hfb he htab hle)

/-! ### the arms of `eval` -/

variable (look Tf) in
def EvAt (n : Nat) (e : Expr) : Prop :=
  ∀ {s s' : FState Val} {e' : Expr} {S S' : List String}, freezeExpr look s e = .ok (e', s') →
    okExpr S s.bound e = some S' → s'.tab <+: Tf → (presLogic look Tf).Ev n (s.bound, S) e' e (s'.bound, S')

theorem ev_call {n : Nat} (ih : Pres look Tf n) (hB : HBuiltins look) {f : Expr} {args : List Expr} :
    EvAt look Tf (n + 1) (.call f args) := by
  intro s s' e' S S' hf hok htab
  cases f with
  | ident g =>
    obtain ⟨hcond, hok⟩ := ok_if hok
    simp only [Bool.and_eq_true, Bool.not_eq_true', List.contains_eq_mem, decide_eq_true_eq,
      decide_eq_false_iff_not] at hcond
    unfold freezeExpr at hf
    obtain ⟨f', s1, hfz', hf⟩ := fz_bindE hf
    obtain ⟨args', s2, hargs, hf⟩ := fz_bindL hf
    cases hf
    have hb1 : s1.bound = s.bound := by rw [(freezeExpr_froze hfz').bound]; simp only [afterExpr]
    have fl := freezeList_froze hargs
    rw [← hb1] at hok
    have hl : (presLogic look Tf).EvList n (s1.bound, S) args' args (s'.bound, S') := ih.evList hargs hok htab
    rw [hb1] at hl
    exact PLogic.call_builtin (builtin_ident hB hcond.1 hcond.2 hfz' (fl.tab.trans htab) (fun _ h => h) n) hl
      (hb1 ▸ fl.mono)
  | _ => cases hok

theorem ev_for {n : Nat} (ih : Pres look Tf n) (hB : HBuiltins look) {its : List ForIt} {body : ForBody} :
    EvAt look Tf (n + 1) (.for_ its body) := by
  intro s s' e' S S' hf hok htab
  simp only [freezeExpr] at hf
  obtain ⟨its', s2, hits, hf⟩ := fz_bindI hf
  obtain ⟨body', s3, hbody, hf⟩ := fz_bindB hf
  cases hf
  obtain ⟨hhead, hok⟩ := ok_if hok
  have hhd : headAfter s.bound its body = s.bound := by simpa using hhead
  obtain ⟨S2, hokI, hok⟩ := ok_bind hok
  rw [← (freezeIts_froze hits).bound] at hok
  obtain ⟨hokB, hok⟩ := ok_if hok
  cases hok
  have hfor : (presLogic look Tf).EvFor n (s.bound, S) its' body' its body (headAfter s.bound its body, S) :=
    ih.evFor hits hbody hokI hokB htab
  rw [hhd] at hfor
  cases body with
  | exec e =>
    simp only [freezeBody] at hbody
    obtain ⟨e1', s2a, he, hbody⟩ := fz_bindE hbody
    cases hbody
    exact PLogic.for_exec hfor
  | yield e into =>
    simp only [okBody, Bool.and_eq_true] at hokB
    simp only [freezeBody] at hbody
    obtain ⟨e1', s2a, he, hbody⟩ := fz_bindE hbody
    obtain ⟨into', s3', hi, hbody⟩ := fz_bindO hbody
    cases hbody
    have hokInto := hokB.2
    rw [← (freezeExpr_froze he).bound] at hokInto
    exact PLogic.for_yield
      (into_ok hB hi hokInto (fun x hx => (freezeExpr_froze he).mono x ((freezeIts_froze hits).mono x hx)) htab) hfor
      (fun _ h => h)
  | yieldItem k v into =>
    obtain ⟨Sk, hokK, hokB⟩ := ok_bindB hokB
    simp only [Bool.and_eq_true] at hokB
    simp only [freezeBody] at hbody
    obtain ⟨k1', s2a, hk, hbody⟩ := fz_bindE hbody
    obtain ⟨v1', s2b, hv, hbody⟩ := fz_bindE hbody
    obtain ⟨into', s3', hi, hbody⟩ := fz_bindO hbody
    cases hbody
    have hokInto := hokB.2
    rw [← (freezeExpr_froze hk).bound, ← (freezeExpr_froze hv).bound] at hokInto
    exact PLogic.for_item (into_ok hB hi hokInto (fun x hx =>
        (freezeExpr_froze hv).mono x ((freezeExpr_froze hk).mono x ((freezeIts_froze hits).mono x hx))) htab)
      hfor (fun _ h => h)

/-! ### assembling -/

theorem eval_step {n : Nat} (ih : Pres look Tf n) (hB : HBuiltins look) {e : Expr} : EvAt look Tf (n + 1) e := by
  intro s s' e' S S' hf hok htab
  cases e with
  | null => cases hf; cases hok; exact PLogic.null
  | int j => cases hf; cases hok; exact PLogic.int j
  | str x => cases hf; cases hok; exact PLogic.str x
  | cont j => cases hf; cases hok; exact PLogic.cont j
  | ident x =>
    refine ⟨fun {st env} g => ?_⟩
    obtain ⟨h1, h2⟩ := ev_ident (n := n) hf hok (List.IsPrefix.trans htab g.2.1) g.1
    exact ⟨h1, h2, (freezeExpr_froze hf).mono, fun _ y hy =>
      (freezeExpr_froze hf).mono y (g.2.2 y (Option.some.inj hok ▸ hy))⟩
  | list xs =>
    simp only [freezeExpr] at hf
    split at hf
    · rename_i xs' s1 hxs
      cases hf
      exact PLogic.list (ih.evList hxs hok htab)
    · cases hf
  | op name a b =>
    simp only [freezeExpr] at hf
    obtain ⟨a', s1, b', ha, hb, rfl⟩ := freeze_two_inv _ _ _ _ _ (fun x y => Expr.op name x y) _ hf
    obtain ⟨S1, hokA, hokB⟩ := ok_bind hok
    rw [← (freezeExpr_froze ha).bound] at hokB
    exact PLogic.op name (ih.ev ha hokA ((freezeExpr_froze hb).tab.trans htab)) (ih.ev hb hokB htab)
      (freezeExpr_froze hb).mono
  | index a b =>
    simp only [freezeExpr] at hf
    obtain ⟨a', s1, b', ha, hb, rfl⟩ := freeze_two_inv _ _ _ _ _ (fun x y => Expr.index x y) _ hf
    obtain ⟨S1, hokA, hokB⟩ := ok_bind hok
    rw [← (freezeExpr_froze ha).bound] at hokB
    exact PLogic.index (ih.ev ha hokA ((freezeExpr_froze hb).tab.trans htab)) (ih.ev hb hokB htab)
      (freezeExpr_froze hb).mono
  | call f args => exact ev_call ih hB hf hok htab
  | and_ a b =>
    simp only [freezeExpr] at hf
    obtain ⟨a', s1, b', ha, hb, rfl⟩ := freeze_two_inv _ _ _ _ _ (fun x y => Expr.and_ x y) _ hf
    obtain ⟨S2, hokA, hokB⟩ := ok_cond hok
    rw [← (freezeExpr_froze ha).bound] at hokB
    exact PLogic.and_ (ih.ev ha hokA ((freezeExpr_froze hb).tab.trans htab))
      (ih.ev hb hokB htab) (freezeExpr_froze hb).mono
  | or_ a b =>
    simp only [freezeExpr] at hf
    obtain ⟨a', s1, b', ha, hb, rfl⟩ := freeze_two_inv _ _ _ _ _ (fun x y => Expr.or_ x y) _ hf
    obtain ⟨S2, hokA, hokB⟩ := ok_cond hok
    rw [← (freezeExpr_froze ha).bound] at hokB
    exact PLogic.or_ (ih.ev ha hokA ((freezeExpr_froze hb).tab.trans htab))
      (ih.ev hb hokB htab) (freezeExpr_froze hb).mono
  | coalesce a b =>
    simp only [freezeExpr] at hf
    obtain ⟨a', s1, b', ha, hb, rfl⟩ := freeze_two_inv _ _ _ _ _ (fun x y => Expr.coalesce x y) _ hf
    obtain ⟨S2, hokA, hokB⟩ := ok_cond hok
    rw [← (freezeExpr_froze ha).bound] at hokB
    exact PLogic.coalesce (ih.ev ha hokA ((freezeExpr_froze hb).tab.trans htab))
      (ih.ev hb hokB htab) (freezeExpr_froze hb).mono
  | seq xs semi =>
    simp only [freezeExpr] at hf
    split at hf
    · rename_i xs' s1 hxs
      cases hf
      exact PLogic.seq_ semi (ih.evSeq hxs hok htab)
    · cases hf
  | ite c t e =>
    simp only [freezeExpr] at hf
    obtain ⟨c', s1, hc, hf⟩ := fz_bindE hf
    obtain ⟨t', s2, ht, hf⟩ := fz_bindE hf
    obtain ⟨eo', s3, he, hf⟩ := fz_bindO hf
    cases hf
    obtain ⟨S1, hokC, hok⟩ := ok_bind hok
    obtain ⟨St, hokT, hok⟩ := ok_bind hok
    obtain ⟨Se, hokE, hok⟩ := ok_bind hok
    cases hok
    rw [← (freezeExpr_froze hc).bound] at hokT hokE
    rw [← (freezeExpr_froze ht).bound] at hokE
    refine PLogic.ite (ih.ev hc hokC ((freezeExpr_froze ht).tab.trans ((freezeOpt_froze he).tab.trans htab)))
      (ih.ev ht hokT ((freezeOpt_froze he).tab.trans htab)) (freezeExpr_froze ht).mono
      (c3 := (s'.bound, Se)) (freezeOpt_froze he).mono (fun x hx => ?_) fun hx => ?_
    · subst hx
      obtain ⟨e1', he1, rfl⟩ := freezeOpt_some_inv he
      exact ⟨e1', rfl, ih.ev he1 hokE htab⟩
    · subst hx
      simp only [freezeOpt, Except.ok.injEq, Prod.mk.injEq] at he
      exact he.1.symm
  | while_ c b =>
    simp only [freezeExpr] at hf
    obtain ⟨c', s2, hc, hf⟩ := fz_bindE hf
    obtain ⟨b', s3, hb, hf⟩ := fz_bindE hf
    cases hf
    obtain ⟨S1, hokC, hok⟩ := ok_bind hok
    rw [← (freezeExpr_froze hc).bound] at hok
    obtain ⟨S2, hokB, hok⟩ := ok_bind hok
    cases hok
    exact PLogic.while_ (ih.evWhile hc hb hokC hokB htab)
  | for_ its body => exact ev_for ih hB hf hok htab
  | declare p rhs =>
    simp only [freezeExpr] at hf
    obtain ⟨rhs', s1, hr, hf⟩ := fz_bindE hf
    cases hf
    obtain ⟨S1, hokR, hok⟩ := ok_bind hok
    cases hok
    -- freeze binds the names before it walks the right-hand side
    have hrhs : (presLogic look Tf).Ev n (s.bound, S) rhs' rhs (s'.bound, S1) := ⟨fun g =>
      ((ih.ev (s := { s with bound := s.bound ++ Pat.idents p }) hr hokR htab).sim
        ⟨g.1.mono fun _ h => List.mem_append_left _ h, g.2.1, fun x hx => List.mem_append_left _ (g.2.2 x hx)⟩).mono
        fun _ _ q => ⟨q.1, fun x hx => q.2.1 x (List.mem_append_left _ hx), q.2.2⟩⟩
    exact PLogic.declare hrhs (patOk_here fun x hx => (freezeExpr_froze hr).mono x (List.mem_append_right _ hx))
      (fun _ h => h)
  | assign x rhs =>
    simp only [freezeExpr] at hf
    obtain ⟨rhs', hr, rfl⟩ := freeze_assign_inv (fun r => Expr.assign x r) hf
    obtain ⟨hxS, hok⟩ := ok_if hok
    exact PLogic.assign_ (ih.ev hr hok htab) (okE_mono hok x (List.contains_iff_mem.mp hxS))
  | opassign x opn rhs =>
    simp only [freezeExpr] at hf
    obtain ⟨rhs', hr, rfl⟩ := freeze_assign_inv (fun r => Expr.opassign x opn r) hf
    obtain ⟨hxS, hok⟩ := ok_if hok
    have hxS' : x ∈ S := List.contains_iff_mem.mp hxS
    exact PLogic.opassign opn hxS' (ih.ev hr hok htab) (freezeExpr_froze hr).mono
      (okE_mono hok x hxS')
  | brk k e =>
    simp only [freezeExpr] at hf
    obtain ⟨o', s1, ho, hf⟩ := fz_bindO hf
    cases hf
    cases e with
    | none =>
      simp only [freezeOpt] at ho
      cases ho; cases hok
      exact PLogic.brk_none k
    | some e1 =>
      obtain ⟨e1', he1, rfl⟩ := freezeOpt_some_inv ho
      exact PLogic.brk k (ih.ev he1 hok htab)
  | ret e =>
    simp only [freezeExpr] at hf
    obtain ⟨o', s1, ho, hf⟩ := fz_bindO hf
    cases hf
    cases e with
    | none =>
      simp only [freezeOpt] at ho
      cases ho; cases hok
      exact PLogic.ret_none
    | some e1 =>
      obtain ⟨e1', he1, rfl⟩ := freezeOpt_some_inv ho
      exact PLogic.ret (ih.ev he1 hok htab)
  | throw_ e =>
    simp only [freezeExpr] at hf
    obtain ⟨e1', s1, he1, hf⟩ := fz_bindE hf
    cases hf
    exact PLogic.throw_ (ih.ev (e := e) he1 hok htab)
  | try_ b p c =>
    simp only [freezeExpr] at hf
    obtain ⟨b', s1, hb, hf⟩ := fz_bindE hf
    obtain ⟨c', s3, hc, hf⟩ := fz_bindE hf
    cases hf
    obtain ⟨Sb, hokB, hok⟩ := ok_bind hok
    rw [← (freezeExpr_froze hb).bound] at hok
    obtain ⟨Sc, hokC, hok⟩ := ok_bind hok
    cases hok
    exact PLogic.try_ (ih.ev hb hokB ((freezeExpr_froze hc).tab.trans htab)) (patOk_fresh s1.bound S p)
      (ih.ev (s := { s1 with bound := s1.bound ++ Pat.idents p }) hc hokC htab)
  | switch_ sc arms =>
    simp only [freezeExpr] at hf
    obtain ⟨sc', s1, hsc, hf⟩ := fz_bindE hf
    obtain ⟨arms', s2, harms, hf⟩ := fz_bindA hf
    cases hf
    obtain ⟨S1, hokS, hok⟩ := ok_bind hok
    rw [← (freezeExpr_froze hsc).bound] at hok
    obtain ⟨hokA, hok⟩ := ok_if hok
    cases hok
    exact PLogic.switch_ (ih.ev (s' := s1) hsc hokS ((freezeArms_froze harms).tab.trans htab)) (ih.evSwitch (s := s1) harms hokA htab)
  | lambda ps body => cases hok
  | evalSrc e => cases hok
  | frozen i => cases hok
  | freeze e => cases hok

theorem Pres.step {n : Nat} (ih : Pres look Tf n) (hB : HBuiltins look) : Pres look Tf (n + 1) where
  ev := eval_step ih hB
  evList := list_step ih
  evSeq := seq_step ih
  evSwitch := switch_step ih
  evWhile := while_step ih
  evFor := for_step ih
  fItems := items_step ih
  fBody := body_step ih

theorem pres_all (hB : HBuiltins look) : ∀ n, Pres look Tf n := by
  intro n
  induction n with
  | zero => exact Pres.zero look Tf
  | succ k ih => exact ih.step hB

end Noulith.C17Preserve
