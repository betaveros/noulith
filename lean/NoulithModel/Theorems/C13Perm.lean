/-
C13 — the four combinatorial streams enumerate the Spec lists (`subsequences_eq`,
`cartesianPower_eq`, `combinations_eq`, `permutations_eq`; the last one proves `permutations_statement`
of Theorems/C13.lean).  The C11 slice has its own transcription of the same iterators (`Impl/Stream.lean`)
and proves their enumeration order (Theorems/C11Enum.lean, C11EnumPerm.lean).  This file shows that the
iterator steps of the two transcriptions are the same functions (`subseqIncr_eq`, `powerIncr_eq`,
`combIncr_eq`; `permIncr` is C11's `Perm.advance` by definition) and that `forceGo` collects what C11's
unfolding relation lists (`forceGo_of_unfolds`).
-/
import NoulithModel.Theorems.C13Laws
import NoulithModel.Theorems.C11EnumPerm
import NoulithModel.Lemmas.C13Perm   -- not used below: imported so that `scan_of_decomp` is built with the property

namespace Noulith.C13
open Noulith Noulith.SeqLib
variable {α β σ τ : Type}

/-- `force` follows the unfolding relation of a stream that moves in lockstep with the iterator:
`abs` embeds the iterator states, `P` is an invariant of the reachable ones -/
theorem forceGo_of_unfolds {next : τ → Option (β × τ)} {step : σ → β × Option σ}
    (abs : Option σ → τ) (P : σ → Prop) (hnone : next (abs none) = none)
    (hsome : ∀ s, P s → next (abs (some s)) = some ((step s).1, abs (step s).2) ∧ ∀ s', (step s).2 = some s' → P s')
    {o : Option σ} {l : List β} (h : Stream.Unfolds next (abs o) l) (ho : ∀ s, o = some s → P s)
    (fuel : Nat) (hf : l.length ≤ fuel) (acc : List β) : forceGo step fuel o acc = acc ++ l := by
  generalize ht : abs o = t at h
  induction h generalizing o fuel acc with
  | done hn =>
    subst ht
    cases o with
    | none => cases fuel <;> simp [forceGo]
    | some s => rw [(hsome s (ho s rfl)).1] at hn; cases hn
  | step hn _ ih =>
    subst ht
    cases o with
    | none => rw [hnone] at hn; cases hn
    | some s =>
      obtain ⟨e, hP⟩ := hsome s (ho s rfl)
      obtain ⟨rfl, rfl⟩ : _ ∧ _ := by simpa [e] using hn
      cases fuel with
      | zero => simp at hf
      | succ fuel =>
        simp only [forceGo]
        rw [ih hP fuel (by simpa using hf) _ rfl]
        simp

/-! ### the iterator steps are C11's, the Spec lists are C11's -/

theorem pickFlags_eq : ∀ (v : List Bool) (xs : List α), pickFlags v xs = Stream.Subseq.pick v xs
  | [], _ => rfl
  | _ :: _, [] => rfl
  | b :: bs, x :: xs => by simp only [pickFlags, Stream.Subseq.pick, pickFlags_eq bs xs]

theorem subseqIncr_eq (v : List Bool) : subseqIncr v = Stream.Subseq.inc v := by
  induction v with
  | nil => rfl
  | cons b v ih =>
    simp only [Stream.Subseq.inc, ← ih, subseqIncr, List.reverse_cons, subseq_go_snoc]
    cases subseqIncr.go v.reverse with
    | some w => simp
    | none => cases b <;> simp [List.map_const']

theorem powerIncr_eq (m : Nat) (v : List Nat) : powerIncr m v = Stream.CPow.inc m v := by
  induction v with
  | nil => rfl
  | cons d v ih =>
    simp only [Stream.CPow.inc, ← ih, powerIncr, List.reverse_cons, powerGo_snoc]
    cases powerGo m v.reverse with
    | some w => simp
    | none => by_cases h : d + 1 = m <;> simp [h, List.map_const']

theorem subseqs_eq (xs : List α) : StreamSpec.subseqs xs = SeqSpec.subsequences xs := by
  induction xs with
  | nil => rfl
  | cons x xs ih => simp [StreamSpec.subseqs, SeqSpec.subsequences, ih]

theorem tuples_eq (xs : List α) (n : Nat) : StreamSpec.tuples xs n = SeqSpec.power xs n := by
  induction n with
  | zero => rfl
  | succ n ih => rw [power_succ, StreamSpec.tuples, ih]

/-- **subsequences**: the `Subsequences` iterator of streams.rs enumerates exactly the Spec's
binary-counter order, for every input -/
theorem subsequences_eq (xs : List α) : subsequences xs = SeqSpec.subsequences xs := by
  have := forceGo_of_unfolds (step := fun v => (pickFlags v xs, subseqIncr v))
    (fun o => (⟨xs, o⟩ : Stream.Mask α)) (fun _ => True) rfl
    (fun v _ => ⟨by simp [Stream.Subseq.next, pickFlags_eq, subseqIncr_eq], fun _ _ => trivial⟩)
    (C11.subseqs_enumeration_gen xs) (fun _ _ => trivial) (2 ^ xs.length + 1)
    (by rw [subseqs_eq, subsequences_length]; omega) []
  simpa [subsequences, subseqs_eq] using this

/-- **xs ^^ n**: the `CartesianPower` iterator (post-fix form of F21) enumerates exactly the
Spec's `n`-fold product in lexicographic order, for every input -/
theorem cartesianPower_eq (xs : List α) (n : Nat) : cartesianPower xs n = SeqSpec.power xs n := by
  have := forceGo_of_unfolds (step := fun v => (pick xs v, powerIncr xs.length v))
    (fun o => (⟨xs, o⟩ : Stream.Idx α)) (fun _ => True) rfl
    (fun v _ => ⟨by simp [Stream.CPow.next, powerIncr_eq, pick, Stream.pickAll], fun _ _ => trivial⟩)
    (C11.tuples_enumeration_gen xs n) (fun _ _ => trivial) (xs.length ^ n + 1)
    (by rw [tuples_eq, power_length]; omega) []
  simpa [cartesianPower, Stream.CPow.mk, tuples_eq, Nat.pos_iff_ne_zero] using this

theorem combs_eq (xs : List α) (k : Nat) : StreamSpec.combs k xs = SeqSpec.combinations xs k := by
  induction xs generalizing k with
  | nil => cases k <;> rfl
  | cons x xs ih => cases k <;> simp [StreamSpec.combs, SeqSpec.combinations, ih]

theorem combIncr_eq (n : Nat) (v : List Nat) : combIncr n v = Stream.Comb.scan v v.length n := by
  induction v with
  | nil => rfl
  | cons a v ih =>
    rw [List.length_cons, C11.CombE.scan_cons, ← ih]
    simp only [combIncr, List.reverse_cons, combGo_snoc]
    cases combGo n v.reverse with
    | some p => simp
    | none =>
      have hc : a + 1 < n - v.length ↔ a + 1 + v.length < n := Nat.lt_sub_iff_add_lt
      by_cases hc' : a + 1 + v.length < n <;>
        simp [hc, hc', List.range'_succ, List.range'_eq_map_range]

/-- **combinations**: the `Combinations` iterator of streams.rs enumerates exactly the Spec's
`k`-element sublists in lexicographic index order, for every input and every `k` -/
theorem combinations_eq (xs : List α) (k : Nat) : combinations xs k = SeqSpec.combinations xs k := by
  by_cases hk : k > xs.length
  · simp [combinations, hk, ← combs_eq, C11.CombE.combs_nil_of_lt xs k hk]
  · -- `Comb.next` compares the length of the index vector with the base at every step, the C13 model once
    -- at the start: the length is the invariant that makes the two agree
    have := forceGo_of_unfolds (step := fun v => (pick xs v, combIncr xs.length v))
      (fun o => (⟨xs, o⟩ : Stream.Idx α)) (fun v => v.length = k) rfl
      (fun v hv => ⟨by simp [Stream.Comb.next, combIncr_eq, pick, Stream.pickAll, hv, hk],
        fun w hw =>
          (C11.CombT.scan_decreases _ v _ (Nat.le_refl _) w (combIncr_eq _ v ▸ hw)).1.trans hv⟩)
      (C11.combs_enumeration_gen xs k) (fun _ h => by cases h; simp) (2 ^ xs.length + 1)
      (by rw [combs_eq]; exact Nat.le_succ_of_le (combinations_length_le xs k)) []
    simpa [combinations, hk, combs_eq] using this

/-- **permutations**: the `Permutations` iterator of streams.rs (last-ascent successor, driven by
`force`) enumerates exactly the Spec's lexicographic-by-position list, for every input — the empty
one included (one empty permutation; F14). -/
theorem permutations_eq (xs : List α) : permutations xs = SeqSpec.permutations xs := by
  have h := C11.perms_enumeration_gen xs
  rw [← permsN_bridge] at h
  have := forceGo_of_unfolds (step := fun v => (pick xs v, permIncr v))
    (fun o => (⟨xs, o⟩ : Stream.Idx α)) (fun _ => True) rfl (fun v _ => ⟨rfl, fun _ _ => trivial⟩)
    h (fun _ _ => trivial) (factorial xs.length + 1) (by rw [permsN_length _ _ rfl]; omega) []
  simpa [permutations, SeqSpec.permutations] using this

theorem permutations_holds : permutations_statement := fun _ xs => permutations_eq xs

theorem lib_power : implLib.power = specLib.power := by funext xs n; exact cartesianPower_eq xs n
theorem lib_subsequences : implLib.subsequences = specLib.subsequences := by
  funext xs; exact subsequences_eq xs
theorem lib_combinations : implLib.combinations = specLib.combinations := by
  funext xs k; exact combinations_eq xs k
theorem lib_permutations : implLib.permutations = specLib.permutations := by
  funext xs; exact permutations_eq xs

end Noulith.C13
