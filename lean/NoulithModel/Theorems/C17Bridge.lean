/-
C17 — the bridge from `freeze` to the insensitivity theorems.  `stExpr` is `okExpr` (the side
condition `ScopeOK` of the preservation theorem) with ONE more clause: a READ of a name that freeze has bound
must be a read of a surely declared name (otherwise — declaration in a branch not taken, read afterwards —
the frozen code reads an outer variable at the time of use: the same family as F20 / F27 / F32, a late
binding, not a frozen-vs-unfrozen difference).  `freeze_output_local`: the frozen form of such code satisfies
`localOk` for the table the freeze produced, so `frozen_code_insensitive` applies to every freeze output of
the fragment.
-/
import NoulithModel.Theorems.C17Preserve
import NoulithModel.Theorems.C17Local

namespace Noulith.C17Bridge
open Noulith Noulith.Core Noulith.C17Closed Noulith.C17Frames Noulith.C17Preserve Noulith.C17Insensitive

mutual
  def stExpr : List String → List String → Expr → Option (List String)
    | S, _, .null => some S
    | S, _, .int _ => some S
    | S, _, .str _ => some S
    | S, _, .cont _ => some S
    | S, bd, .ident x => if bd.contains x && !S.contains x then none else some S
    | S, bd, .list xs => stList S bd xs
    | S, bd, .op _ a b => match stExpr S bd a with | some S1 => stExpr S1 (afterExpr bd a) b | none => none
    | S, bd, .index a b => match stExpr S bd a with | some S1 => stExpr S1 (afterExpr bd a) b | none => none
    | S, bd, .call (.ident f) args =>
      if builtinNames.contains f && !bd.contains f then stList S bd args else none
    | S, bd, .and_ a b =>
      match stExpr S bd a with
      | some S1 => match stExpr S1 (afterExpr bd a) b with | some _ => some S1 | none => none
      | none => none
    | S, bd, .or_ a b =>
      match stExpr S bd a with
      | some S1 => match stExpr S1 (afterExpr bd a) b with | some _ => some S1 | none => none
      | none => none
    | S, bd, .coalesce a b =>
      match stExpr S bd a with
      | some S1 => match stExpr S1 (afterExpr bd a) b with | some _ => some S1 | none => none
      | none => none
    | S, bd, .seq xs _ => stList S bd xs
    | S, bd, .ite c t e =>
      match stExpr S bd c with
      | some S1 =>
        match stExpr S1 (afterExpr bd c) t with
        | some _ => match stOpt S1 (afterExpr (afterExpr bd c) t) e with | some _ => some S1 | none => none
        | none => none
      | none => none
    | S, bd, .while_ c b =>
      match stExpr S bd c with
      | some S1 => match stExpr S1 (afterExpr bd c) b with | some _ => some S | none => none
      | none => none
    | S, bd, .for_ its body =>
      if headAfter bd its body == bd then
        match stIts S bd its with
        | some S2 => if stBody S2 (afterIts bd its) body then some S else none
        | none => none
      else none
    | S, bd, .declare p rhs =>
      match stExpr S (bd ++ Pat.idents p) rhs with
      | some S1 => some (S1 ++ Pat.idents p)
      | none => none
    | S, bd, .assign x rhs => if S.contains x then stExpr S bd rhs else none
    | S, bd, .opassign x _ rhs => if S.contains x then stExpr S bd rhs else none
    | S, bd, .brk _ e => stOpt S bd e
    | S, bd, .ret e => stOpt S bd e
    | S, bd, .throw_ e => stExpr S bd e
    | S, bd, .try_ b p c =>
      match stExpr S bd b with
      | some _ =>
        match stExpr (S ++ Pat.idents p) (afterExpr bd b ++ Pat.idents p) c with
        | some _ => some S
        | none => none
      | none => none
    | S, bd, .switch_ sc arms =>
      match stExpr S bd sc with
      | some S1 => if stArms S1 (afterExpr bd sc) arms then some S1 else none
      | none => none
    | _, _, _ => none
  def stArms : List String → List String → List SwitchArm → Bool
    | _, _, [] => true
    | S, bd, .mk p body :: rest =>
      (stExpr (S ++ Pat.idents p) (bd ++ Pat.idents p) body).isSome && stArms S bd rest
  def stList : List String → List String → List Expr → Option (List String)
    | S, _, [] => some S
    | S, bd, x :: xs => match stExpr S bd x with | some S1 => stList S1 (afterExpr bd x) xs | none => none
  def stOpt : List String → List String → Option Expr → Option (List String)
    | S, _, none => some S
    | S, bd, some x => stExpr S bd x
  def stIts : List String → List String → List ForIt → Option (List String)
    | S, _, [] => some S
    | S, bd, .guard g :: rest =>
      match stExpr S bd g with | some S1 => stIts S1 (afterExpr bd g) rest | none => none
    | S, bd, .iter _ p e :: rest =>
      match stExpr S bd e with
      | some S1 => stIts (S1 ++ Pat.idents p) (afterExpr bd e ++ Pat.idents p) rest
      | none => none
  def stBody : List String → List String → ForBody → Bool
    | S, bd, .exec e => (stExpr S bd e).isSome
    | S, bd, .yield e into => (stExpr S bd e).isSome && okInto (afterExpr bd e) into
    | S, bd, .yieldItem k v into =>
      match stExpr S bd k with
      | some S1 => (stExpr S1 (afterExpr bd k) v).isSome && okInto (afterExpr (afterExpr bd k) v) into
      | none => false
end

/-- `ScopeOK` plus: every read of a bound name is a read of a surely declared name -/
def ScopeStrict (bd : List String) (e : Expr) : Prop := (stExpr bd bd e).isSome = true

instance (bd : List String) (e : Expr) : Decidable (ScopeStrict bd e) := inferInstanceAs (Decidable (_ = true))

theorem st_ok_all :
    (∀ S bd e, (stExpr S bd e).isSome = true → okExpr S bd e = stExpr S bd e) ∧
    (∀ S bd arms, stArms S bd arms = true → okArms S bd arms = true) ∧
    (∀ S bd b, stBody S bd b = true → okBody S bd b = true) ∧
    (∀ S bd its, (stIts S bd its).isSome = true → okIts S bd its = stIts S bd its) ∧
    (∀ S bd o, (stOpt S bd o).isSome = true → okOpt S bd o = stOpt S bd o) ∧
    (∀ S bd es, (stList S bd es).isSome = true → okList S bd es = stList S bd es) := by
  apply stExpr.mutual_induct_unfolding
    (motive_1 := fun S bd e r => r.isSome = true → okExpr S bd e = r)
    (motive_2 := fun S bd arms r => r = true → okArms S bd arms = true)
    (motive_3 := fun S bd b r => r = true → okBody S bd b = true)
    (motive_4 := fun S bd its r => r.isSome = true → okIts S bd its = r)
    (motive_5 := fun S bd o r => r.isSome = true → okOpt S bd o = r)
    (motive_6 := fun S bd es r => r.isSome = true → okList S bd es = r)
  all_goals
    intros
    simp_all only [okExpr, okArms, okBody, okIts, okOpt, okList,
      Option.isSome_some, Option.isSome_none, Bool.and_eq_true, Bool.false_eq_true, forall_const, and_self, ↓reduceIte]

theorem scopeStrict_scopeOK {bd : List String} {e : Expr} (h : ScopeStrict bd e) : ScopeOK bd e := by
  unfold ScopeStrict at h
  unfold ScopeOK
  rw [st_ok_all.1 bd bd e h]; exact h

/-! ## the bridge -/

variable {look : String → Option Val}

theorem bInto (hB : HBuiltins look) {s s' : FState Val} {o o' : Option Expr} {T : List Val}
    (hok : okInto s.bound o = true) (hf : freezeOpt look s o = .ok (o', s')) (htab : s'.tab <+: T) :
    localInto T o' = true := by
  rcases okInto_inv hok with rfl | ⟨f, rfl, hg, hgb⟩
  · simp only [freezeOpt, Except.ok.injEq, Prod.mk.injEq] at hf
    obtain ⟨rfl, rfl⟩ := hf
    simp only [localInto]
  · obtain ⟨e', he, rfl⟩ := freezeOpt_some_inv hf
    obtain ⟨rfl, hb⟩ := freeze_builtin_name hB hg hgb he htab
    simp only [localInto, builtinAt, hb]

/-! What `st…` accepts, `freeze…` turns into what `local…` accepts, with the same sets of surely declared names,
for every table `T` that extends the one the freeze produced: one induction along the walk of C17Closed
(`bridge_all`; a part is frozen from the state `s` with `s.bound = bd`, the walk's bound set at that part, which
`Froze.bound` supplies for the state the previous part left), then one statement per freeze function (`bE`
expressions, `bO` optional expressions, `bA` switch arms, `bI` `for` clauses, `bB` `for` bodies, `bL` lists). -/

theorem bridge_all (hB : HBuiltins look) :
    (∀ bd e {S S'} {s s' : FState Val} {e' T}, s.bound = bd → stExpr S bd e = some S' →
      freezeExpr look s e = .ok (e', s') → s'.tab <+: T → localOk T S e' = some S') ∧
    (∀ bd arms {S} {s s' : FState Val} {arms' T}, s.bound = bd → stArms S bd arms = true →
      freezeArms look s arms = .ok (arms', s') → s'.tab <+: T → localArms T S arms' = true) ∧
    (∀ (_ : List String) (_ : List Param), True) ∧
    (∀ bd o {S S'} {s s' : FState Val} {o' T}, s.bound = bd → stOpt S bd o = some S' →
      freezeOpt look s o = .ok (o', s') → s'.tab <+: T → localOpt T S o' = some S') ∧
    (∀ bd b {S} {s s' : FState Val} {b' T}, s.bound = bd → stBody S bd b = true →
      freezeBody look s b = .ok (b', s') → s'.tab <+: T → localBody T S b' = true) ∧
    (∀ bd its {S S'} {s s' : FState Val} {its' T}, s.bound = bd → stIts S bd its = some S' →
      freezeIts look s its = .ok (its', s') → s'.tab <+: T → localIts T S its' = some S') ∧
    (∀ bd es {S S'} {s s' : FState Val} {es' T}, s.bound = bd → stList S bd es = some S' →
      freezeList look s es = .ok (es', s') → s'.tab <+: T → localList T S es' = some S') := by
  refine stuckExpr.mutual_induct _ _ _ _ _ _ _ ?null ?int ?str ?frozen ?cont ?evalSrc ?ident ?list ?op ?index ?and_
    ?or_ ?coalesce ?call ?seq ?ite ?while_ ?for_ ?declare ?assign ?opassign ?lambda ?brk ?ret ?throw_ ?try_
    ?switch_ ?freeze ?exec ?yield ?yieldItem ?nil ?cons ?none ?some ?itsNil ?guard ?iter ?paramsNil ?param
    ?armsNil ?arm
  case paramsNil | param =>
    intros
    trivial
  case lambda | evalSrc | frozen | freeze =>
    intros
    rename_i hst _ _
    simp [stExpr] at hst
  case null | int | str | cont =>
    intros
    rename_i hst hf _
    simp only [freezeExpr, Except.ok.injEq, Prod.mk.injEq] at hf
    obtain ⟨rfl, rfl⟩ := hf
    simpa [stExpr, localOk] using hst
  case ident =>
    intro bd x S S' s s' e' T hbd hst hf _
    subst hbd
    dsimp only [stExpr] at hst
    split at hst
    · cases hst
    · rename_i hcond
      cases hst
      rcases freeze_ident_inv hf with ⟨hb, rfl, _⟩ | ⟨_, _, _, rfl, _⟩
      · -- a bound name that is read is surely declared: that is what `stExpr` adds to `okExpr`
        have hxS : S.contains x = true := by
          rw [List.contains_iff_mem.mpr hb, Bool.true_and, Bool.not_eq_true, Bool.not_eq_false'] at hcond
          exact hcond
        simp only [localOk, hxS, ↓reduceIte]
      · dsimp only [localOk]
  case list | seq =>
    intros
    rename_i ih S S' s s' e' T hbd hst hf htab
    dsimp only [freezeExpr] at hf
    split at hf
    · rename_i xs' s1 hxs
      obtain ⟨rfl, rfl⟩ := Prod.mk.inj (Except.ok.inj hf)
      dsimp only [stExpr] at hst
      dsimp only [localOk]
      exact ih hbd hst hxs htab
    · cases hf
  case op | index =>
    intros
    rename_i iha ihb S S' s s' e' T hbd hst hf htab
    subst hbd
    dsimp only [freezeExpr] at hf
    obtain ⟨a', s1, b', ha, hb, rfl⟩ := freeze_two_inv _ _ _ _ _ _ _ hf
    dsimp only [stExpr] at hst
    obtain ⟨S1, hstA, hst⟩ := ok_bind hst
    simp only [localOk, iha rfl hstA ha (((freezeExpr_froze hb).tab).trans htab),
      ihb (freezeExpr_froze ha).bound hst hb htab]
  case and_ | or_ | coalesce =>
    intros
    rename_i iha ihb S S' s s' e' T hbd hst hf htab
    subst hbd
    dsimp only [freezeExpr] at hf
    obtain ⟨a', s1, b', ha, hb, rfl⟩ := freeze_two_inv _ _ _ _ _ _ _ hf
    dsimp only [stExpr] at hst
    obtain ⟨S2, hstA, hstB⟩ := ok_cond hst
    simp only [localOk, iha rfl hstA ha (((freezeExpr_froze hb).tab).trans htab),
      ihb (freezeExpr_froze ha).bound hstB hb htab]
  case call =>
    intro bd f args _ ihargs S S' s s' e' T hbd hst hf htab
    subst hbd
    cases f with
    | ident g =>
      dsimp only [stExpr] at hst
      obtain ⟨hcond, hst⟩ := ok_if hst
      simp only [Bool.and_eq_true, Bool.not_eq_true', List.contains_eq_mem, decide_eq_true_eq,
        decide_eq_false_iff_not] at hcond
      unfold freezeExpr at hf
      obtain ⟨f', s1, hfz', hf⟩ := fz_bindE hf
      obtain ⟨args', s2, hargs, hf⟩ := fz_bindL hf
      obtain ⟨rfl, rfl⟩ := Prod.mk.inj (Except.ok.inj hf)
      obtain ⟨rfl, hb⟩ := freeze_builtin_name hB hcond.1 hcond.2 hfz' (((freezeList_froze hargs).tab).trans htab)
      simp only [localOk, builtinAt, hb, ↓reduceIte]
      exact ihargs (freezeExpr_froze hfz').bound hst hargs htab
    | _ => simp [stExpr] at hst
  case ite =>
    intro bd c t e ihc iht ihe S S' s s' e' T hbd hst hf htab
    subst hbd
    dsimp only [freezeExpr] at hf
    obtain ⟨c', s1, hc, hf⟩ := fz_bindE hf
    obtain ⟨t', s2, ht, hf⟩ := fz_bindE hf
    obtain ⟨eo', s3, he, hf⟩ := fz_bindO hf
    obtain ⟨rfl, rfl⟩ := Prod.mk.inj (Except.ok.inj hf)
    dsimp only [stExpr] at hst
    obtain ⟨S1, hstC, hst⟩ := ok_bind hst
    obtain ⟨St, hstT, hst⟩ := ok_bind hst
    obtain ⟨Se, hstE, hst⟩ := ok_bind hst
    have hb1 := (freezeExpr_froze hc).bound
    have hb2 := hb1 ▸ (freezeExpr_froze ht).bound
    have htab2 := ((freezeOpt_froze he).tab).trans htab
    simpa only [localOk, ihc rfl hstC hc (((freezeExpr_froze ht).tab).trans htab2),
      iht hb1 hstT ht htab2, ihe hb2 hstE he htab] using hst
  case while_ =>
    intro bd c b ihc ihb S S' s s' e' T hbd hst hf htab
    subst hbd
    dsimp only [freezeExpr] at hf
    obtain ⟨c', s2, hc, hf⟩ := fz_bindE hf
    obtain ⟨b', s3, hb, hf⟩ := fz_bindE hf
    obtain ⟨rfl, rfl⟩ := Prod.mk.inj (Except.ok.inj hf)
    have htab3 : s3.tab <+: T := htab
    dsimp only [stExpr] at hst
    obtain ⟨S1, hstC, hst⟩ := ok_bind hst
    obtain ⟨S2, hstB, hst⟩ := ok_bind hst
    simpa only [localOk, ihc rfl hstC hc (((freezeExpr_froze hb).tab).trans htab3),
      ihb (freezeExpr_froze hc).bound hstB hb htab3] using hst
  case for_ =>
    intro bd its body ihi ihb S S' s s' e' T hbd hst hf htab
    subst hbd
    dsimp only [freezeExpr] at hf
    obtain ⟨its', s2, hits, hf⟩ := fz_bindI hf
    obtain ⟨body', s3, hbody, hf⟩ := fz_bindB hf
    obtain ⟨rfl, rfl⟩ := Prod.mk.inj (Except.ok.inj hf)
    have htab3 : s3.tab <+: T := htab
    dsimp only [stExpr] at hst
    obtain ⟨_, hst⟩ := ok_if hst
    obtain ⟨S2, hstI, hst⟩ := ok_bind hst
    obtain ⟨hstB, hst⟩ := ok_if hst
    simpa only [localOk, ihi rfl hstI hits (((freezeBody_froze hbody).tab).trans htab3),
      ihb (freezeIts_froze hits).bound hstB hbody htab3, ↓reduceIte] using hst
  case declare =>
    intro bd p rhs ih S S' s s' e' T hbd hst hf htab
    subst hbd
    dsimp only [freezeExpr] at hf
    obtain ⟨rhs', s1, hr, hf⟩ := fz_bindE hf
    obtain ⟨rfl, rfl⟩ := Prod.mk.inj (Except.ok.inj hf)
    dsimp only [stExpr] at hst
    obtain ⟨S1, hstR, hst⟩ := ok_bind hst
    simpa only [localOk, ih rfl hstR hr htab] using hst
  case assign | opassign =>
    intros
    rename_i ih S S' s s' e' T hbd hst hf htab
    dsimp only [stExpr] at hst
    obtain ⟨hxS, hst⟩ := ok_if hst
    dsimp only [freezeExpr] at hf
    obtain ⟨rhs', hr, rfl⟩ := freeze_assign_inv _ hf
    simp only [localOk, hxS, ↓reduceIte, ih hbd hst hr htab]
  case brk | ret =>
    intros
    rename_i ih S S' s s' e' T hbd hst hf htab
    dsimp only [freezeExpr] at hf
    obtain ⟨o', s1, ho, hf⟩ := fz_bindO hf
    obtain ⟨rfl, rfl⟩ := Prod.mk.inj (Except.ok.inj hf)
    dsimp only [stExpr] at hst
    dsimp only [localOk]
    exact ih hbd hst ho htab
  case throw_ =>
    intro bd e ih S S' s s' e' T hbd hst hf htab
    dsimp only [freezeExpr] at hf
    obtain ⟨e1', s1, he, hf⟩ := fz_bindE hf
    obtain ⟨rfl, rfl⟩ := Prod.mk.inj (Except.ok.inj hf)
    dsimp only [stExpr] at hst
    dsimp only [localOk]
    exact ih hbd hst he htab
  case try_ =>
    intro bd b p c ihb ihc S S' s s' e' T hbd hst hf htab
    subst hbd
    dsimp only [freezeExpr] at hf
    obtain ⟨b', s1, hb, hf⟩ := fz_bindE hf
    obtain ⟨c', s3, hc, hf⟩ := fz_bindE hf
    obtain ⟨rfl, rfl⟩ := Prod.mk.inj (Except.ok.inj hf)
    have htab3 : s3.tab <+: T := htab
    dsimp only [stExpr] at hst
    obtain ⟨Sb, hstB, hst⟩ := ok_bind hst
    obtain ⟨Sc, hstC, hst⟩ := ok_bind hst
    simpa only [localOk, ihb rfl hstB hb (((freezeExpr_froze hc).tab).trans htab3),
      ihc (congrArg (· ++ Pat.idents p) (freezeExpr_froze hb).bound) hstC hc htab3] using hst
  case switch_ =>
    intro bd sc arms ihs iha S S' s s' e' T hbd hst hf htab
    subst hbd
    dsimp only [freezeExpr] at hf
    obtain ⟨sc', s1, hsc, hf⟩ := fz_bindE hf
    obtain ⟨arms', s2, harms, hf⟩ := fz_bindA hf
    obtain ⟨rfl, rfl⟩ := Prod.mk.inj (Except.ok.inj hf)
    have htab2 : s2.tab <+: T := htab
    dsimp only [stExpr] at hst
    obtain ⟨S1, hstS, hst⟩ := ok_bind hst
    obtain ⟨hstA, hst⟩ := ok_if hst
    simpa only [localOk, ihs rfl hstS hsc (((freezeArms_froze harms).tab).trans htab2),
      iha (freezeExpr_froze hsc).bound hstA harms htab2, ↓reduceIte] using hst
  case none | nil | itsNil =>
    intros
    rename_i hst hf _
    simp only [freezeOpt, freezeList, freezeIts, Except.ok.injEq, Prod.mk.injEq] at hf
    obtain ⟨rfl, rfl⟩ := hf
    simpa [stOpt, localOpt, stList, localList, stIts, localIts] using hst
  case armsNil =>
    intros
    rename_i hf _
    simp only [freezeArms, Except.ok.injEq, Prod.mk.injEq] at hf
    obtain ⟨rfl, rfl⟩ := hf
    dsimp only [localArms]
  case some =>
    intro bd e ih S S' s s' o' T hbd hst hf htab
    obtain ⟨e', he, rfl⟩ := freezeOpt_some_inv hf
    dsimp only [stOpt] at hst
    dsimp only [localOpt]
    exact ih hbd hst he htab
  case arm =>
    intro bd p body rest ihb ihr S s s' arms' T hbd hst hf htab
    subst hbd
    dsimp only [freezeArms] at hf
    obtain ⟨body', s2, hbody, hf⟩ := fz_bindE hf
    obtain ⟨rest', s3, hrest, hf⟩ := fz_bindA hf
    obtain ⟨rfl, rfl⟩ := Prod.mk.inj (Except.ok.inj hf)
    obtain ⟨⟨Sb, hstB⟩, hstR⟩ := isSome_and_inv hst
    simp only [localArms, ihb rfl
      hstB hbody (((freezeArms_froze hrest).tab).trans htab),
      ihr (s := { s with tab := s2.tab }) rfl hstR hrest htab, Option.isSome_some, Bool.and_self]
  case guard =>
    intro bd g rest ihg ihr S S' s s' its' T hbd hst hf htab
    subst hbd
    dsimp only [freezeIts] at hf
    obtain ⟨g', s1, hg, hf⟩ := fz_bindE hf
    obtain ⟨rest', s2, hrest, hf⟩ := fz_bindI hf
    obtain ⟨rfl, rfl⟩ := Prod.mk.inj (Except.ok.inj hf)
    dsimp only [stIts] at hst
    obtain ⟨S1, hstG, hst⟩ := ok_bind hst
    simp only [localIts, ihg rfl hstG hg (((freezeIts_froze hrest).tab).trans htab),
      ihr (freezeExpr_froze hg).bound hst hrest htab]
  case iter =>
    intro bd kind p e rest ihe ihr S S' s s' its' T hbd hst hf htab
    subst hbd
    dsimp only [freezeIts] at hf
    obtain ⟨e1', s1, he, hf⟩ := fz_bindE hf
    obtain ⟨rest', s2, hrest, hf⟩ := fz_bindI hf
    obtain ⟨rfl, rfl⟩ := Prod.mk.inj (Except.ok.inj hf)
    dsimp only [stIts] at hst
    obtain ⟨S1, hstE, hst⟩ := ok_bind hst
    simp only [localIts, ihe rfl hstE he (((freezeIts_froze hrest).tab).trans htab),
      ihr (congrArg (· ++ Pat.idents p) (freezeExpr_froze he).bound) hst hrest htab]
  case exec =>
    intro bd e ih S s s' body' T hbd hst hf htab
    dsimp only [freezeBody] at hf
    obtain ⟨e1', s1, he, hf⟩ := fz_bindE hf
    obtain ⟨rfl, rfl⟩ := Prod.mk.inj (Except.ok.inj hf)
    obtain ⟨Se, hstE⟩ := Option.isSome_iff_exists.mp hst
    simp only [localBody, ih hbd hstE he htab, Option.isSome_some]
  case yield =>
    intro bd e into ihe _ S s s' body' T hbd hst hf htab
    subst hbd
    dsimp only [freezeBody] at hf
    obtain ⟨e1', s1, he, hf⟩ := fz_bindE hf
    obtain ⟨into', s2, hi, hf⟩ := fz_bindO hf
    obtain ⟨rfl, rfl⟩ := Prod.mk.inj (Except.ok.inj hf)
    obtain ⟨⟨Se, hstE⟩, hinto⟩ := isSome_and_inv hst
    rw [← (freezeExpr_froze he).bound] at hinto
    simp only [localBody, ihe rfl hstE he (((freezeOpt_froze hi).tab).trans htab), Option.isSome_some,
      bInto hB hinto hi htab, Bool.and_self]
  case yieldItem =>
    intro bd k v into ihk ihv _ S s s' body' T hbd hst hf htab
    subst hbd
    dsimp only [freezeBody] at hf
    obtain ⟨k1', s1, hk, hf⟩ := fz_bindE hf
    obtain ⟨v1', s2, hv, hf⟩ := fz_bindE hf
    obtain ⟨into', s3, hi, hf⟩ := fz_bindO hf
    obtain ⟨rfl, rfl⟩ := Prod.mk.inj (Except.ok.inj hf)
    have htab2 := ((freezeOpt_froze hi).tab).trans htab
    dsimp only [stBody] at hst
    obtain ⟨Sk, hstK, hst⟩ := ok_bindB hst
    obtain ⟨⟨Sv, hstV⟩, hinto⟩ := isSome_and_inv hst
    have hb1 := (freezeExpr_froze hk).bound
    rw [← hb1, ← (freezeExpr_froze hv).bound] at hinto
    simp only [localBody, ihk rfl hstK hk (((freezeExpr_froze hv).tab).trans htab2),
      ihv hb1 hstV hv htab2, Option.isSome_some, bInto hB hinto hi htab, Bool.and_self]
  case cons =>
    intro bd x xs ihx ihxs S S' s s' es' T hbd hst hf htab
    subst hbd
    obtain ⟨x', s1, xs', hx, hxs, rfl⟩ := freezeList_cons_inv hf
    dsimp only [stList] at hst
    obtain ⟨S1, hstX, hst⟩ := ok_bind hst
    simp only [localList, ihx rfl hstX hx (((freezeList_froze hxs).tab).trans htab),
      ihxs (freezeExpr_froze hx).bound hst hxs htab]

theorem bE (hB : HBuiltins look) : ∀ (e : Expr) (S S' : List String) (s s' : FState Val) (e' : Expr) (T : List Val),
    stExpr S s.bound e = some S' → freezeExpr look s e = .ok (e', s') → s'.tab <+: T →
    localOk T S e' = some S' :=
  fun e _ _ s _ _ _ => (bridge_all hB).1 s.bound e rfl

theorem bO (hB : HBuiltins look) : ∀ (o : Option Expr) (S S' : List String) (s s' : FState Val) (o' : Option Expr)
      (T : List Val), stOpt S s.bound o = some S' → freezeOpt look s o = .ok (o', s') → s'.tab <+: T →
      localOpt T S o' = some S' :=
  fun o _ _ s _ _ _ => (bridge_all hB).2.2.2.1 s.bound o rfl

theorem bA (hB : HBuiltins look) : ∀ (arms : List SwitchArm) (S : List String) (s s' : FState Val)
      (arms' : List SwitchArm) (T : List Val), stArms S s.bound arms = true →
      freezeArms look s arms = .ok (arms', s') → s'.tab <+: T → localArms T S arms' = true :=
  fun arms _ s _ _ _ => (bridge_all hB).2.1 s.bound arms rfl

theorem bI (hB : HBuiltins look) : ∀ (its : List ForIt) (S S' : List String) (s s' : FState Val)
      (its' : List ForIt) (T : List Val), stIts S s.bound its = some S' →
      freezeIts look s its = .ok (its', s') → s'.tab <+: T → localIts T S its' = some S' :=
  fun its _ _ s _ _ _ => (bridge_all hB).2.2.2.2.2.1 s.bound its rfl

theorem bB (hB : HBuiltins look) : ∀ (body : ForBody) (S : List String) (s s' : FState Val) (body' : ForBody)
      (T : List Val), stBody S s.bound body = true → freezeBody look s body = .ok (body', s') → s'.tab <+: T →
      localBody T S body' = true :=
  fun body _ s _ _ _ => (bridge_all hB).2.2.2.2.1 s.bound body rfl

theorem bL (hB : HBuiltins look) : ∀ (es : List Expr) (S S' : List String) (s s' : FState Val) (es' : List Expr)
      (T : List Val), stList S s.bound es = some S' → freezeList look s es = .ok (es', s') → s'.tab <+: T →
      localList T S es' = some S' :=
  fun es _ _ s _ _ _ => (bridge_all hB).2.2.2.2.2.2 s.bound es rfl

/-- **the bridge**: the frozen form of code that satisfies the strict side condition is local with respect
to (any extension of) the table the freeze produced -/
theorem freeze_output_local (hB : HBuiltins look) (s s' : FState Val) (e e' : Expr) (T : List Val)
    (hf : freezeExpr look s e = .ok (e', s')) (hst : ScopeStrict s.bound e) (htab : s'.tab <+: T) :
    (localOk T s.bound e').isSome = true := by
  unfold ScopeStrict at hst
  obtain ⟨S', hS'⟩ := Option.isSome_iff_exists.mp hst
  rw [bE hB e s.bound S' s s' e' T hS' hf htab]; rfl

end Noulith.C17Bridge
