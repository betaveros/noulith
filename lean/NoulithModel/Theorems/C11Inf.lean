/-
C11 — infinite streams: `iota`, `repeat`, `cycle`, `iterate` (and a range with step 0 whose start is
before its end).  `Recur next S g`: the states `S i` produce `g i`.  For such a stream every
non-negative index and every slice with non-negative bounds of the trait defaults is the recurrence,
and dropping a prefix gives the shifted recurrence (`Recur.index_eq`, `slice_eq`, `tail_eq`).  Then
the recurrence of each constructor (`*_recur`), that its `len` reports infinity, index / slice / drop
of `iota` and `repeat`, index / slice of `iterate`, and `Cycle::pythonic_index_isize` for every index.
-/
import NoulithModel.Theorems.C11Iter

namespace Noulith.C11
open Noulith Noulith.Stream Noulith.StreamSpec

/-- the states `S 0, S 1, …` are the successive states of a stream producing `g 0, g 1, …` -/
structure Recur {σ β : Type} (next : σ → Option (β × σ)) (S : Nat → σ) (g : Nat → β) : Prop where
  step : ∀ i, next (S i) = some (g i, S (i + 1))

namespace Recur
variable {σ β : Type} {next : σ → Option (β × σ)} {S : Nat → σ} {g : Nat → β}

theorem dropN_eq (h : Recur next S g) : ∀ n k, dropN next n (S k) = S (k + n) := by
  intro n
  induction n with
  | zero => intro k; rfl
  | succ n ih =>
    intro k
    simp only [dropN, h.step k]
    rw [ih (k + 1)]
    congr 1; omega

theorem nth_eq (h : Recur next S g) (i k : Nat) : nth next i (S k) = some (g (k + i)) := by
  rw [← Nat.add_zero i, ← nth_dropN, h.dropN_eq]
  unfold nth
  simp [h.step (k + i)]

theorem takeN_eq (h : Recur next S g) : ∀ n k, takeN next n (S k) = (List.range n).map fun i => g (k + i) := by
  intro n
  induction n with
  | zero => intro k; rfl
  | succ n ih =>
    intro k
    simp only [takeN, h.step k, ih (k + 1), List.range_succ_eq_map, List.map_cons, List.map_map]
    congr 1
    apply List.map_congr_left
    intro i _
    simp only [Function.comp]
    congr 1; omega

/-- Stated, like `slice_eq` and `tail_eq`, for the trait default: for a type made with `Ops.build` (`Range`, `Iterate`) `ops.index` is
`defaultIndex next ops.force` by `rfl`, so it proves a goal about `ops.index (S 0)` as it stands.  `force` is written out (`ops.force` will
do): as `_` it is never assigned, since the unifier unfolds `defaultIndex` first and is left with `?force (S 0)`, `S 0` no variable. -/
theorem index_eq (h : Recur next S g) (force : σ → R (List β)) (i : Nat) :
    defaultIndex next force (S 0) (i : Int) = .ok (g i) := by
  unfold defaultIndex
  have h0 : (0 : Int) ≤ (i : Int) := by omega
  simp [h0, h.nth_eq i 0]

theorem slice_eq (h : Recur next S g) (force : σ → R (List β)) (lo hi : Nat) :
    defaultSlice next force (S 0) (some (lo : Int)) (some (hi : Int)) =
      .ok (.list ((List.range (hi - lo)).map fun i => g (lo + i))) := by
  unfold defaultSlice
  have h0 : (0 : Int) ≤ (lo : Int) ∧ (0 : Int) ≤ (hi : Int) := by omega
  simp only [Option.getD_some, h0, and_self, if_true, Int.toNat_natCast]
  rw [h.dropN_eq lo 0, h.takeN_eq]
  simp

/-- **dropping a prefix** (`s[n:]`, `s drop n`) yields the state of the shifted recurrence -/
theorem tail_eq (h : Recur next S g) (force : σ → R (List β)) (lo : Nat) :
    defaultSlice next force (S 0) (some (lo : Int)) none = .ok (.strm (S lo)) := by
  unfold defaultSlice
  have h0 : (0 : Int) ≤ (lo : Int) := by omega
  simp only [Option.getD_some, h0, if_true, Int.toNat_natCast]
  rw [h.dropN_eq lo 0]
  simp

theorem shift (h : Recur next S g) (n : Nat) : Recur next (fun i => S (n + i)) (fun i => g (n + i)) :=
  ⟨fun i => by simpa [Nat.add_assoc] using h.step (n + i)⟩

/-- `x in s` finds an element that occurs -/
theorem mem_found [DecidableEq β] (h : Recur next S g) (i : Nat) :
    ∀ k fuel, i ≤ fuel → memLoop next (g (k + i)) fuel (S k) = some true := by
  induction i with
  | zero =>
    intro k fuel _
    unfold memLoop
    simp [h.step k]
  | succ i ih =>
    intro k fuel hf
    unfold memLoop
    simp only [h.step k]
    by_cases he : g k = g (k + (i + 1))
    · simp [he]
    · simp only [he, if_false]
      cases fuel with
      | zero => omega
      | succ fuel =>
        have := ih (k + 1) fuel (by omega)
        simpa [Nat.add_assoc, Nat.add_comm 1 i] using this

end Recur

/-! ## the constructors -/

theorem iota_recur (a : Int) :
    Recur Range.next (fun i => (⟨a + i, none, 1⟩ : Range)) (fun i => a + i) :=
  ⟨fun i => by
    simp only [Range.next, Range.empty]
    simp
    omega⟩

/-- `S 0` of `iota_recur` is `iota a`, though not syntactically -/
theorem iota_zero (a : Int) : (⟨a + (0 : Nat), none, 1⟩ : Range) = Range.iota a := by
  rw [Int.natCast_zero, Int.add_zero]
  rfl

theorem iota_len (a : Int) : Range.ops.len (Range.iota a) = .ok none := rfl

theorem iota_index (a : Int) (i : Nat) : Range.ops.index (Range.iota a) (i : Int) = .ok (a + i) :=
  iota_zero a ▸ (iota_recur a).index_eq (defaultForce Range.next Range.bound) i

theorem iota_slice (a : Int) (lo hi : Nat) :
    Range.ops.slice (Range.iota a) (some (lo : Int)) (some (hi : Int)) =
      .ok (.list ((List.range (hi - lo)).map fun (i : Nat) => a + ((lo + i : Nat) : Int))) :=
  iota_zero a ▸ (iota_recur a).slice_eq (defaultForce Range.next Range.bound) lo hi

theorem iota_drop (a : Int) (n : Nat) :
    Range.ops.slice (Range.iota a) (some (n : Int)) none = .ok (.strm (Range.iota (a + n))) :=
  iota_zero a ▸ (iota_recur a).tail_eq (defaultForce Range.next Range.bound) n

/-- a range with step 0 whose start is before its end repeats its start for ever, and its `len`
says so -/
theorem range_zero_step_recur (a e : Int) (h : a < e) :
    Recur Range.next (fun _ => (⟨a, some e, 0⟩ : Range)) (fun _ => a) :=
  ⟨fun _ => by
    have : ¬ a ≥ e := by omega
    simp [Range.next, Range.empty, this]⟩

theorem range_zero_step_len (a e : Int) (h : a < e) : Range.len ⟨a, some e, 0⟩ = none := by
  simp [Range.len, h]

theorem repeat_recur {α : Type} (x : α) : Recur (Repeat.next (α := α)) (fun _ => x) (fun _ => x) :=
  ⟨fun _ => rfl⟩

theorem repeat_len {α : Type} (x : α) : (Repeat.ops (α := α)).len x = .ok none := rfl
theorem repeat_index {α : Type} (x : α) (i : Int) : (Repeat.ops (α := α)).index x i = .ok x := rfl

theorem repeat_slice {α : Type} (x : α) (lo hi : Nat) :
    (Repeat.ops (α := α)).slice x (some (lo : Int)) (some (hi : Int)) =
      .ok (.list (List.replicate (hi - lo) x)) := by
  change Repeat.slice x (some (lo : Int)) (some (hi : Int)) = _
  unfold Repeat.slice
  have h1 : ¬ (lo : Int) < 0 := Int.not_lt.mpr (Int.natCast_nonneg lo)
  have h2 : ¬ (hi : Int) < 0 := Int.not_lt.mpr (Int.natCast_nonneg hi)
  simp only [h1, h2, if_false, decide_false]
  congr 3
  omega

theorem repeat_drop {α : Type} (x : α) (n : Nat) :
    (Repeat.ops (α := α)).slice x (some (n : Int)) none = .ok (.strm x) := by
  change Repeat.slice x (some (n : Int)) none = _
  unfold Repeat.slice
  have h1 : ¬ (n : Int) < 0 := Int.not_lt.mpr (Int.natCast_nonneg n)
  simp [h1]

theorem cycle_recur {α : Type} [Inhabited α] (base : List α) (pos : Nat) (hne : base ≠ []) :
    Recur (Cycle.next (α := α)) (fun i => ⟨base, (pos + i) % base.length⟩)
      (fun i => base.getD ((pos + i) % base.length) default) :=
  ⟨fun i => by
    have hpos : 0 < base.length := List.length_pos_iff.mpr hne
    have hlt : (pos + i) % base.length < base.length := Nat.mod_lt _ hpos
    simp only [Cycle.next, List.getElem?_eq_getElem hlt, List.getD_eq_getElem?_getD, Option.getD_some,
      Option.some.injEq, Prod.mk.injEq, true_and]
    congr 1
    rw [Nat.add_mod, Nat.mod_mod, ← Nat.add_mod]
    rfl⟩

theorem cycle_len {α : Type} (c : Cycle α) : (Cycle.ops (α := α)).len c = .ok none := rfl

/-- `Cycle::pythonic_index_isize`: for every index (also negative ones, read cyclically) -/
theorem cycle_index {α : Type} (base : List α) (pos : Nat) (hne : base ≠ []) (i : Int) :
    ∃ x, (Cycle.ops (α := α)).index ⟨base, pos⟩ i = .ok x ∧
      base[(((pos : Int) + i) % (base.length : Int)).toNat]? = some x := by
  have hpos : 0 < base.length := List.length_pos_iff.mpr hne
  have hpos' : (0 : Int) < base.length := Int.natCast_pos.mpr hpos
  have h1 : 0 ≤ ((pos : Int) + i) % (base.length : Int) := Int.emod_nonneg _ (Int.ne_of_gt hpos')
  have hlt : (((pos : Int) + i) % (base.length : Int)).toNat < base.length :=
    (Int.toNat_lt h1).mpr (Int.emod_lt_of_pos _ hpos')
  refine ⟨base[(((pos : Int) + i) % (base.length : Int)).toNat], ?_, List.getElem?_eq_getElem hlt⟩
  show Cycle.index ⟨base, pos⟩ i = _
  simp [Cycle.index, List.getElem?_eq_getElem hlt]

/-- for a non-negative index the cyclic formula is the recurrence `xs[(pos + i) mod n]` -/
theorem cycle_index_nonneg {α : Type} (base : List α) (pos i : Nat) :
    (((pos : Int) + (i : Int)) % (base.length : Int)).toNat = (pos + i) % base.length := by
  have : ((pos : Int) + (i : Int)) % (base.length : Int) = (((pos + i) % base.length : Nat) : Int) := by
    rw [Int.natCast_emod]; simp
  rw [this]; exact Int.toNat_natCast _

theorem iterN_succ_right {α} (f : α → α) (n : Nat) (a : α) : iterN f (n + 1) a = f (iterN f n a) := by
  induction n generalizing a with
  | zero => rfl
  | succ n ih => simp only [iterN] at ih ⊢; rw [ih]

theorem iterate_recur {α : Type} (f : α → α) (a : α) :
    Recur (Iterate.next f) (fun i => iterN f i a) (fun i => iterN f i a) :=
  ⟨fun i => by simp [Iterate.next, iterN_succ_right]⟩

theorem iterate_len {α : Type} (f : α → α) (a : α) : (Iterate.ops f).len a = .ok none := rfl

theorem iterate_index {α : Type} (f : α → α) (a : α) (i : Nat) :
    (Iterate.ops f).index a (i : Int) = .ok (iterN f i a) :=
  (iterate_recur f a).index_eq (defaultForce (Iterate.next f) fun _ => none) i

theorem iterate_slice {α : Type} (f : α → α) (a : α) (lo hi : Nat) :
    (Iterate.ops f).slice a (some (lo : Int)) (some (hi : Int)) =
      .ok (.list ((List.range (hi - lo)).map fun i => iterN f (lo + i) a)) :=
  (iterate_recur f a).slice_eq (defaultForce (Iterate.next f) fun _ => none) lo hi

end Noulith.C11
