/-
C16, `rational(s)` — exact decoding of every text of the grammar `Dec` / `RatLit` (`[sign] digits [. digits] [e [sign] digits]`
and `p/q`), sign and surrounding white space included: the arithmetic of `apply_exp10`, then one lemma per cut of
`parse_decimal_exactly` (exponent, point, sign) on the nested text `render_eq`, then `/` and `trim`
(`parseDecimalExactly_lit`, `rational_parse_exact_ws`, `rational_parse_exact`).  Uses the integer parsers of C16Int.
Impl/Codec.lean §4 (src/decimal.rs) and `rationalOfStr` of §5.
-/
import NoulithModel.Theorems.C16Int

namespace Noulith.C16
open Noulith Noulith.Codec Noulith.CodecSpec

theorem applyExp10_eq (b e : Int) : applyExp10 b e = (b : Rat) * pow10 e := by
  unfold applyExp10 pow10
  by_cases h : 0 ≤ e
  · simp only [h, if_true]
    rw [Rat.intCast_mul]
    congr 1 <;> simp [Rat.intCast_pow, Rat.natCast_pow]
  · simp only [h, if_false]
    rw [Rat.mkRat_eq_div, Rat.div_def, Rat.div_def, Rat.one_mul]

/-- the Spec's power of ten is the integer power of the rationals, whose laws core Lean provides -/
theorem pow10_eq (e : Int) : pow10 e = (10 : Rat) ^ e := by
  unfold pow10
  split
  · rename_i h
    rw [Rat.natCast_pow, Rat.natCast_ofNat, ← Rat.zpow_natCast, Int.toNat_of_nonneg h]
  · rw [Rat.natCast_pow, Rat.natCast_ofNat, ← Rat.zpow_natCast, Int.toNat_of_nonneg (by omega), Rat.zpow_neg, Rat.div_def,
      Rat.one_mul, Rat.inv_inv]

theorem pow10_split (a : Int) (k : Nat) : pow10 (a - k) * ((10 ^ k : Nat) : Rat) = pow10 a := by
  rw [pow10_eq, pow10_eq, Rat.natCast_pow, Rat.natCast_ofNat, ← Rat.zpow_natCast, ← Rat.zpow_add (by decide),
    Int.sub_add_cancel]

/-- the arithmetic heart of `parse_decimal_exactly`: integer digits `I`, fractional digits `F`
(`dp` of them) and exponent `e` are combined as `(I·10^dp + F)·10^(e−dp)`, which is the value
`(I + F/10^dp)·10^e` -/
theorem mantissa_value (I F dp : Nat) (e : Int) :
    applyExp10 ((I : Int) * 10 ^ dp + (F : Int)) (e - dp)
      = ((I : Rat) + (F : Rat) / ((10 ^ dp : Nat) : Rat)) * pow10 e := by
  rw [applyExp10_eq, ← pow10_split e dp]
  have nz : ((10 ^ dp : Nat) : Rat) ≠ 0 := mt Rat.natCast_eq_zero_iff.mp (Nat.ne_of_gt (Nat.pow_pos (by decide)))
  have c : (((I : Int) * 10 ^ dp + (F : Int) : Int) : Rat) = (I : Rat) * ((10 ^ dp : Nat) : Rat) + (F : Rat) := by
    simp [Rat.intCast_add, Rat.intCast_mul, Rat.intCast_pow, Rat.natCast_pow, Rat.intCast_natCast]
  rw [c, Rat.mul_comm (pow10 _), ← Rat.mul_assoc]
  congr 1
  rw [Rat.add_mul, Rat.div_mul_cancel nz]

theorem splitAtFirst_none (p : Nat → Bool) (s : Str) (h : ∀ c ∈ s, p c = false) : splitAtFirst p s = none := by
  induction s with
  | nil => rfl
  | cons c t ih =>
    simp only [splitAtFirst, h c (by simp), Bool.false_eq_true, if_false, ih (fun x hx => h x (by simp [hx]))]

theorem splitAtFirst_append (p : Nat → Bool) (pre : Str) (c : Nat) (post : Str)
    (h : ∀ x ∈ pre, p x = false) (hc : p c = true) : splitAtFirst p (pre ++ c :: post) = some (pre, post) := by
  induction pre with
  | nil => simp [splitAtFirst, hc]
  | cons a t ih =>
    simp only [List.cons_append, splitAtFirst, h a (by simp), Bool.false_eq_true, if_false,
      ih (fun x hx => h x (by simp [hx]))]

theorem parseI32_intLit (l : IntLit) (hl : l.WF) : parseI32 l.render = if inI32 l.value then some l.value else none := by
  obtain ⟨sg, ds⟩ := l
  obtain ⟨c, r, e, hc⟩ := digitText_head hl.1 hl.2
  have ha := asciiDigits_digitText ds hl.2
  have hne : ¬ c :: r = [] := nofun
  simp only [IntLit.render, IntLit.value]
  rw [e] at ha ⊢
  rcases sg with _ | _ | _
  · simp only [signText, List.nil_append, signNeg, parseI32, show ¬ c = 43 by omega, show ¬ c = 45 by omega, or_self,
      false_and, if_false, ha, ofDigitsBE_eq]
    rfl
  · simp only [signText, signNeg, List.cons_append, List.nil_append, parseI32, hne, and_false, if_false, true_or, if_true,
      ha, ofDigitsBE_eq]
    rfl
  · simp only [signText, signNeg, List.cons_append, List.nil_append, parseI32, hne, and_false, if_false, or_true, if_true,
      ha, ofDigitsBE_eq]

def fracText : Option (List Nat) → Str
  | none => []
  | some ds => 46 :: digitText ds
def expText : Option (Bool × Option Bool × List Nat) → Str
  | none => []
  | some (u, s, ds) => (if u then 69 else 101) :: IntLit.render ⟨s, ds⟩

def expVal : Option (Bool × Option Bool × List Nat) → Int
  | none => 0
  | some (_, s, ds) => IntLit.value ⟨s, ds⟩

def decMag (d : Dec) : Rat :=
  ((ofDigits 10 d.ip : Nat) : Rat) + ((ofDigits 10 d.fracDigits : Nat) : Rat) / ((10 ^ d.fracDigits.length : Nat) : Rat)

theorem render_eq (d : Dec) : d.render = signText d.sign ++ ((digitText d.ip ++ fracText d.fp) ++ expText d.exp) := by
  obtain ⟨sg, ip, fp, ex⟩ := d
  unfold Dec.render
  cases fp <;> cases ex <;> simp [fracText, expText, IntLit.render]

theorem expValue_eq (d : Dec) : d.expValue = expVal d.exp := by
  unfold Dec.expValue expVal; cases d.exp <;> rfl

theorem value_eq (d : Dec) : d.value = (if signNeg d.sign then -decMag d else decMag d) * pow10 d.expValue := rfl

theorem mantissaText_noE (ip : List Nat) (fp : Option (List Nat)) (h1 : ∀ x ∈ ip, x < 10)
    (h2 : ∀ x ∈ fp.getD [], x < 10) : ∀ c ∈ digitText ip ++ fracText fp, isE c = false := by
  intro c hc
  rw [List.mem_append] at hc
  rcases hc with hc | hc
  · have := digitText_range ip h1 c hc; simp [isE]; omega
  · cases fp with
    | none => simp [fracText] at hc
    | some f =>
      simp only [fracText, List.mem_cons] at hc
      rcases hc with hc | hc
      · subst hc; decide
      · have := digitText_range f h2 c hc; simp [isE]; omega

theorem splitExponent_lit (pre : Str) (ex : Option (Bool × Option Bool × List Nat))
    (hpre : ∀ c ∈ pre, isE c = false)
    (hex : ∀ u s ds, ex = some (u, s, ds) → ds ≠ [] ∧ ∀ x ∈ ds, x < 10)
    (hi : inI32 (expVal ex)) :
    splitExponent (pre ++ expText ex) = some (pre, expVal ex) := by
  unfold splitExponent
  cases ex with
  | none =>
    simp only [expText, List.append_nil, splitAtFirst_none isE pre hpre, expVal]
  | some t =>
    obtain ⟨u, s, ds⟩ := t
    have hc : isE (if u then 69 else 101) = true := by cases u <;> decide
    simp only [expText, splitAtFirst_append isE pre _ _ hpre hc, parseI32_intLit ⟨s, ds⟩ (hex u s ds rfl)]
    simp only [expVal] at hi ⊢
    simp only [hi, if_true]

theorem parseBigInt_digitText (ds : List Nat) (hne : ds ≠ []) (h : ∀ x ∈ ds, x < 10) :
    parseBigInt (digitText ds) = some ((ofDigits 10 ds : Nat) : Int) := by
  have := parseBigInt_intLit { sign := none, ds := ds } ⟨hne, h⟩
  simpa [IntLit.render, IntLit.value, signText, signNeg] using this

theorem optParse_digitText (ds : List Nat) (h : ∀ x ∈ ds, x < 10) :
    (if digitText ds = [] then some (0 : Int) else parseBigInt (digitText ds)) = some ((ofDigits 10 ds : Nat) : Int) := by
  by_cases hn : ds = []
  · subst hn; simp [digitText, ofDigits]
  · have : ¬ digitText ds = [] := fun hx => hn ((digitText_eq_nil ds).mp hx)
    simp only [this, if_false]
    exact parseBigInt_digitText ds hn h

theorem parseMantissa_lit (ip : List Nat) (fp : Option (List Nat)) (e : Int)
    (h1 : ∀ x ∈ ip, x < 10) (h2 : ∀ x ∈ fp.getD [], x < 10) (hne : ip ≠ [] ∨ fp.getD [] ≠ [])
    (hi : inI32 (e - (fp.getD []).length)) :
    parseMantissa (digitText ip ++ fracText fp) e =
      some ((((ofDigits 10 ip : Nat) : Rat) + ((ofDigits 10 (fp.getD []) : Nat) : Rat) / ((10 ^ (fp.getD []).length : Nat) : Rat)) * pow10 e) := by
  unfold parseMantissa
  have hnd : ∀ c ∈ digitText ip, (decide (c = 46)) = false := by
    intro c hc; have := digitText_range ip h1 c hc; simp; omega
  cases fp with
  | none =>
    have hip : ip ≠ [] := by simpa using hne
    simp only [fracText, List.append_nil, splitAtFirst_none _ _ hnd, parseBigInt_digitText ip hip h1,
      applyExp10_eq, Option.getD_none, List.length_nil, ofDigits, List.foldl_nil]
    congr 2
    simp [Rat.intCast_natCast]
    rw [Rat.div_def, Rat.zero_mul, Rat.add_zero]
  | some f =>
    have h2' : ∀ x ∈ f, x < 10 := by simpa using h2
    simp only [fracText, splitAtFirst_append _ _ 46 _ hnd (by decide)]
    have hboth : ¬ (digitText ip = [] ∧ digitText f = []) := by
      rw [digitText_eq_nil, digitText_eq_nil]
      simp only [Option.getD_some] at hne
      intro ⟨a, b⟩; rcases hne with h | h
      · exact h a
      · exact h b
    simp only [hboth, if_false, digitText_all_ascii f h2', Bool.not_true, Bool.false_eq_true,
      optParse_digitText ip h1, optParse_digitText f h2', digitText_length, Option.getD_some] at hi ⊢
    simp only [hi, if_true, mantissa_value]

theorem parseUnsignedDecimal_lit (d : Dec) (hwf : d.WF) (hi1 : inI32 d.expValue)
    (hi2 : inI32 (d.expValue - d.fracDigits.length)) :
    parseUnsignedDecimal ((digitText d.ip ++ fracText d.fp) ++ expText d.exp) = some (decMag d * pow10 d.expValue) := by
  obtain ⟨w1, w2, w3, w4⟩ := hwf
  unfold parseUnsignedDecimal
  have hs := splitExponent_lit (digitText d.ip ++ fracText d.fp) d.exp
    (mantissaText_noE d.ip d.fp w1 w2) w4 (by rw [← expValue_eq]; exact hi1)
  rw [hs, ← expValue_eq]
  simp only
  exact parseMantissa_lit d.ip d.fp d.expValue w1 w2 w3 hi2

theorem mantissaText_head (d : Dec) (hwf : d.WF) :
    ∃ c rest, (digitText d.ip ++ fracText d.fp) ++ expText d.exp = c :: rest ∧ c ≠ 43 ∧ c ≠ 45 := by
  obtain ⟨w1, w2, w3, _⟩ := hwf
  cases hip : d.ip with
  | nil =>
    rw [hip] at w3
    cases hfp : d.fp with
    | none => simp [Dec.fracDigits, hfp] at w3
    | some f => exact ⟨46, digitText f ++ expText d.exp, by simp [digitText, fracText], by decide, by decide⟩
  | cons a t =>
    have : a < 10 := w1 a (by simp [hip])
    exact ⟨48 + a, (digitText t ++ fracText d.fp) ++ expText d.exp, by simp [digitText], by omega, by omega⟩

/-- **rational_parse_exact (decimals)**: for every string of the grammar
`[sign] digits [. digits] [e [sign] digits]` (at least one digit around the point; `.5`, `5.`, `+5`,
`1E-3`, leading zeros all included) the parser returns the exact value, INCLUDING the sign.
The two range hypotheses say that the exponent, and the exponent minus the number of fractional
digits, fit an `i32` (the code computes with `i32`; beyond that the power of ten would not fit in
memory anyway). -/
theorem parseDecimalExactly_lit (d : Dec) (hwf : d.WF) (hi1 : inI32 d.expValue)
    (hi2 : inI32 (d.expValue - d.fracDigits.length)) :
    parseDecimalExactly d.render = some d.value := by
  have hu := parseUnsignedDecimal_lit d hwf hi1 hi2
  obtain ⟨c, rest, hbody, hc1, hc2⟩ := mantissaText_head d hwf
  rw [render_eq, value_eq]
  rw [hbody] at hu ⊢
  unfold parseDecimalExactly
  have n1 : startsWith 43 (c :: rest) = false := by simp [startsWith, hc1]
  have n2 : startsWith 45 (c :: rest) = false := by simp [startsWith, hc2]
  rcases hs : d.sign with _ | _ | _
  · simp only [signText, List.nil_append, signNeg, n1, n2, Bool.false_eq_true, or_self, if_false, hu,
      Option.map_some]
  · simp only [signText, List.cons_append, List.nil_append, signNeg, List.tail_cons]
    have a1 : startsWith 45 (43 :: c :: rest) = false := by simp [startsWith]
    have a2 : startsWith 43 (43 :: c :: rest) = true := by simp [startsWith]
    simp only [a1, a2, Bool.false_eq_true, or_true, if_true, n1, n2, or_self, if_false, hu, Option.map_some]
  · simp only [signText, List.cons_append, List.nil_append, signNeg, List.tail_cons]
    have a1 : startsWith 45 (45 :: c :: rest) = true := by simp [startsWith]
    simp only [a1, true_or, if_true, n1, n2, Bool.false_eq_true, or_self, if_false, hu, Option.map_some]
    congr 1
    exact (Rat.neg_mul _ _).symm

/-- the characters a number of the grammar is written with -/
def numChar (c : Nat) : Prop := c = 43 ∨ c = 45 ∨ c = 46 ∨ (48 ≤ c ∧ c ≤ 57) ∨ c = 69 ∨ c = 101

theorem signText_chars (s : Option Bool) : ∀ c ∈ signText s, numChar c := by
  intro c hc
  rcases s with _ | _ | _ <;> simp [signText] at hc <;> subst hc <;> simp [numChar]

theorem digitText_chars (ds : List Nat) (h : ∀ x ∈ ds, x < 10) : ∀ c ∈ digitText ds, numChar c :=
  fun c hc => Or.inr (Or.inr (Or.inr (Or.inl (digitText_range ds h c hc))))

theorem render_chars (d : Dec) (hwf : d.WF) : ∀ c ∈ d.render, numChar c := by
  obtain ⟨w1, w2, _, w4⟩ := hwf
  intro c hc
  rw [render_eq] at hc
  simp only [List.mem_append] at hc
  rcases hc with hc | (hc | hc) | hc
  · exact signText_chars _ c hc
  · exact digitText_chars d.ip w1 c hc
  · cases hfp : d.fp with
    | none => simp [hfp, fracText] at hc
    | some f =>
      simp only [hfp, fracText, List.mem_cons] at hc
      rcases hc with hc | hc
      · subst hc; simp [numChar]
      · have w2' : ∀ x ∈ f, x < 10 := by simpa [Dec.fracDigits, hfp] using w2
        exact digitText_chars f w2' c hc
  · cases hex : d.exp with
    | none => simp [hex, expText] at hc
    | some t =>
      obtain ⟨u, s, ds⟩ := t
      simp only [hex, expText, IntLit.render, List.mem_cons, List.mem_append] at hc
      rcases hc with hc | hc | hc
      · subst hc; cases u <;> simp [numChar]
      · exact signText_chars _ c hc
      · exact digitText_chars ds (w4 u s ds hex).2 c hc

theorem numChar_not_white {c : Nat} (h : numChar c) : isWhite c = false := by
  have : 32 < c ∧ c < 133 := by unfold numChar at h; omega
  simp [isWhite]; omega

theorem numChar_not_slash {c : Nat} (h : numChar c) : decide (c = 47) = false := by
  unfold numChar at h
  simp; omega

theorem render_ne_nil (d : Dec) (hwf : d.WF) : d.render ≠ [] := by
  obtain ⟨c, rest, e, _, _⟩ := mantissaText_head d hwf
  rw [render_eq, e]; cases d.sign <;> simp [signText]

/-! ## white space around numbers and around the `/` is ignored (`trim`) -/

theorem head?_append_left {s : Str} (hs : s ≠ []) (t : Str) : (s ++ t).head? = s.head? := by
  cases s with
  | nil => exact absurd rfl hs
  | cons c r => rfl

theorem getLast?_append_right (s : Str) {t : Str} (ht : t ≠ []) : (s ++ t).getLast? = t.getLast? := by
  rw [List.getLast?_append, List.getLast?_eq_some_getLast ht]; rfl

theorem trimStart_of_head (s : Str) (h : ∀ c ∈ s.head?, isWhite c = false) : trimStart s = s := by
  cases s with
  | nil => rfl
  | cons c t => simp [trimStart, h c rfl]

theorem trimStart_append_white (w s : Str) (hw : ∀ c ∈ w, isWhite c = true) : trimStart (w ++ s) = trimStart s := by
  induction w with
  | nil => rfl
  | cons c t ih =>
    simp only [List.cons_append, trimStart, hw c (by simp), if_true]
    exact ih (fun x hx => hw x (by simp [hx]))

theorem trim_decorated (w1 s w2 : Str) (hw1 : ∀ c ∈ w1, isWhite c = true) (hw2 : ∀ c ∈ w2, isWhite c = true)
    (h0 : ∀ c ∈ s.head?, isWhite c = false) (h1 : ∀ c ∈ s.getLast?, isWhite c = false) :
    trim (w1 ++ s ++ w2) = s := by
  unfold trim
  rw [List.append_assoc, trimStart_append_white w1 _ hw1]
  by_cases hs : s = []
  · subst hs
    rw [List.nil_append, ← List.append_nil w2, trimStart_append_white w2 [] hw2]; rfl
  · rw [trimStart_of_head (s ++ w2) (by rwa [head?_append_left hs]), List.reverse_append,
      trimStart_append_white _ _ (fun x hx => hw2 x (List.mem_reverse.mp hx)),
      trimStart_of_head _ (by rwa [List.head?_reverse]), List.reverse_reverse]

theorem trim_number (w1 P w2 : Str) (hw1 : ∀ c ∈ w1, isWhite c = true) (hw2 : ∀ c ∈ w2, isWhite c = true)
    (hP : ∀ c ∈ P, numChar c) : trim (w1 ++ P ++ w2) = P :=
  trim_decorated w1 P w2 hw1 hw2 (fun c hc => numChar_not_white (hP c (List.mem_of_mem_head? hc)))
    (fun c hc => numChar_not_white (hP c (List.mem_of_mem_getLast? hc)))

theorem parseRationalExactly_dec (P w1 w4 : Str) (hP : ∀ c ∈ P, numChar c)
    (h1 : ∀ c ∈ w1, isWhite c = true) (h4 : ∀ c ∈ w4, isWhite c = true) :
    parseRationalExactly (w1 ++ P ++ w4) = parseDecimalExactly P := by
  simp only [parseRationalExactly]
  rw [trim_number w1 P w4 h1 h4 hP, splitAtFirst_none _ _ (fun c hc => numChar_not_slash (hP c hc))]

theorem parseRationalExactly_frac (P Q w1 w2 w3 w4 : Str) (hP : ∀ c ∈ P, numChar c) (hQ : ∀ c ∈ Q, numChar c)
    (hPne : P ≠ []) (hQne : Q ≠ [])
    (h1 : ∀ c ∈ w1, isWhite c = true) (h2 : ∀ c ∈ w2, isWhite c = true)
    (h3 : ∀ c ∈ w3, isWhite c = true) (h4 : ∀ c ∈ w4, isWhite c = true) :
    parseRationalExactly (w1 ++ (P ++ w2 ++ 47 :: (w3 ++ Q)) ++ w4) =
      match parseDecimalExactly P, parseDecimalExactly Q with
      | some a, some b => if b = 0 then none else some (a / b)
      | _, _ => none := by
  have hhead : (P ++ w2 ++ 47 :: (w3 ++ Q)).head? = P.head? := by
    rw [List.append_assoc, head?_append_left hPne]
  have hlast : (P ++ w2 ++ 47 :: (w3 ++ Q)).getLast? = Q.getLast? := by
    rw [← List.cons_append, ← List.append_assoc, getLast?_append_right _ hQne]
  have hnoslash : ∀ c ∈ P ++ w2, (decide (c = 47)) = false := by
    intro c hc
    rcases List.mem_append.mp hc with hc | hc
    · exact numChar_not_slash (hP c hc)
    · exact decide_eq_false (fun e => by subst e; exact absurd (h2 47 hc) (by decide))
  simp only [parseRationalExactly]
  rw [trim_decorated w1 _ w4 h1 h4
      (fun c hc => numChar_not_white (hP c (List.mem_of_mem_head? (hhead ▸ hc))))
      (fun c hc => numChar_not_white (hQ c (List.mem_of_mem_getLast? (hlast ▸ hc)))),
    splitAtFirst_append _ _ 47 _ hnoslash (by decide)]
  have t1 := trim_number [] P w2 nofun h2 hP
  have t2 := trim_number w3 Q [] h3 nofun hQ
  rw [List.nil_append] at t1
  rw [List.append_nil] at t2
  simp only [t1, t2]
  rfl

/-- **rational_parse_exact, decorated**: the same exact value when the text is surrounded by white
space and when white space surrounds the `/` (`" -1.5 "`, `"1 / 2"`, tabs, U+00A0, U+3000, …) -/
theorem rational_parse_exact_ws (l : RatLit) (hwf : l.WF) (hr : l.InRange) (w1 w2 w3 w4 : Str)
    (h1 : ∀ c ∈ w1, isWhite c = true) (h2 : ∀ c ∈ w2, isWhite c = true)
    (h3 : ∀ c ∈ w3, isWhite c = true) (h4 : ∀ c ∈ w4, isWhite c = true) :
    rationalOfStr (w1 ++ (match l with
      | .dec d => d.render
      | .frac p q => p.render ++ w2 ++ 47 :: (w3 ++ q.render)) ++ w4) = .ok l.value := by
  unfold rationalOfStr
  cases l with
  | dec d =>
    simp only
    rw [parseRationalExactly_dec _ w1 w4 (render_chars d hwf) h1 h4, parseDecimalExactly_lit d hwf hr.1 hr.2]
    rfl
  | frac p q =>
    obtain ⟨wp, wq, hq0⟩ := hwf
    simp only
    rw [parseRationalExactly_frac _ _ w1 w2 w3 w4 (render_chars p wp) (render_chars q wq) (render_ne_nil p wp)
      (render_ne_nil q wq) h1 h2 h3 h4, parseDecimalExactly_lit p wp hr.1.1 hr.1.2,
      parseDecimalExactly_lit q wq hr.2.1 hr.2.2]
    simp only [hq0, if_false]
    rfl

/-- **rational_parse_exact**: for every string of the grammar — a decimal / scientific literal
`[sign] digits [. digits] [e [sign] digits]` or a fraction `p/q` of two such literals with `q ≠ 0` —
`rational(s)` is the exact value, including the sign (negative decimals, `-0.5`, `-.5`, `+.5`,
signed exponents, signs on numerator and denominator). -/
theorem rational_parse_exact (l : RatLit) (hwf : l.WF) (hr : l.InRange) :
    rationalOfStr l.render = .ok l.value := by
  have h := rational_parse_exact_ws l hwf hr [] [] [] [] nofun nofun nofun nofun
  cases l <;> simpa [RatLit.render] using h

/-- a zero denominator (`1/0`, `1/0.0`, `1/0e5`) is a Noulith error -/
theorem rational_zero_denominator (p q : Dec) (wp : p.WF) (wq : q.WF) (rp : p.InRange) (rq : q.InRange)
    (h0 : q.value = 0) : rationalOfStr (RatLit.frac p q).render = .throw := by
  have h := parseRationalExactly_frac _ _ [] [] [] [] (render_chars p wp) (render_chars q wq) (render_ne_nil p wp)
    (render_ne_nil q wq) nofun nofun nofun nofun
  rw [parseDecimalExactly_lit p wp rp.1 rp.2, parseDecimalExactly_lit q wq rq.1 rq.2] at h
  simp only [List.nil_append, List.append_nil, h0, if_true] at h
  rw [rationalOfStr, RatLit.render, h]

/-- non-vacuity and the inputs of finding F5: "-1.5" is −3/2 and "-0.5" is −1/2 -/
def litNeg1p5 : Dec := { sign := some true, ip := [1], fp := some [5], exp := none }
def litNeg0p5 : Dec := { sign := some true, ip := [0], fp := some [5], exp := none }
def litNegP5e1 : Dec := { sign := some true, ip := [], fp := some [5], exp := some (false, some true, [1]) }

theorem litNeg1p5_wf : litNeg1p5.WF ∧ litNeg1p5.InRange := by
  refine ⟨⟨?_, ?_, ?_, ?_⟩, ?_, ?_⟩ <;> simp [litNeg1p5, Dec.fracDigits, Dec.expValue, inI32]
theorem litNeg0p5_wf : litNeg0p5.WF ∧ litNeg0p5.InRange := by
  refine ⟨⟨?_, ?_, ?_, ?_⟩, ?_, ?_⟩ <;> simp [litNeg0p5, Dec.fracDigits, Dec.expValue, inI32]

theorem rational_neg_1p5 : rationalOfStr [45, 49, 46, 53] = .ok (-(3 : Rat) / 2) := by
  have h := rational_parse_exact (.dec litNeg1p5) litNeg1p5_wf.1 litNeg1p5_wf.2
  rwa [show (RatLit.dec litNeg1p5).value = -(3 : Rat) / 2 by decide +kernel] at h

theorem rational_neg_0p5 : rationalOfStr [45, 48, 46, 53] = .ok (-(1 : Rat) / 2) := by
  have h := rational_parse_exact (.dec litNeg0p5) litNeg0p5_wf.1 litNeg0p5_wf.2
  rwa [show (RatLit.dec litNeg0p5).value = -(1 : Rat) / 2 by decide +kernel] at h

/-- the sign of a literal negates its value: "including the sign" -/
theorem value_neg (d : Dec) :
    Dec.value { d with sign := some true } = - Dec.value { d with sign := none } :=
  Rat.neg_mul _ _

theorem value_plus (d : Dec) :
    Dec.value { d with sign := some false } = Dec.value { d with sign := none } := by
  simp only [Dec.value, signNeg, Dec.fracDigits, Dec.expValue]
  rfl

end Noulith.C16
