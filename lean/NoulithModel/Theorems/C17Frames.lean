/-
C17 — the store of frames of Impl/CoreEval.lean as the proofs of C17 see it. A frame's parent is older than the
frame (`WFf`), so a lookup of `y` from scope `env` reads only the frames `≤ env`, and of each only its parent link
and its entry for `y` (`SameAt`, `lookup_congr`). What a store operation changes is a relation between the frames
before and after: `FrameStep` (`declareVar`), `PatStep` (`declarePat`), `WriteStep` (`assignVar`, `dropVar`: the
first declaring frame of the chain is the one written, `WroteFirst`). `OldKept` / `SafeFor`: frames older than `n`
stay as they are outside the variables `B`.
-/
import NoulithModel.Impl.CoreEval
import NoulithModel.Theorems.C05

namespace Noulith.C17Frames
open Noulith Noulith.Core

/-- `Env::with_parent` (core.rs) only links to a scope that exists: a frame's parent is older than the frame -/
def WFf (fs : Array Frame) : Prop :=
  ∀ (i : Nat) (fr : Frame) (p : Nat), fs[i]? = some fr → fr.parent = some p → p < i

/-- what a lookup of `y` can see of a frame: its parent link and its entry for `y` -/
def SameFrame (y : String) (a b : Option Frame) : Prop :=
  match a, b with
  | some fr, some fr' => fr'.parent = fr.parent ∧ lookupIn fr'.vars y = lookupIn fr.vars y
  | none, none => True
  | _, _ => False

def SameAt (y : String) (k : Nat) (fs fs' : Array Frame) : Prop := ∀ i, i < k → SameFrame y fs[i]? fs'[i]?

theorem SameFrame.refl (y : String) (a : Option Frame) : SameFrame y a a := by
  cases a <;> simp [SameFrame]

theorem SameFrame.trans {y : String} {a b c : Option Frame} (h1 : SameFrame y a b) (h2 : SameFrame y b c) :
    SameFrame y a c := by
  cases a <;> cases b <;> cases c <;> simp_all [SameFrame]

theorem SameAt.refl (y : String) (k : Nat) (fs : Array Frame) : SameAt y k fs fs :=
  fun _ _ => SameFrame.refl _ _

theorem SameAt.trans {y : String} {k : Nat} {a b c : Array Frame} (h1 : SameAt y k a b) (h2 : SameAt y k b c) :
    SameAt y k a c := fun i hi => (h1 i hi).trans (h2 i hi)

theorem SameAt.mono {y : String} {k k' : Nat} {a b : Array Frame} (h : SameAt y k a b) (hk : k' ≤ k) :
    SameAt y k' a b := fun i hi => h i (Nat.lt_of_lt_of_le hi hk)

theorem lookup_congr (y : String) (fs fs' : Array Frame) (hwf : WFf fs) :
    ∀ (env fuel fuel' : Nat), env < fuel → env < fuel' → SameAt y (env + 1) fs fs' →
      lookupVar fs' fuel' env y = lookupVar fs fuel env y := by
  intro env
  induction env using Nat.strongRecOn with
  | _ env ih =>
    intro fuel fuel' hf hf' hs
    obtain ⟨k, rfl⟩ := Nat.exists_eq_add_one_of_ne_zero (Nat.ne_zero_of_lt hf)
    obtain ⟨k', rfl⟩ := Nat.exists_eq_add_one_of_ne_zero (Nat.ne_zero_of_lt hf')
    have h0 := hs env (Nat.lt_succ_self _)
    unfold lookupVar
    cases hfr : fs[env]? with
    | none =>
      cases hfr' : fs'[env]? with
      | none => rfl
      | some fr' => simp [SameFrame, hfr, hfr'] at h0
    | some fr =>
      cases hfr' : fs'[env]? with
      | none => simp [SameFrame, hfr, hfr'] at h0
      | some fr' =>
        simp only [SameFrame, hfr, hfr'] at h0
        simp only [h0.2]
        cases lookupIn fr.vars y with
        | some v => rfl
        | none =>
          simp only [h0.1]
          cases hp : fr.parent with
          | none => rfl
          | some p =>
            have hlt : p < env := hwf env fr p hfr hp
            exact ih p hlt k k' (Nat.lt_of_lt_of_le hlt (Nat.le_of_lt_succ hf))
              (Nat.lt_of_lt_of_le hlt (Nat.le_of_lt_succ hf')) (hs.mono (Nat.succ_le_succ (Nat.le_of_lt hlt)))

theorem lookup_fuel (y : String) (fs : Array Frame) (hwf : WFf fs) (env fuel fuel' : Nat)
    (h : env < fuel) (h' : env < fuel') : lookupVar fs fuel' env y = lookupVar fs fuel env y :=
  lookup_congr y fs fs hwf env fuel fuel' h h' (SameAt.refl _ _ _)

/-! ### growth of the store -/

/-- the store only grows: frames keep their id and parent, and never lose a variable -/
def ExtF (fs fs' : Array Frame) : Prop :=
  fs.size ≤ fs'.size ∧ ∀ (i : Nat) (fr : Frame), fs[i]? = some fr →
    ∃ fr', fs'[i]? = some fr' ∧ fr'.parent = fr.parent ∧
      ∀ x, (lookupIn fr.vars x).isSome → (lookupIn fr'.vars x).isSome

theorem ExtF.refl (fs : Array Frame) : ExtF fs fs :=
  ⟨Nat.le_refl _, fun _ fr h => ⟨fr, h, rfl, fun _ hx => hx⟩⟩

theorem ExtF.trans {a b c : Array Frame} (h1 : ExtF a b) (h2 : ExtF b c) : ExtF a c := by
  refine ⟨Nat.le_trans h1.1 h2.1, fun i fr h => ?_⟩
  obtain ⟨fr1, hb, hp1, hn1⟩ := h1.2 i fr h
  obtain ⟨fr2, hc, hp2, hn2⟩ := h2.2 i fr1 hb
  exact ⟨fr2, hc, hp2.trans hp1, fun x hx => hn2 x (hn1 x hx)⟩

/-! ### replacing one frame (by one with the same parent) -/

theorem getElem?_lt_size {fs : Array Frame} {i : Nat} {fr : Frame} (h : fs[i]? = some fr) : i < fs.size :=
  (Array.getElem?_eq_some_iff.mp h).1

theorem set_get_self {fs : Array Frame} {j : Nat} {fr : Frame} (hfr : fs[j]? = some fr) (fr' : Frame) :
    (fs.setIfInBounds j fr')[j]? = some fr' :=
  Array.getElem?_setIfInBounds_self_of_lt (getElem?_lt_size hfr)

theorem set_sameAt_below (y : String) (fs : Array Frame) (j : Nat) (fr' : Frame) (k : Nat) (hk : k ≤ j) :
    SameAt y k fs (fs.setIfInBounds j fr') := by
  intro i hi
  rw [Array.getElem?_setIfInBounds_ne (Nat.ne_of_gt (Nat.lt_of_lt_of_le hi hk))]
  exact SameFrame.refl _ _

theorem set_sameAt_var (y : String) (fs : Array Frame) (j : Nat) (fr fr' : Frame) (hfr : fs[j]? = some fr)
    (hp : fr'.parent = fr.parent) (hy : lookupIn fr'.vars y = lookupIn fr.vars y) (k : Nat) :
    SameAt y k fs (fs.setIfInBounds j fr') := by
  intro i _
  by_cases hji : j = i
  · subst hji
    rw [hfr, set_get_self hfr]
    exact ⟨hp, hy⟩
  · rw [Array.getElem?_setIfInBounds_ne hji]
    exact SameFrame.refl _ _

theorem set_extF (fs : Array Frame) (j : Nat) (fr fr' : Frame) (hfr : fs[j]? = some fr)
    (hp : fr'.parent = fr.parent) (hn : ∀ x, (lookupIn fr.vars x).isSome → (lookupIn fr'.vars x).isSome) :
    ExtF fs (fs.setIfInBounds j fr') := by
  refine ⟨Nat.le_of_eq Array.size_setIfInBounds.symm, fun i fri hi => ?_⟩
  by_cases hji : j = i
  · subst hji
    cases hfr.symm.trans hi
    exact ⟨fr', set_get_self hfr fr', hp, hn⟩
  · exact ⟨fri, (Array.getElem?_setIfInBounds_ne hji).trans hi, rfl, fun _ h => h⟩

theorem set_wf (fs : Array Frame) (hwf : WFf fs) (j : Nat) (fr fr' : Frame) (hfr : fs[j]? = some fr)
    (hp : fr'.parent = fr.parent) : WFf (fs.setIfInBounds j fr') := by
  intro i fri p hi hpi
  by_cases hji : j = i
  · subst hji
    cases (set_get_self hfr fr').symm.trans hi
    exact hwf j fr p hfr (hp ▸ hpi)
  · rw [Array.getElem?_setIfInBounds_ne hji] at hi
    exact hwf i fri p hi hpi

/-! ### the scope chain -/

/-- frame `i` is on the parent chain of scope `env` -/
inductive OnChain (fs : Array Frame) : Nat → Nat → Prop where
  | here (env : Nat) : OnChain fs env env
  | up {env p i : Nat} {fr : Frame} : fs[env]? = some fr → fr.parent = some p → OnChain fs p i → OnChain fs env i

theorem OnChain.le {fs : Array Frame} (hwf : WFf fs) {env i : Nat} (h : OnChain fs env i) : i ≤ env := by
  induction h with
  | here => exact Nat.le_refl _
  | up hfr hp _ ih => exact Nat.le_trans ih (Nat.le_of_lt (hwf _ _ _ hfr hp))

theorem OnChain.ext {fs fs' : Array Frame} (hx : ExtF fs fs') {env i : Nat} (h : OnChain fs env i) :
    OnChain fs' env i := by
  induction h with
  | here => exact .here _
  | up hfr hp _ ih =>
    obtain ⟨fr', hfr', hp', _⟩ := hx.2 _ _ hfr
    exact .up hfr' (hp'.trans hp) ih

/-- `x` has a declaration on the scope chain of `env`, in a frame not older than `n` -/
def DeclAbove (fs : Array Frame) (env n : Nat) (x : String) : Prop :=
  ∃ (i : Nat) (fr : Frame), OnChain fs env i ∧ n ≤ i ∧ fs[i]? = some fr ∧ (lookupIn fr.vars x).isSome

theorem DeclAbove.ext {fs fs' : Array Frame} (hx : ExtF fs fs') {env n : Nat} {x : String}
    (h : DeclAbove fs env n x) : DeclAbove fs' env n x := by
  obtain ⟨i, fr, hc, hn, hfr, hd⟩ := h
  obtain ⟨fr', hfr', _, hnames⟩ := hx.2 _ _ hfr
  exact ⟨i, fr', hc.ext hx, hn, hfr', hnames x hd⟩


/-! ### what the store operations change -/

theorem lookupIn_append_isSome (vars : List (String × Val)) (x z : String) (v : Val)
    (h : (lookupIn vars z).isSome) : (lookupIn (vars ++ [(x, v)]) z).isSome := by
  induction vars with
  | nil => simp [lookupIn] at h
  | cons kv rest ih =>
    obtain ⟨k, w⟩ := kv
    by_cases hk : k = z
    · simp [lookupIn, hk]
    · simp only [lookupIn, hk, ↓reduceIte, List.cons_append] at h ⊢; exact ih h

theorem lookupIn_setIn_isSome (vars : List (String × Val)) (x z : String) (v : Val)
    (h : (lookupIn vars z).isSome) : (lookupIn (setIn vars x v) z).isSome := by
  by_cases hz : z = x
  · subst hz; rw [C05.lookupIn_setIn_same _ _ _ h]; rfl
  · rw [C05.lookupIn_setIn_other _ _ _ _ hz]; exact h

theorem push_extF (fs : Array Frame) (fr : Frame) : ExtF fs (fs.push fr) := by
  refine ⟨by simp, fun i fri hi => ⟨fri, ?_, rfl, fun _ h => h⟩⟩
  have := getElem?_lt_size hi
  simp [Array.getElem?_push, Nat.ne_of_lt this, hi]

theorem push_wf (fs : Array Frame) (hwf : WFf fs) (vars : List (String × Val)) (p : Nat) (hp : p < fs.size)
    (tys : List (String × Val)) : WFf (fs.push { vars := vars, parent := some p, tys := tys }) := by
  intro i fri q hi hq
  rw [Array.getElem?_push] at hi
  split at hi
  · simp only [Option.some.injEq] at hi; subst hi; simp only [Option.some.injEq] at hq; omega
  · exact hwf i fri q hi hq

theorem push_sameAt (y : String) (fs : Array Frame) (fr : Frame) (k : Nat) (hk : k ≤ fs.size) :
    SameAt y k fs (fs.push fr) := by
  intro i hi
  have : ¬ i = fs.size := Nat.ne_of_lt (Nat.lt_of_lt_of_le hi hk)
  simp [Array.getElem?_push, this, SameFrame.refl]

theorem lookup_new_frame (y : String) (fs : Array Frame) (hwf : WFf fs) (p : Nat) (hp : p < fs.size)
    (fuel fuel' : Nat) (hf : p < fuel) (hf' : fs.size < fuel') :
    lookupVar (fs.push { vars := [], parent := some p }) fuel' fs.size y = lookupVar fs fuel p y := by
  obtain ⟨k', rfl⟩ := Nat.exists_eq_add_one_of_ne_zero (Nat.ne_zero_of_lt hf')
  conv => lhs; unfold lookupVar
  simp only [Array.getElem?_push, ↓reduceIte, lookupIn]
  exact lookup_congr y fs _ hwf p fuel k' hf (Nat.lt_of_lt_of_le hp (Nat.le_of_lt_succ hf')) (push_sameAt y fs _ _ hp)

theorem declareVar_spec {fs fs' : Array Frame} {env : Nat} {x : String} {v : Val}
    (h : declareVar fs env x v = some fs') :
    ∃ fr, fs[env]? = some fr ∧ lookupIn fr.vars x = none ∧
      fs' = fs.setIfInBounds env { fr with vars := fr.vars ++ [(x, v)] } := by
  unfold declareVar at h
  cases hfr : fs[env]? with
  | none => simp [hfr] at h
  | some fr =>
    simp only [hfr] at h
    cases hl : lookupIn fr.vars x with
    | some _ => simp [hl] at h
    | none => simp only [hl, Option.some.injEq] at h; exact ⟨fr, rfl, hl, h.symm⟩

/-- `assignVar` / `dropVar`: `fs'` is `fs` with the value of `x` replaced by `w` in the FIRST frame of the
chain of `env` that declares `x` -/
def WroteFirst (fs : Array Frame) (env : Nat) (x : String) (w : Val) (fs' : Array Frame) : Prop :=
  ∃ j fr, OnChain fs env j ∧ fs[j]? = some fr ∧ (lookupIn fr.vars x).isSome ∧
    fs' = fs.setIfInBounds j { fr with vars := setIn fr.vars x w } ∧
    ∀ i fri, OnChain fs env i → fs[i]? = some fri → (lookupIn fri.vars x).isSome → i ≤ j

theorem WroteFirst.here {fs : Array Frame} (hwf : WFf fs) {env : Nat} {fr : Frame} {x : String} (w : Val)
    (hfr : fs[env]? = some fr) (hd : (lookupIn fr.vars x).isSome) :
    WroteFirst fs env x w (fs.setIfInBounds env { fr with vars := setIn fr.vars x w }) :=
  ⟨env, fr, .here _, hfr, hd, rfl, fun _ _ hc _ _ => hc.le hwf⟩

theorem WroteFirst.up {fs fs' : Array Frame} {env p : Nat} {fr : Frame} {x : String} {w : Val}
    (hfr : fs[env]? = some fr) (hl : lookupIn fr.vars x = none) (hp : fr.parent = some p)
    (h : WroteFirst fs p x w fs') : WroteFirst fs env x w fs' := by
  obtain ⟨j, frj, hc, hj, hd, he, hfirst⟩ := h
  refine ⟨j, frj, .up hfr hp hc, hj, hd, he, fun i fri hci hi hdi => ?_⟩
  cases hci with
  | here => rw [hfr] at hi; simp only [Option.some.injEq] at hi; subst hi; simp [hl] at hdi
  | up hfr2 hp2 hc2 =>
    rw [hfr] at hfr2; simp only [Option.some.injEq] at hfr2; subst hfr2
    rw [hp] at hp2; simp only [Option.some.injEq] at hp2; subst hp2
    exact hfirst i fri hc2 hi hdi

theorem assignVar_spec (fs : Array Frame) (hwf : WFf fs) (x : String) (v : Val) (fuel env : Nat)
    (fs' : Array Frame) (h : assignVar fs fuel env x v = some fs') : WroteFirst fs env x v fs' := by
  fun_induction assignVar fs fuel env x v
  case case3 hfr _ hl _ => cases h; exact .here hwf _ hfr (hl ▸ rfl)
  case case5 hfr hl _ hp ih => exact .up hfr hl hp (ih h)
  all_goals cases h

theorem dropVar_spec (fs : Array Frame) (hwf : WFf fs) (x : String) (fuel env : Nat)
    (fs' : Array Frame) (h : dropVar fs fuel env x = some fs') : WroteFirst fs env x .null fs' := by
  fun_induction dropVar fs fuel env x
  case case3 hfr _ hl => cases h; exact .here hwf _ hfr (hl ▸ rfl)
  case case4 hfr hl _ hp ih => exact .up hfr hl hp (ih h)
  all_goals cases h

/-! ### a step of the store that only ADDS declarations of names in `N` to frame `env` -/

structure FrameStep (fs fs' : Array Frame) (env : Nat) (N : List String) : Prop where
  ext : ExtF fs fs'
  wf : WFf fs → WFf fs'
  size : fs'.size = fs.size
  other : ∀ y, y ∉ N → ∀ k, SameAt y k fs fs'
  below : ∀ k, k ≤ env → ∀ y, SameAt y k fs fs'

theorem FrameStep.refl (fs : Array Frame) (env : Nat) (N : List String) : FrameStep fs fs env N :=
  ⟨ExtF.refl _, id, rfl, fun _ _ _ => SameAt.refl _ _ _, fun _ _ _ => SameAt.refl _ _ _⟩

theorem FrameStep.trans {a b c : Array Frame} {env : Nat} {N1 N2 : List String}
    (h1 : FrameStep a b env N1) (h2 : FrameStep b c env N2) : FrameStep a c env (N1 ++ N2) :=
  ⟨h1.ext.trans h2.ext, fun h => h2.wf (h1.wf h), h2.size.trans h1.size,
   fun y hy k => (h1.other y (fun h => hy (List.mem_append_left _ h)) k).trans
      (h2.other y (fun h => hy (List.mem_append_right _ h)) k),
   fun k hk y => (h1.below k hk y).trans (h2.below k hk y)⟩

theorem FrameStep.mono {a b : Array Frame} {env : Nat} {N N' : List String} (h : FrameStep a b env N)
    (hN : ∀ x, x ∈ N → x ∈ N') : FrameStep a b env N' :=
  ⟨h.ext, h.wf, h.size, fun y hy k => h.other y (fun hx => hy (hN y hx)) k, h.below⟩

theorem FrameStep.set (fs : Array Frame) (j : Nat) (fr fr' : Frame) (N : List String) (hfr : fs[j]? = some fr)
    (hp : fr'.parent = fr.parent) (hkeep : ∀ x, (lookupIn fr.vars x).isSome → (lookupIn fr'.vars x).isSome)
    (hother : ∀ y, y ∉ N → lookupIn fr'.vars y = lookupIn fr.vars y) :
    FrameStep fs (fs.setIfInBounds j fr') j N :=
  ⟨set_extF fs j fr fr' hfr hp hkeep, fun hwf => set_wf fs hwf j fr fr' hfr hp, Array.size_setIfInBounds,
    fun y hy k => set_sameAt_var y fs j fr fr' hfr hp (hother y hy) k,
    fun k hk y => set_sameAt_below y fs j fr' k hk⟩

theorem declareVar_step {fs fs' : Array Frame} {env : Nat} {x : String} {v : Val}
    (h : declareVar fs env x v = some fs') :
    FrameStep fs fs' env [x] ∧ ∃ fr', fs'[env]? = some fr' ∧ (lookupIn fr'.vars x).isSome := by
  obtain ⟨fr, hfr, hl, rfl⟩ := declareVar_spec h
  have hlt := getElem?_lt_size hfr
  refine ⟨.set fs env fr _ [x] hfr rfl (fun z hz => lookupIn_append_isSome _ _ _ _ hz)
    (fun y hy => C05.lookupIn_append_other _ _ _ _ (fun e => hy (List.mem_singleton.mpr e))), ?_⟩
  refine ⟨{ fr with vars := fr.vars ++ [(x, v)] }, by simp [hlt], ?_⟩
  simp [C05.lookupIn_append_new _ _ _ hl]

def DeclaredIn (fs : Array Frame) (env : Nat) (N : List String) : Prop :=
  ∀ x, x ∈ N → ∃ fr, fs[env]? = some fr ∧ (lookupIn fr.vars x).isSome

theorem DeclaredIn.ext {fs fs' : Array Frame} {env : Nat} {N : List String} (hx : ExtF fs fs')
    (h : DeclaredIn fs env N) : DeclaredIn fs' env N := by
  intro x hxN
  obtain ⟨fr, hfr, hd⟩ := h x hxN
  obtain ⟨fr', hfr', _, hn⟩ := hx.2 _ _ hfr
  exact ⟨fr', hfr', hn x hd⟩


/-- the effect of a pattern declaration: declarations of the pattern's names in the current frame only -/
def PatStep (st : State) (env : Nat) (N : List String) (r : Bool × State) : Prop :=
  FrameStep st.frames r.2.frames env N ∧ r.2.frozenTab = st.frozenTab ∧ r.2.out = st.out ∧
    (r.1 = true → DeclaredIn r.2.frames env N)

theorem PatStep.refl_false (st : State) (env : Nat) (N : List String) : PatStep st env N (false, st) :=
  ⟨FrameStep.refl _ _ _, rfl, rfl, fun h => nomatch h⟩

theorem PatStep.refl_nil (st : State) (env : Nat) (b : Bool) : PatStep st env [] (b, st) :=
  ⟨FrameStep.refl _ _ _, rfl, rfl, fun _ _ hx => nomatch hx⟩

theorem declarePat_go_step (fuel env : Nat)
    (ih : ∀ st p v, PatStep st env (Pat.idents p) (declarePat fuel st env p v)) :
    ∀ (ps : List Pat) (vs : List Val) (st : State),
      PatStep st env (Pat.idents.Pat.identsList ps) (declarePat.go env fuel st ps vs) := by
  intro ps
  induction ps with
  | nil =>
    intro vs st
    cases vs with
    | nil =>
      simp only [declarePat.go, Pat.idents.Pat.identsList]
      exact .refl_nil _ _ _
    | cons v vs => simp only [declarePat.go]; exact PatStep.refl_false _ _ _
  | cons p ps ihps =>
    intro vs st
    cases vs with
    | nil => simp only [declarePat.go]; exact PatStep.refl_false _ _ _
    | cons v vs =>
      simp only [declarePat.go, Pat.idents.Pat.identsList]
      have h1 := ih st p v
      rcases hr : declarePat fuel st env p v with ⟨ok, st1⟩
      rw [hr] at h1
      cases ok with
      | false =>
        dsimp only
        obtain ⟨hs, ht, ho, _⟩ := h1
        exact ⟨hs.mono (fun x hx => List.mem_append_left _ hx), ht, ho, fun h => nomatch h⟩
      | true =>
        dsimp only
        have h2 := ihps vs st1
        obtain ⟨hs1, ht1, ho1, hd1⟩ := h1
        obtain ⟨hs2, ht2, ho2, hd2⟩ := h2
        refine ⟨hs1.trans hs2, ht2.trans ht1, ho2.trans ho1, fun hok x hx => ?_⟩
        rcases List.mem_append.mp hx with hx | hx
        · exact (hd1 rfl).ext hs2.ext x hx
        · exact hd2 hok x hx

theorem declarePat_step : ∀ (fuel : Nat) (st : State) (env : Nat) (p : Pat) (v : Val),
    PatStep st env (Pat.idents p) (declarePat fuel st env p v) := by
  intro fuel
  induction fuel with
  | zero => intro st env p v; simp only [declarePat]; exact PatStep.refl_false _ _ _
  | succ n ih =>
    intro st env p v
    cases p with
    | underscore =>
      simp only [declarePat, Pat.idents]
      exact .refl_nil _ _ _
    | lit k =>
      simp only [declarePat, Pat.idents]
      cases v <;> exact .refl_nil _ _ _
    | ident x =>
      simp only [declarePat, Pat.idents]
      cases hd : declareVar st.frames env x v with
      | none => exact PatStep.refl_false _ _ _
      | some fs =>
        obtain ⟨hs, fr', hfr', hx⟩ := declareVar_step hd
        exact ⟨hs, rfl, rfl, fun _ y hy => List.mem_singleton.mp hy ▸ ⟨fr', hfr', hx⟩⟩
    | seq ps =>
      simp only [declarePat, Pat.idents]
      cases v with
      | list vs =>
        dsimp only
        split
        · exact PatStep.refl_false _ _ _
        · exact declarePat_go_step n env (fun st p v => ih st env p v) ps vs st
      | _ => exact PatStep.refl_false _ _ _


theorem declarePat_go_comm (φ : State → State) (ok : String → Prop) (fuel env : Nat)
    (ih : ∀ st p v, (∀ x, x ∈ Pat.idents p → ok x) → declarePat fuel (φ st) env p v =
      ((declarePat fuel st env p v).1, φ (declarePat fuel st env p v).2)) :
    ∀ (ps : List Pat) (vs : List Val) (st : State), (∀ x, x ∈ Pat.idents.Pat.identsList ps → ok x) →
      declarePat.go env fuel (φ st) ps vs =
        ((declarePat.go env fuel st ps vs).1, φ (declarePat.go env fuel st ps vs).2) := by
  intro ps
  induction ps with
  | nil => intro vs st _; cases vs <;> simp only [declarePat.go]
  | cons p ps ihps =>
    intro vs st hok
    cases vs with
    | nil => simp only [declarePat.go]
    | cons v vs =>
      simp only [Pat.idents.Pat.identsList, List.mem_append] at hok
      simp only [declarePat.go, ih st p v (fun x hx => hok x (Or.inl hx))]
      rcases declarePat fuel st env p v with ⟨b, st1⟩
      cases b with
      | true => exact ihps vs st1 (fun x hx => hok x (Or.inr hx))
      | false => rfl

/-- a map `φ` of the store that commutes with declaring each single variable a pattern names (those satisfy
`ok`) commutes with declaring the pattern: `declarePat` touches the store through `declareVar` only -/
theorem declarePat_comm (φ : State → State) (ok : String → Prop) (env : Nat)
    (hvar : ∀ k st x v, ok x → declarePat (k + 1) (φ st) env (.ident x) v =
      ((declarePat (k + 1) st env (.ident x) v).1, φ (declarePat (k + 1) st env (.ident x) v).2)) :
    ∀ (fuel : Nat) (st : State) (p : Pat) (v : Val), (∀ x, x ∈ Pat.idents p → ok x) →
      declarePat fuel (φ st) env p v = ((declarePat fuel st env p v).1, φ (declarePat fuel st env p v).2) := by
  intro fuel
  induction fuel with
  | zero => intro st p v _; simp only [declarePat]
  | succ k ih =>
    intro st p v hok
    cases p with
    | underscore => simp only [declarePat]
    | lit m => simp only [declarePat]; cases v <;> rfl
    | ident x => exact hvar k st x v (hok x (List.mem_singleton.mpr rfl))
    | seq ps =>
      simp only [declarePat]
      cases v with
      | list vs =>
        dsimp only
        split
        · rfl
        · exact declarePat_go_comm φ ok k env ih ps vs st (by simpa [Pat.idents] using hok)
      | _ => rfl

/-- the effect of a write to `x` from scope `env` (`assignVar` / `dropVar`): only the value of `x` changes,
and if `x` has a declaration on the chain in a frame not older than `n`, no frame older than `n` changes -/
structure WriteStep (fs fs' : Array Frame) (env : Nat) (x : String) : Prop where
  ext : ExtF fs fs'
  wf : WFf fs'
  size : fs'.size = fs.size
  other : ∀ y, y ≠ x → ∀ k, SameAt y k fs fs'
  above : ∀ n, DeclAbove fs env n x → ∀ k, k ≤ n → ∀ y, SameAt y k fs fs'

theorem writeStep_of_spec (fs : Array Frame) (hwf : WFf fs) (env : Nat) (x : String) (w : Val) (fs' : Array Frame)
    (h : WroteFirst fs env x w fs') : WriteStep fs fs' env x := by
  obtain ⟨j, fr, _, hfr, hd, rfl, hfirst⟩ := h
  refine ⟨set_extF fs j fr _ hfr rfl (fun z hz => lookupIn_setIn_isSome _ _ _ _ hz),
    set_wf fs hwf j fr _ hfr rfl, by simp, fun y hy k => ?_, fun n hda k hk y => ?_⟩
  · exact set_sameAt_var y fs j fr { fr with vars := setIn fr.vars x w } hfr rfl
      (C05.lookupIn_setIn_other _ _ _ _ hy) k
  · obtain ⟨i, fri, hci, hni, hfri, hdi⟩ := hda
    have := hfirst i fri hci hfri hdi
    exact set_sameAt_below y fs j _ k (Nat.le_trans hk (Nat.le_trans hni this))

theorem assignVar_step (fs : Array Frame) (hwf : WFf fs) (x : String) (v : Val) (fuel env : Nat)
    (fs' : Array Frame) (h : assignVar fs fuel env x v = some fs') : WriteStep fs fs' env x :=
  writeStep_of_spec fs hwf env x v fs' (assignVar_spec fs hwf x v fuel env fs' h)

theorem dropVar_step (fs : Array Frame) (hwf : WFf fs) (x : String) (fuel env : Nat)
    (fs' : Array Frame) (h : dropVar fs fuel env x = some fs') : WriteStep fs fs' env x :=
  writeStep_of_spec fs hwf env x .null fs' (dropVar_spec fs hwf x fuel env fs' h)

/-! ### state-level notions -/

def WF (st : State) : Prop := WFf st.frames

def Ext (st st' : State) : Prop := ExtF st.frames st'.frames ∧ st'.frozenTab = st.frozenTab

theorem Ext.refl (st : State) : Ext st st := ⟨ExtF.refl _, rfl⟩
theorem Ext.trans {a b c : State} (h1 : Ext a b) (h2 : Ext b c) : Ext a c :=
  ⟨h1.1.trans h2.1, h2.2.trans h1.2⟩

/-- the frames older than `n` are unchanged, except possibly at the variables named in `B` -/
def OldKept (st st' : State) (n : Nat) (B : List String) : Prop :=
  ∀ y, y ∉ B → SameAt y n st.frames st'.frames

theorem OldKept.refl (st : State) (n : Nat) (B : List String) : OldKept st st n B :=
  fun _ _ => SameAt.refl _ _ _
theorem OldKept.trans {a b c : State} {n : Nat} {B : List String} (h1 : OldKept a b n B) (h2 : OldKept b c n B) :
    OldKept a c n B := fun y hy => (h1 y hy).trans (h2 y hy)
theorem OldKept.mono {a b : State} {n n' : Nat} {B : List String} (h : OldKept a b n B) (hn : n' ≤ n) :
    OldKept a b n' B := fun y hy => (h y hy).mono hn

/-- every name of `S` is either in `B` or has a declaration on the chain of `env` in a frame `≥ n`:
a write to it from `env` cannot touch a variable outside `B` in a frame older than `n` -/
def SafeFor (S : List String) (st : State) (env n : Nat) (B : List String) : Prop :=
  ∀ x, x ∈ S → x ∈ B ∨ DeclAbove st.frames env n x

theorem SafeFor.ext {S : List String} {st st' : State} {env n : Nat} {B : List String}
    (h : SafeFor S st env n B) (hx : Ext st st') : SafeFor S st' env n B := by
  intro x hxS
  rcases h x hxS with hb | hd
  · exact Or.inl hb
  · exact Or.inr (hd.ext hx.1)

theorem SafeFor.mono {S S' : List String} {st : State} {env n : Nat} {B : List String}
    (h : SafeFor S st env n B) (hS : ∀ x, x ∈ S' → x ∈ S) : SafeFor S' st env n B :=
  fun x hx => h x (hS x hx)

theorem SafeFor.add_declared {S N : List String} {st : State} {env n : Nat} {B : List String}
    (h : SafeFor S st env n B) (hn : n ≤ env) (hd : DeclaredIn st.frames env N) : SafeFor (S ++ N) st env n B := by
  intro x hx
  rcases List.mem_append.mp hx with hx | hx
  · exact h x hx
  · obtain ⟨fr, hfr, hdx⟩ := hd x hx
    exact Or.inr ⟨env, fr, .here _, hn, hfr, hdx⟩

theorem lookup_same {st st' : State} {env : Nat} {y : String} (hwf : WF st) (hlt : env < st.frames.size)
    (hlt' : env < st'.frames.size) (hs : SameAt y (env + 1) st.frames st'.frames) :
    st'.lookup env y = st.lookup env y :=
  lookup_congr y st.frames st'.frames hwf env _ _ (Nat.lt_succ_of_lt hlt) (Nat.lt_succ_of_lt hlt') hs

theorem lookup_oldKept {st st' : State} {n : Nat} {B : List String} (hwf : WF st) (hk : OldKept st st' n B)
    (env : Nat) (henv : env < n) (hsz : env < st.frames.size) (hsz' : env < st'.frames.size) (y : String)
    (hy : y ∉ B) : st'.lookup env y = st.lookup env y :=
  lookup_same hwf hsz hsz' ((hk y hy).mono henv)

end Noulith.C17Frames
