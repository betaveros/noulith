/-
C09 (continued) — hash consistency and the finite-map refinement for EVERY key, dictionaries nested
as keys at any depth included.

`total_eq_of_keys` on two dictionaries looks every entry of the first up in the second THROUGH THE
HASH MAP (same hasher writes and `total_eq`), and the dict arm of `total_hash_of_key` is an
order-independent sum of per-entry sub-hashes.  So "`a ≈ b → writes a = writes b`" for dictionary
keys needs, simultaneously and by induction on the size of the keys: hash consistency, symmetry and
transitivity of `total_eq` on all smaller keys (`pkg`), and a matching argument that turns "every
entry of `a` has a partner in `b`, no two entries share one, equal lengths" into a permutation
(`matching`).  The invariant `KeyWF` says what a key is: integers well-formed and every nested
dictionary a real `HashMap` (no two stored keys hit each other).  The statements for dictionary-free
keys (`KeyOK`) are restrictions (`keyWF_of_keyOK`).
-/
import NoulithModel.Theorems.C09

namespace Noulith.C09
open Noulith OrdSpec Noulith.C08 Noulith.DictOps

/-! ## what a key is: any nesting, dictionaries included
(`hash_consistent_statement` is proved below as `hash_consistent_holds`) -/

/- well-formed hashable keys of ANY nesting, dictionaries included: what `to_key` can produce.
`Small` integers hold an i64; a dictionary used as (part of) a key is a real `HashMap`: its keys and
values are keys again and no two of its stored keys hit each other. -/
mutual
def KeyWF : Val → Prop
  | .null => True
  | .num n => n.WF
  | .str _ => True
  | .bytes _ => True
  | .vec xs => ∀ n ∈ xs, NNum.WF n
  | .list xs => KeyWFList xs
  | .dict kvs _ => KeyWFEntries kvs ∧
      kvs.Pairwise (fun e f => ¬ keyHit e.1 f.1 = true ∧ ¬ keyHit f.1 e.1 = true)
  | .func _ => False
def KeyWFList : List Val → Prop
  | [] => True
  | x :: xs => KeyWF x ∧ KeyWFList xs
def KeyWFEntries : List (Val × Val) → Prop
  | [] => True
  | (k, v) :: rest => KeyWF k ∧ KeyWF v ∧ KeyWFEntries rest
end

theorem keyWFList_iff (xs : List Val) : KeyWFList xs ↔ ∀ x ∈ xs, KeyWF x := by
  induction xs with
  | nil => simp [KeyWFList]
  | cons x xs ih => simp [KeyWFList, ih]

theorem keyWFEntries_iff (kvs : List (Val × Val)) : KeyWFEntries kvs ↔ ∀ e ∈ kvs, KeyWF e.1 ∧ KeyWF e.2 := by
  induction kvs with
  | nil => simp [KeyWFEntries]
  | cons e kvs ih => obtain ⟨k, v⟩ := e; simp [KeyWFEntries, ih, and_assoc]

/-- `KeyWF` is the representation invariant of the keys `to_key` can produce; plain `validKey` is not
enough: an association list with two `≈` stored keys is not a `HashMap`, and for such a non-map
hash consistency fails. -/
def hash_consistent_statement : Prop :=
  ∀ a b : Val, KeyWF a → KeyWF b → totalEq a b = true → writes a = writes b

/-! ## generic: matching the entries of two maps -/
section Matching
variable {α : Type}

/-- element-wise relation of two lists of equal length -/
inductive F2 (R : α → α → Prop) : List α → List α → Prop
  | nil : F2 R [] []
  | cons {a b : α} {as bs : List α} : R a b → F2 R as bs → F2 R (a :: as) (b :: bs)

theorem F2.map_eq_of_mem {R : α → α → Prop} {β : Type} (g : α → β) {A B : List α} (h : F2 R A B)
    (hg : ∀ x ∈ A, ∀ e ∈ B, R x e → g x = g e) : A.map g = B.map g := by
  induction h with
  | nil => rfl
  | cons hr _ ih =>
    rw [List.map_cons, List.map_cons, hg _ (List.mem_cons_self ..) _ (List.mem_cons_self ..) hr,
      ih fun x hx e he => hg x (List.mem_cons_of_mem _ hx) e (List.mem_cons_of_mem _ he)]

theorem F2.map_eq {R : α → α → Prop} {β : Type} (g : α → β) {A B : List α} (h : F2 R A B)
    (hg : ∀ x e, R x e → g x = g e) : A.map g = B.map g :=
  h.map_eq_of_mem g fun x _ e _ => hg x e

theorem F2.right_mem {R : α → α → Prop} {A B : List α} (h : F2 R A B) :
    ∀ f ∈ B, ∃ x ∈ A, R x f := by
  induction h with
  | nil => intro f hf; cases hf
  | cons hr _ ih =>
    intro f hf
    rcases List.mem_cons.mp hf with rfl | hf
    · exact ⟨_, List.mem_cons_self .., hr⟩
    · obtain ⟨x, hx, hxr⟩ := ih f hf
      exact ⟨x, List.mem_cons_of_mem _ hx, hxr⟩

theorem matching (R : α → α → Prop) (A : List α) : ∀ (B : List α), A.length = B.length →
    (∀ x ∈ A, ∃ e ∈ B, R x e) →
    A.Pairwise (fun x x' => ∀ e ∈ B, R x e → R x' e → False) →
    ∃ B', B'.Perm B ∧ F2 R A B' := by
  induction A with
  | nil =>
    intro B hlen _ _
    have : B = [] := by cases B with
      | nil => rfl
      | cons _ _ => simp at hlen
    subst this
    exact ⟨[], List.Perm.refl _, F2.nil⟩
  | cons x A ih =>
    intro B hlen hmatch hinj
    obtain ⟨e, heB, hxe⟩ := hmatch x (List.mem_cons_self ..)
    obtain ⟨s, t, hB⟩ := List.append_of_mem heB
    have hp := List.pairwise_cons.mp hinj
    have hlen' : A.length = (s ++ t).length := by
      subst hB; simp at hlen ⊢; omega
    have hsub : ∀ z, z ∈ s ++ t → z ∈ B := by
      intro z hz; subst hB
      rcases List.mem_append.mp hz with h | h
      · exact List.mem_append_left _ h
      · exact List.mem_append_right _ (List.mem_cons_of_mem _ h)
    obtain ⟨B0, hperm, hf2⟩ := ih (s ++ t) hlen'
      (by
        intro x' hx'
        obtain ⟨e', he'B, hx'e'⟩ := hmatch x' (List.mem_cons_of_mem _ hx')
        subst hB
        rcases List.mem_append.mp he'B with h | h
        · exact ⟨e', List.mem_append_left _ h, hx'e'⟩
        · rcases List.mem_cons.mp h with h | h
          · subst h
            exact absurd (hp.1 x' hx' e' heB hxe hx'e') id
          · exact ⟨e', List.mem_append_right _ h, hx'e'⟩)
      (hp.2.imp (fun {a b} hab e he => hab e (hsub e he)))
    refine ⟨e :: B0, ?_, F2.cons hxe hf2⟩
    subst hB
    exact (List.Perm.cons e hperm).trans List.perm_middle.symm

theorem eq_of_pairwise_not {S : α → α → Prop} {l : List α} (hl : l.Pairwise (fun a b => ¬ S a b ∧ ¬ S b a))
    {x y : α} (hx : x ∈ l) (hy : y ∈ l) (hxy : S x y) : x = y :=
  List.Pairwise.forall_of_forall_of_flip (R := fun a b => S a b → a = b) (fun _ _ _ => rfl)
    (hl.imp fun h s => absurd s h.1) (hl.imp fun h s => absurd s h.2) hx hy hxy

theorem find_eq_of_pairwise_not {S : α → α → Prop} {l : List α} (hl : l.Pairwise (fun a b => ¬ S a b ∧ ¬ S b a))
    {p : α → Bool} {x : α} (hx : x ∈ l) (hp : p x = true) (H : ∀ y ∈ l, p y = true → S x y) :
    l.find? p = some x := by
  obtain ⟨y, hy⟩ := Option.isSome_iff_exists.mp (List.find?_isSome.mpr ⟨x, hx, hp⟩)
  have hyl := List.mem_of_find?_eq_some hy
  rw [hy, eq_of_pairwise_not hl hx hyl (H y hyl (List.find?_some hy))]

end Matching

/-- what a loop over the entries of `A` computes that looks each key up in `B` by `p` and tests the
value found by `q`: stated for any `F` with the two equations of such a loop (`totalEqEntries`,
`valEqEntries`) -/
theorem entries_iff {p : Val → Val × Val → Bool} {q : Val → Val → Bool} {F : List (Val × Val) → Bool}
    (B : List (Val × Val)) (hnil : F [] = true)
    (hcons : ∀ k v rest, F ((k, v) :: rest) =
      ((match B.find? (p k) with | some e => q v e.2 | none => false) && F rest)) (A : List (Val × Val)) :
    F A = true ↔ ∀ x ∈ A, ∃ e, B.find? (p x.1) = some e ∧ q x.2 e.2 = true := by
  induction A with
  | nil => simp [hnil]
  | cons x A ih =>
    obtain ⟨k, v⟩ := x
    simp only [hcons, Bool.and_eq_true, ih, List.mem_cons, forall_eq_or_imp]
    refine and_congr_left fun _ => ?_
    cases B.find? (p k) with
    | none => simp
    | some e => simp

theorem totalEqEntries_iff (A B : List (Val × Val)) :
    totalEqEntries A B = true ↔
      ∀ x ∈ A, ∃ e, B.find? (fun e => keyHit x.1 e.1) = some e ∧ totalEq x.2 e.2 = true :=
  entries_iff (F := (totalEqEntries · B)) (p := fun k e => keyHit k e.1) B rfl (fun _ _ _ => rfl) A

/-! ## `total_eq` is a hash-consistent equivalence on ALL keys, by induction on the size -/

/-- the three facts that have to be proved simultaneously -/
structure Pkg (a b c : Val) : Prop where
  hc : totalEq a b = true → writes a = writes b
  sy : totalEq a b = true → totalEq b a = true
  tr : totalEq a b = true → totalEq b c = true → totalEq a c = true

theorem Pkg.of_imp {a b c : Val} (h : totalEq a b = true → Pkg a b c) : Pkg a b c :=
  ⟨fun h' => (h h').hc h', fun h' => (h h').sy h', fun h1 h2 => (h h1).tr h1 h2⟩

def isLeaf : Val → Bool
  | .null => true
  | .num _ => true
  | .str _ => true
  | .bytes _ => true
  | .vec _ => true
  | _ => false

theorem keyOK_of_leaf (a : Val) (hl : isLeaf a = true) (ha : KeyWF a) : KeyOK a := by
  cases a <;> simp_all [isLeaf, KeyWF, KeyOK]

theorem isLeaf_eq_of_totalEq {a b : Val} (h : totalEq a b = true) : isLeaf a = isLeaf b := by
  unfold totalEq at h
  split at h <;> first | rfl | cases h

theorem leaf_of_totalEq (a b : Val) (hl : isLeaf a = true) (h : totalEq a b = true) : isLeaf b = true :=
  isLeaf_eq_of_totalEq h ▸ hl

theorem leaf_of_totalEq_rev (a b : Val) (hl : isLeaf b = true) (h : totalEq a b = true) : isLeaf a = true :=
  isLeaf_eq_of_totalEq h ▸ hl

theorem totalEq_spec_leaf (a b : Val) (hl : isLeaf a = true) (ha : KeyWF a) (hb : KeyWF b) :
    totalEq a b = keyEq a b := by
  unfold totalEq
  split
  · rfl
  · exact numTotalEq_spec _ _ ha hb
  · rfl
  · rfl
  · exact vecTotalEq_spec _ _ ha hb
  · cases hl
  · cases hl
  · -- the last equation of `keyEq`: `false` off the diagonal
    rw [OrdSpec.keyEq.eq_8] <;> assumption

theorem hash_consistent_leaf (a b : Val) (hl : isLeaf a = true) (ha : KeyWF a) (hb : KeyWF b)
    (h : totalEq a b = true) : writes a = writes b := by
  unfold totalEq at h
  split at h
  · rfl
  · simp only [writes, num_hash_consistent _ _ ha hb h]
  · rw [beq_iff_eq.mp h]
  · rw [beq_iff_eq.mp h]
  · have := vec_hash_consistent _ _ ha hb h
    simp only [writes, this.1, this.2]
  · cases hl
  · cases hl
  · cases h

/-- symmetry and transitivity on leaves come from the Spec's `≈` -/
theorem leaf_pkg (a b c : Val) (hl : isLeaf a = true) (ha : KeyWF a) (hb : KeyWF b) (hc : KeyWF c) : Pkg a b c := by
  have ka := keyOK_of_leaf a hl ha
  refine ⟨hash_consistent_leaf a b hl ha hb, ?_, ?_⟩
  · intro h
    rw [totalEq_spec_leaf b a (leaf_of_totalEq a b hl h) hb ha, ← keyEq_symm a b ka, ← totalEq_spec_leaf a b hl ha hb]
    exact h
  · intro h1 h2
    have lb := leaf_of_totalEq a b hl h1
    rw [totalEq_spec_leaf a b hl ha hb] at h1
    rw [totalEq_spec_leaf b c lb hb hc] at h2
    rw [totalEq_spec_leaf a c hl ha hc]
    exact keyEq_trans a b c ka h1 h2

theorem keyHit_iff (k k' : Val) : keyHit k k' = true ↔ writes k' = writes k ∧ totalEq k k' = true := by
  simp [keyHit]

theorem hit_of_find {B : List (Val × Val)} {k : Val} {e : Val × Val}
    (h : B.find? (fun e => keyHit k e.1) = some e) : keyHit k e.1 = true :=
  List.find?_some (p := fun e : Val × Val => keyHit k e.1) h

def Partner (x e : Val × Val) : Prop := keyHit x.1 e.1 = true ∧ totalEq x.2 e.2 = true

abbrev NoHit (e f : Val × Val) : Prop := ¬ keyHit e.1 f.1 = true ∧ ¬ keyHit f.1 e.1 = true

section DictCase
variable (S : Val → Prop)
  (HC : ∀ u v, S u → S v → totalEq u v = true → writes u = writes v)
  (SY : ∀ u v, S u → S v → totalEq u v = true → totalEq v u = true)
  (TR : ∀ u v w, S u → S v → S w → totalEq u v = true → totalEq v w = true → totalEq u w = true)

include SY TR in
theorem dict_match (A B : List (Val × Val)) (da db : Option Val)
    (hA : ∀ e ∈ A, S e.1 ∧ S e.2) (hB : ∀ e ∈ B, S e.1 ∧ S e.2) (pA : A.Pairwise NoHit)
    (h : totalEq (.dict A da) (.dict B db) = true) :
    ∃ B', B'.Perm B ∧ F2 Partner A B' := by
  simp only [totalEq, Bool.and_eq_true, beq_iff_eq] at h
  obtain ⟨hlen, hent⟩ := h
  rw [totalEqEntries_iff] at hent
  apply matching Partner A B hlen
  · intro x hx
    obtain ⟨e, hf, hv⟩ := hent x hx
    exact ⟨e, List.mem_of_find?_eq_some hf, hit_of_find hf, hv⟩
  · refine pA.imp_of_mem ?_
    intro x x' hx hx' hno e he hxe hx'e
    obtain ⟨w1, t1⟩ := (keyHit_iff _ _).mp hxe.1
    obtain ⟨w2, t2⟩ := (keyHit_iff _ _).mp hx'e.1
    have t3 := SY _ _ (hA x' hx').1 (hB e he).1 t2
    have t4 := TR _ _ _ (hA x hx).1 (hB e he).1 (hA x' hx').1 t1 t3
    exact hno.1 ((keyHit_iff _ _).mpr ⟨by rw [← w2, w1], t4⟩)

include HC SY TR in
theorem dict_hc (A B : List (Val × Val)) (da db : Option Val)
    (hA : ∀ e ∈ A, S e.1 ∧ S e.2) (hB : ∀ e ∈ B, S e.1 ∧ S e.2) (pA : A.Pairwise NoHit)
    (h : totalEq (.dict A da) (.dict B db) = true) : writes (.dict A da) = writes (.dict B db) := by
  obtain ⟨B', hperm, hf2⟩ := dict_match S SY TR A B da db hA hB pA h
  rw [← dict_hash_order_independent B' B db db hperm]
  have hB' : ∀ e ∈ B', S e.1 ∧ S e.2 := fun e he => hB e (hperm.mem_iff.mp he)
  -- partners have equal per-entry hashes
  have key : entryHashes A = entryHashes B' := by
    rw [entryHashes_eq_map, entryHashes_eq_map]
    refine hf2.map_eq_of_mem _ fun x hx e he hr => ?_
    rw [((keyHit_iff _ _).mp hr.1).1, HC _ _ (hA x hx).2 (hB' e he).2 hr.2]
  simp only [writes, key]

include SY TR in
theorem dict_sy (A B : List (Val × Val)) (da db : Option Val)
    (hA : ∀ e ∈ A, S e.1 ∧ S e.2) (hB : ∀ e ∈ B, S e.1 ∧ S e.2) (pA : A.Pairwise NoHit)
    (h : totalEq (.dict A da) (.dict B db) = true) : totalEq (.dict B db) (.dict A da) = true := by
  obtain ⟨B', hperm, hf2⟩ := dict_match S SY TR A B da db hA hB pA h
  simp only [totalEq, Bool.and_eq_true, beq_iff_eq] at h ⊢
  refine ⟨h.1.symm, ?_⟩
  rw [totalEqEntries_iff]
  intro f hf
  obtain ⟨x, hx, hxf⟩ := hf2.right_mem f (hperm.mem_iff.mpr hf)
  obtain ⟨w1, t1⟩ := (keyHit_iff _ _).mp hxf.1
  have t2 := SY _ _ (hA x hx).1 (hB f hf).1 t1
  refine ⟨x, find_eq_of_pairwise_not pA hx
    ((keyHit_iff _ _).mpr ⟨w1.symm, t2⟩) ?_, SY _ _ (hA x hx).2 (hB f hf).2 hxf.2⟩
  intro x' hx'A hp
  obtain ⟨w2, t3⟩ := (keyHit_iff _ _).mp hp
  exact (keyHit_iff _ _).mpr ⟨by rw [w2, w1], TR _ _ _ (hA x hx).1 (hB f hf).1 (hA x' hx'A).1 t1 t3⟩

include SY TR in
theorem dict_tr (A B C : List (Val × Val)) (da db dc : Option Val)
    (hA : ∀ e ∈ A, S e.1 ∧ S e.2) (hB : ∀ e ∈ B, S e.1 ∧ S e.2) (hC : ∀ e ∈ C, S e.1 ∧ S e.2)
    (pC : C.Pairwise NoHit)
    (h1 : totalEq (.dict A da) (.dict B db) = true) (h2 : totalEq (.dict B db) (.dict C dc) = true) :
    totalEq (.dict A da) (.dict C dc) = true := by
  simp only [totalEq, Bool.and_eq_true, beq_iff_eq] at h1 h2 ⊢
  refine ⟨h1.1.trans h2.1, ?_⟩
  have e1 := (totalEqEntries_iff A B).mp h1.2
  have e2 := (totalEqEntries_iff B C).mp h2.2
  rw [totalEqEntries_iff]
  intro x hx
  obtain ⟨e, hfe, hve⟩ := e1 x hx
  have heB := List.mem_of_find?_eq_some hfe
  obtain ⟨w1, t1⟩ := (keyHit_iff _ _).mp (hit_of_find hfe)
  obtain ⟨f, hff, hvf⟩ := e2 e heB
  have hfC := List.mem_of_find?_eq_some hff
  obtain ⟨w2, t2⟩ := (keyHit_iff _ _).mp (hit_of_find hff)
  have t3 := TR _ _ _ (hA x hx).1 (hB e heB).1 (hC f hfC).1 t1 t2
  have t5 := SY _ _ (hA x hx).1 (hC f hfC).1 t3
  refine ⟨f, find_eq_of_pairwise_not pC hfC
    ((keyHit_iff _ _).mpr ⟨by rw [w2, w1], t3⟩) ?_, TR _ _ _ (hA x hx).2 (hB e heB).2 (hC f hfC).2 hve hvf⟩
  intro f' hf'C hp
  obtain ⟨w3, t4⟩ := (keyHit_iff _ _).mp hp
  exact (keyHit_iff _ _).mpr ⟨by rw [w3, w2, w1], TR _ _ _ (hC f hfC).1 (hA x hx).1 (hC f' hf'C).1 t5 t4⟩

end DictCase

theorem pkg (n : Nat) : ∀ a b c : Val, sizeOf a < n → sizeOf b < n → sizeOf c < n →
    KeyWF a → KeyWF b → KeyWF c → Pkg a b c := by
  induction n with
  | zero => intro a _ _ h; exact absurd h (Nat.not_lt_zero _)
  | succ n ih =>
    intro a b c sa sb sc wa wb wc
    let S : Val → Prop := fun v => sizeOf v < n ∧ KeyWF v
    have HC : ∀ u v, S u → S v → totalEq u v = true → writes u = writes v :=
      fun u v hu hv => (ih u v u hu.1 hv.1 hu.1 hu.2 hv.2 hu.2).hc
    have SY : ∀ u v, S u → S v → totalEq u v = true → totalEq v u = true :=
      fun u v hu hv => (ih u v u hu.1 hv.1 hu.1 hu.2 hv.2 hu.2).sy
    have TR : ∀ u v w, S u → S v → S w → totalEq u v = true → totalEq v w = true → totalEq u w = true :=
      fun u v w hu hv hw => (ih u v w hu.1 hv.1 hw.1 hu.2 hv.2 hw.2).tr
    -- members of a list / dict that is ≤ n in size are small
    have Slist : ∀ {xs : List Val}, sizeOf (Val.list xs) < n + 1 → KeyWF (.list xs) → ∀ x ∈ xs, S x := by
      intro xs hs hw x hx
      exact ⟨by have := size_elem hx; omega, (keyWFList_iff xs).mp hw x hx⟩
    have Sdict : ∀ {A : List (Val × Val)} {d : Option Val}, sizeOf (Val.dict A d) < n + 1 → KeyWF (.dict A d) →
        ∀ e ∈ A, S e.1 ∧ S e.2 := by
      intro A d hs hw e he
      have hsz := size_entry (d := d) he
      have hwf := (keyWFEntries_iff A).mp hw.1 e he
      exact ⟨⟨by omega, hwf.1⟩, ⟨by omega, hwf.2⟩⟩
    -- all three facts assume `totalEq a b`, which decides the constructor of `a` and `b`
    refine Pkg.of_imp fun h => ?_
    unfold totalEq at h
    split at h
    · exact leaf_pkg _ _ c rfl wa wb wc
    · exact leaf_pkg _ _ c rfl wa wb wc
    · exact leaf_pkg _ _ c rfl wa wb wc
    · exact leaf_pkg _ _ c rfl wa wb wc
    · exact leaf_pkg _ _ c rfl wa wb wc
    · rename_i xs ys
      have hx := Slist sa wa
      have hy := Slist sb wb
      refine ⟨?_, ?_, ?_⟩
      · intro h
        simp only [totalEq, totalEqList_eq] at h
        simp only [writes, writesList_eq, listEq_length xs ys h,
          listEq_flatMap writes xs ys (fun x hx' y hy' => HC x y (hx x hx') (hy y hy')) h]
      · intro h
        simp only [totalEq, totalEqList_eq] at h ⊢
        exact listEq_symm_of xs ys (fun x hx' y hy' => SY x y (hx x hx') (hy y hy')) h
      · intro h1 h2
        cases c with
        | list zs =>
          have hz := Slist sc wc
          simp only [totalEq, totalEqList_eq] at h1 h2 ⊢
          exact listEq_trans_of xs ys zs (fun x hx' y hy' z hz' => TR x y z (hx x hx') (hy y hy') (hz z hz')) h1 h2
        | _ => simp [totalEq] at h2
    · rename_i A da B db
      have hA := Sdict sa wa
      have hB := Sdict sb wb
      refine ⟨dict_hc S HC SY TR A B da db hA hB wa.2, dict_sy S SY TR A B da db hA hB wa.2, ?_⟩
      intro h1 h2
      cases c with
      | dict C dc => exact dict_tr S SY TR A B C da db dc hA hB (Sdict sc wc) wc.2 h1 h2
      | _ => simp [totalEq] at h2
    · cases h

theorem Pkg.of_keyWF (a b c : Val) (ha : KeyWF a) (hb : KeyWF b) (hc : KeyWF c) : Pkg a b c :=
  pkg (sizeOf a + sizeOf b + sizeOf c + 1) a b c (by omega) (by omega) (by omega) ha hb hc

/-- **hash_consistent**: keys that are `total_eq` perform the same hasher writes — for EVERY key
`to_key` can produce, dictionaries nested as keys at any depth included -/
theorem hash_consistent (a b : Val) (ha : KeyWF a) (hb : KeyWF b) (h : totalEq a b = true) :
    writes a = writes b :=
  (Pkg.of_keyWF a b a ha hb ha).hc h

theorem hash_consistent_holds : hash_consistent_statement := hash_consistent

theorem totalEq_symm (a b : Val) (ha : KeyWF a) (hb : KeyWF b) (h : totalEq a b = true) : totalEq b a = true :=
  (Pkg.of_keyWF a b a ha hb ha).sy h

theorem totalEq_trans (a b c : Val) (ha : KeyWF a) (hb : KeyWF b) (hc : KeyWF c)
    (h1 : totalEq a b = true) (h2 : totalEq b c = true) : totalEq a c = true :=
  (Pkg.of_keyWF a b c ha hb hc).tr h1 h2

/-! ## reflexivity, and the Impl's key equality is the Spec's `≈` on all keys -/

theorem keyHit_eq_totalEq (k k' : Val) (hk : KeyWF k) (hk' : KeyWF k') : keyHit k k' = totalEq k k' := by
  unfold keyHit
  cases h : totalEq k k' with
  | false => simp
  | true => simp [hash_consistent k k' hk hk' h]

theorem vecTotalEq_refl (xs : List NNum) (h : ∀ n ∈ xs, NNum.WF n) : vecTotalEq xs xs = true :=
  listEq_refl_of xs (fun n hn => by rw [numTotalEq_spec n n (h n hn) (h n hn)]; exact numKeyEq_refl n)

theorem totalEq_refl (a : Val) (ha : KeyWF a) : totalEq a a = true := by
  induction a using val_induction with | step a ihl ihd => ?_
  cases a with
  | null => rfl
  | num x => simp only [totalEq]; rw [numTotalEq_spec x x ha ha]; exact numKeyEq_refl x
  | str x => simp [totalEq]
  | bytes x => simp [totalEq]
  | vec x => simp only [totalEq]; exact vecTotalEq_refl x ha
  | func i => exact absurd ha (by simp [KeyWF])
  | list xs =>
    simp only [totalEq, totalEqList_eq]
    exact listEq_refl_of xs (fun x hx => ihl xs rfl x hx ((keyWFList_iff xs).mp ha x hx))
  | dict A da =>
    simp only [totalEq, beq_self_eq_true, Bool.true_and]
    rw [totalEqEntries_iff]
    intro x hx
    have hwf := (keyWFEntries_iff A).mp ha.1 x hx
    have ih := ihd A da rfl x hx
    exact ⟨x, find_eq_of_pairwise_not ha.2 hx
      ((keyHit_iff _ _).mpr ⟨rfl, ih.1 hwf.1⟩) (fun _ _ hp => hp), ih.2 hwf.2⟩

theorem totalEqEntries_spec_of (A B : List (Val × Val))
    (Hk : ∀ x ∈ A, ∀ e ∈ B, keyHit x.1 e.1 = keyEq x.1 e.1)
    (Hv : ∀ x ∈ A, ∀ e ∈ B, totalEq x.2 e.2 = keyEq x.2 e.2) :
    totalEqEntries A B = keyEqEntries A B := by
  induction A with
  | nil => rfl
  | cons x A ih =>
    obtain ⟨k, v⟩ := x
    simp only [totalEqEntries, keyEqEntries]
    have hfind : B.find? (fun e => decide (writes e.1 = writes k) && totalEq k e.1) = B.find? (fun e => keyEq k e.1) :=
      find_pred_congr _ _ B (fun e he => Hk (k, v) (List.mem_cons_self ..) e he)
    rw [hfind, ih (forall_mem_tail Hk) (forall_mem_tail Hv)]
    cases hf : B.find? (fun e => keyEq k e.1) with
    | none => rfl
    | some e =>
      simp only
      rw [Hv (k, v) (List.mem_cons_self ..) e (List.mem_of_find?_eq_some hf)]

/-- on every key the Impl's `total_eq_of_keys` (which looks nested dictionaries up through their
hashes) is the Spec's `≈` (which does not know about hashes) -/
theorem totalEq_spec_full (a b : Val) (ha : KeyWF a) (hb : KeyWF b) : totalEq a b = keyEq a b := by
  induction a using val_induction generalizing b with | step a ihl ihd => ?_
  cases a with
  | func i => exact absurd ha (by simp [KeyWF])
  | list xs =>
    cases b <;> simp only [totalEq, keyEq, totalEqList_eq, keyEqList_eq]
    rename_i ys
    exact listEq_congr xs ys fun x hx y hy =>
      ihl xs rfl x hx y ((keyWFList_iff xs).mp ha x hx) ((keyWFList_iff ys).mp hb y hy)
  | dict A da =>
    cases b <;> simp only [totalEq, keyEq]
    rename_i B db
    congr 1
    apply totalEqEntries_spec_of
    · intro x hx e he
      have w1 := (keyWFEntries_iff A).mp ha.1 x hx
      have w2 := (keyWFEntries_iff B).mp hb.1 e he
      exact (keyHit_eq_totalEq _ _ w1.1 w2.1).trans ((ihd A da rfl x hx).1 e.1 w1.1 w2.1)
    · intro x hx e he
      exact (ihd A da rfl x hx).2 e.2 ((keyWFEntries_iff A).mp ha.1 x hx).2 ((keyWFEntries_iff B).mp hb.1 e he).2
  | _ => exact totalEq_spec_leaf _ b rfl ha hb

/-- **the HashMap sees exactly the Spec's `≈`, for every key**: a stored key is hit by a query iff they
are `≈` (needs `hash_consistent`: equal keys must land in the same bucket) -/
theorem keyHit_spec_full (k k' : Val) (hk : KeyWF k) (hk' : KeyWF k') : keyHit k k' = DictSpec.hit k k' :=
  (keyHit_eq_totalEq k k' hk hk').trans (totalEq_spec_full k k' hk hk')

theorem keyHit_symm (a b : Val) (ha : KeyWF a) (hb : KeyWF b) (h : keyHit a b = true) : keyHit b a = true := by
  obtain ⟨w, t⟩ := (keyHit_iff _ _).mp h
  exact (keyHit_iff _ _).mpr ⟨w.symm, totalEq_symm a b ha hb t⟩

theorem impl_isEquiv_full : IsEquivOn keyHit KeyWF where
  refl := fun k hk => (keyHit_iff _ _).mpr ⟨rfl, totalEq_refl k hk⟩
  symm := fun a b ha hb => Bool.eq_iff_iff.mpr ⟨keyHit_symm a b ha hb, keyHit_symm b a hb ha⟩
  trans := fun a b c ha hb hc h1 h2 => by
    obtain ⟨w1, t1⟩ := (keyHit_iff _ _).mp h1
    obtain ⟨w2, t2⟩ := (keyHit_iff _ _).mp h2
    exact (keyHit_iff _ _).mpr ⟨by rw [w2, w1], totalEq_trans a b c ha hb hc t1 t2⟩

theorem spec_isEquiv_full : IsEquivOn DictSpec.hit KeyWF := impl_isEquiv_full.congr keyHit_spec_full

/-! ## every dictionary operation refines the finite map — for ALL keys -/

mutual
theorem keyWF_valid (k : Val) (h : KeyWF k) : validKey k = true := by
  cases k with
  | list xs => simp only [validKey]; exact keyWFList_valid xs h
  | dict kvs _ => simp only [validKey]; exact keyWFEntries_valid kvs h.1
  | func _ => exact absurd h (by simp [KeyWF])
  | _ => rfl
theorem keyWFList_valid (xs : List Val) (h : KeyWFList xs) : validKeys xs = true := by
  cases xs with
  | nil => rfl
  | cons x xs =>
    simp only [KeyWFList] at h
    simp only [validKeys, Bool.and_eq_true]
    exact ⟨keyWF_valid x h.1, keyWFList_valid xs h.2⟩
theorem keyWFEntries_valid (kvs : List (Val × Val)) (h : KeyWFEntries kvs) : validEntries kvs = true := by
  cases kvs with
  | nil => rfl
  | cons e kvs =>
    obtain ⟨k, v⟩ := e
    simp only [KeyWFEntries] at h
    simp only [validEntries, Bool.and_eq_true]
    exact ⟨⟨keyWF_valid k h.1, keyWF_valid v h.2.1⟩, keyWFEntries_valid kvs h.2.2⟩
end

theorem keyWF_of_keyOK (k : Val) (h : KeyOK k) : KeyWF k := by
  induction k using val_induction with | step k ih _ => ?_
  cases k with
  | null => trivial
  | num _ => exact h
  | str _ => trivial
  | bytes _ => trivial
  | vec _ => exact h
  | list xs =>
    rw [KeyWF, keyWFList_iff]
    exact fun x hx => ih xs rfl x hx ((keyOKList_iff xs).mp h x hx)
  | dict _ _ => exact absurd h (by simp [KeyOK])
  | func _ => exact absurd h (by simp [KeyOK])

def DictWF : Val → Prop
  | .dict kvs _ => ∀ e ∈ kvs, KeyWF e.1
  | _ => True

theorem dictKeys_of_dictWF {d : Val} (h : DictWF d) : DictKeys KeyWF d := by
  cases d <;> exact h

/-- **dict_refines_finmap, full strength**: reads and single-key writes with keys of ANY nesting
(dictionaries as keys included) return what the finite map on `≈`-classes returns -/
theorem dict_refines_finmap_full (d k v : Val) (hd : DictWF d) (hk : KeyWF k) :
    DictOps.index keyHit d k = DictOps.index DictSpec.hit d k ∧
    DictOps.safeIndex keyHit d k = DictOps.safeIndex DictSpec.hit d k ∧
    DictOps.isIn keyHit k d = DictOps.isIn DictSpec.hit k d ∧
    DictOps.setIndex keyHit d k v = DictOps.setIndex DictSpec.hit d k v ∧
    DictOps.addKey keyHit d k = DictOps.addKey DictSpec.hit d k ∧
    DictOps.delKey keyHit d k = DictOps.delKey DictSpec.hit d k ∧
    DictOps.remove keyHit d k = DictOps.remove DictSpec.hit d k :=
  agree_point keyHit_spec_full keyWF_valid d k v (dictKeys_of_dictWF hd) hk

theorem dict_refines_finmap_binary_full (a b : Val) (ha : DictWF a) (hb : DictWF b) :
    DictOps.union keyHit a b = DictOps.union DictSpec.hit a b ∧
    DictOps.inter keyHit a b = DictOps.inter DictSpec.hit a b ∧
    DictOps.diff keyHit a b = DictOps.diff DictSpec.hit a b :=
  agree_binary keyHit_spec_full a b (dictKeys_of_dictWF ha) (dictKeys_of_dictWF hb)

theorem all_valid_of_keyWF (xs : List Val) (h : ∀ x ∈ xs, KeyWF x) : xs.all validKey = true := by
  rw [List.all_eq_true]; intro x hx; exact keyWF_valid x (h x hx)

theorem dict_refines_finmap_builders_full (xs : List Val) (ps : Entries) (dflt : Option Val)
    (hx : ∀ x ∈ xs, KeyWF x) (hp : ∀ e ∈ ps, KeyWF e.1) :
    DictOps.literal keyHit dflt ps = DictOps.literal DictSpec.hit dflt ps ∧
    DictOps.mkSet keyHit xs = DictOps.mkSet DictSpec.hit xs ∧
    DictOps.unique keyHit xs = DictOps.unique DictSpec.hit xs ∧
    DictOps.frequencies keyHit xs = DictOps.frequencies DictSpec.hit xs ∧
    DictOps.countDistinct keyHit xs = DictOps.countDistinct DictSpec.hit xs ∧
    DictOps.classify keyHit xs = DictOps.classify DictSpec.hit xs ∧
    DictOps.groupAll keyHit xs = DictOps.groupAll DictSpec.hit xs ∧
    DictOps.memoize keyHit xs = DictOps.memoize DictSpec.hit xs :=
  agree_builders keyHit_spec_full xs ps dflt hx hp

theorem dict_refines_finmap_update_full (a b d k v : Val) (f : String) (ha : DictWF a) (hb : DictWF b)
    (hd : DictWF d) (hk : KeyWF k) :
    DictOps.unionAdd keyHit a b = DictOps.unionAdd DictSpec.hit a b ∧
    DictOps.opAssign keyHit d k f v = DictOps.opAssign DictSpec.hit d k f v ∧
    DictOps.insertPair keyHit d (.list [k, v]) = DictOps.insertPair DictSpec.hit d (.list [k, v]) :=
  agree_update keyHit_spec_full keyWF_valid a b d k v f (dictKeys_of_dictWF ha) (dictKeys_of_dictWF hb)
    (dictKeys_of_dictWF hd) hk

/-- the finite-map laws for the REAL dictionary, on all keys -/
theorem impl_lookup_insert_full (d : Entries) (k k' v : Val) (hd : ∀ e ∈ d, KeyWF e.1) (hk : KeyWF k) (hk' : KeyWF k') :
    lookup keyHit (DictOps.insert keyHit d k v) k' = if keyEq k' k then some v else lookup keyHit d k' := by
  rw [lookup_insert impl_isEquiv_full d k k' v hd hk hk', keyHit_spec_full k' k hk' hk]; rfl

theorem impl_lookup_erase_full (d : Entries) (k k' : Val) (hd : Inv keyHit KeyWF d) (hk : KeyWF k) (hk' : KeyWF k') :
    lookup keyHit (DictOps.erase keyHit d k) k' = if keyEq k' k then none else lookup keyHit d k' := by
  rw [lookup_erase impl_isEquiv_full d k k' hd hk hk', keyHit_spec_full k' k hk' hk]; rfl

/-- `insert` keeps the HashMap invariant a nested dictionary key relies on -/
theorem impl_inv_insert_full (d : Entries) (k v : Val) (hd : Inv keyHit KeyWF d) (hk : KeyWF k) :
    Inv keyHit KeyWF (DictOps.insert keyHit d k v) := inv_insert impl_isEquiv_full d k v hd hk

/-! ## dictionary-free keys: the statements for `KeyOK` keys are the restrictions of those above -/

theorem hash_consistent_partial (a b : Val) (ha : KeyOK a) (hb : KeyOK b) (h : totalEq a b = true) :
    writes a = writes b :=
  hash_consistent a b (keyWF_of_keyOK a ha) (keyWF_of_keyOK b hb) h

theorem hash_consistent_list (xs ys : List Val) (hx : KeyOKList xs) (hy : KeyOKList ys)
    (h : totalEqList xs ys = true) : xs.length = ys.length ∧ writesList xs = writesList ys := by
  have := hash_consistent_partial (.list xs) (.list ys) hx hy h
  simpa only [writes, List.cons.injEq, HWrite.usize.injEq, true_and] using this

theorem totalEq_spec (a b : Val) (ha : KeyOK a) (hb : KeyOK b) : totalEq a b = keyEq a b :=
  totalEq_spec_full a b (keyWF_of_keyOK a ha) (keyWF_of_keyOK b hb)

theorem totalEqList_spec (xs ys : List Val) (hx : KeyOKList xs) (hy : KeyOKList ys) :
    totalEqList xs ys = keyEqList xs ys :=
  totalEq_spec (.list xs) (.list ys) hx hy

theorem keyHit_spec (k k' : Val) (hk : KeyOK k) (hk' : KeyOK k') : keyHit k k' = DictSpec.hit k k' :=
  keyHit_spec_full k k' (keyWF_of_keyOK k hk) (keyWF_of_keyOK k' hk')

theorem keyEq_refl (a : Val) (ha : KeyOK a) : keyEq a a = true :=
  spec_isEquiv_full.refl a (keyWF_of_keyOK a ha)

theorem keyEqList_refl (xs : List Val) (hx : KeyOKList xs) : keyEqList xs xs = true :=
  keyEq_refl (.list xs) hx

theorem spec_isEquiv : IsEquivOn DictSpec.hit KeyOK := spec_isEquiv_full.mono keyWF_of_keyOK

theorem impl_isEquiv : IsEquivOn keyHit KeyOK := impl_isEquiv_full.mono keyWF_of_keyOK

theorem keyOKList_valid (xs : List Val) (h : KeyOKList xs) : validKeys xs = true :=
  keyWF_valid (.list xs) (keyWF_of_keyOK (.list xs) h)

theorem all_valid_of_keyOK (xs : List Val) (h : ∀ x ∈ xs, KeyOK x) : xs.all validKey = true :=
  all_valid_of_keyWF xs (fun x hx => keyWF_of_keyOK x (h x hx))

def DictOK : Val → Prop
  | .dict kvs _ => ∀ e ∈ kvs, KeyOK e.1
  | _ => True

theorem dictWF_of_dictOK {d : Val} (h : DictOK d) : DictWF d := by
  cases d <;> first | trivial | exact fun e he => keyWF_of_keyOK e.1 (h e he)

/-- **dict_refines_finmap** (reads and single-key writes) -/
theorem dict_refines_finmap (d k v : Val) (hd : DictOK d) (hk : KeyOK k) :
    DictOps.index keyHit d k = DictOps.index DictSpec.hit d k ∧
    DictOps.safeIndex keyHit d k = DictOps.safeIndex DictSpec.hit d k ∧
    DictOps.isIn keyHit k d = DictOps.isIn DictSpec.hit k d ∧
    DictOps.setIndex keyHit d k v = DictOps.setIndex DictSpec.hit d k v ∧
    DictOps.addKey keyHit d k = DictOps.addKey DictSpec.hit d k ∧
    DictOps.delKey keyHit d k = DictOps.delKey DictSpec.hit d k ∧
    DictOps.remove keyHit d k = DictOps.remove DictSpec.hit d k :=
  dict_refines_finmap_full d k v (dictWF_of_dictOK hd) (keyWF_of_keyOK k hk)

/-- **dict_refines_finmap** (whole-dictionary operators `||`, `&&`, `--`) -/
theorem dict_refines_finmap_binary (a b : Val) (ha : DictOK a) (hb : DictOK b) :
    DictOps.union keyHit a b = DictOps.union DictSpec.hit a b ∧
    DictOps.inter keyHit a b = DictOps.inter DictSpec.hit a b ∧
    DictOps.diff keyHit a b = DictOps.diff DictSpec.hit a b :=
  dict_refines_finmap_binary_full a b (dictWF_of_dictOK ha) (dictWF_of_dictOK hb)

theorem impl_lookup_insert (d : Entries) (k k' v : Val) (hd : ∀ e ∈ d, KeyOK e.1) (hk : KeyOK k) (hk' : KeyOK k') :
    lookup keyHit (DictOps.insert keyHit d k v) k' = if keyEq k' k then some v else lookup keyHit d k' :=
  impl_lookup_insert_full d k k' v (fun e he => keyWF_of_keyOK e.1 (hd e he)) (keyWF_of_keyOK k hk)
    (keyWF_of_keyOK k' hk')

theorem impl_lookup_erase (d : Entries) (k k' : Val) (hd : Inv keyHit KeyOK d) (hk : KeyOK k) (hk' : KeyOK k') :
    lookup keyHit (DictOps.erase keyHit d k) k' = if keyEq k' k then none else lookup keyHit d k' :=
  impl_lookup_erase_full d k k' (hd.mono keyWF_of_keyOK) (keyWF_of_keyOK k hk) (keyWF_of_keyOK k' hk')

/-- **dict_refines_finmap** (constructors and aggregations) -/
theorem dict_refines_finmap_builders (xs : List Val) (ps : Entries) (dflt : Option Val)
    (hx : ∀ x ∈ xs, KeyOK x) (hp : ∀ e ∈ ps, KeyOK e.1) :
    DictOps.literal keyHit dflt ps = DictOps.literal DictSpec.hit dflt ps ∧
    DictOps.mkSet keyHit xs = DictOps.mkSet DictSpec.hit xs ∧
    DictOps.unique keyHit xs = DictOps.unique DictSpec.hit xs ∧
    DictOps.frequencies keyHit xs = DictOps.frequencies DictSpec.hit xs ∧
    DictOps.countDistinct keyHit xs = DictOps.countDistinct DictSpec.hit xs ∧
    DictOps.classify keyHit xs = DictOps.classify DictSpec.hit xs ∧
    DictOps.groupAll keyHit xs = DictOps.groupAll DictSpec.hit xs ∧
    DictOps.memoize keyHit xs = DictOps.memoize DictSpec.hit xs :=
  dict_refines_finmap_builders_full xs ps dflt (fun x hx' => keyWF_of_keyOK x (hx x hx'))
    (fun e he => keyWF_of_keyOK e.1 (hp e he))

/-- **dict_refines_finmap** (`||+`, `d[k] f= v`, `insert` / `|..` with a `[key, value]` pair) -/
theorem dict_refines_finmap_update (a b d k v : Val) (f : String) (ha : DictOK a) (hb : DictOK b) (hd : DictOK d)
    (hk : KeyOK k) :
    DictOps.unionAdd keyHit a b = DictOps.unionAdd DictSpec.hit a b ∧
    DictOps.opAssign keyHit d k f v = DictOps.opAssign DictSpec.hit d k f v ∧
    DictOps.insertPair keyHit d (.list [k, v]) = DictOps.insertPair DictSpec.hit d (.list [k, v]) :=
  dict_refines_finmap_update_full a b d k v f (dictWF_of_dictOK ha) (dictWF_of_dictOK hb) (dictWF_of_dictOK hd)
    (keyWF_of_keyOK k hk)

/-! ## non-vacuity: nested dictionaries as keys -/
example : KeyWF (.dict [(.num (.int (.small 1)), .num (.float (.fin 1 1))), (.str [97], .dict [] none)] none) := by
  simp only [KeyWF, KeyWFEntries, NNum.WF, NInt.WF, true_and, and_true]
  refine ⟨by decide, ?_⟩
  simp only [List.pairwise_cons, List.mem_cons, List.mem_nil_iff, or_false, forall_eq, List.Pairwise.nil, and_true,
    false_imp_iff, implies_true]
  decide +kernel
example : totalEq (.dict [(.num (.int (.small 1)), .num (.float (.fin 1 1)))] none)
    (.dict [(.num (.rat 1), .num (.int (.small 2)))] none) = true := by decide +kernel

/-! ## signed zeros in complex keys -/

/-- a complex number whose imaginary part is `+0.0` OR `-0.0` (IEEE `== 0.0`, not `total_cmp`) is
`==` to its real part and performs exactly the hasher writes of that real number -/
theorem complex_zero_im_hash (re im : F64) (hre : re.isNan = false) (him : im.isNan = false)
    (hz : im.ext = .fin 0) :
    NNum.totalHash (.complex re im) = NNum.totalHash (.float re) ∧
    NNum.totalEq (.complex re im) (.float re) = true := by
  constructor
  · simp only [NNum.totalHash, hre, him, Bool.or_self, Bool.false_eq_true, if_false, feq_zero im him, hz,
      decide_true, if_true]
  · have h1 : F64.feq re re = true := by simp [F64.feq, hre]
    have h2 : F64.feq im (.fin 0 0) = true := by rw [feq_zero im him, hz]; simp
    simp [NNum.totalEq, NNum.eq, NNum.projectToReals, NReal.eq, h1, h2]

example : NNum.totalHash (.complex (.fin (-1) 0) .nzero) = NNum.totalHash (.int (.small (-1))) := by decide +kernel
example : keyHit (.num (.int (.small (-1)))) (.num (.complex (.fin (-1) 0) .nzero)) = true := by decide +kernel
example : keyHit (.list [.num (.float .nzero)]) (.list [.num (.complex .nzero .nzero)]) = true := by decide +kernel

/-! ## `==` on dictionaries: values are compared with `==` (NaN ≠ NaN), contents only -/

theorem valEqEntries_iff (A B : List (Val × Val)) :
    valEqEntries A B = true ↔
      ∀ x ∈ A, ∃ e, B.find? (fun e => keyHit x.1 e.1) = some e ∧ valEq x.2 e.2 = true :=
  entries_iff (F := (valEqEntries · B)) (p := fun k e => keyHit k e.1) B rfl (fun _ _ _ => rfl) A

/-- **dict_eq_not_reflexive_with_nan_value**: a dictionary (a real map: no two stored keys hit each
other) one of whose VALUES is not `==` to itself — a NaN, a list or dictionary containing a NaN, at
any depth — is not `==` to itself; keys treat NaN as equal to itself, values do not.  There is no
identity shortcut: the answer is a function of the contents. -/
theorem dict_eq_not_reflexive_with_nan_value (A : List (Val × Val)) (d d' : Option Val) (pA : A.Pairwise NoHit)
    (x : Val × Val) (hx : x ∈ A) (hv : valEq x.2 x.2 = false) :
    valEq (.dict A d) (.dict A d') = false := by
  cases h : valEq (.dict A d) (.dict A d') with
  | false => rfl
  | true =>
    simp only [valEq, Bool.and_eq_true] at h
    obtain ⟨e, hf, he⟩ := (valEqEntries_iff A A).mp h.2 x hx
    have heA := List.mem_of_find?_eq_some hf
    have hhit := hit_of_find hf
    have : x = e := eq_of_pairwise_not pA hx heA hhit
    subst this
    rw [hv] at he; cases he

/-- **dict_eq_depends_only_on_contents** (left operand): `==` does not depend on the order in which
the entries of the left dictionary are stored (nor on any sharing history — the model has none) -/
theorem dict_eq_depends_only_on_contents (A A' B : List (Val × Val)) (d d' e : Option Val) (h : A.Perm A') :
    valEq (.dict A d) (.dict B e) = valEq (.dict A' d') (.dict B e) := by
  simp only [valEq, h.length_eq]
  congr 1
  apply Bool.eq_iff_iff.mpr
  rw [valEqEntries_iff, valEqEntries_iff]
  constructor
  · intro H x hx; exact H x (h.mem_iff.mpr hx)
  · intro H x hx; exact H x (h.mem_iff.mp hx)

/-- … and on the right operand as well, for real maps with keys of any nesting -/
theorem dict_eq_depends_only_on_contents_right (A B B' : List (Val × Val)) (d e e' : Option Val)
    (hA : ∀ x ∈ A, KeyWF x.1) (hB : ∀ x ∈ B, KeyWF x.1) (pB : B.Pairwise NoHit) (h : B.Perm B') :
    valEq (.dict A d) (.dict B e) = valEq (.dict A d) (.dict B' e') := by
  have pB' : B'.Pairwise NoHit := by
    refine h.pairwise pB ?_
    intro a b hab; exact ⟨hab.2, hab.1⟩
  have hB' : ∀ x ∈ B', KeyWF x.1 := fun x hx => hB x (h.mem_iff.mpr hx)
  -- the entry found for a key is the same in both orders
  have key : ∀ (C C' : List (Val × Val)), C.Perm C' → (∀ x ∈ C, KeyWF x.1) → C'.Pairwise NoHit →
      ∀ x ∈ A, ∀ f, C.find? (fun e => keyHit x.1 e.1) = some f → C'.find? (fun e => keyHit x.1 e.1) = some f := by
    intro C C' hp hC pC' x hx f hf
    have hfC := List.mem_of_find?_eq_some hf
    have hhit := hit_of_find hf
    have E := impl_isEquiv_full
    have kf := hC f hfC
    refine find_eq_of_pairwise_not pC' (hp.mem_iff.mp hfC) hhit ?_
    intro f' hf'C hhit'
    exact E.trans f.1 x.1 f'.1 kf (hA x hx) (hC f' (hp.mem_iff.mpr hf'C))
      (by rw [E.symm f.1 x.1 kf (hA x hx)]; exact hhit) hhit'
  simp only [valEq, h.length_eq]
  congr 1
  apply Bool.eq_iff_iff.mpr
  rw [valEqEntries_iff, valEqEntries_iff]
  constructor
  · intro H x hx
    obtain ⟨f, hf, hv⟩ := H x hx
    exact ⟨f, key B B' h hB pB' x hx f hf, hv⟩
  · intro H x hx
    obtain ⟨f, hf, hv⟩ := H x hx
    exact ⟨f, key B' B h.symm hB' pB x hx f hf, hv⟩

/-! the three depths the harness exercises -/
example : valEq (.dict [(.num (.int (.small 1)), .num (.float .nan))] none)
    (.dict [(.num (.int (.small 1)), .num (.float .nan))] none) = false := by decide +kernel
example : valEq (.dict [(.num (.int (.small 1)), .list [.num (.float .nan)])] none)
    (.dict [(.num (.int (.small 1)), .list [.num (.float .nan)])] none) = false := by decide +kernel
example : valEq (.dict [(.num (.int (.small 1)), .dict [(.num (.int (.small 2)), .num (.float .nan))] none)] none)
    (.dict [(.num (.int (.small 1)), .dict [(.num (.int (.small 2)), .num (.float .nan))] none)] none) = false := by
  decide +kernel
example : valEq (.dict [(.num (.float .nan), .num (.int (.small 1)))] none)
    (.dict [(.num (.float .nan), .num (.int (.small 1)))] none) = true := by decide +kernel

/-! ## a dictionary's DEFAULT is not part of its identity as a key; memoize keys on the argument TUPLE -/

/-- **key_eq_ignores_default**: key equality, the hasher writes and `==` of a dictionary do not
look at its default value — `{:0, 1: 1}`, `frequencies([1])` and `{1: 1}` are one key -/
theorem key_eq_ignores_default (A B : List (Val × Val)) (d d' e e' : Option Val) :
    totalEq (.dict A d) (.dict B e) = totalEq (.dict A d') (.dict B e') ∧
    writes (.dict A d) = writes (.dict A d') ∧
    valEq (.dict A d) (.dict B e) = valEq (.dict A d') (.dict B e') ∧
    keyHit (.dict A d) (.dict B e) = keyHit (.dict A d') (.dict B e') ∧
    keyEq (.dict A d) (.dict B e) = keyEq (.dict A d') (.dict B e') :=
  ⟨rfl, rfl, rfl, rfl, rfl⟩

theorem keyWF_ignores_default (A : List (Val × Val)) (d d' : Option Val) :
    KeyWF (.dict A d) ↔ KeyWF (.dict A d') := Iff.rfl

/-- memoize: the cache key is the argument tuple; two calls share a cache entry exactly when
their tuples have the same length and are element-wise `≈` -/
theorem memo_tuples_collide_iff (q s : List Val) (hq : KeyWF (.list q)) (hs : KeyWF (.list s)) :
    keyHit (.list q) (.list s) = keyEqList q s := by
  rw [keyHit_spec_full _ _ hq hs]; rfl

theorem keyEqList_length (q s : List Val) (h : keyEqList q s = true) : q.length = s.length :=
  listEq_length q s (keyEqList_eq q s ▸ h)

/-- **distinct tuples never collide**: calls of different arity — `f([1, 2])` vs `f(1, 2)`,
`f([])` vs `f()` — never share a cache entry, whatever the arguments are -/
theorem memo_distinct_arity (q s : List Val) (h : q.length ≠ s.length) : keyHit (.list q) (.list s) = false := by
  cases hk : keyHit (.list q) (.list s) with
  | false => rfl
  | true =>
    have := (keyHit_iff _ _).mp hk
    simp only [totalEq, totalEqList_eq] at this
    exact absurd (listEq_length q s this.2) h

/-- the unary call with a list and the call with that list's elements are different tuples -/
theorem memo_list_vs_args (xs : List Val) (h : xs.length ≠ 1) : keyHit (.list [.list xs]) (.list xs) = false :=
  memo_distinct_arity _ _ (by simpa using fun hh => h hh.symm)

theorem memoize_calls_refines (calls : List (List Val)) (h : ∀ args ∈ calls, KeyWF (.list args)) :
    DictOps.memoizeCalls keyHit calls = DictOps.memoizeCalls DictSpec.hit calls :=
  agree_memoizeCalls keyHit_spec_full calls h

example : keyHit (.list [.list [.num (.int (.small 1)), .num (.int (.small 2))]])
    (.list [.num (.int (.small 1)), .num (.int (.small 2))]) = false := by decide +kernel
example : keyHit (.list [.list []]) (.list []) = false := by decide +kernel
example : keyHit (.list [.num (.int (.small 1)), .num (.int (.small 2))])
    (.list [.num (.float (.fin 1 0)), .num (.rat 2)]) = true := by decide +kernel
example : keyHit (.dict [(.num (.int (.small 1)), .num (.int (.small 1)))] (some (.num (.int (.small 0)))))
    (.dict [(.num (.int (.small 1)), .num (.int (.small 1)))] none) = true := by
  have hwf : KeyWF (.dict [(.num (.int (.small 1)), .num (.int (.small 1)))] none) := by
    simp only [KeyWF, KeyWFEntries, NNum.WF, NInt.WF, and_true, List.pairwise_cons, List.not_mem_nil,
      false_imp_iff, implies_true, List.Pairwise.nil]
    decide
  exact impl_isEquiv_full.refl _ hwf

/-! ## op-assign whose right-hand side reads the dictionary being updated -/

theorem rhsEval_refines (d k2 : Val) (form : String) (hd : DictWF d) (hk2 : KeyWF k2) :
    DictOps.rhsEval keyHit d form k2 = DictOps.rhsEval DictSpec.hit d form k2 :=
  agree_rhsEval keyHit_spec_full keyWF_valid d k2 form (dictKeys_of_dictWF hd) hk2

/-- `d[k] f= <rhs reading d>` refines the finite map: the right-hand side sees the dictionary
BEFORE the update (the entry being updated still holds its old value, whichever spelling of the
key the right-hand side uses) -/
theorem opAssignRhs_refines (d k k2 : Val) (f form : String) (hd : DictWF d) (hk : KeyWF k) (hk2 : KeyWF k2) :
    DictOps.opAssignRhs keyHit d k f form k2 = DictOps.opAssignRhs DictSpec.hit d k f form k2 :=
  agree_opAssignRhs keyHit_spec_full keyWF_valid d k k2 f form (dictKeys_of_dictWF hd) hk hk2

/-- reading the entry being updated through an equal key of another spelling gives its OLD value -/
example : (DictOps.rhsEval keyHit (.dict [(.num (.int (.small 1)), .num (.int (.small 5)))] none) "get"
    (.num (.float (.fin 1 0)))).map numOf = .ok (some (.int (.small 5))) := by decide +kernel

end Noulith.C09
