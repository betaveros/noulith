/-
C17 — freeze preserves meaning and binds free variables eagerly.

Theorems about the Impl model of `freeze` (Impl/Freeze.lean) and its evaluation (Impl/CoreEval.lean), one
construct at a time: the binding discipline (which names count as bound where, and that inner scopes do not
leak), the exact failure conditions per construct, and the base cases of semantic preservation (a resolved
free identifier evaluates, at any later time and in any state of the outer variables, to the value it had
when frozen).  The full preservation statement is `freeze_preserves_statement` (a `def`, not proved); it is
false on the real code for forward references (known findings F20 / F27).  What is proved of it: first-order
bodies (Theorems/C17FirstOrder.lean, C17Main.lean) and bodies with local functions (Theorems/C17ClosuresMain.lean).
-/
import NoulithModel.Theorems.C17Closed

namespace Noulith.C17
open Noulith Noulith.Core

variable {V : Type}

/-! ## identifiers: bound names stay, free names are resolved NOW, unknown names fail NOW -/

theorem freeze_ident_bound (look : String → Option V) (s : FState V) (x : String)
    (h : s.bound.contains x = true) : freezeExpr look s (.ident x) = .ok (.ident x, s) := by
  unfold freezeExpr
  rw [if_pos h]

theorem freeze_ident_free (look : String → Option V) (s : FState V) (x : String) (v : V)
    (h : s.bound.contains x = false) (hv : look x = some v) :
    freezeExpr look s (.ident x) = .ok (.frozen s.tab.length, { s with tab := s.tab ++ [v] }) := by
  unfold freezeExpr
  simp only [h, hv, Bool.false_eq_true, ↓reduceIte]

theorem freeze_ident_unbound_fails (look : String → Option V) (s : FState V) (x : String)
    (h : s.bound.contains x = false) (hv : look x = none) :
    freezeExpr look s (.ident x) = .error (.unboundFree x) := by
  unfold freezeExpr
  simp only [h, hv, Bool.false_eq_true, ↓reduceIte]

/-! ## frozen code cannot write to an outside variable -/

theorem freeze_assign_outer_fails (look : String → Option V) (s : FState V) (x : String) (rhs : Expr)
    (h : s.bound.contains x = false) : freezeExpr look s (.assign x rhs) = .error (.assignOuter x) := by
  unfold freezeExpr
  simp only [h, Bool.not_false, ↓reduceIte]

theorem freeze_opassign_outer_fails (look : String → Option V) (s : FState V) (x opn : String) (rhs : Expr)
    (h : s.bound.contains x = false) : freezeExpr look s (.opassign x opn rhs) = .error (.assignOuter x) := by
  unfold freezeExpr
  simp only [h, Bool.not_false, ↓reduceIte]

theorem freeze_assign_local_ok (look : String → Option V) (s s' : FState V) (x : String) (rhs rhs' : Expr)
    (h : s.bound.contains x = true) (hr : freezeExpr look s rhs = .ok (rhs', s')) :
    freezeExpr look s (.assign x rhs) = .ok (.assign x rhs', s') := by
  unfold freezeExpr
  simp only [h, hr, Bool.not_true, Bool.false_eq_true, ↓reduceIte]

/-! ## the scope discipline: what binds, and what does not leak -/

/-- `p := e`: the names of `p` are bound BEFORE `e` is frozen (as in the code; known finding F27) and stay bound for what
follows in the same scope -/
theorem freeze_declare_binds (look : String → Option V) (s s' : FState V) (p : Pat) (rhs rhs' : Expr)
    (hr : freezeExpr look { s with bound := s.bound ++ Pat.idents p } rhs = .ok (rhs', s')) :
    freezeExpr look s (.declare p rhs) = .ok (.declare p rhs', s') := by
  unfold freezeExpr
  simp only [hr]

theorem freeze_lambda_does_not_leak (look : String → Option V) (s s' : FState V) (ps : List Param)
    (body : Expr) (e' : Expr) (h : freezeExpr look s (.lambda ps body) = .ok (e', s')) :
    s'.bound = s.bound :=
  (C17Closed.freezeExpr_froze h).bound

theorem freeze_while_does_not_leak (look : String → Option V) (s s' : FState V) (c b e' : Expr)
    (h : freezeExpr look s (.while_ c b) = .ok (e', s')) : s'.bound = s.bound :=
  (C17Closed.freezeExpr_froze h).bound

theorem freeze_for_does_not_leak (look : String → Option V) (s s' : FState V) (its : List ForIt)
    (body : ForBody) (e' : Expr) (h : freezeExpr look s (.for_ its body) = .ok (e', s')) :
    s'.bound = s.bound :=
  (C17Closed.freezeExpr_froze h).bound

/-- the names bound by a `catch` pattern are visible in the catch clause only; declarations made in the
`try` BODY do persist (the body runs in the enclosing scope) -/
theorem freeze_try_scope (look : String → Option V) (s s1 s3 : FState V) (b b' c c' : Expr) (p : Pat)
    (hb : freezeExpr look s b = .ok (b', s1))
    (hc : freezeExpr look { s1 with bound := s1.bound ++ Pat.idents p } c = .ok (c', s3)) :
    freezeExpr look s (.try_ b p c) = .ok (.try_ b' p c', { s1 with tab := s3.tab }) := by
  unfold freezeExpr
  simp only [hb, hc]

theorem freeze_if_shares_scope (look : String → Option V) (s s1 s2 : FState V) (c c' t t' : Expr)
    (hc : freezeExpr look s c = .ok (c', s1)) (ht : freezeExpr look s1 t = .ok (t', s2)) :
    freezeExpr look s (.ite c t none) = .ok (.ite c' t' none, s2) := by
  unfold freezeExpr
  simp only [hc, ht, freezeOpt]

/-- a `for` clause resolves its iteratee BEFORE binding its own names (`for (x <- x)` reads the outer x) -/
theorem freeze_for_clause_order (look : String → Option V) (s s1 s2 : FState V) (k : IterKind) (p : Pat)
    (e e' : Expr) (rest rest' : List ForIt)
    (he : freezeExpr look s e = .ok (e', s1))
    (hr : freezeIts look { s1 with bound := s1.bound ++ Pat.idents p } rest = .ok (rest', s2)) :
    freezeIts look s (.iter k p e :: rest) = .ok (.iter k p e' :: rest', s2) := by
  simp [freezeIts, he, hr]

/-- the text inside `eval "…"` is data: it is not rewritten -/
theorem freeze_eval_text_untouched (look : String → Option V) (s : FState V) (e : Expr) :
    freezeExpr look s (.evalSrc e) = .ok (.evalSrc e, s) := rfl

/-! ## parameter type annotations (`\x: t -> …`) are expressions evaluated at call time in the
closure's scope: `freeze` resolves their free variables like the body's, per parameter the annotation
first, then the default -/

theorem freezeParams_annotation_free (look : String → Option V) (s : FState V) (x t : String) (sp : Bool)
    (d : Option Expr) (v : V) (rest : List Param)
    (h : s.bound.contains t = false) (hv : look t = some v) :
    freezeParams look s (.mk x d sp (some (.ident t)) :: rest) =
      (match freezeOpt look { s with tab := s.tab ++ [v] } d with
       | .error e => .error e
       | .ok (d', s1) =>
         match freezeParams look s1 rest with
         | .error e => .error e
         | .ok (rest', s2) => .ok (.mk x d' sp (some (.frozen s.tab.length)) :: rest', s2)) := by
  simp only [freezeParams, freezeOpt, freeze_ident_free look s t v h hv]
  rfl

theorem freezeParams_annotation_free_single (look : String → Option V) (s : FState V) (x t : String) (sp : Bool)
    (v : V) (h : s.bound.contains t = false) (hv : look t = some v) :
    freezeParams look s [.mk x none sp (some (.ident t))] =
      .ok ([.mk x none sp (some (.frozen s.tab.length))], { s with tab := s.tab ++ [v] }) := by
  rw [freezeParams_annotation_free look s x t sp none v [] h hv]
  rfl

theorem freezeParams_annotation_unbound_fails (look : String → Option V) (s : FState V) (x t : String)
    (sp : Bool) (d : Option Expr) (rest : List Param)
    (h : s.bound.contains t = false) (hv : look t = none) :
    freezeParams look s (.mk x d sp (some (.ident t)) :: rest) = .error (.unboundFree t) := by
  unfold freezeParams
  simp only [freezeOpt, freeze_ident_unbound_fails look s t h hv]

theorem freezeParams_fails_annotation (look : String → Option V) (s : FState V) (x : String) (sp : Bool)
    (d : Option Expr) (a : Expr) (rest : List Param) (err : FreezeErr)
    (h : freezeExpr look s a = .error err) :
    freezeParams look s (.mk x d sp (some a) :: rest) = .error err := by
  simp [freezeParams, freezeOpt, h]

theorem freeze_lambda_fails_params (look : String → Option V) (s : FState V) (ps : List Param) (body : Expr)
    (err : FreezeErr)
    (hp : freezeParams look { s with bound := s.bound ++ ps.map Param.name } ps = .error err) :
    freezeExpr look s (.lambda ps body) = .error err := by
  unfold freezeExpr
  simp only [hp]

theorem freezeParams_annotation_then_default (look : String → Option V) (s s1 s2 s3 : FState V) (x : String)
    (sp : Bool) (a a' d d' : Expr) (rest rest' : List Param)
    (ha : freezeExpr look s a = .ok (a', s1)) (hd : freezeExpr look s1 d = .ok (d', s2))
    (hr : freezeParams look s2 rest = .ok (rest', s3)) :
    freezeParams look s (.mk x (some d) sp (some a) :: rest) = .ok (.mk x (some d') sp (some a') :: rest', s3) := by
  simp [freezeParams, freezeOpt, ha, hd, hr]

theorem freezeParams_no_defaults (look : String → Option V) (s : FState V) (ps : List Param)
    (hp : ∀ p ∈ ps, p.dflt = none) (ha : ∀ p ∈ ps, p.ann = none) : freezeParams look s ps = .ok (ps, s) := by
  induction ps generalizing s with
  | nil => simp [freezeParams]
  | cons p rest ih =>
    obtain ⟨n, d, sp, a⟩ := p
    have hd : d = none := by simpa [Param.dflt] using hp (.mk n d sp a) (List.mem_cons_self ..)
    have had : a = none := by simpa [Param.ann] using ha (.mk n d sp a) (List.mem_cons_self ..)
    subst hd had
    have := ih s (fun q hq => hp q (List.mem_cons_of_mem _ hq)) (fun q hq => ha q (List.mem_cons_of_mem _ hq))
    simp [freezeParams, freezeOpt, this]

theorem contains_snoc_false {l : List String} {t x : String} (h : l.contains t = false) (hxt : t ≠ x) :
    (l ++ [x]).contains t = false := by
  simpa [hxt] using h

/-- `freeze \x: t -> body` with `t` a free variable: the annotation of the frozen lambda no longer mentions
`t` — it is a `Frozen` node holding the value `t` has NOW; the body is frozen after it -/
theorem freeze_lambda_annotation_resolved (look : String → Option V) (s s3 : FState V) (x t : String) (v : V)
    (body body' : Expr) (hb : s.bound.contains t = false) (hxt : t ≠ x) (hv : look t = some v)
    (hbody : freezeExpr look { bound := s.bound ++ [x], tab := s.tab ++ [v] } body = .ok (body', s3)) :
    freezeExpr look s (.lambda [.mk x none false (some (.ident t))] body) =
      .ok (.lambda [.mk x none false (some (.frozen s.tab.length))] body', { s with tab := s3.tab }) := by
  have hp := freezeParams_annotation_free_single look { bound := s.bound ++ [x], tab := s.tab } x t false v
    (contains_snoc_false hb hxt) hv
  unfold freezeExpr
  simp only [List.map_cons, List.map_nil, Param.name, hp, hbody]

/-- …and if `t` does not exist the freeze fails at once, although the annotation would only be evaluated
by a call (which may never happen) -/
theorem freeze_lambda_annotation_unbound_fails (look : String → Option V) (s : FState V) (x t : String)
    (body : Expr) (hb : s.bound.contains t = false) (hxt : t ≠ x) (hv : look t = none) :
    freezeExpr look s (.lambda [.mk x none false (some (.ident t))] body) = .error (.unboundFree t) :=
  freeze_lambda_fails_params look s _ body _
    (freezeParams_annotation_unbound_fails look { s with bound := s.bound ++ [x] } x t false none []
      (contains_snoc_false hb hxt) hv)

/-! ## failures propagate: if any part fails to freeze, the whole expression fails -/

theorem freeze_op_fails_left (look : String → Option V) (s : FState V) (n : String) (a b : Expr) (err : FreezeErr)
    (h : freezeExpr look s a = .error err) : freezeExpr look s (.op n a b) = .error err := by
  unfold freezeExpr
  simp only [h]

theorem freeze_op_fails_right (look : String → Option V) (s s1 : FState V) (n : String) (a a' b : Expr)
    (err : FreezeErr) (ha : freezeExpr look s a = .ok (a', s1)) (h : freezeExpr look s1 b = .error err) :
    freezeExpr look s (.op n a b) = .error err := by
  unfold freezeExpr
  simp only [ha, h]

theorem freeze_seq_fails (look : String → Option V) (s : FState V) (xs : List Expr) (semi : Bool) (err : FreezeErr)
    (h : freezeList look s xs = .error err) : freezeExpr look s (.seq xs semi) = .error err := by
  unfold freezeExpr
  simp only [h]

theorem freeze_list_fails_head (look : String → Option V) (s : FState V) (x : Expr) (xs : List Expr)
    (err : FreezeErr) (h : freezeExpr look s x = .error err) : freezeList look s (x :: xs) = .error err := by
  simp [freezeList, h]

theorem freeze_list_fails_tail (look : String → Option V) (s s1 : FState V) (x x' : Expr) (xs : List Expr)
    (err : FreezeErr) (hx : freezeExpr look s x = .ok (x', s1)) (h : freezeList look s1 xs = .error err) :
    freezeList look s (x :: xs) = .error err := by
  simp [freezeList, hx, h]

theorem freeze_lambda_fails_body (look : String → Option V) (s s2 : FState V) (ps ps' : List Param) (body : Expr)
    (err : FreezeErr)
    (hp : freezeParams look { s with bound := s.bound ++ ps.map Param.name } ps = .ok (ps', s2))
    (h : freezeExpr look s2 body = .error err) :
    freezeExpr look s (.lambda ps body) = .error err := by
  unfold freezeExpr
  simp only [hp, h]

/-- …even when the failing part sits in a branch that would never run (freezing is static):
`freeze \ -> (if (0) print(zz))` fails although `zz` would never be evaluated -/
theorem freeze_dead_branch_still_fails (look : String → Option V) (s : FState V) (x : String) (e : Expr)
    (hb : s.bound.contains x = false) (hl : look x = none) :
    freezeExpr look s (.ite (.int 0) (.ident x) (some e)) = .error (.unboundFree x) := by
  unfold freezeExpr
  rw [show freezeExpr look s (.int 0) = .ok (.int 0, s) from rfl]
  simp only [freeze_ident_unbound_fails look s x hb hl]

/-! ## evaluation of frozen code: the base cases of "resolved once, at freeze time" -/

theorem eval_frozen (fuel : Nat) (st : State) (env i : Nat) (v : Val) (h : st.frozenTab[i]? = some v) :
    eval (fuel + 1) st env (.frozen i) = (.val v, st) := by
  unfold eval
  simp only [h]

/-- any later reassignment of outer variables (any other `frames`), any scope (`env`): same value -/
theorem eval_frozen_independent_of_store (fuel : Nat) (st : State) (frames' : Array Frame) (env env' i : Nat) :
    (eval (fuel + 1) { st with frames := frames' } env' (.frozen i)).1 = (eval (fuel + 1) st env (.frozen i)).1 := by
  unfold eval
  rfl

theorem freeze_ident_preserves (fuel : Nat) (st : State) (env : Nat) (x : String) (v : Val)
    (hv : st.lookup env x = some v) :
    (eval (fuel + 2) st env (.freeze (.ident x))).1 = (eval (fuel + 1) st env (.ident x)).1 := by
  simp only [C17Closed.eval_freeze_unfold,
    freeze_ident_free _ ⟨[], st.frozenTab⟩ x v rfl (C17Closed.lookOf_of_lookup hv)]
  rw [eval_frozen fuel _ env _ v List.getElem?_concat_length]
  unfold eval
  simp only [hv]

theorem freeze_unbound_raises (fuel : Nat) (st : State) (env : Nat) (x : String)
    (hv : st.lookup env x = none) (hb : builtinNames.contains x = false) :
    eval (fuel + 1) st env (.freeze (.ident x)) = (.thrown .err, st) := by
  rw [C17Closed.eval_freeze_unfold, freeze_ident_unbound_fails _ _ x rfl (C17Closed.lookOf_eq_none hv hb)]

theorem freeze_assign_outer_raises (fuel : Nat) (st : State) (env : Nat) (x : String) (rhs : Expr) (ps : List Param)
    (hx : (ps.map Param.name).contains x = false)
    (hp : ∀ p ∈ ps, p.dflt = none) (ha : ∀ p ∈ ps, p.ann = none) :
    eval (fuel + 1) st env (.freeze (.lambda ps (.assign x rhs))) = (.thrown .err, st) := by
  rw [C17Closed.eval_freeze_unfold, freeze_lambda_fails_body _ _ _ ps ps _ _
    (freezeParams_no_defaults _ _ ps hp ha) (freeze_assign_outer_fails _ _ x rhs (by simpa using hx))]

theorem freeze_annotation_unbound_raises (fuel : Nat) (st : State) (env : Nat) (x t : String) (body : Expr)
    (hv : st.lookup env t = none) (hb : builtinNames.contains t = false) (hxt : t ≠ x) :
    eval (fuel + 1) st env (.freeze (.lambda [.mk x none false (some (.ident t))] body)) = (.thrown .err, st) := by
  rw [C17Closed.eval_freeze_unfold,
    freeze_lambda_annotation_unbound_fails _ _ x t body rfl hxt (C17Closed.lookOf_eq_none hv hb)]

/-- at call time the frozen annotation is a table lookup: whatever the outer variables hold by then (any
`frames'`), in whatever scope, the annotation list of the call evaluates to the type stored at freeze time -/
theorem frozen_annotation_independent_of_store (fuel : Nat) (st : State) (frames' : Array Frame) (env env' i : Nat)
    (v : Val) (h : st.frozenTab[i]? = some v) :
    (evalList (fuel + 2) { st with frames := frames' } env' [.frozen i]).1 = .ok [v] ∧
    (evalList (fuel + 2) st env [.frozen i]).1 = .ok [v] := by
  simp only [evalList, eval_frozen _ { st with frames := frames' } _ _ v h, eval_frozen _ st _ _ v h, and_self]

/-! ## the full statement (not proved in general; see DESIGN.md C17 and known findings F20/F27) -/

/-- semantic preservation: evaluating the frozen form equals evaluating the original, in the state of
the freeze.  FALSE on the current code when the expression refers to a local that is declared textually
later in an enclosing scope (F20) or shadows an outer name inside its own initialiser (F27). -/
def freeze_preserves_statement : Prop :=
  ∀ (fuel : Nat) (st : State) (env : Nat) (e : Expr),
    (eval fuel st env (.freeze e)).1 ≠ .fuelOut →
    (∀ r, (eval fuel st env (.freeze e)).1 = r → ∃ fuel', (eval fuel' st env e).1 = r)

/-! ## non-vacuity (kernel-evaluated): a frozen closure keeps the value an outer variable had when
it was frozen; the unfrozen twin sees the reassignment -/
example :
    (runProgram 60 (.seq [
        .declare (.ident "o") (.int 5),
        .declare (.ident "h") (.freeze (.lambda [.mk "a" none false none] (.op "+" (.ident "a") (.ident "o")))),
        .declare (.ident "g") (.lambda [.mk "a" none false none] (.op "+" (.ident "a") (.ident "o"))),
        .assign "o" (.int 50),
        .list [.call (.ident "h") [.int 1], .call (.ident "g") [.int 1]]] false)).1
      matches .val (.list [.int 6, .int 51]) := by decide +kernel

/-- the same for a parameter TYPE ANNOTATION (seeded change C17-a2): `ty := int; h := freeze \x: ty -> x + 1;
g := \x: ty -> x + 1; ty = str; [h(3), try g(3) catch _ -> "E"]` — the frozen function still accepts the
integer, its unfrozen twin now demands a string and raises -/
example :
    (runProgram 60 (.seq [
        .declare (.ident "ty") (.ident "int"),
        .declare (.ident "h") (.freeze (.lambda [.mk "x" none false (some (.ident "ty"))] (.op "+" (.ident "x") (.int 1)))),
        .declare (.ident "g") (.lambda [.mk "x" none false (some (.ident "ty"))] (.op "+" (.ident "x") (.int 1))),
        .assign "ty" (.ident "str"),
        .list [.call (.ident "h") [.int 3], .try_ (.call (.ident "g") [.int 3]) .underscore (.str "E")]] false)).1
      matches .val (.list [.int 4, .str "E"]) := by decide +kernel

/-- an unknown name in a parameter annotation fails AT the freeze, the function is never made:
`ok := 1; try (f := freeze \x: nosuchtype -> x) catch _ -> (ok = 0); ok` -/
example :
    (runProgram 60 (.seq [
        .declare (.ident "ok") (.int 1),
        .try_ (.declare (.ident "f") (.freeze (.lambda [.mk "x" none false (some (.ident "nosuchtype"))] (.ident "x"))))
          .underscore (.assign "ok" (.int 0)),
        .ident "ok"] false)).1
      matches .val (.int 0) := by decide +kernel

/-- …whereas the unfrozen lambda is made without complaint (the annotation is only looked at by a call) -/
example :
    (runProgram 60 (.seq [
        .declare (.ident "ok") (.int 1),
        .try_ (.declare (.ident "f") (.lambda [.mk "x" none false (some (.ident "nosuchtype"))] (.ident "x")))
          .underscore (.assign "ok" (.int 0)),
        .ident "ok"] false)).1
      matches .val (.int 1) := by decide +kernel

end Noulith.C17
