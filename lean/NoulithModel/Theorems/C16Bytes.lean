/-
C16, byte codecs — hex, `chr` / `ord`, UTF-8 and base64 are inverse pairs, in both directions.  The shared layer is the bit
fields of §1 (`pack_div`, `pack_mod`, `pack_lt` over variables); UTF-8 goes through the inductive `Utf8Seq bs c` (the one
well-formed sequence of a scalar value), base64 through the sextets of a three-byte group against RFC 4648.
Imports C16Int only for the digit alphabet (`digitChar_eq`, used by hex).  Impl/Codec.lean §7–§9.
-/
import NoulithModel.Theorems.C16Int

namespace Noulith.C16
open Noulith Noulith.Codec Noulith.CodecSpec

/-! ## 1. bit fields -/

theorem pack_div (hi : Nat) {lo k : Nat} (h : lo < k) : (hi * k + lo) / k = hi := by
  rw [Nat.add_comm, Nat.add_mul_div_right _ _ (by omega), Nat.div_eq_of_lt h, Nat.zero_add]
theorem pack_mod (hi : Nat) {lo k : Nat} (h : lo < k) : (hi * k + lo) % k = lo := by
  rw [Nat.add_comm, Nat.add_mul_mod_self_right, Nat.mod_eq_of_lt h]
theorem pack_lt {hi lo k n : Nat} (hhi : hi < n) (hlo : lo < k) : hi * k + lo < n * k :=
  calc hi * k + lo < hi * k + k := Nat.add_lt_add_left hlo _
    _ = (hi + 1) * k := (Nat.succ_mul hi k).symm
    _ ≤ n * k := Nat.mul_le_mul_right k hhi
theorem div_4096 (c : Nat) : c / 4096 = c / 64 / 64 := (Nat.div_div_eq_div_mul c 64 64).symm
theorem div_262144 (c : Nat) : c / 262144 = c / 64 / 64 / 64 := by
  rw [Nat.div_div_eq_div_mul, Nat.div_div_eq_div_mul]
theorem horner3 (x y z : Nat) : x * 4096 + y * 64 + z = (x * 64 + y) * 64 + z := by omega
theorem horner4 (x y z w : Nat) : x * 262144 + y * 4096 + z * 64 + w = ((x * 64 + y) * 64 + z) * 64 + w := by omega

/- three bytes `a b c` cut into four sextets `a / 4`, `a % 4 * 16 + b / 16`, `b % 16 * 4 + c / 64`,
`c % 64` (a last group of one or two bytes leaves out `b / 16` resp. `c / 64`): their ranges, and the
group value written in base 64 with the sextets as digits -/
theorem sextet1_lt {a : Nat} (h : a < 256) : a / 4 < 64 := Nat.div_lt_of_lt_mul h
theorem sextet2_lt (a : Nat) {b : Nat} (h : b < 256) : a % 4 * 16 + b / 16 < 64 :=
  pack_lt (Nat.mod_lt a (by decide)) (Nat.div_lt_of_lt_mul h)
theorem sextet3_lt (b : Nat) {c : Nat} (h : c < 256) : b % 16 * 4 + c / 64 < 64 :=
  pack_lt (Nat.mod_lt b (by decide)) (Nat.div_lt_of_lt_mul h)
theorem sextet2_last_lt (a : Nat) : a % 4 * 16 < 64 := by omega
theorem sextet3_last_lt (b : Nat) : b % 16 * 4 < 64 := by omega
theorem sextet4_lt (c : Nat) : c % 64 < 64 := Nat.mod_lt c (by decide)
theorem group1_eq (a : Nat) : a * 16 = a / 4 * 64 + a % 4 * 16 := by omega
theorem group2_eq (a b : Nat) : (a * 256 + b) * 4 = (a / 4 * 64 + (a % 4 * 16 + b / 16)) * 64 + b % 16 * 4 := by
  omega
theorem group3_eq (a b c : Nat) :
    a * 65536 + b * 256 + c = ((a / 4 * 64 + (a % 4 * 16 + b / 16)) * 64 + (b % 16 * 4 + c / 64)) * 64 + c % 64 := by
  omega

/-! ## 2. hex -/

/-- the UTF-8 bytes of ASCII text are the text itself (the codecs hand `s.as_bytes()` around) -/
theorem utf8Encode_ascii (s : Str) (h : ∀ c ∈ s, c < 128) : utf8Encode s = s := by
  induction s with
  | nil => rfl
  | cons c t ih =>
    have hc : c < 128 := h c (by simp)
    simp only [utf8Encode, utf8EncodeChar, hc, if_true, List.singleton_append]
    rw [ih (fun x hx => h x (by simp [hx]))]

theorem hexEncode_eq_spec (bs : Bytes) : hexEncode bs = hexOf bs := by
  induction bs with
  | nil => rfl
  | cons b t ih => simp [hexEncode, hexOf, hexNibble, digitChar_eq, ih]

theorem hexNibble_table : ∀ n < 16, hexVal (hexNibble n) = some n ∧ hexNibble n < 128 := by decide

theorem hexVal_hexNibble {n : Nat} (h : n < 16) : hexVal (hexNibble n) = some n := (hexNibble_table n h).1

theorem hexEncode_ascii (bs : Bytes) (h : ∀ b ∈ bs, b < 256) : ∀ c ∈ hexEncode bs, c < 128 := by
  induction bs with
  | nil => nofun
  | cons b t ih =>
    have hb : b < 256 := h b (by simp)
    simp only [hexEncode, List.mem_cons, forall_eq_or_imp]
    exact ⟨(hexNibble_table _ (Nat.div_lt_of_lt_mul hb)).2, (hexNibble_table _ (Nat.mod_lt b (by decide))).2,
      ih (fun x hx => h x (by simp [hx]))⟩

theorem hexEncode_length (bs : Bytes) : (hexEncode bs).length = 2 * bs.length := by
  induction bs with
  | nil => rfl
  | cons b t ih => simp only [hexEncode, List.length_cons, ih]; omega

theorem hexPairs_hexEncode (bs : Bytes) (h : ∀ b ∈ bs, b < 256) : hexPairs (hexEncode bs) = some bs := by
  induction bs with
  | nil => rfl
  | cons b t ih =>
    have hb : b < 256 := h b (by simp)
    have h1 : b / 16 < 16 := Nat.div_lt_of_lt_mul hb
    simp only [hexEncode, hexPairs, hexVal_hexNibble h1, hexVal_hexNibble (Nat.mod_lt b (by decide)), ih (fun x hx => h x (by simp [hx])), Option.map_some,
      Nat.div_add_mod']

/-- **hex_inverse (1)**: `hex_decode(hex_encode(bs)) == bs` for every byte string -/
theorem hex_decode_encode (bs : Bytes) (h : ∀ b ∈ bs, b < 256) :
    hexDecode (utf8Encode (hexEncode bs)) = .ok bs := by
  rw [utf8Encode_ascii _ (hexEncode_ascii bs h)]
  unfold hexDecode
  rw [hexEncode_length, hexPairs_hexEncode bs h]
  simp

/-- ASCII lower-casing of a hex digit -/
def lowerHex (c : Nat) : Nat := if 65 ≤ c ∧ c ≤ 70 then c + 32 else c

theorem hexNibble_hexVal {c x : Nat} (h : hexVal c = some x) : x < 16 ∧ hexNibble x = lowerHex c := by
  unfold hexNibble digitChar lowerHex
  revert h
  fun_cases hexVal c
  all_goals intro h; cases h
  · rw [if_neg (by omega), if_pos ‹_›]; omega
  · rw [if_neg (by omega), if_neg (by omega)]; omega
  · rw [if_pos (by omega), if_neg (by omega)]; omega

theorem hexPairs_sound : ∀ (s bs : Bytes), hexPairs s = some bs →
    hexEncode bs = s.map lowerHex ∧ ∀ b ∈ bs, b < 256 := by
  intro s
  fun_induction hexPairs s
  all_goals intro bs h
  case case1 => cases h; exact ⟨rfl, nofun⟩
  case case2 => cases h
  case case3 a b rest x y hb ha ih =>
    obtain ⟨r, hr, rfl⟩ := Option.map_eq_some_iff.mp h
    obtain ⟨hx, ex⟩ := hexNibble_hexVal ha
    obtain ⟨hy, ey⟩ := hexNibble_hexVal hb
    obtain ⟨e1, e2⟩ := ih r hr
    refine ⟨?_, List.forall_mem_cons.mpr ⟨by omega, e2⟩⟩
    rw [hexEncode, pack_div x hy, pack_mod x hy, ex, ey, e1]; rfl
  case case4 => cases h

/-- **hex_inverse (2)**: whatever `hex_decode` accepts is the hex text (in either case) of the bytes
it returns: `hex_encode(hex_decode(s)) == lower(s)` -/
theorem hex_encode_decode (s bs : Bytes) (h : hexDecode s = .ok bs) :
    hexEncode bs = s.map lowerHex ∧ ∀ b ∈ bs, b < 256 := by
  unfold hexDecode at h
  split at h
  · cases hp : hexPairs s with
    | none => simp [hp] at h
    | some r => simp [hp] at h; subst h; exact hexPairs_sound s r hp
  · cases h

theorem hexDecode_no_panic (s : Bytes) : hexDecode s ≠ .panic := by
  unfold hexDecode; split
  · split <;> simp
  · simp

/-! ## 3. `chr` / `ord` -/

theorem isScalar_iff (c : Nat) : isScalar c ↔ IsScalar c := by
  unfold isScalar IsScalar; omega

theorem chr_scalar (n : Int) (h0 : 0 ≤ n) (h : IsScalar n.toNat) : chr n = .ok [n.toNat] := by
  have hu : inU32 n := by unfold inU32; unfold IsScalar at h; omega
  simp only [chr, hu, (isScalar_iff _).mpr h, if_true]

/-- **chr_ord_inverse (1)**: `ord(chr(n)) == n` on every Unicode scalar value -/
theorem ord_chr (n : Int) (h0 : 0 ≤ n) (h : IsScalar n.toNat) : (chr n).bind ord = .ok n := by
  simp only [chr_scalar n h0 h, Out.bind, ord]
  congr 1; omega

/-- **chr_ord_inverse (2)**: `chr(ord(c)) == c` for every one-character string -/
theorem chr_ord (c : Nat) (h : IsScalar c) : (ord [c]).bind chr = .ok [c] :=
  chr_scalar c (Int.natCast_nonneg c) h

/-- `chr` is defined exactly on the scalar values; everything else (negative, surrogates, above
U+10FFFF, beyond u32) is a Noulith error -/
theorem chr_defined_iff (n : Int) : (∃ s, chr n = .ok s) ↔ (0 ≤ n ∧ IsScalar n.toNat) := by
  constructor
  · rintro ⟨s, h⟩
    unfold chr at h
    split at h
    · rename_i hu
      split at h
      · rename_i hs; unfold inU32 at hu; exact ⟨hu.1, (isScalar_iff _).mp hs⟩
      · cases h
    · cases h
  · rintro ⟨h0, h⟩
    exact ⟨_, chr_scalar n h0 h⟩

/-! ## 4. UTF-8 -/

theorem utf8EncodeChar_eq_spec (c : Nat) : utf8EncodeChar c = utf8Of c := by
  have e1 : c < 128 ↔ c ≤ 127 := Nat.lt_succ_iff
  have e2 : c < 2048 ↔ c ≤ 2047 := Nat.lt_succ_iff
  have e3 : c < 65536 ↔ c ≤ 65535 := Nat.lt_succ_iff
  simp only [utf8EncodeChar, utf8Of, e1, e2, e3]

theorem utf8Encode_eq_spec (s : Str) : utf8Encode s = utf8OfStr s := by
  induction s with
  | nil => rfl
  | cons c t ih => simp [utf8Encode, utf8OfStr, utf8EncodeChar_eq_spec, ih]

/-- `Utf8Seq bs c`: `bs` is the one well-formed UTF-8 sequence for the scalar value `c` (Unicode table
3-7).  The lead byte carries the top bits `x`, every continuation byte six more; the value is
written in base 64 so that taking it apart and putting it together again are `pack_div` /
`pack_mod` / `Nat.div_add_mod'` and never need a decision procedure.  The range of the value per
length is what excludes overlong forms, surrogates and values above U+10FFFF. -/
inductive Utf8Seq : Bytes → Nat → Prop
  | one (c : Nat) : c < 128 → Utf8Seq [c] c
  | two (x y : Nat) : y < 64 → 128 ≤ x * 64 + y → x * 64 + y < 2048 → Utf8Seq [192 + x, 128 + y] (x * 64 + y)
  | three (x y z : Nat) : y < 64 → z < 64 → 2048 ≤ (x * 64 + y) * 64 + z → (x * 64 + y) * 64 + z < 65536 →
      ¬ (55296 ≤ (x * 64 + y) * 64 + z ∧ (x * 64 + y) * 64 + z ≤ 57343) →
      Utf8Seq [224 + x, 128 + y, 128 + z] ((x * 64 + y) * 64 + z)
  | four (x y z w : Nat) : y < 64 → z < 64 → w < 64 → 65536 ≤ ((x * 64 + y) * 64 + z) * 64 + w →
      ((x * 64 + y) * 64 + z) * 64 + w ≤ 1114111 →
      Utf8Seq [240 + x, 128 + y, 128 + z, 128 + w] (((x * 64 + y) * 64 + z) * 64 + w)

theorem Utf8Seq.scalar {bs : Bytes} {c : Nat} (h : Utf8Seq bs c) : IsScalar c := by
  unfold IsScalar
  cases h <;> omega

theorem Utf8Seq.encode {bs : Bytes} {c : Nat} (h : Utf8Seq bs c) : utf8EncodeChar c = bs := by
  unfold utf8EncodeChar
  cases h with
  | one c h => rw [if_pos h]
  | two x y hy h1 h2 =>
    rw [if_neg (Nat.not_lt.mpr h1), if_pos h2, pack_div x hy, pack_mod x hy]
  | three x y z hy hz h1 h2 _ =>
    rw [if_neg (by omega), if_neg (Nat.not_lt.mpr h1), if_pos h2, div_4096, pack_div _ hz, pack_div x hy, pack_mod x hy,
      pack_mod _ hz]
  | four x y z w hy hz hw h1 _ =>
    rw [if_neg (by omega), if_neg (by omega), if_neg (Nat.not_lt.mpr h1), div_262144, div_4096, pack_div _ hw, pack_div _ hz,
      pack_div x hy, pack_mod x hy, pack_mod _ hz, pack_mod _ hw]

theorem Utf8Seq.ofScalar {c : Nat} (h : IsScalar c) : Utf8Seq (utf8EncodeChar c) c := by
  unfold IsScalar at h
  have m (n : Nat) : n % 64 < 64 := Nat.mod_lt n (by decide)
  fun_cases utf8EncodeChar c
  · exact .one c ‹_›
  · have := Utf8Seq.two (c / 64) (c % 64) (m c)
    rw [Nat.div_add_mod'] at this
    exact this (Nat.le_of_not_lt ‹_›) ‹_›
  · rw [div_4096]
    have := Utf8Seq.three (c / 64 / 64) (c / 64 % 64) (c % 64) (m _) (m c)
    rw [Nat.div_add_mod', Nat.div_add_mod'] at this
    exact this (Nat.le_of_not_lt ‹_›) ‹_› (by omega)
  · rw [div_262144, div_4096]
    have := Utf8Seq.four (c / 64 / 64 / 64) (c / 64 / 64 % 64) (c / 64 % 64) (c % 64) (m _) (m _) (m c)
    rw [Nat.div_add_mod', Nat.div_add_mod', Nat.div_add_mod'] at this
    exact this (Nat.le_of_not_lt ‹_›) (by omega)

theorem isCont_iff (b : Nat) : isCont b = true ↔ (128 ≤ b ∧ b ≤ 191) := by
  simp [isCont]

theorem isCont_add {y : Nat} (h : y < 64) : isCont (128 + y) = true := by
  rw [isCont_iff]; omega

/-- the restricted second byte of a three- or four-byte sequence: after lead byte `A` it starts at
`lo`, after lead byte `B` it ends at `hi`, otherwise it is any continuation byte -/
theorem utf8Second_iff {A B lo hi : Nat} (hlo : 128 ≤ lo) (hhi : hi ≤ 191) (hAB : A ≠ B) (b0 b1 : Nat) :
    (if b0 = A then decide (lo ≤ b1) && decide (b1 ≤ 191) else if b0 = B then decide (128 ≤ b1) && decide (b1 ≤ hi)
      else isCont b1) = true ↔ 128 ≤ b1 ∧ b1 ≤ 191 ∧ (b0 = A → lo ≤ b1) ∧ (b0 = B → b1 ≤ hi) := by
  unfold isCont
  split
  · rw [Bool.and_eq_true, decide_eq_true_eq, decide_eq_true_eq]; omega
  split
  · rw [Bool.and_eq_true, decide_eq_true_eq, decide_eq_true_eq]; omega
  · rw [Bool.and_eq_true, decide_eq_true_eq, decide_eq_true_eq]; omega

theorem utf8Second3_iff (b0 b1 : Nat) : utf8Second3 b0 b1 = true ↔
    128 ≤ b1 ∧ b1 ≤ 191 ∧ (b0 = 224 → 160 ≤ b1) ∧ (b0 = 237 → b1 ≤ 159) :=
  utf8Second_iff (by decide) (by decide) (by decide) b0 b1

theorem utf8Second4_iff (b0 b1 : Nat) : utf8Second4 b0 b1 = true ↔
    128 ≤ b1 ∧ b1 ≤ 191 ∧ (b0 = 240 → 144 ≤ b1) ∧ (b0 = 244 → b1 ≤ 143) :=
  utf8Second_iff (by decide) (by decide) (by decide) b0 b1

theorem utf8Decode_seq {bs : Bytes} {c : Nat} (h : Utf8Seq bs c) (rest : Bytes) :
    utf8Decode (bs ++ rest) = (utf8Decode rest).map (c :: ·) := by
  cases h with
  | one c h => rw [List.singleton_append, utf8Decode.eq_def]; simp only [h, if_true]
  | two x y hy h1 h2 =>
    rw [List.cons_append, List.singleton_append, utf8Decode.eq_def]
    simp only [isCont_add hy, if_true, Nat.add_sub_cancel_left, if_neg (show ¬ 192 + x < 128 by omega),
      if_pos (show 194 ≤ 192 + x ∧ 192 + x ≤ 223 by omega)]
  | three x y z hy hz h1 h2 h3 =>
    have s2 : utf8Second3 (224 + x) (128 + y) = true := (utf8Second3_iff _ _).mpr (by omega)
    rw [List.cons_append, List.cons_append, List.singleton_append, utf8Decode.eq_def]
    simp only [s2, isCont_add hz, Bool.and_self, if_true, Nat.add_sub_cancel_left,
      if_neg (show ¬ 224 + x < 128 by omega), if_neg (show ¬ (194 ≤ 224 + x ∧ 224 + x ≤ 223) by omega),
      if_pos (show 224 ≤ 224 + x ∧ 224 + x ≤ 239 by omega), horner3]
  | four x y z w hy hz hw h1 h2 =>
    have s2 : utf8Second4 (240 + x) (128 + y) = true := (utf8Second4_iff _ _).mpr (by omega)
    rw [List.cons_append, List.cons_append, List.cons_append, List.singleton_append, utf8Decode.eq_def]
    simp only [s2, isCont_add hz, isCont_add hw, Bool.and_self, if_true, Nat.add_sub_cancel_left,
      if_neg (show ¬ 240 + x < 128 by omega), if_neg (show ¬ (194 ≤ 240 + x ∧ 240 + x ≤ 223) by omega),
      if_neg (show ¬ (224 ≤ 240 + x ∧ 240 + x ≤ 239) by omega), if_pos (show 240 ≤ 240 + x ∧ 240 + x ≤ 244 by omega),
      horner4]

theorem utf8_encode_step {sq rest : Bytes} {c : Nat} {s : Str} (hq : Utf8Seq sq c)
    (ih : ∀ s, utf8Decode rest = some s → utf8Encode s = rest ∧ ∀ c ∈ s, IsScalar c)
    (h : (utf8Decode rest).map (c :: ·) = some s) : utf8Encode s = sq ++ rest ∧ ∀ c ∈ s, IsScalar c := by
  obtain ⟨s', hs', rfl⟩ := Option.map_eq_some_iff.mp h
  obtain ⟨e, sc⟩ := ih s' hs'
  exact ⟨by rw [utf8Encode, hq.encode, e], List.forall_mem_cons.mpr ⟨hq.scalar, sc⟩⟩

/-- **utf8_inverse (2)**: whatever `utf8_decode` accepts is the UTF-8 encoding of the string it
returns, and that string consists of Unicode scalar values only (no surrogates, nothing above
U+10FFFF, no overlong forms: the encoding is unique) -/
theorem utf8_encode_decode (bs : Bytes) (s : Str) (h : utf8Decode bs = some s) :
    utf8Encode s = bs ∧ ∀ c ∈ s, IsScalar c := by
  fun_induction utf8Decode bs generalizing s
  case case1 => cases h; exact ⟨rfl, nofun⟩
  case case2 b rest hb ih => exact utf8_encode_step (.one b hb) ih h
  case case3 b0 _ h0 b1 rest h1 ih =>
    rw [isCont_iff] at h1
    obtain ⟨x, rfl⟩ := Nat.exists_eq_add_of_le (Nat.le_trans (by decide : 192 ≤ 194) h0.1)
    obtain ⟨y, rfl⟩ := Nat.exists_eq_add_of_le h1.1
    rw [Nat.add_sub_cancel_left, Nat.add_sub_cancel_left] at h
    exact utf8_encode_step (.two x y (by omega) (by omega) (by omega)) ih h
  case case6 b0 _ _ h0 b1 b2 rest h1 ih =>
    rw [Bool.and_eq_true, utf8Second3_iff, isCont_iff] at h1
    obtain ⟨x, rfl⟩ := Nat.exists_eq_add_of_le h0.1
    obtain ⟨y, rfl⟩ := Nat.exists_eq_add_of_le h1.1.1
    obtain ⟨z, rfl⟩ := Nat.exists_eq_add_of_le h1.2.1
    rw [Nat.add_sub_cancel_left, Nat.add_sub_cancel_left, Nat.add_sub_cancel_left, horner3] at h
    exact utf8_encode_step (.three x y z (by omega) (by omega) (by omega) (by omega) (by omega)) ih h
  case case9 b0 _ _ _ h0 b1 b2 b3 rest h1 ih =>
    rw [Bool.and_eq_true, Bool.and_eq_true, utf8Second4_iff, isCont_iff, isCont_iff] at h1
    obtain ⟨x, rfl⟩ := Nat.exists_eq_add_of_le h0.1
    obtain ⟨y, rfl⟩ := Nat.exists_eq_add_of_le h1.1.1.1
    obtain ⟨z, rfl⟩ := Nat.exists_eq_add_of_le h1.1.2.1
    obtain ⟨w, rfl⟩ := Nat.exists_eq_add_of_le h1.2.1
    rw [Nat.add_sub_cancel_left, Nat.add_sub_cancel_left, Nat.add_sub_cancel_left, Nat.add_sub_cancel_left,
      horner4] at h
    exact utf8_encode_step (.four x y z w (by omega) (by omega) (by omega) (by omega) (by omega)) ih h
  all_goals cases h

/-- **utf8_inverse (1)**: `utf8_decode(utf8_encode(s)) == s` for every string (every list of Unicode
scalar values, 1- to 4-byte forms) -/
theorem utf8_decode_encode (s : Str) (h : ∀ c ∈ s, IsScalar c) : utf8Decode (utf8Encode s) = some s := by
  induction s with
  | nil => rfl
  | cons c t ih =>
    rw [utf8Encode, utf8Decode_seq (.ofScalar (h c (by simp))),
      ih (fun x hx => h x (by simp [hx]))]
    rfl

theorem utf8_decode_encode_builtin (s : Str) (h : ∀ c ∈ s, IsScalar c) : utf8DecodeB (utf8Encode s) = .ok s := by
  unfold utf8DecodeB; rw [utf8_decode_encode s h]

theorem utf8Decode_iff (bs : Bytes) (s : Str) :
    utf8Decode bs = some s ↔ (∀ c ∈ s, IsScalar c) ∧ utf8Encode s = bs :=
  ⟨fun h => (utf8_encode_decode bs s h).symm, fun ⟨sc, e⟩ => e ▸ utf8_decode_encode s sc⟩

theorem utf8Decode_accepts_iff (bs : Bytes) :
    (∃ s, utf8Decode bs = some s) ↔ ∃ s, (∀ c ∈ s, IsScalar c) ∧ utf8OfStr s = bs := by
  simp only [utf8Decode_iff, utf8Encode_eq_spec]

example : utf8Decode [237, 160, 128] = none := by decide      -- surrogate U+D800
example : utf8Decode [192, 128] = none := by decide           -- overlong NUL
example : utf8Decode [244, 143, 191, 191] = some [1114111] := by decide

/-! ## 5. base64 (RFC 4648) -/

theorem b64Char_table : ∀ n < 64, b64Val (b64Char n) = some n ∧ b64Char n = b64Sym n := by
  decide

theorem b64Val_b64Char {n : Nat} (h : n < 64) : b64Val (b64Char n) = some n := (b64Char_table n h).1
theorem b64Char_eq_spec {n : Nat} (h : n < 64) : b64Char n = b64Sym n := (b64Char_table n h).2

theorem b64Char_lt (n : Nat) : b64Char n < 128 := by
  fun_cases b64Char n
  · omega
  · omega
  · omega
  · decide
  · decide

theorem b64Char_ne_pad {n : Nat} (h : n < 64) : b64Char n ≠ 61 := by
  intro e
  have := b64Val_b64Char h
  rw [e] at this
  cases this

theorem b64Char_b64Val {c x : Nat} (h : b64Val c = some x) : x < 64 ∧ b64Char x = c := by
  unfold b64Char
  revert h
  fun_cases b64Val c
  all_goals intro h; cases h
  · rw [if_pos (by omega)]; omega
  · rw [if_neg (by omega), if_pos (by omega)]; omega
  · rw [if_neg (by omega), if_neg (by omega), if_pos (by omega)]; omega
  · subst c; exact ⟨by decide, rfl⟩
  · subst c; exact ⟨by decide, rfl⟩

/-- the model of `base64::encode` = RFC 4648 §4 (24-bit groups cut into 6-bit values, `=` padding).
In each case the group value is first written in base 64 with the encoder's sextets as digits. -/
theorem b64Encode_eq_spec (bs : Bytes) (h : ∀ b ∈ bs, b < 256) : b64Encode bs = base64Of bs := by
  fun_induction b64Encode bs
  case case1 => rfl
  case case2 a =>
    have h2 := sextet2_last_lt a
    rw [base64Of, b64Char_eq_spec (sextet1_lt (h a (by simp))), b64Char_eq_spec h2, group1_eq a, pack_div _ h2,
      pack_mod _ h2]
  case case3 a b =>
    have h2 := sextet2_lt a (h b (by simp))
    have h3 := sextet3_last_lt b
    rw [base64Of, b64Char_eq_spec (sextet1_lt (h a (by simp))), b64Char_eq_spec h2, b64Char_eq_spec h3, group2_eq a b,
      div_4096, pack_div _ h3, pack_div _ h2, pack_mod _ h2, pack_mod _ h3]
  case case4 a b c rest ih =>
    have h2 := sextet2_lt a (h b (by simp))
    have h3 := sextet3_lt b (h c (by simp))
    have h4 := sextet4_lt c
    rw [base64Of, b64Char_eq_spec (sextet1_lt (h a (by simp))), b64Char_eq_spec h2, b64Char_eq_spec h3,
      b64Char_eq_spec h4, ih (fun x hx => h x (by simp [hx])), group3_eq a b c, div_262144, div_4096, pack_div _ h4,
      pack_div _ h3, pack_div _ h2, pack_mod _ h2, pack_mod _ h3, pack_mod _ h4]

theorem b64Dec2_enc (a : Nat) (ha : a < 256) : b64Dec2 (b64Char (a / 4)) (b64Char (a % 4 * 16)) = some [a] := by
  simp only [b64Dec2, b64Val_b64Char (sextet1_lt ha), b64Val_b64Char (sextet2_last_lt a), Nat.mul_mod_left, if_true]
  rw [Nat.mul_div_cancel _ (by decide), Nat.div_add_mod']

theorem b64Dec3_enc (a b : Nat) (ha : a < 256) (hb : b < 256) :
    b64Dec3 (b64Char (a / 4)) (b64Char (a % 4 * 16 + b / 16)) (b64Char (b % 16 * 4)) = some [a, b] := by
  have hb16 : b / 16 < 16 := Nat.div_lt_of_lt_mul hb
  simp only [b64Dec3, b64Val_b64Char (sextet1_lt ha), b64Val_b64Char (sextet2_lt a hb),
    b64Val_b64Char (sextet3_last_lt b), Nat.mul_mod_left, if_true]
  rw [pack_div _ hb16, pack_mod _ hb16, Nat.mul_div_cancel _ (by decide), Nat.div_add_mod', Nat.div_add_mod']

theorem b64Dec4_enc (a b c : Nat) (ha : a < 256) (hb : b < 256) (hc : c < 256) :
    b64Dec4 (b64Char (a / 4)) (b64Char (a % 4 * 16 + b / 16)) (b64Char (b % 16 * 4 + c / 64)) (b64Char (c % 64))
      = some [a, b, c] := by
  have hb16 : b / 16 < 16 := Nat.div_lt_of_lt_mul hb
  have hc64 : c / 64 < 4 := Nat.div_lt_of_lt_mul hc
  simp only [b64Dec4, b64Val_b64Char (sextet1_lt ha), b64Val_b64Char (sextet2_lt a hb),
    b64Val_b64Char (sextet3_lt b hc), b64Val_b64Char (sextet4_lt c)]
  rw [pack_div _ hb16, pack_mod _ hb16, pack_div _ hc64, pack_mod _ hc64, Nat.div_add_mod', Nat.div_add_mod',
    Nat.div_add_mod']

/-- the bytes put together from four sextets `x y z w` have exactly these as their sextets -/
theorem b64Dec4_sound {a b c d : Nat} {bs : Bytes} (h : b64Dec4 a b c d = some bs) (tl : Bytes) :
    b64Encode (bs ++ tl) = a :: b :: c :: d :: b64Encode tl ∧ ∀ x ∈ bs, x < 256 := by
  revert h
  fun_cases b64Dec4 a b c d
  all_goals intro h; cases h
  rename_i x y z w hd hc hb ha
  obtain ⟨hx, rfl⟩ := b64Char_b64Val ha
  obtain ⟨hy, rfl⟩ := b64Char_b64Val hb
  obtain ⟨hz, rfl⟩ := b64Char_b64Val hc
  obtain ⟨hw, rfl⟩ := b64Char_b64Val hd
  have hy4 : y / 16 < 4 := Nat.div_lt_of_lt_mul hy
  have hz16 : z / 4 < 16 := Nat.div_lt_of_lt_mul hz
  refine ⟨?_, ?_⟩
  · rw [List.cons_append, List.cons_append, List.cons_append, List.nil_append, b64Encode, pack_div _ hy4,
      pack_mod _ hy4, pack_div _ hz16, pack_mod _ hz16, pack_div _ hw, pack_mod _ hw, Nat.div_add_mod',
      Nat.div_add_mod']
  · simp only [List.mem_cons, List.not_mem_nil, or_false, forall_eq_or_imp, forall_eq]
    exact ⟨pack_lt hx hy4, pack_lt (Nat.mod_lt y (by decide)) hz16, pack_lt (Nat.mod_lt z (by decide)) hw⟩

theorem b64Dec3_sound {a b c : Nat} {bs : Bytes} (h : b64Dec3 a b c = some bs) :
    b64Encode bs = [a, b, c, 61] ∧ ∀ x ∈ bs, x < 256 := by
  revert h
  fun_cases b64Dec3 a b c
  all_goals intro h; cases h
  rename_i x y z hc hb ha hz0
  obtain ⟨hx, rfl⟩ := b64Char_b64Val ha
  obtain ⟨hy, rfl⟩ := b64Char_b64Val hb
  obtain ⟨hz, rfl⟩ := b64Char_b64Val hc
  have hy4 : y / 16 < 4 := Nat.div_lt_of_lt_mul hy
  have hz16 : z / 4 < 16 := Nat.div_lt_of_lt_mul hz
  refine ⟨?_, ?_⟩
  · rw [b64Encode, pack_div _ hy4, pack_mod _ hy4, pack_div _ hz16, pack_mod _ hz16, Nat.div_add_mod',
      Nat.div_mul_cancel (Nat.dvd_of_mod_eq_zero hz0)]
  · simp only [List.mem_cons, List.not_mem_nil, or_false, forall_eq_or_imp, forall_eq]
    exact ⟨pack_lt hx hy4, pack_lt (Nat.mod_lt y (by decide)) hz16⟩

theorem b64Dec2_sound {a b : Nat} {bs : Bytes} (h : b64Dec2 a b = some bs) :
    b64Encode bs = [a, b, 61, 61] ∧ ∀ x ∈ bs, x < 256 := by
  revert h
  fun_cases b64Dec2 a b
  all_goals intro h; cases h
  rename_i x y hb ha hy0
  obtain ⟨hx, rfl⟩ := b64Char_b64Val ha
  obtain ⟨hy, rfl⟩ := b64Char_b64Val hb
  have hy4 : y / 16 < 4 := Nat.div_lt_of_lt_mul hy
  refine ⟨?_, ?_⟩
  · rw [b64Encode, pack_div _ hy4, pack_mod _ hy4, Nat.div_mul_cancel (Nat.dvd_of_mod_eq_zero hy0)]
  · simp only [List.mem_cons, List.not_mem_nil, or_false, forall_eq]
    exact pack_lt hx hy4

theorem b64Encode_eq_nil (bs : Bytes) : b64Encode bs = [] ↔ bs = [] := by
  fun_cases b64Encode bs <;> simp

theorem b64Quads_encode (bs : Bytes) (h : ∀ b ∈ bs, b < 256) : b64Quads (b64Encode bs) = some bs := by
  fun_induction b64Encode bs
  case case1 => rfl
  case case2 a => simp only [b64Quads, if_true]; exact b64Dec2_enc a (h a (by simp))
  case case3 a b =>
    have hb : b < 256 := h b (by simp)
    simp only [b64Quads, if_true, if_neg (b64Char_ne_pad (sextet3_last_lt b))]
    exact b64Dec3_enc a b (h a (by simp)) hb
  case case4 a b c rest ih =>
    have hc : c < 256 := h c (by simp)
    have d4 := b64Dec4_enc a b c (h a (by simp)) (h b (by simp)) hc
    simp only [b64Quads, b64Encode_eq_nil, d4]
    by_cases hr : rest = []
    · rw [if_pos hr, if_neg (b64Char_ne_pad (sextet4_lt c)), hr]
    · rw [if_neg hr, ih (fun x hx => h x (by simp [hx]))]; rfl

theorem b64Encode_ascii (bs : Bytes) : ∀ c ∈ b64Encode bs, c < 128 := by
  fun_induction b64Encode bs
  case case1 => nofun
  case case2 a =>
    simp only [List.mem_cons, List.not_mem_nil, or_false, forall_eq_or_imp, forall_eq]
    exact ⟨b64Char_lt _, b64Char_lt _, by decide, by decide⟩
  case case3 a b =>
    simp only [List.mem_cons, List.not_mem_nil, or_false, forall_eq_or_imp, forall_eq]
    exact ⟨b64Char_lt _, b64Char_lt _, b64Char_lt _, by decide⟩
  case case4 a b c rest ih =>
    simp only [List.mem_cons, forall_eq_or_imp]
    exact ⟨b64Char_lt _, b64Char_lt _, b64Char_lt _, b64Char_lt _, ih⟩

/-- **base64_inverse**: `base64_decode(base64_encode(bs)) == bs` for every byte string -/
theorem base64_decode_encode (bs : Bytes) (h : ∀ b ∈ bs, b < 256) :
    b64Decode (utf8Encode (b64Encode bs)) = .ok bs := by
  rw [utf8Encode_ascii _ (b64Encode_ascii bs)]
  unfold b64Decode
  rw [b64Quads_encode bs h]

theorem base64_decode_spec (bs : Bytes) (h : ∀ b ∈ bs, b < 256) : b64Decode (base64Of bs) = .ok bs := by
  rw [← b64Encode_eq_spec bs h]
  unfold b64Decode
  rw [b64Quads_encode bs h]

theorem b64Decode_no_panic (s : Bytes) : b64Decode s ≠ .panic := by
  unfold b64Decode; split <;> simp

example : b64Encode [102, 111, 111, 98] = [90, 109, 57, 118, 89, 103, 61, 61] := by decide   -- "foob" -> "Zm9vYg=="
example : b64Decode [90, 109, 57, 118, 89, 104, 61, 61] = .throw := by decide               -- non-zero trailing bits

/-- **base64_inverse (2)**: whatever `base64_decode` accepts with a length that is a multiple of 4
is the canonical RFC 4648 text of the bytes it returns: `base64_encode(base64_decode(s)) == s`
(no stray bits, no alternative spellings) -/
theorem base64_encode_decode : ∀ (s bs : Bytes), b64Quads s = some bs → s.length % 4 = 0 →
    b64Encode bs = s ∧ ∀ x ∈ bs, x < 256 := by
  intro s
  fun_induction b64Quads s
  all_goals intro bs h hl
  case case1 => cases h; exact ⟨rfl, nofun⟩
  case case6 a b => exact b64Dec2_sound h
  case case7 a b c _ => exact b64Dec3_sound h
  case case8 a b c d _ => simpa [b64Encode] using b64Dec4_sound h []
  case case9 a b c d rest _ x r hr hx ih =>
    cases h
    obtain ⟨e, lt⟩ := b64Dec4_sound hx r
    obtain ⟨e', lt'⟩ := ih r hr (by simp only [List.length_cons] at hl; omega)
    exact ⟨by rw [e, e'], fun v hv => (List.mem_append.mp hv).elim (lt v) (lt' v)⟩
  case case2 | case10 => cases h
  case case3 | case4 | case5 => cases hl

end Noulith.C16
