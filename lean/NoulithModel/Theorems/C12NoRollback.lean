/-
C12 — `assign` against the documented (no-rollback) behaviour, for EVERY pattern.

`assign_eq_specNR`: `assign` accepts exactly when `specAssignNR` does and leaves exactly the same
environment — also when it refuses — and never panics.  `assign_no_panic` and the transactional
refinement (`assign_eq_spec`, `Theorems/C12.lean`) are read off this equation.
`specAssign_eq_nrOpt` recovers the transactional reading where it is valid (`orClean`);
`no_rollback_divergence` is the single place where the two readings are shown to differ (the known
finding `or-no-rollback`).
-/
import NoulithModel.Lemmas.C12

namespace Noulith.C12

theorem nrOut_step (r : Env × Bool) (k : Env → Env × Bool) :
    nrOut (stepNR r k) = stepItems (nrOut r) (fun e => nrOut (k e)) := by
  obtain ⟨e, b⟩ := r
  cases b <;> rfl

theorem nrOut_fst (r : Env × Bool) : (nrOut r).1 = r.1 := by
  obtain ⟨e, b⟩ := r
  cases b <;> rfl

theorem nrOut_ne_panic (r : Env × Bool) : (nrOut r).2 ≠ .panic := by
  obtain ⟨e, b⟩ := r
  cases b <;> exact nofun

theorem insert_throw_env (e e' : Env) (x : Nat) (T : Ty) (v : Val) (h : e.insert x T v = (e', .throw)) :
    e' = e := by
  unfold Env.insert at h
  split at h
  · exact (Prod.mk.inj h).1.symm
  · split at h
    · exact (Prod.mk.inj h).1.symm
    · exact absurd (Prod.mk.inj h).2 nofun

theorem insertDeclare_eq_specNR (e : Env) (x : Nat) (T : Ty) (v : Val) :
    insertDeclare e x T v = nrOut (specAssignNR e (.ident x []) (some T) v) := by
  unfold insertDeclare specAssignNR
  simp only [List.isEmpty_nil, true_and]
  cases hty : isType T v with
  | ok b =>
    cases b with
    | true =>
      simp only [if_true]
      have hnp := insert_no_panic e x T v
      rcases hi : e.insert x T v with ⟨e', o⟩
      rw [hi] at hnp
      cases o with
      | ok u => rfl
      | throw => rw [insert_throw_env e e' x T v hi]; rfl
      | panic => exact absurd rfl hnp
    | false => simp [nrOut]
  | throw => simp [nrOut]
  | panic => exact absurd hty (isType_no_panic _ _)

theorem assignItems_eq_specNR_of (ps : List Pat)
    (ih : ∀ p ∈ ps, ∀ e rt v, assign e (unsplat p) rt v = nrOut (specAssignNR e (unsplat p) rt v)) :
    ∀ (e : Env) (rt : Option Ty) (vs : List Val),
      assignItems e ps rt vs = nrOut (specAssignItemsNR e ps rt vs) := by
  induction ps with
  | nil => intro e rt vs; rw [assignItems_nil, specAssignItemsNR_nil]; rfl
  | cons p ps ihps =>
    intro e rt vs
    cases vs with
    | nil => rfl
    | cons v vs =>
      rw [assignItems_cons, specAssignItemsNR_cons, nrOut_step, ih p (List.mem_cons_self ..)]
      congr 1
      funext e'
      exact ihps (fun q hq => ih q (List.mem_cons_of_mem _ hq)) e' rt vs

/-- **`assign` = the documented behaviour, for every pattern** (no restriction on `or`): same
acceptance, same environment afterwards — also after a refusal — and never a panic. -/
theorem assign_eq_specNR (e : Env) : ∀ (p : Pat) (rt : Option Ty) (v : Val),
    assign e p rt v = nrOut (specAssignNR e p rt v) := by
  intro p rt v
  induction p using Pat.induction_items generalizing e rt v with
  | underscore =>
    unfold assign specAssignNR
    cases rt with
    | none => rfl
    | some T =>
      simp only []
      cases hty : isType T v with
      | ok b => cases b <;> simp [nrOut]
      | throw => simp [nrOut]
      | panic => exact absurd hty (isType_no_panic _ _)
  | ident x ixs =>
    cases rt with
    | some T =>
      cases ixs with
      | nil => unfold assign; exact insertDeclare_eq_specNR e x T v
      | cons i is => unfold assign specAssignNR; simp [nrOut]
    | none =>
      unfold assign specAssignNR
      simp only []
      have hnp := assignRespectingType_no_panic e x ixs v
      rcases hr : assignRespectingType e x ixs v with ⟨e', o⟩
      rw [hr] at hnp
      cases o with
      | ok u => rfl
      | throw => rfl
      | panic => exact absurd rfl hnp
  | anno s ann ih =>
    unfold assign
    cases ann with
    | none => simp only [specAssignNR]; exact ih e _ v
    | some t =>
      simp only [specAssignNR]
      cases ht : toType t with
      | ok ty => exact ih e _ v
      | throw => rfl
      | panic => cases t <;> simp [toType] at ht
  | withDefault s _ ih => unfold assign specAssignNR; exact ih e rt v
  | seq ss d _ ih =>
    rcases seq_items e ss d rt v with ⟨h1, _, h3⟩ | ⟨arr, _, h1, _, h3⟩
    · rw [h1, h3]; rfl
    · rw [h1, h3]; exact assignItems_eq_specNR_of ss ih e _ arr
  | splat _ _ => unfold assign specAssignNR; rfl
  | or a b iha ihb =>
    unfold assign specAssignNR
    rw [iha e rt v]
    rcases specAssignNR e a rt v with ⟨e', ok⟩
    cases ok with
    | true => rfl
    | false => simp only [nrOut]; exact ihb e' rt v
  | and a b iha ihb =>
    unfold assign specAssignNR
    rw [iha e rt v]
    rcases specAssignNR e a rt v with ⟨e', ok⟩
    cases ok with
    | true => simp only [nrOut]; exact ihb e' rt v
    | false => rfl
  | lit l =>
    unfold assign specAssignNR
    by_cases hv : veq l v = true <;> simp [hv, nrOut]
  | destr f args _ ih =>
    rcases destr_items e f args rt v with ⟨h1, _, h3⟩ | ⟨arr, _, h1, _, h3⟩
    · rw [h1, h3]; rfl
    · rw [h1, h3]; exact assignItems_eq_specNR_of args ih e _ arr
  | destrStruct sid args _ ih =>
    rcases destrStruct_items e sid args rt v with ⟨h1, _, h3⟩ | ⟨arr, _, h1, _, h3⟩
    · rw [h1, h3]; rfl
    · rw [h1, h3]; exact assignItems_eq_specNR_of args ih e _ arr

theorem assignItems_eq_specNR (e : Env) : ∀ (ps : List Pat) (rt : Option Ty) (vs : List Val),
    assignItems e ps rt vs = nrOut (specAssignItemsNR e ps rt vs) :=
  fun ps rt vs => assignItems_eq_specNR_of ps (fun _ _ e rt v => assign_eq_specNR e _ rt v) e rt vs

/-! ## where the documented behaviour is the transactional reading -/

theorem specAssignNR_noIdents (p : Pat) (h : noIdents p = true) (e : Env) (rt : Option Ty) (v : Val) :
    (specAssignNR e p rt v).1 = e := by
  rw [← nrOut_fst, ← assign_eq_specNR]
  exact (assign_runs p e rt v).fixed h

/-- the transactional rendering of a no-rollback result: what was bound is kept only on acceptance -/
def nrOpt : Env × Bool → Option Env
  | (e, true) => some e
  | (_, false) => none

theorem nrOpt_step (r : Env × Bool) (k : Env → Env × Bool) :
    nrOpt (stepNR r k) = (nrOpt r).bind (fun e => nrOpt (k e)) := by
  obtain ⟨e, b⟩ := r
  cases b <;> rfl

theorem specAssignItems_eq_nrOpt_of (ps : List Pat)
    (ih : ∀ p ∈ ps, orClean (unsplat p) = true →
      ∀ e rt v, specAssign e (unsplat p) rt v = nrOpt (specAssignNR e (unsplat p) rt v)) :
    orCleanL ps = true → ∀ (e : Env) (rt : Option Ty) (vs : List Val), ps.length = vs.length →
      specAssignItems e ps rt vs = nrOpt (specAssignItemsNR e ps rt vs) := by
  induction ps with
  | nil =>
    intro _ e rt vs hl
    cases vs with
    | nil => rfl
    | cons v vs => exact absurd hl nofun
  | cons p ps ihps =>
    intro h e rt vs hl
    obtain ⟨hp, hps⟩ := (orCleanL_cons p ps).mp h
    cases vs with
    | nil => rfl
    | cons v vs =>
      rw [specAssignItems_cons, specAssignItemsNR_cons, nrOpt_step, ih p (List.mem_cons_self ..) hp]
      congr 1
      funext e'
      exact ihps (fun q hq => ih q (List.mem_cons_of_mem _ hq)) hps e' rt vs (Nat.succ.inj hl)

/-- For patterns whose `or` nodes bind nothing in their first alternative, a refused alternative
has left nothing behind, so trying the second one on what the first left is trying it on the
original environment. -/
theorem specAssign_eq_nrOpt : ∀ (p : Pat), orClean p = true →
    ∀ (e : Env) (rt : Option Ty) (v : Val), specAssign e p rt v = nrOpt (specAssignNR e p rt v) := by
  intro p h e rt v
  induction p using Pat.induction_items generalizing e rt v with
  | underscore =>
    unfold specAssign specAssignNR
    cases rt with
    | none => rfl
    | some T => by_cases hty : isType T v = .ok true <;> simp [hty, nrOpt]
  | ident x ixs =>
    unfold specAssign specAssignNR
    cases rt with
    | some T =>
      simp only []
      split
      · rcases e.insert x T v with ⟨e', o⟩
        cases o <;> rfl
      · rfl
    | none =>
      simp only []
      rcases assignRespectingType e x ixs v with ⟨e', o⟩
      cases o <;> rfl
  | anno s ann ih =>
    cases ann with
    | none => unfold specAssign specAssignNR; exact ih h e _ v
    | some t =>
      unfold specAssign specAssignNR
      cases toType t with
      | ok T' => exact ih h e _ v
      | throw => rfl
      | panic => rfl
  | withDefault s _ ih => unfold specAssign specAssignNR; exact ih h e rt v
  | seq ss d _ ih =>
    rcases seq_items e ss d rt v with ⟨_, h2, h3⟩ | ⟨arr, hl, _, h2, h3⟩
    · rw [h2, h3]; rfl
    · rw [h2, h3]; exact specAssignItems_eq_nrOpt_of ss ih h e _ arr hl.symm
  | splat _ _ => unfold specAssign specAssignNR; rfl
  | or a b iha ihb =>
    obtain ⟨hab, hb⟩ := Bool.and_eq_true_iff.mp h
    obtain ⟨hna, ha⟩ := Bool.and_eq_true_iff.mp hab
    have h1 := specAssignNR_noIdents a hna e rt v
    unfold specAssign specAssignNR
    rw [iha ha e rt v]
    generalize specAssignNR e a rt v = r at h1
    obtain ⟨e', ok⟩ := r
    cases h1
    cases ok with
    | true => rfl
    | false => exact ihb hb e' rt v
  | and a b iha ihb =>
    obtain ⟨ha, hb⟩ := Bool.and_eq_true_iff.mp h
    unfold specAssign specAssignNR
    rw [iha ha e rt v]
    rcases specAssignNR e a rt v with ⟨e', ok⟩
    cases ok with
    | true => exact ihb hb e' rt v
    | false => rfl
  | lit l =>
    unfold specAssign specAssignNR
    cases veq l v <;> rfl
  | destr f args _ ih =>
    rcases destr_items e f args rt v with ⟨_, h2, h3⟩ | ⟨arr, hl, _, h2, h3⟩
    · rw [h2, h3]; rfl
    · rw [h2, h3]; exact specAssignItems_eq_nrOpt_of args ih h e _ arr hl.symm
  | destrStruct sid args _ ih =>
    rcases destrStruct_items e sid args rt v with ⟨_, h2, h3⟩ | ⟨arr, hl, _, h2, h3⟩
    · rw [h2, h3]; rfl
    · rw [h2, h3]; exact specAssignItems_eq_nrOpt_of args ih h e _ arr hl.symm

theorem specNR_transactional_of_orClean (e : Env) (p : Pat) (rt : Option Ty) (v : Val)
    (h : orClean p = true) :
    ((specAssignNR e p rt v).2 = true → specAssign e p rt v = some (specAssignNR e p rt v).1) ∧
    ((specAssignNR e p rt v).2 = false → specAssign e p rt v = none) := by
  rw [specAssign_eq_nrOpt p h]
  rcases specAssignNR e p rt v with ⟨e', b⟩
  cases b <;> simp [nrOpt]

/-- `(x, 1) or (x, 2)` -/
def orWitness : Pat :=
  .or (.seq [.ident 0 [], .lit (.int 1)] false) (.seq [.ident 0 [], .lit (.int 2)] false)

/-- the code refuses `[5, 2]` for `(x, 1) or (x, 2)` (the second alternative finds `x` already
declared by the failed first one) although the second alternative accepts it -/
theorem or_no_rollback_witness :
    (assign [[]] orWitness (some .any) (.list [.int 5, .int 2])).2 = .throw ∧
    (specAssign [[]] orWitness (some .any) (.list [.int 5, .int 2])).isSome = true := by
  constructor <;> decide

/-- **the one place where the documented behaviour and the transactional reading part ways**
(known finding `or-no-rollback`), on `or_no_rollback_witness`. -/
theorem no_rollback_divergence :
    ¬ ∀ (e : Env) (p : Pat) (rt : Option Ty) (v : Val),
      ((specAssignNR e p rt v).2 = true ↔ (specAssign e p rt v).isSome = true) := by
  intro h
  have w := or_no_rollback_witness
  rw [assign_eq_specNR] at w
  have h1 := (h [[]] orWitness (some .any) (.list [.int 5, .int 2])).mpr w.2
  generalize specAssignNR [[]] orWitness (some .any) (.list [.int 5, .int 2]) = r at h1 w
  obtain ⟨e', b⟩ := r
  cases h1
  exact absurd w.1 nofun

end Noulith.C12
