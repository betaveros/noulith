/-
C12 — operator patterns invert their constructors (`constructor_inverse`).

For each destructuring builtin of lib.rs, `destructure` computes exactly the inverse image
`Inverts` (Spec/Match.lean) of the builtin's own `run2`, one `…_iff_Inverts` per builtin: what
`destructure` hands to the sub-patterns, put back through the constructor, gives a value `==` to
the one that was matched, with the documented side conditions (N+K: the open operand is `>= 0`;
`k * n`: the literal is non-zero and the quotient is whole; `a / b`: lowest terms, positive
denominator).  The `…_inverse` / `…_complete` theorems state the round trip through `construct`
itself.  Numbers are exact (ints, rationals); float operands are outside the model.
-/
import NoulithModel.Lemmas.C12

namespace Noulith.C12

/-! ## exact numbers -/

theorem exactNum_cases (x : Val) (p : Rat) (h : exactNum x = some p) :
    (∃ n : Int, x = .int n ∧ p = n) ∨ x = .rat p := by
  cases x with
  | int n => exact Or.inl ⟨n, rfl, (Option.some.inj h).symm⟩
  | rat r => exact Or.inr (congrArg Val.rat (Option.some.inj h))
  | _ => cases h

theorem veq_exact_iff (x y : Val) (p q : Rat) (hx : exactNum x = some p) (hy : exactNum y = some q) :
    veq x y = true ↔ p = q := by
  rcases exactNum_cases x p hx with ⟨a, rfl, rfl⟩ | rfl <;>
    rcases exactNum_cases y q hy with ⟨b, rfl, rfl⟩ | rfl <;> simp [veq]

theorem den_one_iff (q : Rat) : q.den = 1 ↔ ∃ n : Int, q = n := by
  constructor
  · intro h
    refine ⟨q.num, ?_⟩
    have := Rat.mkRat_self q
    rw [h] at this
    rw [← this]; simp [Rat.mkRat_one]
  · rintro ⟨n, rfl⟩; simp

theorem exactNum_mkNum (b : Bool) (q : Rat) (h : b = false → q.den = 1) : exactNum (mkNum b q) = some q := by
  cases b with
  | true => simp [mkNum, exactNum]
  | false =>
    obtain ⟨n, rfl⟩ := (den_one_iff q).mp (h rfl)
    simp [mkNum, exactNum]

theorem exactNum_int_den (v : Val) (q : Rat) (h : exactNum v = some q) (hr : isRatVal v = false) : q.den = 1 := by
  cases v <;> simp [exactNum, isRatVal] at h hr
  subst h; simp

theorem isRatVal_mkNum (b : Bool) (q : Rat) : isRatVal (mkNum b q) = b := by
  cases b <;> simp [mkNum, isRatVal]

theorem den_one_op (op : Rat → Rat → Rat) (iop : Int → Int → Int)
    (h : ∀ m n : Int, op m n = (iop m n : Int)) (x y : Rat) (hx : x.den = 1) (hy : y.den = 1) :
    (op x y).den = 1 := by
  obtain ⟨m, rfl⟩ := (den_one_iff x).mp hx
  obtain ⟨n, rfl⟩ := (den_one_iff y).mp hy
  exact (den_one_iff _).mpr ⟨iop m n, h m n⟩

theorem den_one_add (x y : Rat) : x.den = 1 → y.den = 1 → (x + y).den = 1 :=
  den_one_op (· + ·) (· + ·) (by simp) x y

theorem den_one_sub (x y : Rat) : x.den = 1 → y.den = 1 → (x - y).den = 1 :=
  den_one_op (· - ·) (· - ·) (by simp) x y

theorem den_one_mul (x y : Rat) : x.den = 1 → y.den = 1 → (x * y).den = 1 :=
  den_one_op (· * ·) (· * ·) (by simp) x y

theorem arith_eq (op : Rat → Rat → Rat) (a b : Val) (x y : Rat)
    (hx : exactNum a = some x) (hy : exactNum b = some y) :
    arith op a b = .ok (mkNum (isRatVal a || isRatVal b) (op x y)) := by
  unfold arith; rw [hx, hy]

theorem exactNum_mkNum_level (a b : Val) (x y q : Rat)
    (hx : exactNum a = some x) (hy : exactNum b = some y) (hint : x.den = 1 → y.den = 1 → q.den = 1) :
    exactNum (mkNum (isRatVal a || isRatVal b) q) = some q := by
  apply exactNum_mkNum
  intro hb
  simp at hb
  exact hint (exactNum_int_den a x hx hb.1) (exactNum_int_den b y hy hb.2)

theorem arith_exact (op : Rat → Rat → Rat) (a b r : Val) (x y : Rat)
    (hx : exactNum a = some x) (hy : exactNum b = some y)
    (hint : x.den = 1 → y.den = 1 → (op x y).den = 1)
    (h : arith op a b = .ok r) :
    exactNum r = some (op x y) ∧ isRatVal r = (isRatVal a || isRatVal b) := by
  rw [arith_eq op a b x y hx hy] at h
  cases h
  exact ⟨exactNum_mkNum_level a b x y _ hx hy hint, isRatVal_mkNum _ _⟩

theorem arith_ok_exact (op : Rat → Rat → Rat) (a b r : Val) (h : arith op a b = .ok r) :
    ∃ x y, exactNum a = some x ∧ exactNum b = some y := by
  unfold arith at h
  cases hx : exactNum a <;> cases hy : exactNum b <;> simp [hx, hy] at h
  exact ⟨_, _, rfl, rfl⟩

theorem exactNum_isNum (v : Val) (q : Rat) (h : exactNum v = some q) : isNum v = true := by
  cases v <;> simp [exactNum] at h <;> rfl

theorem val_eq_mkNum (d : Val) (q : Rat) (b : Bool) (h : exactNum d = some q) (hb : isRatVal d = b) :
    d = mkNum b q := by
  cases d <;> simp [exactNum] at h <;> simp [isRatVal] at hb <;> subst hb <;> subst h <;> simp [mkNum]

theorem isNonzero_exact (a : Val) (xa : Rat) (h : exactNum a = some xa) : isNonzero a = true ↔ xa ≠ 0 := by
  simp [isNonzero, h]

theorem arith_comm (op : Rat → Rat → Rat) (hop : ∀ x y, op x y = op y x) (a b : Val) :
    arith op a b = arith op b a := by
  unfold arith
  cases exactNum a <;> cases exactNum b <;> simp only [Bool.or_comm (isRatVal a), hop]

theorem construct_plus_exact (b y x : Val) (xb xy : Rat) (hb : exactNum b = some xb) (hy : exactNum y = some xy)
    (h : construct .plus [b, y] = .ok x) : exactNum x = some (xb + xy) := by
  simp only [construct] at h
  exact (arith_exact (· + ·) b y x xb xy hb hy (den_one_add xb xy) h).1

theorem construct_times_exact (a k y : Val) (xa xk : Rat) (ha : exactNum a = some xa) (hk : exactNum k = some xk)
    (h : construct .times [a, k] = .ok y) : exactNum y = some (xa * xk) := by
  simp only [construct] at h
  exact (arith_exact (· * ·) a k y xa xk ha hk (den_one_mul xa xk) h).1

theorem construct_ok_exact (f : Bi) (hf : f = .plus ∨ f = .times) (a c x : Val) (h : construct f [a, c] = .ok x) :
    ∃ p q, exactNum a = some p ∧ exactNum c = some q := by
  rcases hf with rfl | rfl <;> simp only [construct] at h <;> exact arith_ok_exact _ _ _ _ h

theorem construct_plus_comm (a d : Val) : construct .plus [d, a] = construct .plus [a, d] :=
  arith_comm (· + ·) Rat.add_comm d a

theorem construct_times_comm (a k : Val) : construct .times [k, a] = construct .times [a, k] :=
  arith_comm (· * ·) Rat.mul_comm k a

/-! ## a literal on one side, the open operand on the other -/

/-- `Inverts .plus` and `Inverts .times` have the same shape: the literal `a` stands on one side of
`known`, the open operand `d` on the other, and `D a d x` (`E a d x` in the mirrored layout) describes
`d`.  When both descriptions say `Op a d`, a result `r` that computes `Op` in the two layouts and
refuses every other `known` is `.ok parts` exactly when the description holds. -/
theorem literal_layouts {Op : Val → Val → Prop} {D E : Val → Val → Val → Prop}
    (hD : ∀ a d, Op a d ↔ ∃ x, D a d x) (hE : ∀ a d, Op a d ↔ ∃ x, E a d x)
    {known : List (Option Val)} {parts : List Val} {r : Out (List Val)}
    (hl : ∀ a, known = [some a, none] → (r = .ok parts ↔ ∃ d, Op a d ∧ parts = [a, d]))
    (hr : ∀ a, known = [none, some a] → (r = .ok parts ↔ ∃ d, Op a d ∧ parts = [d, a]))
    (hn : (∀ a, known ≠ [some a, none]) → (∀ a, known ≠ [none, some a]) → r = .throw) :
    r = .ok parts ↔
      (∃ a d x, known = [some a, none] ∧ parts = [a, d] ∧ D a d x) ∨
      (∃ a d x, known = [none, some a] ∧ parts = [d, a] ∧ E a d x) := by
  constructor
  · intro h
    by_cases h1 : ∃ a, known = [some a, none]
    · obtain ⟨a, hk⟩ := h1
      obtain ⟨d, hd, hp⟩ := (hl a hk).mp h
      obtain ⟨x, hx⟩ := (hD a d).mp hd
      exact Or.inl ⟨a, d, x, hk, hp, hx⟩
    · by_cases h2 : ∃ a, known = [none, some a]
      · obtain ⟨a, hk⟩ := h2
        obtain ⟨d, hd, hp⟩ := (hr a hk).mp h
        obtain ⟨x, hx⟩ := (hE a d).mp hd
        exact Or.inr ⟨a, d, x, hk, hp, hx⟩
      · rw [hn (fun a hk => h1 ⟨a, hk⟩) (fun a hk => h2 ⟨a, hk⟩)] at h
        cases h
  · rintro (⟨a, d, x, hk, hp, hx⟩ | ⟨a, d, x, hk, hp, hx⟩)
    · exact (hl a hk).mpr ⟨d, (hD a d).mpr ⟨x, hx⟩, hp⟩
    · exact (hr a hk).mpr ⟨d, (hE a d).mpr ⟨x, hx⟩, hp⟩

/-! ## `n + k` -/

/-- `d` is what an `n + k` pattern with literal `a` hands on when matched against `v`: the exact
difference, provided it is non-negative, at the rational level iff `v` or `a` is a rational -/
def PlusOperand (v a d : Val) : Prop :=
  ∃ xv xa, exactNum v = some xv ∧ exactNum a = some xa ∧ xv - xa ≥ 0 ∧
    d = mkNum (isRatVal v || isRatVal a) (xv - xa)

/-- the left side is the body the two `.plus` arms of `destructure` share, `mk` the order of the
operands in the result (`times_char` likewise) -/
theorem plus_char (v a : Val) (mk : Val → List Val) (parts : List Val) :
    (if isNum v && isNum a then
        match arith (· - ·) v a with
        | .ok diff => (match exactNum diff with
            | some d => if d ≥ 0 then Out.ok (mk diff) else .throw
            | none => .throw)
        | r => r.map fun _ => []
       else .throw) = .ok parts ↔
    ∃ d, PlusOperand v a d ∧ parts = mk d := by
  constructor
  · intro h
    split at h
    · cases har : arith (· - ·) v a with
      | ok diff =>
        obtain ⟨xv, xa, hv, ha⟩ := arith_ok_exact _ v a diff har
        obtain ⟨hde, hlvl⟩ := arith_exact (· - ·) v a diff xv xa hv ha (den_one_sub xv xa) har
        simp only [har, hde] at h
        split at h
        · next hge =>
          exact ⟨diff, ⟨xv, xa, hv, ha, hge, val_eq_mkNum diff _ _ hde hlvl⟩, (Out.ok.inj h).symm⟩
        · cases h
      | throw => simp [har, Out.map] at h
      | panic => simp [har, Out.map] at h
    · cases h
  · rintro ⟨d, ⟨xv, xa, hv, ha, hge, rfl⟩, rfl⟩
    have har := arith_eq (· - ·) v a xv xa hv ha
    have hde := exactNum_mkNum_level v a xv xa (xv - xa) hv ha (den_one_sub xv xa)
    simp [exactNum_isNum v xv hv, exactNum_isNum a xa ha, har, hde, hge]

/-- the right side is what `Inverts .plus` says of the open operand `d` -/
theorem plusOperand_iff (v a d : Val) :
    PlusOperand v a d ↔
    ∃ x, construct .plus [a, d] = .ok x ∧ veq x v = true ∧
      isRatVal d = (isRatVal v || isRatVal a) ∧ (∃ q, exactNum d = some q ∧ q ≥ 0) ∧ (∃ qv, exactNum v = some qv) := by
  constructor
  · rintro ⟨xv, xa, hv, ha, hge, rfl⟩
    have hde := exactNum_mkNum_level v a xv xa (xv - xa) hv ha (den_one_sub xv xa)
    have hx := arith_eq (· + ·) a _ xa (xv - xa) ha hde
    have hxe := (arith_exact (· + ·) a _ _ xa (xv - xa) ha hde (den_one_add _ _) hx).1
    refine ⟨_, hx, (veq_exact_iff _ v _ _ hxe hv).mpr ?_, isRatVal_mkNum _ _, ⟨_, hde, hge⟩, ⟨xv, hv⟩⟩
    rw [Rat.add_comm, Rat.sub_add_cancel]
  · rintro ⟨x, hc, hveq, hlvl, ⟨q, hq, hge⟩, ⟨qv, hqv⟩⟩
    obtain ⟨xa, _, hxa, _⟩ := construct_ok_exact .plus (Or.inl rfl) a d x hc
    have hxe := construct_plus_exact a d x xa q hxa hq hc
    have hsum : xa + q = qv := (veq_exact_iff x v _ _ hxe hqv).mp hveq
    have hqeq : qv - xa = q := by rw [← hsum, Rat.add_comm, Rat.add_sub_cancel]
    exact ⟨qv, xa, hqv, hxa, by rw [hqeq]; exact hge, by rw [hqeq]; exact val_eq_mkNum d q _ hq hlvl⟩

theorem plus_iff_Inverts (known : List (Option Val)) (v : Val) (parts : List Val) :
    destructure .plus v known = .ok parts ↔ Inverts .plus known v parts := by
  simp only [Inverts]
  refine literal_layouts (plusOperand_iff v)
    (fun a d => by rw [construct_plus_comm]; exact plusOperand_iff v a d) ?_ ?_ ?_
  · rintro a rfl
    exact plus_char v a _ parts
  · rintro a rfl
    exact plus_char v a _ parts
  · intro h1 h2
    -- `h1`, `h2` select the catch-all arm of the `match known`
    simp only [destructure]

/-- **`constructor_inverse` for `n + k` patterns** (completeness): a sum of the literal and a
non-negative number is taken apart into that literal and (a number equal to) the other operand. -/
theorem plus_inverse_complete (a d v : Val) (xa xd : Rat)
    (ha : exactNum a = some xa) (hd : exactNum d = some xd) (hge : xd ≥ 0)
    (hc : construct .plus [a, d] = .ok v) :
    ∃ d', destructure .plus v [some a, none] = .ok [a, d'] ∧ veq d' d = true := by
  have hv := construct_plus_exact a d v xa xd ha hd hc
  have hxd : xa + xd - xa = xd := by rw [Rat.add_comm, Rat.add_sub_cancel]
  have hde := exactNum_mkNum_level v a (xa + xd) xa (xa + xd - xa) hv ha (den_one_sub _ _)
  refine ⟨_, (plus_char v a (fun d => [a, d]) _).mpr ⟨_, ⟨xa + xd, xa, hv, ha, ?_, rfl⟩, rfl⟩,
    (veq_exact_iff _ d _ _ hde hd).mpr hxd⟩
  rw [hxd]; exact hge

/-! ## `k * n` -/

theorem ratFloor_int (t : Int) : ratFloor (t : Rat) = t := by
  unfold ratFloor; simp

theorem trunc_int (t : Int) :
    (if (t : Rat) ≥ 0 then ratFloor (t : Rat) else -(ratFloor (-(t : Rat)))) = t := by
  have h2 : (-(t : Rat)) = ((-t : Int) : Rat) := by simp
  split
  · exact ratFloor_int t
  · rw [h2, ratFloor_int]; omega

/-- `rem` and `div_floor` by a non-zero exact literal: the remainder is zero exactly for the whole
multiples, and then the floored quotient is the multiplier -/
theorem times_code (v a : Val) (xv xa : Rat) (hv : exactNum v = some xv) (ha : exactNum a = some xa)
    (hnz : xa ≠ 0) :
    ∃ r, remNum v a = .ok r ∧ (isNonzero r = false ↔ ∃ t : Int, xv = xa * t) ∧
      ∀ t : Int, xv = xa * t → divFloorNum v a = .ok (mkNum (isRatVal v || isRatVal a) (t : Rat)) := by
  have hxa : (xa == 0) = false := by simpa using hnz
  have hq : ∀ t : Int, xv = xa * t → xv / xa = t := fun t ht => by rw [ht, Rat.mul_comm, Rat.mul_div_cancel hnz]
  have hr : remNum v a = .ok (mkNum (isRatVal v || isRatVal a)
      (xv - xa * ((if xv / xa ≥ 0 then ratFloor (xv / xa) else -(ratFloor (-(xv / xa))) : Int) : Rat))) := by
    unfold remNum; rw [hv, ha]; simp only [hxa, Bool.false_eq_true, if_false]
  refine ⟨_, hr, ?_, fun t ht => ?_⟩
  · -- the remainder is represented exactly, so `isNonzero` tests it
    rw [← Bool.not_eq_true, isNonzero_exact _ _ (exactNum_mkNum_level v a xv xa _ hv ha
      (fun h1 h2 => den_one_sub _ _ h1 (den_one_mul _ _ h2 (by simp)))), Decidable.not_not]
    constructor
    · intro h0
      exact ⟨_, by rw [← Rat.sub_add_cancel (a := xv), h0, Rat.zero_add]⟩
    · rintro ⟨t, ht⟩
      rw [hq t ht, trunc_int, ht]; exact Rat.sub_self
  · unfold divFloorNum
    simp [hv, ha, hxa, hq t ht, ratFloor_int]

/-- `k` is what a `k * n` pattern with literal `a` hands on when matched against `v`: the whole
quotient by the non-zero literal, at the rational level iff `v` or `a` is a rational -/
def TimesOperand (v a k : Val) : Prop :=
  ∃ xv xa, ∃ t : Int, exactNum v = some xv ∧ exactNum a = some xa ∧ xa ≠ 0 ∧ xv = xa * t ∧
    k = mkNum (isRatVal v || isRatVal a) (t : Rat)

theorem times_char (v a : Val) (mk : Val → List Val) (parts : List Val) :
    (if isNum v && isNum a then
        if !isNonzero a then .throw
        else match remNum v a with
          | .ok r => if isNonzero r then .throw else (divFloorNum v a).map mk
          | r => r.map fun _ => []
       else .throw) = Out.ok parts ↔
    ∃ k, TimesOperand v a k ∧ parts = mk k := by
  -- unless both operands are exact and the literal is non-zero, both sides are false
  cases hv : exactNum v with
  | none => simp [remNum, hv, TimesOperand, Out.map]
  | some xv =>
    cases ha : exactNum a with
    | none => simp [remNum, hv, ha, TimesOperand, Out.map]
    | some xa =>
      by_cases hnz : xa = 0
      · simp [isNonzero, hv, ha, hnz, TimesOperand]
      · obtain ⟨r, hr, hr0, hdiv⟩ := times_code v a xv xa hv ha hnz
        have hnz' : isNonzero a = true := (isNonzero_exact a xa ha).mpr hnz
        simp only [exactNum_isNum v xv hv, exactNum_isNum a xa ha, hnz', hr, Bool.and_self, Bool.not_true,
          Bool.false_eq_true, if_true, if_false]
        constructor
        · intro h
          split at h
          · cases h
          · next h0 =>
            obtain ⟨t, ht⟩ := hr0.mp (by simpa using h0)
            rw [hdiv t ht] at h
            exact ⟨_, ⟨xv, xa, t, hv, ha, hnz, ht, rfl⟩, (Out.ok.inj h).symm⟩
        · rintro ⟨k, ⟨xv', xa', t, hv', ha', _, ht, rfl⟩, hp⟩
          cases hv.symm.trans hv'; cases ha.symm.trans ha'
          simp [hr0.mpr ⟨t, ht⟩, hdiv t ht, Out.map, hp]

/-- the right side is what `Inverts .times` says of the open factor `k` -/
theorem timesOperand_iff (v a k : Val) :
    TimesOperand v a k ↔
    ∃ x, construct .times [a, k] = .ok x ∧ veq x v = true ∧
      isRatVal k = (isRatVal v || isRatVal a) ∧ isNonzero a = true ∧
      (∃ q, exactNum k = some q ∧ q.den = 1) ∧ (∃ qv, exactNum v = some qv) := by
  constructor
  · rintro ⟨xv, xa, t, hv, ha, hnz, ht, rfl⟩
    have hke : exactNum (mkNum (isRatVal v || isRatVal a) (t : Rat)) = some (t : Rat) :=
      exactNum_mkNum _ _ (by intro _; simp)
    have hx := arith_eq (· * ·) a _ xa t ha hke
    have hxe := (arith_exact (· * ·) a _ _ xa t ha hke (den_one_mul _ _) hx).1
    exact ⟨_, hx, (veq_exact_iff _ v _ _ hxe hv).mpr ht.symm, isRatVal_mkNum _ _,
      (isNonzero_exact a xa ha).mpr hnz, ⟨_, hke, by simp⟩, ⟨xv, hv⟩⟩
  · rintro ⟨x, hc, hveq, hlvl, hnz, ⟨q, hq, hden⟩, ⟨qv, hqv⟩⟩
    obtain ⟨t, rfl⟩ := (den_one_iff q).mp hden
    obtain ⟨xa, _, hxa, _⟩ := construct_ok_exact .times (Or.inr rfl) a k x hc
    have hxe := construct_times_exact a k x xa t hxa hq hc
    have hprod : xa * t = qv := (veq_exact_iff x v _ _ hxe hqv).mp hveq
    exact ⟨qv, xa, t, hqv, hxa, (isNonzero_exact a xa hxa).mp hnz, hprod.symm, val_eq_mkNum k t _ hq hlvl⟩

theorem times_iff_Inverts (known : List (Option Val)) (v : Val) (parts : List Val) :
    destructure .times v known = .ok parts ↔ Inverts .times known v parts := by
  simp only [Inverts]
  refine literal_layouts (timesOperand_iff v)
    (fun a k => by rw [construct_times_comm]; exact timesOperand_iff v a k) ?_ ?_ ?_
  · rintro a rfl
    exact times_char v a _ parts
  · rintro a rfl
    exact times_char v a _ parts
  · intro h1 h2
    -- `h1`, `h2` select the catch-all arm of the `match known`
    simp only [destructure]

/-! ## `a / b`, `-x`, `h .+ t`, `xs +. x`, comparison chains -/

theorem divide_iff_Inverts (known : List (Option Val)) (v : Val) (parts : List Val) :
    destructure .divide v known = .ok parts ↔ Inverts .divide known v parts := by
  simp only [destructure, Inverts]
  constructor
  · intro h
    split at h
    · next n =>
      simp at h; subst h
      exact ⟨n, 1, (n : Rat), by simp [exactNum], rfl, Int.one_pos, by simp [Rat.mkRat_one], by simp⟩
    · next q =>
      simp at h; subst h
      have hpos : q.den > 0 := Nat.pos_of_ne_zero q.den_nz
      exact ⟨q.num, q.den, q, by simp [exactNum], rfl, Int.natCast_pos.mpr hpos, by simp [Rat.mkRat_self], by simpa using q.reduced⟩
    · simp at h
  · rintro ⟨n, d, q, hq, hp, hd, hmk, hco⟩
    have hdn : d.toNat ≠ 0 := Nat.ne_of_gt (Int.pos_iff_toNat_pos.mp hd)
    have hnd : q.num = n ∧ q.den = d.toNat := by
      rw [hmk, ← Rat.mk_eq_mkRat n d.toNat hdn hco]; exact ⟨rfl, rfl⟩
    have hdd : ((d.toNat : Nat) : Int) = d := Int.toNat_of_nonneg (Int.le_of_lt hd)
    cases v <;> simp [exactNum] at hq
    · rename_i m
      subst hq
      simp at hnd
      subst hp
      have : d = 1 := by omega
      simp [hnd.1, this]
    · rename_i r
      subst hq
      subst hp
      simp [hnd.1, hnd.2, hdd]

/-- **`constructor_inverse` for `a / b` patterns**: numerator and denominator in lowest terms,
denominator positive, and their quotient is the matched value. -/
theorem divide_inverse (v : Val) (known : List (Option Val)) (parts : List Val)
    (h : destructure .divide v known = .ok parts) :
    ∃ n d x, parts = [.int n, .int (d : Nat)] ∧ d > 0 ∧ Nat.Coprime n.natAbs d ∧
      construct .divide [.int n, .int (d : Nat)] = .ok x ∧ veq x v = true := by
  obtain ⟨n, d, q, hq, rfl, hd, rfl, hco⟩ := (divide_iff_Inverts known v parts).mp h
  have hdd : ((d.toNat : Nat) : Int) = d := Int.toNat_of_nonneg (Int.le_of_lt hd)
  refine ⟨n, d.toNat, .rat ((n : Rat) / (((d.toNat : Nat) : Int) : Rat)), by rw [hdd], Int.pos_iff_toNat_pos.mp hd, hco, ?_, ?_⟩
  · simp [construct, exactNum]
    omega
  · refine (veq_exact_iff _ v _ _ rfl hq).mpr ?_
    rw [Rat.mkRat_eq_div, Rat.intCast_natCast]

theorem minus_iff_Inverts (known : List (Option Val)) (v : Val) (parts : List Val) :
    destructure .minus v known = .ok parts ↔ Inverts .minus known v parts := by
  simp only [destructure, Inverts]
  split
  · next k =>
    constructor
    · intro h
      obtain ⟨x, hn, hp⟩ := Out.map_eq_ok h
      exact ⟨x, rfl, hp.symm, hn⟩
    · rintro ⟨x, _, hp, hn⟩
      simp [hn, Out.map, hp]
  · next hne =>
    constructor
    · intro h; simp at h
    · rintro ⟨x, hl, _, _⟩
      match known, hl with
      | [k], _ => exact absurd rfl (hne k)

/-- **`constructor_inverse` for `-x` patterns** on exact numbers: negating what the pattern binds
gives the matched value back -/
theorem minus_inverse (v : Val) (k : Option Val) (parts : List Val) (q : Rat)
    (hv : exactNum v = some q) (h : destructure .minus v [k] = .ok parts) :
    ∃ x, parts = [x] ∧ construct .minus [x] = .ok v := by
  simp only [destructure] at h
  cases v <;> simp [exactNum] at hv <;> simp [negVal, Out.map] at h <;> subst h
  · exact ⟨_, rfl, by simp [construct, negVal]⟩
  · exact ⟨_, rfl, by simp [construct, negVal]⟩

theorem prepend_iff_Inverts (known : List (Option Val)) (v : Val) (parts : List Val) :
    destructure .prepend v known = .ok parts ↔ Inverts .prepend known v parts := by
  simp only [destructure, Inverts]
  constructor
  · intro h
    split at h <;> simp at h
    next hd tl hu => exact ⟨hd, tl, h.symm, hu⟩
  · rintro ⟨hd, tl, hp, hu⟩
    simp [hu, hp]

theorem append_iff_Inverts (known : List (Option Val)) (v : Val) (parts : List Val) :
    destructure .append v known = .ok parts ↔ Inverts .append known v parts := by
  simp only [destructure, Inverts]
  constructor
  · intro h
    split at h <;> simp at h
    next tl l hu => exact ⟨tl, l, h.symm, hu⟩
  · rintro ⟨tl, l, hp, hu⟩
    simp [hu, hp]

/-- **`constructor_inverse` for `h .+ t`**: on lists, vectors and bytes (where `prepend` is
defined) the pattern binds exactly the operands whose `prepend` is the matched value; the same
`uncons` also takes strings, streams and dicts apart, which `prepend` cannot build. -/
theorem prepend_inverse (v : Val) (known : List (Option Val)) (parts : List Val)
    (h : destructure .prepend v known = .ok parts) :
    ∃ hd tl, parts = [hd, tl] ∧ uncons v = .ok (some (hd, tl)) ∧
      ((∃ xs, v = .list xs) → construct .prepend [hd, tl] = .ok v) := by
  obtain ⟨hd, tl, rfl, hu⟩ := (prepend_iff_Inverts known v parts).mp h
  refine ⟨hd, tl, rfl, hu, ?_⟩
  rintro ⟨xs, rfl⟩
  cases xs with
  | nil => simp [uncons] at hu
  | cons x xs => simp [uncons] at hu; obtain ⟨rfl, rfl⟩ := hu; simp [construct]

theorem prepend_complete (x : Val) (xs : List Val) :
    destructure .prepend (.list (x :: xs)) [none, none] = .ok [x, .list xs] := by
  simp [destructure, uncons]

/-- **`constructor_inverse` for `xs +. x`** -/
theorem append_inverse (v : Val) (known : List (Option Val)) (parts : List Val)
    (h : destructure .append v known = .ok parts) :
    ∃ tl l, parts = [tl, l] ∧ unsnoc v = .ok (some (tl, l)) ∧
      ((∃ xs, v = .list xs) → construct .append [tl, l] = .ok v) := by
  obtain ⟨tl, l, rfl, hu⟩ := (append_iff_Inverts known v parts).mp h
  refine ⟨tl, l, rfl, hu, ?_⟩
  rintro ⟨xs, rfl⟩
  simp only [unsnoc] at hu
  cases hl : xs.getLast? with
  | none => simp [hl] at hu
  | some last =>
    simp [hl] at hu
    obtain ⟨rfl, rfl⟩ := hu
    simp only [construct]
    congr 2
    have hne : xs ≠ [] := by intro h0; subst h0; simp at hl
    have := List.dropLast_concat_getLast hne
    rw [List.getLast?_eq_some_getLast hne] at hl
    simp at hl
    rw [hl] at this
    exact this

theorem append_complete (xs : List Val) (x : Val) :
    destructure .append (.list (xs ++ [x])) [none, none] = .ok [.list xs, x] := by
  simp [destructure, unsnoc]

/-- `Inverts (.cmp ops)` says where the open slots are filled from as a case distinction on their
number; `destructure` computes the same as an `Option` after refusing zero slots -/
theorem cmp_rvalues (n : Nat) (v : Val) (rvs : List Val) :
    (if n = 1 then rvs = [v] else n ≠ 0 ∧ seqItems v = some rvs) ↔
      n ≠ 0 ∧ (if n = 1 then some [v] else seqItems v) = some rvs := by
  by_cases h1 : n = 1
  · simp [h1, eq_comm]
  · simp [h1]

theorem cmp_iff_Inverts (ops : List CmpOp) (known : List (Option Val)) (v : Val) (parts : List Val) :
    destructure (.cmp ops) v known = .ok parts ↔ Inverts (.cmp ops) known v parts := by
  simp only [destructure, Inverts, cmp_rvalues, bne_iff_ne, beq_iff_eq, ne_eq]
  constructor
  · -- the tests of the `.cmp` arm in order: arity, an open slot, the values to fill from,
    -- `fillSlots`, the chain
    intro h
    split at h
    · cases h
    · next hlen =>
      split at h
      · cases h
      · next h0 =>
        split at h
        · cases h
        · next rvs hr =>
          split at h
          · cases h
          · next ret hf =>
            split at h
            · next hc =>
              cases h
              exact ⟨Decidable.of_not_not hlen, rvs, ⟨h0, hr⟩, hf, hc⟩
            · cases h
            · cases h
            · cases h
  · rintro ⟨hlen, rvs, ⟨h0, hr⟩, hf, hc⟩
    simp [hlen, h0, hr, hf, hc]

/-- comparison patterns `lo < x < hi`: with one open slot the pattern binds the value itself, and
it is accepted exactly when the whole chain holds -/
theorem cmp_inverse (ops : List CmpOp) (v : Val) (known : List (Option Val)) (parts : List Val)
    (h : destructure (.cmp ops) v known = .ok parts) :
    ops.length + 1 = known.length ∧ cmpChain ops parts = .ok true ∧
      ((known.filter Option.isNone).length = 1 → fillSlots known [v] = some parts) := by
  obtain ⟨hl, rvs, hr, hf, hc⟩ := (cmp_iff_Inverts ops known v parts).mp h
  refine ⟨hl, hc, fun h1 => ?_⟩
  rw [if_pos h1] at hr
  rw [← hr]; exact hf

theorem other_refuses (t : Nat) (v : Val) (known : List (Option Val)) :
    destructure (.other t) v known = .throw := destructure_other t v known

end Noulith.C12
