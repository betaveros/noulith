/-
C14, part 2 — the no-panic theorems of the modelled core, collected from the property files that
prove them (each is re-exported under this property's name with its original statement, so that a
change that breaks one of them breaks C14's obligations too).  What these cover: integer operators (the
numeric tower is in C14Tower.lean), comparison, indexing / slicing, pattern assignment / switch /
destructuring, the lexer and literal decoding, the text and byte codecs.
-/
import NoulithModel.Theorems.C06
import NoulithModel.Theorems.C08
import NoulithModel.Theorems.C10
import NoulithModel.Theorems.C12
import NoulithModel.Theorems.C15
import NoulithModel.Theorems.C16
import NoulithModel.Theorems.C10State
import NoulithModel.Theorems.C12NoRollback

namespace Noulith.C14Core

theorem int_operators_no_panic : type_of% @Noulith.C06.binop_no_panic := @Noulith.C06.binop_no_panic
theorem comparison_no_panic : type_of% @Noulith.C08.ncmp_no_panic := @Noulith.C08.ncmp_no_panic
theorem index_never_panics : type_of% @Noulith.C10.index_never_panics := @Noulith.C10.index_never_panics
theorem slice_never_panics : type_of% @Noulith.C10.slice_never_panics := @Noulith.C10.slice_never_panics
theorem indexing_no_panic : type_of% @Noulith.C10.index_no_panic := @Noulith.C10.index_no_panic
theorem slicing_no_panic : type_of% @Noulith.C10.slice_no_panic := @Noulith.C10.slice_no_panic
theorem is_type_no_panic : type_of% @Noulith.C12.isType_no_panic := @Noulith.C12.isType_no_panic
theorem set_index_no_panic : type_of% @Noulith.C12.setIndex_no_panic := @Noulith.C12.setIndex_no_panic
theorem pattern_assign_no_panic : type_of% @Noulith.C12.assign_no_panic := @Noulith.C12.assign_no_panic
theorem unpacking_no_panic : type_of% @Noulith.C12.assignItems_no_panic := @Noulith.C12.assignItems_no_panic
theorem destructure_no_panic : type_of% @Noulith.C12.destructure_no_panic := @Noulith.C12.destructure_no_panic
theorem switch_no_panic : type_of% @Noulith.C12.switchArm_no_panic := @Noulith.C12.switchArm_no_panic
theorem lexer_never_panics : type_of% @Noulith.C15.lex_never_panics := @Noulith.C15.lex_never_panics
theorem literal_evaluation_no_panic : type_of% @Noulith.C15.parseEvalLit_no_panic := @Noulith.C15.parseEvalLit_no_panic
theorem format_scanner_no_panic : type_of% @Noulith.C15.fmtLoop_no_panic := @Noulith.C15.fmtLoop_no_panic
theorem hex_decode_no_panic : type_of% @Noulith.C16.hexDecode_no_panic := @Noulith.C16.hexDecode_no_panic
theorem base64_decode_no_panic : type_of% @Noulith.C16.b64Decode_no_panic := @Noulith.C16.b64Decode_no_panic
theorem utf8_decode_no_panic : type_of% @Noulith.C16.utf8DecodeB_no_panic := @Noulith.C16.utf8DecodeB_no_panic
theorem rational_of_str_no_panic : type_of% @Noulith.C16.rationalOfStr_no_panic := @Noulith.C16.rationalOfStr_no_panic
theorem int_of_str_no_panic : type_of% @Noulith.C16.intOfStr_no_panic := @Noulith.C16.intOfStr_no_panic
theorem str_radix_no_panic : type_of% @Noulith.C16.strRadix_no_panic := @Noulith.C16.strRadix_no_panic
theorem int_radix_no_panic : type_of% @Noulith.C16.intRadix_no_panic := @Noulith.C16.intRadix_no_panic
theorem decompress_no_panic : type_of% @Noulith.C16.decompress_no_panic := @Noulith.C16.decompress_no_panic
theorem chr_no_panic : type_of% @Noulith.C16.chr_no_panic := @Noulith.C16.chr_no_panic
theorem ord_no_panic : type_of% @Noulith.C16.ord_no_panic := @Noulith.C16.ord_no_panic

/-! the parser model always answers (accepts or rejects): no input makes it run out of its linear fuel,
so parsing never hangs -/
theorem parser_always_answers : type_of% @Noulith.C15.parse_decides := @Noulith.C15.parse_decides

/-! "after a caught error … variables not named by the failing statement keep their values", and the
named one too when the write is refused: a raising indexed write / pop / remove leaves the variable as
it was, on every sequence kind -/
theorem failed_indexed_write_preserves_variable : type_of% @Noulith.C10.failed_write_preserves := @Noulith.C10.failed_write_preserves
theorem failed_pop_remove_preserves_variable : type_of% @Noulith.C10.failed_modify_preserves := @Noulith.C10.failed_modify_preserves

/-! pattern assignment of EVERY pattern (alternatives without rollback included) ends in acceptance or a
catchable refusal with the environment the Spec states, never a panic -/
theorem pattern_assign_all_patterns : type_of% @Noulith.C12.assign_eq_specNR := @Noulith.C12.assign_eq_specNR

end Noulith.C14Core
