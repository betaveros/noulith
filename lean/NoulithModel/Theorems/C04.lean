/-
C04 — Operators are ordinary functions: all application forms agree.

Property theorems about the Impl model `NoulithModel/Impl/Apply.lean` (the three entry points of
every builtin family of lib.rs, `Func::run/run1/run2`, `call_or_part_apply`, the sections and the
`Call`/`Chain`/`List`/`OpAssign` arms of `evaluate`) against `NoulithModel/Spec/ApplySpec.lean`
(every form denotes the plain call).  Builtin and closure *bodies* are universally quantified
(`World`, `Bodies`): nothing below depends on what a builtin computes, and everything holds for
every callable `f : Func` — builtins of every family, closures, and all combinations by
PartialApp1/2/Last, Flip, Composition, OnComposition and the sections, to any depth.
-/
import NoulithModel.Spec.ApplySpec
import NoulithModel.Generated.C04Tables
import NoulithModel.Lemmas.Out

namespace Noulith.C04
open Noulith Noulith.Apply Noulith.ApplySpec

/-! ## the three entry points of every builtin family are extensionally equal -/

theorem family_coherent1 (F : Family) (B : Bodies) (self : Func) (a : Val) :
    F.run B self [a] = F.run1 B self a := by
  cases F <;> rfl

theorem family_coherent2 (F : Family) (B : Bodies) (self : Func) (a b : Val) :
    F.run B self [a, b] = F.run2 B self a b := by
  cases F <;> rfl

def Coherent (F : Family) : Prop :=
  ∀ (B : Bodies) (self : Func) (a b : Val),
    F.run B self [a] = F.run1 B self a ∧ F.run B self [a, b] = F.run2 B self a b

theorem family_coherent (F : Family) : Coherent F :=
  fun B self a b => ⟨family_coherent1 F B self a, family_coherent2 F B self a b⟩

/-- where `run` says `self.run1(..)` / `self.run2(..)` the model inlined the override; this is
the check that the inlining is faithful: whenever an override exists, `run` on one / two
arguments IS the override -/
theorem run_uses_override1 (F : Family) (B : Bodies) (self : Func) (a : Val) (r : Out Val)
    (h : F.run1Override B self a = some r) : F.run B self [a] = r := by
  rw [family_coherent1, Family.run1, h]

theorem run_uses_override2 (F : Family) (B : Bodies) (self : Func) (a b : Val) (r : Out Val)
    (h : F.run2Override B a b = some r) : F.run B self [a, b] = r := by
  rw [family_coherent2, Family.run2, h]

/-- non-vacuity: a family where `run1` really is a separate piece of code with its own guard, and
the bodies are distinguishable -/
example : let B : Bodies := ⟨fun a => .ok a, fun _ b => .ok b, fun _ => .panic⟩
    Family.run .seqFold B default [.atom .list 1] = .ok (.atom .list 1) ∧
    Family.run1 .seqFold B default (.func (.closure 3)) = .ok (.func (.partialApp2 default (.func (.closure 3)))) ∧
    Family.run2 .seqFold B default (.atom .num 1) (.atom .num 2) = .throw := by
  intro B; exact ⟨rfl, rfl, rfl⟩

/-! ## `Func::run`, `run1`, `run2` agree on every callable -/

theorem run2Of_eq (W : World) (f : Func) (a b : Val) :
    run2Of W f (Func.run W f) a b = f.run2 W a b := by
  cases f <;> rfl

/-! ### the arms of `Func::run` in the form the Rust source has them -/

/-- `Func::PartialApp1(f, x) => match few(args) { One(arg) => f.run2(env, x, arg) }` -/
theorem run_partialApp1 (W : World) (f : Func) (x a : Val) :
    (Func.partialApp1 f x).run W [a] = f.run2 W x a := run2Of_eq W f x a

/-- `Func::PartialApp2(f, x) => … f.run2(env, arg, x)` -/
theorem run_partialApp2 (W : World) (f : Func) (x a : Val) :
    (Func.partialApp2 f x).run W [a] = f.run2 W a x := run2Of_eq W f a x

/-- `Func::PartialAppLast(f, x) => { args.push(x); f.run(env, args) }` -/
theorem run_partialAppLast (W : World) (f : Func) (x : Val) (args : List Val) :
    (Func.partialAppLast f x).run W args = f.run W (args ++ [x]) := rfl

theorem run_flip_two (W : World) (f : Func) (a b : Val) :
    (Func.flip f).run W [a, b] = f.run2 W b a := run2Of_eq W f b a

theorem run_flip_one (W : World) (f : Func) (a : Val) :
    (Func.flip f).run W [a] = .ok (.func (.partialApp1 f a)) := rfl

theorem func_run_two (W : World) (f : Func) (a b : Val) : f.run W [a, b] = f.run2 W a b := by
  cases f with
  | builtin id F => exact family_coherent2 F (W.bodies id) _ a b
  | _ => rfl

theorem func_run_one (W : World) (f : Func) (a : Val) : f.run W [a] = f.run1 W a := by
  cases f with
  | builtin id F => exact family_coherent1 F (W.bodies id) _ a
  | partialApp1 g x => exact run_partialApp1 W g x a
  | partialApp2 g x => exact run_partialApp2 W g x a
  | _ => rfl

theorem run1Of_eq (W : World) (f : Func) (a : Val) :
    run1Of W f (Func.run W f) a = f.run1 W a := by
  cases f with
  | builtin id F => rfl
  | _ => exact func_run_one W _ a

/-- `Func::Composition(f, g) => f.run1(env, g.run(env, args)?)` -/
theorem run_composition (W : World) (f g : Func) (args : List Val) :
    (Func.composition f g).run W args = (g.run W args).bind (f.run1 W) := by
  simp only [Func.run]
  cases Func.run W g args
  · exact run1Of_eq W f _
  · rfl
  · rfl

theorem run_partialApp_arity (W : World) (f : Func) (x : Val) (args : List Val) (h : args.length ≠ 1) :
    (Func.partialApp1 f x).run W args = .throw ∧ (Func.partialApp2 f x).run W args = .throw := by
  match args, h with
  | [], _ => exact ⟨rfl, rfl⟩
  | _ :: _ :: _, _ => exact ⟨rfl, rfl⟩

/-! ## `splat_section_eval` and `apply_section` -/

@[simp] theorem bind_throw {α β} (f : α → Out β) : (Out.throw : Out α).bind f = .throw := Out.bind_throw f
@[simp] theorem bind_panic {α β} (f : α → Out β) : (Out.panic : Out α).bind f = .panic := Out.bind_panic f
@[simp] theorem map_ok {α β} (a : α) (f : α → β) : (Out.ok a).map f = .ok (f a) := rfl

/-- plain arguments in front are collected into the accumulator: the value list before any
underscore, the slot list (`sse_vals_then_inr`) after one -/
theorem sse_vals_then (W : World) (xs acc : List Val) (rest : List ArgE) :
    splatSectionEval W (xs.map .val ++ rest) (.inl acc) = splatSectionEval W rest (.inl (acc ++ xs)) := by
  induction xs generalizing acc with
  | nil => rw [List.map_nil, List.nil_append, List.append_nil]
  | cons x xs ih => rw [List.map_cons, List.cons_append, splatSectionEval, ih, List.append_assoc]; rfl

theorem sse_vals_then_inr (W : World) (xs : List Val) (acc : List Slot) (rest : List ArgE) :
    splatSectionEval W (xs.map .val ++ rest) (.inr acc) = splatSectionEval W rest (.inr (acc ++ xs.map .val)) := by
  induction xs generalizing acc with
  | nil => rw [List.map_nil, List.nil_append, List.map_nil, List.append_nil]
  | cons x xs ih => rw [List.map_cons, List.cons_append, splatSectionEval, ih, List.append_assoc]; rfl

theorem sse_vals (W : World) (vs acc : List Val) :
    splatSectionEval W (vs.map .val) (.inl acc) = .ok (.inl (acc ++ vs)) := by
  rw [← List.append_nil (vs.map _), sse_vals_then]; rfl

theorem sse_vals_inr (W : World) (vs : List Val) (acc : List Slot) :
    splatSectionEval W (vs.map .val) (.inr acc) = .ok (.inr (acc ++ vs.map .val)) := by
  rw [← List.append_nil (vs.map _), sse_vals_then_inr]; rfl

/-- `f(a, _, c)`: one underscore at position `|pre|` -/
theorem sse_one_hole (W : World) (pre post : List Val) :
    splatSectionEval W (pre.map .val ++ [.under] ++ post.map .val) (.inl []) =
      .ok (.inr (pre.map .val ++ [.hole false] ++ post.map .val)) := by
  rw [List.append_assoc, sse_vals_then, List.singleton_append, splatSectionEval, sse_vals_inr]; rfl

theorem sse_all_holes (W : World) (n : Nat) (acc : List Slot) :
    splatSectionEval W (List.replicate n .under) (.inr acc) =
      .ok (.inr (acc ++ List.replicate n (.hole false))) := by
  induction n generalizing acc with
  | zero => rw [List.replicate_zero, List.replicate_zero, List.append_nil]; rfl
  | succ n ih => rw [List.replicate_succ, splatSectionEval, ih, List.append_assoc]; rfl

theorem sse_splat_list (W : World) (pre xs : List Val) :
    splatSectionEval W (pre.map .val ++ [.splat (.list xs)]) (.inl []) = .ok (.inl (pre ++ xs)) := by
  rw [sse_vals_then]; rfl

theorem applySection_vals_then (W : World) (vs : List Val) (rest : List Slot) (args : List Val) :
    applySection W (vs.map .val ++ rest) args = (applySection W rest args).map (vs ++ ·) := by
  induction vs with
  | nil =>
    show applySection W rest args = _
    cases applySection W rest args <;> rfl
  | cons v vs ih =>
    rw [List.map_cons, List.cons_append, applySection, ih]
    cases applySection W rest args <;> rfl

theorem applySection_vals (W : World) (vs : List Val) (args : List Val) :
    applySection W (vs.map .val) args = .ok vs := by
  rw [← List.append_nil (vs.map _), applySection_vals_then, applySection, map_ok, List.append_nil]

theorem applySection_one_hole (W : World) (pre post : List Val) (x : Val) :
    applySection W (pre.map .val ++ [.hole false] ++ post.map .val) [x] = .ok (pre ++ [x] ++ post) := by
  rw [List.append_assoc, applySection_vals_then, List.singleton_append, applySection, applySection_vals,
    map_ok, map_ok, List.append_assoc]; rfl

theorem applySection_all_holes (W : World) (args : List Val) :
    applySection W (List.replicate args.length (.hole false)) args = .ok args := by
  induction args with
  | nil => rfl
  | cons a args ih => rw [List.length_cons, List.replicate_succ, applySection, ih]; rfl

theorem applySection_too_few (W : World) (pre : List Val) (rest : List Slot) (s : Bool) :
    applySection W (pre.map .val ++ .hole s :: rest) [] = .throw := by
  rw [applySection_vals_then, applySection]; rfl

/-! ## every surface form denotes the plain call -/

theorem app_eq (W : World) (f : Func) (args : List Val) : app W f args = f.run W args := rfl

/-- `f(a, b, …)` and `f ! a, b, …`: `Expr::Call` → `call_or_part_apply` → `Func::run` -/
theorem evalCall_vals (W : World) (f : Func) (args : List Val) :
    evalCall W (some (.func f)) (args.map .val) = f.run W args := by
  simp only [evalCall, sse_vals, callOrPartApply, List.nil_append]

theorem evalList_vals (W : World) (vs : List Val) : evalList W (vs.map .val) = .ok (.list vs) := by
  simp only [evalList, sse_vals, List.nil_append]

/-- a call with underscores builds `CallSection(Some(f), slots)`; calling that fills the slots and
runs `f` on the restored tuple.  Every call-section form below is this with its own slot list. -/
theorem call_section_then_call (W : World) (f : Func) (as : List ArgE) (slots : List Slot)
    (vs real : List Val) (h1 : splatSectionEval W as (.inl []) = .ok (.inr slots))
    (h2 : applySection W slots vs = .ok real) :
    ((evalCall W (some (.func f)) as).bind fun g => evalCall W (some g) (vs.map .val)) = f.run W real := by
  simp only [evalCall, h1, Out.bind_ok, sse_vals, callOrPartApply, List.nil_append, Func.run, h2]

/-- `f(a, _, c)(b)`: an underscore in any one position of a call of any arity -/
theorem call_section_one_hole (W : World) (f : Func) (args : List Val) (i : Nat) (hi : i < args.length) :
    evalForm W (.secHole i) f args = app W f args := by
  have hsplit : args.take i ++ [args[i]] ++ args.drop (i + 1) = args := by simp
  simp only [evalForm, List.getElem?_eq_getElem hi]
  refine (call_section_then_call W f _ _ [args[i]] _ (sse_one_hole W _ _)
    (applySection_one_hole W _ _ _)).trans ?_
  rw [hsplit]; rfl

/-- `f(_, b)(a)` and `f(a, _)(b)` -/
theorem call_sections_agree (W : World) (f : Func) (a b : Val) :
    evalForm W (.secHole 0) f [a, b] = app W f [a, b] ∧ evalForm W (.secHole 1) f [a, b] = app W f [a, b] :=
  ⟨call_section_one_hole W f [a, b] 0 Nat.zero_lt_two, call_section_one_hole W f [a, b] 1 Nat.one_lt_two⟩

/-- `f(_, _, …)(a, b, …)` -/
theorem call_section_all_holes (W : World) (f : Func) (args : List Val) (h : args ≠ []) :
    evalForm W .secAll f args = app W f args := by
  obtain ⟨a, rest, rfl⟩ := List.exists_cons_of_ne_nil h
  refine call_section_then_call W f _ (List.replicate (a :: rest).length (.hole false)) _ _ ?_
    (applySection_all_holes W (a :: rest))
  rw [List.map_const', List.length_cons, List.replicate_succ, splatSectionEval, sse_all_holes]; rfl

/-- `[a, b, …] apply f` and `f of [a, b, …]` -/
theorem apply_of_agree (W : World) (f : Func) (args : List Val) :
    evalForm W .apply f args = app W f args ∧ evalForm W .of_ f args = app W f args := by
  constructor <;> simp only [evalForm, evalList_vals, Out.bind_ok] <;> rfl

/-- when `a` IS a function, `(a f)` is the call `a(f)` — the reason for the side condition -/
theorem juxt_function_is_call (W : World) (f g : Func) :
    evalCall W (some (.func g)) [.val (.func f)] = g.run W [.func f] :=
  evalCall_vals W g [.func f]

theorem callOrPartApply_nonfunc (W : World) (a : Val) (ha : a.isFunc = false) :
    (∀ f, callOrPartApply W a [.func f] = .ok (.func (.partialApp1 f a))) ∧
    (∀ x, x.isFunc = false → callOrPartApply W a [x] = .throw) ∧
    (∀ args, args.length ≠ 1 → callOrPartApply W a args = .throw) := by
  cases a with
  | func g => cases ha
  | _ =>
    refine ⟨fun f => rfl, fun x hx => ?_, fun args hl => ?_⟩
    · cases x with
      | func g => cases hx
      | _ => rfl
    · match args, hl with
      | [], _ => rfl
      | _ :: _ :: _, _ => rfl

/-- `f(...[a, b, …])` and `f(a, ...[b, …])` -/
theorem splat_agrees (W : World) (f : Func) (pre rest : List Val) :
    ((evalList W (rest.map .val)).bind fun l => evalCall W (some (.func f)) (pre.map .val ++ [.splat l])) =
      app W f (pre ++ rest) := by
  simp only [evalList_vals, Out.bind_ok, evalCall, sse_splat_list, callOrPartApply, app_eq]

/-! ## sections that mix `_`, `..._`, plain arguments and `...[…]` spreads in any order -/

/-- the slot list `splat_section_eval` builds for a mixed pattern -/
def mixSlots : List Mix → List Val → List Slot
  | [], _ => []
  | .lit k :: ps, args => (args.take k).map .val ++ mixSlots ps (args.drop k)
  | .spread k :: ps, args => (args.take k).map .val ++ mixSlots ps (args.drop k)
  | .hole :: ps, args => .hole false :: mixSlots ps (args.drop 1)
  | .spreadHole k :: ps, args => .hole true :: mixSlots ps (args.drop k)

/-- the values a placeholder-free pattern contributes -/
def mixVals : List Mix → List Val → List Val
  | [], _ => []
  | .lit k :: ps, args => args.take k ++ mixVals ps (args.drop k)
  | .spread k :: ps, args => args.take k ++ mixVals ps (args.drop k)
  | .hole :: ps, args => mixVals ps (args.drop 1)
  | .spreadHole k :: ps, args => mixVals ps (args.drop k)

theorem mixSlots_noholes (pat : List Mix) (args : List Val) (h : pat.any Mix.isHole = false) :
    mixSlots pat args = (mixVals pat args).map .val := by
  induction pat generalizing args with
  | nil => rfl
  | cons p ps ih =>
    cases p with
    | lit k | spread k => rw [mixSlots, mixVals, ih _ (Bool.or_eq_false_iff.mp h).2, List.map_append]
    | hole | spreadHole k => cases h

/-- once a placeholder has been seen, every later piece — in particular a `...[…]` spread — is
appended to the slot list element by element -/
theorem sse_mix_inr (W : World) (pat : List Mix) (args : List Val) (acc : List Slot) :
    splatSectionEval W (mixBuild pat args).1 (.inr acc) = .ok (.inr (acc ++ mixSlots pat args)) := by
  induction pat generalizing args acc with
  | nil => rw [mixSlots, List.append_nil]; rfl
  | cons p ps ih =>
    cases p with
    | lit k => rw [mixBuild, mixSlots, sse_vals_then_inr, ih, List.append_assoc]
    | spread k => rw [mixBuild, mixSlots, splatSectionEval]; simp only [iterVal]; rw [ih, List.append_assoc]
    | hole | spreadHole k => rw [mixBuild, mixSlots, splatSectionEval, ih, List.append_assoc]; rfl

/-- before the first placeholder the pieces are plain values; the first placeholder turns the
accumulated values into filled slots -/
theorem sse_mix (W : World) (pat : List Mix) (args acc : List Val) :
    splatSectionEval W (mixBuild pat args).1 (.inl acc) =
      .ok (if pat.any Mix.isHole then .inr (acc.map .val ++ mixSlots pat args)
        else .inl (acc ++ mixVals pat args)) := by
  induction pat generalizing args acc with
  | nil => rw [mixVals, List.append_nil]; rfl
  | cons p ps ih =>
    cases p with
    | lit k =>
      rw [mixBuild, mixSlots, mixVals, sse_vals_then, ih, List.map_append, List.append_assoc, List.append_assoc]
      rfl
    | spread k =>
      rw [mixBuild, mixSlots, mixVals, splatSectionEval]; simp only [iterVal]
      rw [ih, List.map_append, List.append_assoc, List.append_assoc]
      rfl
    | hole | spreadHole k => rw [mixBuild, mixSlots, splatSectionEval, sse_mix_inr, List.append_assoc]; rfl

theorem mixSize_drop {ps : List Mix} {args : List Val} {k : Nat} (h : k + mixSize ps = args.length) :
    mixSize ps = (args.drop k).length := by
  rw [List.length_drop]; omega

theorem applySection_mix (W : World) (pat : List Mix) (args : List Val) (h : mixSize pat = args.length) :
    applySection W (mixSlots pat args) (mixBuild pat args).2 = .ok args := by
  induction pat generalizing args with
  | nil =>
    cases args with
    | nil => rfl
    | cons a rest => cases h
  | cons p ps ih =>
    cases p with
    | lit k | spread k =>
      rw [mixSlots, mixBuild, applySection_vals_then, ih _ (mixSize_drop h), map_ok, List.take_append_drop]
    | hole =>
      cases args with
      | nil => simp [mixSize] at h
      | cons a rest =>
        rw [mixSlots, mixBuild]
        simp only [List.take_succ_cons, List.take_zero, List.drop_succ_cons, List.drop_zero,
          List.singleton_append, applySection, ih rest (mixSize_drop (k := 1) h), map_ok]
    | spreadHole k =>
      rw [mixSlots, mixBuild, applySection]
      simp only [iterVal, ih _ (mixSize_drop h), map_ok, List.take_append_drop]

/-- `f(_, ...[b, c])(a)`, `f(...[a], _, c)(b)`, `f(..._, c)([a, b])`, `f(_, ...[], b)(a)` …,
at any arity -/
theorem mixed_section_agrees (W : World) (f : Func) (pat : List Mix) (args : List Val)
    (hs : mixSize pat = args.length) (hh : pat.any Mix.isHole = true) :
    evalForm W (.secMix pat) f args = app W f args :=
  call_section_then_call W f _ _ _ _ ((sse_mix W pat args []).trans (by rw [if_pos hh]; rfl))
    (applySection_mix W pat args hs)

/-- the same for list sections: `[_, ...[b, c]](a)` is the list `[a, b, c]` -/
theorem mixed_list_section (W : World) (f : Func) (pat : List Mix) (args : List Val)
    (hs : mixSize pat = args.length) (hh : pat.any Mix.isHole = true) :
    evalForm W (.listMix pat) f args = .ok (.list args) := by
  simp only [evalForm, evalList, sse_mix, if_pos hh, Out.bind_ok, evalCall_vals, Func.run, List.map_nil,
    List.nil_append, applySection_mix W pat args hs, map_ok]

/-- non-vacuity: a spread AFTER a placeholder is spread too -/
example (W : World) (f : Func) (a b c : Val) :
    evalForm W (.secMix [.hole, .spread 2]) f [a, b, c] = app W f [a, b, c] ∧
    (mixBuild [.hole, .spread 2] [a, b, c]).1 = [.under, .splat (.list [b, c])] ∧
    evalForm W (.secMix [.spreadHole 2, .lit 1]) f [a, b, c] = app W f [a, b, c] :=
  ⟨mixed_section_agrees W f _ _ rfl rfl, rfl, mixed_section_agrees W f _ _ rfl rfl⟩

/-! ## call sections whose callee is a placeholder too -/

/-- `_( … )` with any mix of plain arguments, spreads, `_` and `..._` builds `CallSection(None, slots)`
with the same slot list as the fixed-callee section -/
theorem evalCall_callee_slot (W : World) (pat : List Mix) (args : List Val) :
    evalCall W none (mixBuild pat args).1 = .ok (.func (.callSectionU (mixSlots pat args))) := by
  rw [evalCall, sse_mix]
  cases hh : pat.any Mix.isHole with
  | true => rfl
  | false => exact congrArg (fun l => Out.ok (Val.func (.callSectionU l))) (mixSlots_noholes pat args hh).symm

/-- The order in which `Func::CallSection(None, slots)` distributes the supplied arguments: the
FIRST one is the callee, the remaining ones fill the argument slots left to right (splat slots
spliced), and the callee is called with the restored tuple. -/
theorem callee_slot_section_distribution (W : World) (f : Func) (pat : List Mix) (args : List Val)
    (hs : mixSize pat = args.length) :
    evalForm W (.calleeMix pat) f args = W.callDyn (.func f) args := by
  simp only [evalForm]
  rw [evalCall_callee_slot, Out.bind_ok, ← List.map_cons, evalCall_vals]
  simp only [Func.run, applySection_mix W pat args hs]

/-- `(_(…slots…))(f, args…) = f(filled…)`: with the dynamic call being `call` (what
`Func::CallSection` does: `call(env, callee, real_args)`), every callee-slot section denotes the
plain call -/
theorem callee_slot_section_agrees (W : World) (f : Func) (pat : List Mix) (args : List Val)
    (hs : mixSize pat = args.length) (hdyn : W.callDyn (.func f) args = call W (.func f) args) :
    evalForm W (.calleeMix pat) f args = app W f args := by
  rw [callee_slot_section_distribution W f pat args hs, hdyn]; rfl

/-- had the slots been filled first, the function would land in the first slot: the model
distinguishes the two orders (`_(_, b)(f, a)`: callee `f`, arguments `[a, b]`) -/
example (W : World) (f : Func) (a b : Val) :
    evalForm W (.calleeMix [.hole, .lit 1]) f [a, b] = W.callDyn (.func f) [a, b] ∧
    (mixBuild [.hole, .lit 1] [a, b]) = ([.under, .val b], [a]) :=
  ⟨callee_slot_section_distribution W f _ _ rfl, rfl⟩

/-- non-vacuity of `hdyn`: a world whose dynamic call is `call` of a base world, at a closure -/
example :
    let W0 : World :=
      { bodies := fun _ => ⟨fun _ => .throw, fun _ _ => .throw, fun _ => .throw⟩
        closure := fun _ args => .ok (.list args)
        iter := fun _ => .throw, index := fun _ _ => .throw, callType := fun _ _ => .throw
        callDyn := fun _ _ => .throw, chainN := fun _ _ => .throw, other := fun _ _ => .throw }
    let W : World := { W0 with callDyn := fun v args => call W0 v args }
    W.callDyn (.func (.closure 0)) [.atom .num 1, .atom .num 2] = call W (.func (.closure 0)) [.atom .num 1, .atom .num 2] ∧
    evalForm W (.calleeMix [.hole, .spread 1]) (.closure 0) [.atom .num 1, .atom .num 2] =
      .ok (.list [.atom .num 1, .atom .num 2]) := by
  intro W0 W; exact ⟨rfl, rfl⟩

/-! ## op-assignment whose right-hand side mentions the target itself -/

/-- the right-hand side is evaluated while the variable still holds its old value: `x f= x` is
`f(x, x)`, `x f= g(x)` is `f(x, g(x))`, `x f= (x; b)` is `f(x, b)` -/
theorem op_assign_self_agrees (W : World) (f : Func) (a b : Val) (c : Nat) :
    evalForm W .opSelf f [a] = app W f [a, a] ∧
    evalForm W (.opSelfApp c) f [a] = (app W (.closure c) [a]).bind (fun r => app W f [a, r]) ∧
    evalForm W .opSeq f [a, b] = app W f [a, b] :=
  ⟨(func_run_two W f a a).symm,
   congrArg (Out.bind _) (funext fun r => (func_run_two W f a r).symm),
   (func_run_two W f a b).symm⟩

/-- a right-hand side that raises leaves the variable with its old value (the slot is nulled only
after the right-hand side has been evaluated) -/
theorem op_assign_rhs_fails_keeps (W : World) (f : Func) (a : Val) :
    evalForm W .opRhsFails f [a] = .ok a := rfl

/-- … whereas an operator that raises leaves `null` behind (documented semantics, not a finding),
and a successful statement leaves the combined value -/
theorem op_assign_slot (W : World) (f : Func) (a b : Val) :
    (∀ c, f.run2 W a b = .ok c → opAssignSlot W a (.func f) (.const b) = c) ∧
    (f.run2 W a b = .throw → opAssignSlot W a (.func f) (.const b) = nullVal) := by
  constructor <;> intros <;> simp only [opAssignSlot, evalRhs, *]

/-- the statement-level model agrees with the value-level `evalOpAssign` on independent right-hand sides -/
theorem op_assign_stmt_const (W : World) (op x b : Val) :
    opAssignThenRead W x op (.const b) = evalOpAssign W x op b := by
  cases op <;> rfl

/-! ## one-argument calls are right sections -/

/-! The guards of `Family.partArm` and of the one-argument arm of `Family.run` are the same
conditions; these three lemmas transport a value of `partArm` to the branch `run` takes. -/

theorem arm_then {c : Prop} [Decidable c] {w w' : Bool} {x y : Out Val}
    (h : (if c then some w else none) = some w') : (if c then x else y) = x ∧ w = w' := by
  split at h
  · exact ⟨if_pos ‹c›, Option.some.inj h⟩
  · cases h

theorem arm_else {c : Prop} [Decidable c] {o : Option Bool} {x y : Out Val} {r : Option Bool}
    (h : (if c then none else o) = r) : (c ∧ r = none ∧ (if c then x else y) = x) ∨ (o = r ∧ (if c then x else y) = y) := by
  split at h
  · exact .inl ⟨‹c›, h.symm, if_pos ‹c›⟩
  · exact .inr ⟨h, if_neg ‹¬c›⟩

theorem arm_none {c : Prop} [Decidable c] {w : Bool} {x y : Out Val}
    (h : (if c then some w else none) = none) : (if c then x else y) = y := by
  split at h
  · cases h
  · exact if_neg ‹¬c›

theorem partArm_spec (F : Family) (B : Bodies) (self : Func) (b : Val) :
    (F.partArm b = some false → F.run B self [b] = .ok (.func (.partialApp2 self b))) ∧
    (F.partArm b = some true → F.run B self [b] = .ok (.func (.partialAppLast self b))) :=
  match F with
  | .twoArg | .comparison | .append | .part2Few3 | .toB | .part2Few | .fold => ⟨fun _ => rfl, nofun⟩
  | .partLastFew => ⟨nofun, fun _ => rfl⟩
  | .runOnly | .oneArg | .minus | .replace => ⟨nofun, nofun⟩
  | .twoNums | .times | .divide | .rearrange =>
    ⟨fun h => (arm_then h).1, fun h => nomatch (arm_then (x := .throw) (y := .throw) h).2⟩
  | .extremum | .count =>
    ⟨fun h => (arm_else (x := .throw) (y := .throw) h).elim (nofun) (nofun),
     fun h => (arm_else h).elim (nofun) (·.2)⟩
  | .group =>
    ⟨fun h => (arm_else h).elim (nofun) (·.2),
     fun h => (arm_else (x := .throw) (y := .throw) h).elim (nofun) (nofun)⟩
  | .countDistinct =>
    ⟨fun h => (arm_else (x := .throw) (y := .throw) h).elim (nofun)
       fun h' => (nomatch (arm_then (x := .throw) (y := .throw) h'.1).2),
     fun h => (arm_else h).elim (nofun) fun h' => h'.2.trans (arm_then h'.1).1⟩
  | .sort | .seqFold =>
    ⟨fun h => (arm_else h).elim (nofun) fun h' => h'.2.trans (arm_then h'.1).1,
     fun h => (arm_else (x := .throw) (y := .throw) h).elim (nofun)
       fun h' => nomatch (arm_then (x := .throw) (y := .throw) h'.1).2⟩

/-- conversely: a one-argument call that does not take the arm never *builds* a wrapper itself
(it errors or hands over to the opaque body) -/
theorem partArm_none (F : Family) (B : Bodies) (self : Func) (b : Val) (h : F.partArm b = none) :
    F.run B self [b] = .throw ∨ F.run B self [b] = B.b1 b ∨ F.run B self [b] = B.bn [b] :=
  match F with
  | .twoArg | .comparison | .append | .part2Few3 | .toB | .part2Few | .fold | .partLastFew => nomatch h
  | .runOnly | .replace => .inr (.inr rfl)
  | .oneArg | .minus => .inr (.inl rfl)
  | .twoNums | .times | .divide | .rearrange => .inl (arm_none h)
  | .extremum | .count | .group => (arm_else h).elim (fun h' => .inr (.inl h'.2.2)) nofun
  | .countDistinct | .sort | .seqFold =>
    (arm_else h).elim (fun h' => .inr (.inl h'.2.2)) fun h' => .inl (h'.2.trans (arm_none h'.1))

theorem partial_is_right_section (W : World) (f : Func) (a b : Val) :
    (Func.partialApp2 f b).run W [a] = f.run W [a, b] ∧
    (Func.partialAppLast f b).run W [a] = f.run W [a, b] :=
  ⟨(run_partialApp2 W f b a).trans (func_run_two W f a b).symm, rfl⟩

theorem partial1_is_left_section (W : World) (f : Func) (a b : Val) :
    (Func.partialApp1 f a).run W [b] = f.run W [a, b] :=
  (run_partialApp1 W f a b).trans (func_run_two W f a b).symm

/-- `f(b)(a)` is whatever the function `f(b)` returns does with `a` -/
theorem rsec_of_run_one (W : World) (f g : Func) (a b : Val) (h : f.run W [b] = .ok (.func g)) :
    evalForm W .rsec f [a, b] = g.run W [a] := by
  show (evalCall W _ ([b].map .val)).bind _ = _
  rw [evalCall_vals, h]
  exact evalCall_vals W g [a]

theorem right_section_of_wrapper (W : World) (f : Func) (a b : Val)
    (h : f.run W [b] = .ok (.func (.partialApp2 f b)) ∨ f.run W [b] = .ok (.func (.partialAppLast f b))) :
    evalForm W .rsec f [a, b] = app W f [a, b] :=
  h.elim (fun h => (rsec_of_run_one W f _ a b h).trans (partial_is_right_section W f a b).1)
    (fun h => (rsec_of_run_one W f _ a b h).trans (partial_is_right_section W f a b).2)

/-- every partial-application value a builtin family builds by itself wraps the builtin itself and
the given argument — never another function, never another argument -/
theorem family_builds_own_wrapper (F : Family) (B : Bodies) (self : Func) (a : Val)
    (h : (F.partArm a).isSome) :
    F.run B self [a] = .ok (.func (.partialApp2 self a)) ∨ F.run B self [a] = .ok (.func (.partialAppLast self a)) :=
  match hp : F.partArm a, h with
  | some false, _ => .inl ((partArm_spec F B self a).1 hp)
  | some true, _ => .inr ((partArm_spec F B self a).2 hp)

/-- right-section law for every registered builtin family, under the family's own guard:
if `f(b)` takes the partial-application arm then `f(b)(a) = f(a, b)` — no assumption on bodies,
and no need for `f(a, b)` to succeed -/
theorem right_section_builtin (W : World) (id : Nat) (F : Family) (a b : Val)
    (h : (F.partArm b).isSome) :
    evalForm W .rsec (.builtin id F) [a, b] = app W (.builtin id F) [a, b] :=
  right_section_of_wrapper W _ a b (family_builds_own_wrapper F (W.bodies id) _ b h)

/-- `flip(g)`: the one-argument call gives `PartialApp1(g, b)` ("weird lol" in the source), which
makes `flip(g)(b)(a) = g(b, a) = flip(g)(a, b)` — a right section again -/
theorem right_section_flip (W : World) (g : Func) (a b : Val) :
    evalForm W .rsec (.flip g) [a, b] = app W (.flip g) [a, b] :=
  (rsec_of_run_one W _ _ a b (run_flip_one W g b)).trans
    ((run_partialApp1 W g b a).trans (run_flip_two W g a b).symm)

/-- non-vacuity of the guard: `+`-like builtins partially apply a number, not a string; `max` on a
non-sequence builds PartialAppLast; unary minus never does -/
example : Family.partArm .twoNums (.atom .num 0) = some false ∧ Family.partArm .twoNums (.atom .str 0) = none ∧
    Family.partArm .extremum (.atom .num 0) = some true ∧ Family.partArm .minus (.atom .num 0) = none := by decide

/-- The right-section clause at full strength, for arbitrary callables. -/
def right_section_statement : Prop :=
  ∀ (W : World) (f : Func) (a b : Val), FormAgrees W .rsec f [a, b]

/-- It cannot hold for arbitrary bodies: a (variadic) user-defined function that returns some
unrelated function when called with one argument satisfies both side conditions and breaks the
law.  So for opaque bodies the clause is a statement about each library builtin, which is what
`right_section_builtin` proves under the family guard and the harness checks on the real bodies
outside it. -/
theorem right_section_needs_guard : ¬ right_section_statement := by
  intro h
  let W : World :=
    { bodies := fun _ => ⟨fun _ => .throw, fun _ _ => .throw, fun _ => .throw⟩
      closure := fun c args =>
        match c, args with
        | 0, [_] => .ok (.func (.closure 1))
        | 0, [x, _] => .ok x
        | _, _ => .ok (.atom .null 7)
      iter := fun _ => .throw, index := fun _ _ => .throw, callType := fun _ _ => .throw
      callDyn := fun _ _ => .throw, chainN := fun _ _ => .throw, other := fun _ _ => .throw }
  have := h W (.closure 0) (.atom .num 1) (.atom .num 2)
    ⟨rfl, ⟨⟨.closure 1, rfl⟩, ⟨.atom .num 1, rfl⟩⟩⟩
  cases this

/-! ## the property: all forms agree, for every callable -/

theorem pair_of_length {α} : ∀ {l : List α}, l.length = 2 → ∃ a b, l = [a, b]
  | [a, b], _ => ⟨a, b, rfl⟩

/-- Every form other than the bare right section denotes the plain call, for EVERY callable
(any family, any bodies, any nesting of combinators and sections), every argument tuple. -/
theorem forms_agree (W : World) (form : Form) (f : Func) (args : List Val) (hf : form ≠ .rsec) :
    FormAgrees W form f args := by
  intro ⟨hlen, hside⟩
  cases form with
  | call | bang => exact evalCall_vals W f args
  -- `a f b`, ``a `f` b``, `x f= b`: the `Chain` / `OpAssign` arms enter through `run2`
  | infixOp | backtick | opAssign =>
    obtain ⟨a, b, rfl⟩ := pair_of_length hlen
    exact (func_run_two W f a b).symm
  | secHole i => exact call_section_one_hole W f args i hside
  | secAll => exact call_section_all_holes W f args hside
  -- `(_ f b)(a)`, `(a f _)(b)`, `(_ f _)(a, b)`: `ChainSection` with one operator runs `f.run([a, b])`
  | chainR | chainL | chainBoth =>
    obtain ⟨a, b, rfl⟩ := pair_of_length hlen
    rfl
  | apply => exact (apply_of_agree W f args).1
  | of_ => exact (apply_of_agree W f args).2
  -- `(a f)(b)`, `a` not a function: `call_or_part_apply` builds `PartialApp1(f, a)`
  | juxt =>
    obtain ⟨a, b, rfl⟩ := pair_of_length hlen
    show (callOrPartApply W a [.func f]).bind _ = _
    rw [(callOrPartApply_nonfunc W a hside).1 f]
    exact partial1_is_left_section W f a b
  | rsec => exact absurd rfl hf
  | splatAll => exact splat_agrees W f [] args
  | splatTail =>
    cases args with
    | nil => exact absurd rfl hside
    | cons a rest => exact splat_agrees W f [a] rest
  -- `a.f`, `a .> f`, `a then f`, `f <. a`: reverse application enters through `run1`
  | dot | fwdDot =>
    obtain ⟨a, rfl⟩ := List.length_eq_one_iff.mp hlen
    exact (func_run_one W f a).symm
  | secMix pat => exact mixed_section_agrees W f pat args hside.1 hside.2
  | listMix pat => exact mixed_list_section W f pat args hside.1 hside.2
  | calleeMix pat => exact callee_slot_section_agrees W f pat args hside.1 hside.2
  | opSelf =>
    obtain ⟨a, rfl⟩ := List.length_eq_one_iff.mp hlen
    exact (op_assign_self_agrees W f a a 0).1
  | opSelfApp c =>
    obtain ⟨a, rfl⟩ := List.length_eq_one_iff.mp hlen
    exact (op_assign_self_agrees W f a a c).2.1
  | opSeq =>
    obtain ⟨a, b, rfl⟩ := pair_of_length hlen
    exact (op_assign_self_agrees W f a b 0).2.2
  | opRhsFails =>
    obtain ⟨a, rfl⟩ := List.length_eq_one_iff.mp hlen
    rfl

/-- the right-section clause for every registered builtin whose one-argument call takes the
partial-application arm, and for `flip` -/
theorem forms_agree_rsec (W : World) (id : Nat) (F : Family) (a b : Val) (h : (F.partArm b).isSome) :
    FormAgrees W .rsec (.builtin id F) [a, b] :=
  fun _ => right_section_builtin W id F a b h

/-- non-vacuity of `forms_agree`: a world with distinguishable bodies in which the forms
really compute something (the infix form of a `twoNums` builtin reaches `b2` with the
arguments in order; its right section exists; an ill-kinded one-argument call fails) -/
example :
    let W : World :=
      { bodies := fun _ => ⟨fun a => .ok (.opq "b1" [a]), fun a b => .ok (.opq "b2" [a, b]), fun xs => .ok (.opq "bn" xs)⟩
        closure := fun _ args => .ok (.opq "cl" args)
        iter := fun _ => .throw, index := fun _ _ => .throw, callType := fun _ _ => .throw
        callDyn := fun _ _ => .throw, chainN := fun _ _ => .throw, other := fun _ _ => .throw }
    evalForm W .infixOp (.builtin 5 .twoNums) [.atom .num 0, .atom .num 1] = .ok (.opq "b2" [.atom .num 0, .atom .num 1]) ∧
    evalForm W .chainR (.builtin 5 .twoNums) [.atom .num 0, .atom .num 1] = .ok (.opq "b2" [.atom .num 0, .atom .num 1]) ∧
    evalForm W .rsec (.builtin 5 .twoNums) [.atom .num 0, .atom .num 1] = .ok (.opq "b2" [.atom .num 0, .atom .num 1]) ∧
    evalForm W .rsec (.builtin 5 .twoNums) [.atom .num 0, .atom .str 1] = .throw ∧
    evalForm W .juxt (.flip (.closure 2)) [.atom .num 0, .atom .num 1] = .ok (.opq "cl" [.atom .num 1, .atom .num 0]) := by
  intro W
  exact ⟨rfl, rfl, rfl, rfl, rfl⟩

/-! ## more of `Func::run`: OnComposition, Composition, splat holes, error cases -/

/-- `Func::OnComposition(f, g)`: every argument goes through `g.run1`, in order, first failure wins -/
theorem run_onComposition (W : World) (f g : Func) (args : List Val) :
    (Func.onComposition f g).run W args = (seqOut (args.map (g.run1 W))).bind (f.run W) := by
  have h : args.map (run1Of W g (Func.run W g)) = args.map (g.run1 W) := by
    apply List.map_congr_left; intro a _; exact run1Of_eq W g a
  simp only [Func.run, h]
  cases seqOut (args.map (g.run1 W)) <;> rfl

/-- `(f on g)(a, b) = f(g(a), g(b))` when both inner calls succeed -/
theorem on_two (W : World) (f g : Func) (a b x y : Val)
    (ha : g.run W [a] = .ok x) (hb : g.run W [b] = .ok y) :
    (Func.onComposition f g).run W [a, b] = f.run W [x, y] := by
  rw [run_onComposition]
  simp [seqOut, ← func_run_one, ha, hb, Out.map]

/-- `(f <<< g)(a, b) = f(g(a, b))` -/
theorem compose_two (W : World) (f g : Func) (a b r : Val) (h : g.run W [a, b] = .ok r) :
    (Func.composition f g).run W [a, b] = f.run W [r] := by
  rw [run_composition, h, Out.bind_ok, func_run_one]

theorem applySection_splat_hole (W : World) (pre post xs : List Val) :
    applySection W (pre.map .val ++ [.hole true] ++ post.map .val) [.list xs] = .ok (pre ++ xs ++ post) := by
  rw [List.append_assoc, applySection_vals_then, List.singleton_append, applySection]
  simp only [iterVal, applySection_vals, map_ok, List.append_assoc]

/-- a chain section with one operator needs exactly as many arguments as it has underscores -/
theorem chainSection1_arity (W : World) (op : Func) (a b : Val) :
    (Func.chainSection1 none op (some b)).run W [] = .throw ∧
    (Func.chainSection1 none op (some b)).run W [a, a] = .throw ∧
    (Func.chainSection1 (some a) op none).run W [] = .throw ∧
    (Func.chainSection1 none op none).run W [a] = .throw :=
  ⟨rfl, rfl, rfl, rfl⟩

/-- nested sections: a section of a section is still the plain call (instance of `forms_agree`
at a composite callable) — `f(_, b)` used infix -/
example (W : World) (f : Func) (b x : Val) :
    evalForm W .infixOp (.callSection (.func f) [.hole false, .val b]) [x, x] =
      app W (.callSection (.func f) [.hole false, .val b]) [x, x] :=
  (func_run_two W (.callSection (.func f) [.hole false, .val b]) x x).symm

/-! ## every registered builtin belongs to a family proved coherent (generated table) -/

/-- the check run over the table regenerated from /repo/src/lib.rs on every `./check C04` -/
def regCovered (r : C04Tables.Reg) : Bool :=
  r.family == "Type" || (Family.ofStruct r.family).isSome

theorem table_check : C04Tables.registrations.all regCovered = true := by decide +kernel

/-- Every `env.insert_*` registration of `initialize` is either a type (a `Func::Type`, which
has a single entry point) or a builtin of a struct family that is modelled — and every modelled
family is coherent.  A builtin re-registered with an unknown struct, or a registration the
extractor cannot classify (`unknown`), breaks this obligation. -/
theorem all_registered_builtins_covered :
    ∀ r ∈ C04Tables.registrations,
      r.family = "Type" ∨ ∃ F, Family.ofStruct r.family = some F ∧ Coherent F := by
  intro r hr
  have h := List.all_eq_true.mp table_check r hr
  simp only [regCovered, Bool.or_eq_true, beq_iff_eq] at h
  rcases h with h | h
  · exact .inl h
  · obtain ⟨F, hF⟩ := Option.isSome_iff_exists.mp h
    exact .inr ⟨F, hF, family_coherent F⟩

/-- the table is not empty and not trivial: it contains the operators the property is named after -/
example : (C04Tables.registrations.any fun r => r.name == "+" && r.family == "Plus") = true ∧
    (C04Tables.registrations.any fun r => r.name == "*" && r.family == "Times") = true ∧
    C04Tables.registrations.length > 250 := by decide +kernel

end Noulith.C04
