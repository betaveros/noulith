/-
C05 — Control flow, scoping and closures follow the documented semantics.

The reference interpreter of the documented rules is `Noulith.Core.eval` (Impl/CoreEval.lean); the
correspondence check runs it against the real interpreter on generated programs.  This file proves
the laws the documentation promises, for EVERY program, state and fuel (no size bound):
scoping (declaration / assignment / lookup, fresh scopes, closures capture variables), non-local
exits (loops absorb level 0 and decrement the rest, calls absorb `return`, `try` catches only
`throw`), short-circuit evaluation.
-/
import NoulithModel.Theorems.C05Arms

namespace Noulith.C05
open Noulith Noulith.Core

/-! ## environments: `:=` declares in the current scope and refuses redeclaration, `=` assigns to
the nearest enclosing declaration and refuses undeclared names -/

theorem lookupIn_setIn_same (vars : List (String × Val)) (x : String) (v : Val)
    (h : (lookupIn vars x).isSome) : lookupIn (setIn vars x v) x = some v := by
  induction vars with
  | nil => simp [lookupIn] at h
  | cons kv rest ih =>
    obtain ⟨k, w⟩ := kv
    by_cases hk : k = x
    · simp [setIn, lookupIn, hk]
    · simp [setIn, lookupIn, hk] at *; exact ih h

theorem lookupIn_setIn_other (vars : List (String × Val)) (x y : String) (v : Val) (hxy : y ≠ x) :
    lookupIn (setIn vars x v) y = lookupIn vars y := by
  induction vars with
  | nil => rfl
  | cons kv rest ih =>
    obtain ⟨k, w⟩ := kv
    by_cases hk : k = x
    · subst hk
      have : ¬ k = y := fun h => hxy h.symm
      simp [setIn, lookupIn, this]
    · by_cases hy : k = y
      · subst hy; simp [setIn, lookupIn, hk]
      · simp [setIn, lookupIn, hk, hy, ih]

theorem setIn_keys (vars : List (String × Val)) (x : String) (v : Val) :
    (setIn vars x v).map (·.1) = vars.map (·.1) := by
  induction vars with
  | nil => rfl
  | cons kv rest ih =>
    obtain ⟨k, w⟩ := kv
    simp only [setIn]
    split
    · rfl
    · simp only [List.map_cons, ih]

theorem lookupIn_append_new (vars : List (String × Val)) (x : String) (v : Val)
    (h : lookupIn vars x = none) : lookupIn (vars ++ [(x, v)]) x = some v := by
  induction vars with
  | nil => simp [lookupIn]
  | cons kv rest ih =>
    obtain ⟨k, w⟩ := kv
    by_cases hk : k = x
    · simp [lookupIn, hk] at h
    · simp [lookupIn, hk] at *; exact ih h

theorem lookupIn_append_other (vars : List (String × Val)) (x y : String) (v : Val) (hxy : y ≠ x) :
    lookupIn (vars ++ [(x, v)]) y = lookupIn vars y := by
  induction vars with
  | nil => simp [lookupIn, Ne.symm hxy]
  | cons kv rest ih =>
    obtain ⟨k, w⟩ := kv
    by_cases hy : k = y <;> simp [lookupIn, hy, ih]

/-- `x := v` is refused exactly when `x` is already declared in the CURRENT frame -/
theorem declare_refuses_redeclaration (frames : Array Frame) (env : Nat) (x : String) (v : Val)
    (fr : Frame) (hfr : frames[env]? = some fr) :
    declareVar frames env x v = none ↔ (lookupIn fr.vars x).isSome := by
  unfold declareVar
  rw [hfr]
  cases h : lookupIn fr.vars x <;> simp [h]

theorem declareVar_eq_some {frames : Array Frame} {env : Nat} {x : String} {v : Val} {fs : Array Frame}
    (h : declareVar frames env x v = some fs) :
    ∃ fr, frames[env]? = some fr ∧ lookupIn fr.vars x = none ∧
      fs = frames.setIfInBounds env { fr with vars := fr.vars ++ [(x, v)] } := by
  unfold declareVar at h
  split at h
  · cases h
  · split at h
    · cases h
    · exact ⟨_, ‹_›, ‹_›, (Option.some.inj h).symm⟩

/-- a successful declaration binds the name in the current frame and changes nothing else there -/
theorem declare_binds (frames : Array Frame) (env : Nat) (x : String) (v : Val) (fs : Array Frame)
    (h : declareVar frames env x v = some fs) :
    ∃ fr fr', frames[env]? = some fr ∧ fs[env]? = some fr' ∧ lookupIn fr'.vars x = some v ∧
      fr'.parent = fr.parent ∧ (∀ y, y ≠ x → lookupIn fr'.vars y = lookupIn fr.vars y) ∧
      fs.size = frames.size := by
  obtain ⟨fr, hfr, hl, rfl⟩ := declareVar_eq_some h
  obtain ⟨hlt, -⟩ := Array.getElem?_eq_some_iff.mp hfr
  exact ⟨fr, _, hfr, Array.getElem?_setIfInBounds_self_of_lt hlt, lookupIn_append_new _ _ _ hl, rfl,
    fun y hy => lookupIn_append_other _ _ _ _ hy, Array.size_setIfInBounds⟩

theorem declare_other_frames (frames : Array Frame) (env : Nat) (x : String) (v : Val)
    (fs : Array Frame) (h : declareVar frames env x v = some fs) (i : Nat) (hi : i ≠ env) :
    fs[i]? = frames[i]? := by
  obtain ⟨fr, -, -, rfl⟩ := declareVar_eq_some h
  exact Array.getElem?_setIfInBounds_ne (Ne.symm hi)

/-! ### the nearest enclosing declaration

`lookupVar`, `assignVar`, `dropVar` (and `declaredTypeAdmits` below) walk up the scope chain in the same way, to the
first frame, seen from `env`, that declares `x`: each law below is an induction along `lookupVar`'s own recursion
(`assignVar_keeps_names`: along `assignVar`'s). -/

/-- `x = v` on an undeclared name is refused (and, returning `none`, leaves the store unchanged) -/
theorem assign_refuses_undeclared (frames : Array Frame) (fuel env : Nat) (x : String) (v : Val)
    (h : lookupVar frames fuel env x = none) : assignVar frames fuel env x v = none := by
  fun_induction lookupVar frames fuel env x with
  | case1 => rfl
  | case2 _ _ _ hf => simp only [assignVar, hf]
  | case3 => cases h
  | case4 _ _ _ _ hf hl _ hp ih => simp only [assignVar, hf, hl, hp]; exact ih h
  | case5 _ _ _ _ hf hl hp => simp only [assignVar, hf, hl, hp]

/-- a successful `x = v` creates no frame and no variable -/
theorem assignVar_keeps_names (frames : Array Frame) (fuel env : Nat) (x : String) (v : Val) (fs : Array Frame)
    (h : assignVar frames fuel env x v = some fs) :
    fs.size = frames.size ∧
      ∀ i : Nat, (fs[i]?).map (fun (fr : Frame) => (fr.vars.map (·.1), fr.parent)) =
        (frames[i]?).map (fun (fr : Frame) => (fr.vars.map (·.1), fr.parent)) := by
  fun_induction assignVar frames fuel env x v with
  | case1 | case2 | case4 | case6 => cases h
  | case5 _ _ _ _ _ _ _ _ _ ih => exact ih h
  | case3 _ j _ _ fr hfr _ _ _ =>
    cases h
    refine ⟨Array.size_setIfInBounds, fun i => ?_⟩
    by_cases hi : j = i
    · subst hi
      rw [Array.getElem?_setIfInBounds_self_of_lt (Array.getElem?_eq_some_iff.mp hfr).1, hfr,
        Option.map_some, Option.map_some, setIn_keys]
    · rw [Array.getElem?_setIfInBounds_ne hi]

/-- does the type declared for the nearest enclosing declaration of `x` admit `v`?  (Only annotated
lambda parameters carry a declared type; every other variable admits everything.) -/
def declaredTypeAdmits (frames : Array Frame) : Nat → Nat → String → Val → Bool
  | 0, _, _, _ => true
  | fuel + 1, env, x, v =>
    match frames[env]? with
    | none => true
    | some fr =>
      match lookupIn fr.vars x with
      | some _ => typeOk fr.tys x v
      | none =>
        match fr.parent with
        | some p => declaredTypeAdmits frames fuel p x v
        | none => true

theorem assign_succeeds_iff (frames : Array Frame) (fuel env : Nat) (x : String) (v w : Val)
    (h : lookupVar frames fuel env x = some w) :
    (assignVar frames fuel env x v).isSome ↔ declaredTypeAdmits frames fuel env x v = true := by
  fun_induction lookupVar frames fuel env x with
  | case1 | case2 | case5 => cases h
  | case3 _ _ x fr hf _ hl =>
    simp only [assignVar, declaredTypeAdmits, hf, hl]
    cases typeOk fr.tys x v <;> simp
  | case4 _ _ _ _ hf hl _ hp ih => simp only [assignVar, declaredTypeAdmits, hf, hl, hp]; exact ih h

/-- `x = v` on a declared name whose declared type admits `v` succeeds -/
theorem assign_succeeds_if_declared (frames : Array Frame) (fuel env : Nat) (x : String) (v w : Val)
    (h : lookupVar frames fuel env x = some w) (ht : declaredTypeAdmits frames fuel env x v = true) :
    (assignVar frames fuel env x v).isSome :=
  (assign_succeeds_iff frames fuel env x v w h).mpr ht

/-- the declared type persists: `x = v` with a `v` that the declared type of `x` does not admit is
refused (and, returning `none`, leaves the store unchanged) -/
theorem assign_refuses_type_mismatch (frames : Array Frame) (fuel env : Nat) (x : String) (v w : Val)
    (h : lookupVar frames fuel env x = some w) (ht : declaredTypeAdmits frames fuel env x v = false) :
    assignVar frames fuel env x v = none := by
  have h1 := assign_succeeds_iff frames fuel env x v w h
  rw [ht] at h1
  exact Option.not_isSome_iff_eq_none.mp fun hs => absurd (h1.mp hs) (by decide)

/-- a variable without a declared type (anything declared by `:=`, a loop, a `catch`, an unannotated
parameter) admits every value -/
theorem typeOk_undeclared (tys : List (String × Val)) (x : String) (v : Val) (h : lookupIn tys x = none) :
    typeOk tys x v = true := by
  simp [typeOk, h]

/-- `drop_lhs` (the first half of `x op= e`) is NOT type-checked: it succeeds on every declared name -/
theorem drop_succeeds_if_declared (frames : Array Frame) (fuel env : Nat) (x : String) (w : Val)
    (h : lookupVar frames fuel env x = some w) : (dropVar frames fuel env x).isSome := by
  fun_induction lookupVar frames fuel env x with
  | case1 | case2 | case5 => cases h
  | case3 _ _ _ _ hf _ hl => simp only [dropVar, hf, hl]; rfl
  | case4 _ _ _ _ hf hl _ hp ih => simp only [dropVar, hf, hl, hp]; exact ih h

/-! ## fresh scopes: per call, per loop iteration, per catch clause -/

/-- `Env::with_parent` allocates a frame id that did not exist before… -/
theorem newFrame_fresh (st : State) (p : Nat) :
    (newFrame st p).2 = st.frames.size ∧ (newFrame st p).1.frames.size = st.frames.size + 1 :=
  ⟨rfl, Array.size_push _⟩

/-- …starts empty with the given parent… -/
theorem newFrame_empty (st : State) (p : Nat) :
    (newFrame st p).1.frames[(newFrame st p).2]? = some { vars := [], parent := some p } := by
  simp [newFrame]

/-- …and leaves every existing frame (hence every variable any closure can see) untouched -/
theorem newFrame_preserves (st : State) (p i : Nat) (hi : i < st.frames.size) :
    (newFrame st p).1.frames[i]? = st.frames[i]? := by
  simp [newFrame, Array.getElem?_push, Nat.ne_of_lt hi]

theorem newFrame_out (st : State) (p : Nat) : (newFrame st p).1.out = st.out := rfl

/-! ## static scoping: a closure runs in (a child of) its DEFINING frame; the caller's frame plays
no role -/

theorem static_scoping (fuel : Nat) (st : State) (env₁ env₂ : Nat) (ps : List Param) (body : Expr)
    (cenv : Nat) (args : List Val) :
    callVal fuel st env₁ (.closure ps body cenv) args = callVal fuel st env₂ (.closure ps body cenv) args := by
  cases fuel with
  | zero => simp only [callVal]
  | succ n => rw [callVal_closure, callVal_closure]

/-- a lambda expression evaluates to a closure over the CURRENT frame, without touching the state -/
theorem lambda_captures_current_frame (fuel : Nat) (st : State) (env : Nat) (ps : List Param) (body : Expr) :
    eval (fuel + 1) st env (.lambda ps body) = (.val (.closure ps body env), st) := by
  simp [eval]

/-! ## short-circuit operators return the deciding operand and skip the other one -/

theorem and_short_circuit (fuel : Nat) (st st' : State) (env : Nat) (a b : Expr) (va : Val)
    (ha : eval fuel st env a = (.val va, st')) (hf : va.truthy = false) :
    eval (fuel + 1) st env (.and_ a b) = (.val va, st') := by
  simp [eval, ha, hf]

theorem and_evaluates_rhs (fuel : Nat) (st st' : State) (env : Nat) (a b : Expr) (va : Val)
    (ha : eval fuel st env a = (.val va, st')) (hf : va.truthy = true) :
    eval (fuel + 1) st env (.and_ a b) = eval fuel st' env b := by
  simp [eval, ha, hf]

theorem or_short_circuit (fuel : Nat) (st st' : State) (env : Nat) (a b : Expr) (va : Val)
    (ha : eval fuel st env a = (.val va, st')) (hf : va.truthy = true) :
    eval (fuel + 1) st env (.or_ a b) = (.val va, st') := by
  simp [eval, ha, hf]

theorem or_evaluates_rhs (fuel : Nat) (st st' : State) (env : Nat) (a b : Expr) (va : Val)
    (ha : eval fuel st env a = (.val va, st')) (hf : va.truthy = false) :
    eval (fuel + 1) st env (.or_ a b) = eval fuel st' env b := by
  simp [eval, ha, hf]

theorem coalesce_null (fuel : Nat) (st st' : State) (env : Nat) (a b : Expr)
    (ha : eval fuel st env a = (.val .null, st')) :
    eval (fuel + 1) st env (.coalesce a b) = eval fuel st' env b := by
  simp [eval, ha]

theorem coalesce_nonnull (fuel : Nat) (st st' : State) (env : Nat) (a b : Expr) (va : Val)
    (ha : eval fuel st env a = (.val va, st')) (hn : va ≠ .null) :
    eval (fuel + 1) st env (.coalesce a b) = (.val va, st') := by
  simp only [eval, ha]
  cases va with
  | null => exact absurd rfl hn
  | _ => rfl

/-- a non-local exit of the left operand passes through `and` unchanged -/
theorem and_propagates (fuel : Nat) (st st' : State) (env : Nat) (a b : Expr) (r : Res)
    (ha : eval fuel st env a = (r, st')) (hr : ∀ v, r ≠ .val v) :
    eval (fuel + 1) st env (.and_ a b) = (r, st') := by
  simp only [eval, ha]
  cases r with
  | val v => exact absurd rfl (hr v)
  | _ => rfl

/-! ## try / catch intercepts only `throw` -/

theorem try_passes {fuel : Nat} {st st' : State} {env : Nat} {b c : Expr} {p : Pat} {r : Res}
    (hb : eval fuel st env b = (r, st')) (hr : r.isThrown = false) :
    eval (fuel + 1) st env (.try_ b p c) = (r, st') := by
  simp only [eval, hb]
  cases r with
  | thrown v => cases hr
  | _ => rfl

theorem try_passes_value (fuel : Nat) (st st' : State) (env : Nat) (b c : Expr) (p : Pat) (v : Val)
    (hb : eval fuel st env b = (.val v, st')) :
    eval (fuel + 1) st env (.try_ b p c) = (.val v, st') :=
  try_passes hb rfl

theorem try_passes_break (fuel : Nat) (st st' : State) (env : Nat) (b c : Expr) (p : Pat) (n : Nat)
    (v : Option Val) (hb : eval fuel st env b = (.brk n v, st')) :
    eval (fuel + 1) st env (.try_ b p c) = (.brk n v, st') :=
  try_passes hb rfl

theorem try_passes_continue (fuel : Nat) (st st' : State) (env : Nat) (b c : Expr) (p : Pat) (n : Nat)
    (hb : eval fuel st env b = (.cont n, st')) :
    eval (fuel + 1) st env (.try_ b p c) = (.cont n, st') :=
  try_passes hb rfl

theorem try_passes_return (fuel : Nat) (st st' : State) (env : Nat) (b c : Expr) (p : Pat) (v : Val)
    (hb : eval fuel st env b = (.ret v, st')) :
    eval (fuel + 1) st env (.try_ b p c) = (.ret v, st') :=
  try_passes hb rfl

/-- a thrown value whose pattern matches is received by the catch clause, in a FRESH scope that
binds the pattern -/
theorem try_catches_throw (fuel : Nat) (st st' st2 : State) (env : Nat) (b c : Expr) (p : Pat) (v : Val)
    (hb : eval fuel st env b = (.thrown v, st'))
    (hm : declarePat (patDepth p + 1) (newFrame st' env).1 (newFrame st' env).2 p v = (true, st2)) :
    eval (fuel + 1) st env (.try_ b p c) = eval fuel st2 (newFrame st' env).2 c := by
  simp [eval, hb, hm]

/-- …and is re-thrown unchanged when the pattern does not match -/
theorem try_rethrows_unmatched (fuel : Nat) (st st' st2 : State) (env : Nat) (b c : Expr) (p : Pat) (v : Val)
    (hb : eval fuel st env b = (.thrown v, st'))
    (hm : declarePat (patDepth p + 1) (newFrame st' env).1 (newFrame st' env).2 p v = (false, st2)) :
    eval (fuel + 1) st env (.try_ b p c) = (.thrown v, st2) := by
  simp [eval, hb, hm]

/-! ## loops: `break` / `continue` with repeat counts -/

/-- `while`: the condition and the body of one iteration run in one fresh scope -/
theorem while_false_exits (fuel : Nat) (st st' : State) (env : Nat) (c b : Expr) (vc : Val)
    (hc : eval fuel (newFrame st env).1 (newFrame st env).2 c = (.val vc, st')) (hf : vc.truthy = false) :
    evalWhile (fuel + 1) st env c b = (.val .null, st') := by
  simp [evalWhile, hc, hf]

theorem evalWhile_body {fuel : Nat} {st st' st'' : State} {env : Nat} {c b : Expr} {vc : Val} {rb : Res}
    (hc : eval fuel (newFrame st env).1 (newFrame st env).2 c = (.val vc, st')) (ht : vc.truthy = true)
    (hb : eval fuel st' (newFrame st env).2 b = (rb, st'')) :
    evalWhile (fuel + 1) st env c b =
      match rb with
      | .val _ | .cont 0 => evalWhile fuel st'' env c b
      | .brk 0 v => (.val (v.getD .null), st'')
      | .brk (n + 1) v => (.brk n v, st'')
      | .cont (n + 1) => (.cont n, st'')
      | r => (r, st'') := by
  simp only [evalWhile, hc, ht, hb, Bool.not_true, Bool.false_eq_true, ↓reduceIte]
  rcases rb with _ | ⟨_ | _, _⟩ | ⟨_ | _⟩ | _ | _ | _ <;> rfl

/-- `break` (level 0) ends the loop, whose value is the break value (or null) -/
theorem while_break0 (fuel : Nat) (st st' st'' : State) (env : Nat) (c b : Expr) (vc : Val) (v : Option Val)
    (hc : eval fuel (newFrame st env).1 (newFrame st env).2 c = (.val vc, st')) (ht : vc.truthy = true)
    (hb : eval fuel st' (newFrame st env).2 b = (.brk 0 v, st'')) :
    evalWhile (fuel + 1) st env c b = (.val (v.getD .null), st'') :=
  evalWhile_body hc ht hb

/-- `break` with repeat count n+1 exits this loop and leaves count n for the enclosing ones -/
theorem while_break_succ (fuel : Nat) (st st' st'' : State) (env : Nat) (c b : Expr) (vc : Val) (n : Nat)
    (v : Option Val)
    (hc : eval fuel (newFrame st env).1 (newFrame st env).2 c = (.val vc, st')) (ht : vc.truthy = true)
    (hb : eval fuel st' (newFrame st env).2 b = (.brk (n + 1) v, st'')) :
    evalWhile (fuel + 1) st env c b = (.brk n v, st'') :=
  evalWhile_body hc ht hb

theorem while_continue0 (fuel : Nat) (st st' st'' : State) (env : Nat) (c b : Expr) (vc : Val)
    (hc : eval fuel (newFrame st env).1 (newFrame st env).2 c = (.val vc, st')) (ht : vc.truthy = true)
    (hb : eval fuel st' (newFrame st env).2 b = (.cont 0, st'')) :
    evalWhile (fuel + 1) st env c b = evalWhile fuel st'' env c b :=
  evalWhile_body hc ht hb

theorem while_continue_succ (fuel : Nat) (st st' st'' : State) (env : Nat) (c b : Expr) (vc : Val) (n : Nat)
    (hc : eval fuel (newFrame st env).1 (newFrame st env).2 c = (.val vc, st')) (ht : vc.truthy = true)
    (hb : eval fuel st' (newFrame st env).2 b = (.cont (n + 1), st'')) :
    evalWhile (fuel + 1) st env c b = (.cont n, st'') :=
  evalWhile_body hc ht hb

/-- `return` and `throw` pass through a loop untouched -/
theorem while_passes_return (fuel : Nat) (st st' st'' : State) (env : Nat) (c b : Expr) (vc v : Val)
    (hc : eval fuel (newFrame st env).1 (newFrame st env).2 c = (.val vc, st')) (ht : vc.truthy = true)
    (hb : eval fuel st' (newFrame st env).2 b = (.ret v, st'')) :
    evalWhile (fuel + 1) st env c b = (.ret v, st'') :=
  evalWhile_body hc ht hb

theorem while_passes_throw (fuel : Nat) (st st' st'' : State) (env : Nat) (c b : Expr) (vc v : Val)
    (hc : eval fuel (newFrame st env).1 (newFrame st env).2 c = (.val vc, st')) (ht : vc.truthy = true)
    (hb : eval fuel st' (newFrame st env).2 b = (.thrown v, st'')) :
    evalWhile (fuel + 1) st env c b = (.thrown v, st'') :=
  evalWhile_body hc ht hb

/-- `for` (statement form): level-0 break gives the loop's value, higher levels are decremented,
`continue` levels ≥ 1 are decremented -/
theorem for_exec_break0 (fuel : Nat) (st st' : State) (env : Nat) (its : List ForIt) (e : Expr)
    (v : Option Val) (acc : ForAcc)
    (h : evalFor fuel st env its (.exec e) default = (.brk 0 v, st', acc)) :
    eval (fuel + 1) st env (.for_ its (.exec e)) = (.val (v.getD .null), st') := by
  rw [Arms.eval_for_exec, h]
  cases v <;> rfl

theorem for_exec_break_succ (fuel : Nat) (st st' : State) (env : Nat) (its : List ForIt) (e : Expr)
    (n : Nat) (v : Option Val) (acc : ForAcc)
    (h : evalFor fuel st env its (.exec e) default = (.brk (n + 1) v, st', acc)) :
    eval (fuel + 1) st env (.for_ its (.exec e)) = (.brk n v, st') :=
  (Arms.eval_for_exec ..).trans (by rw [h]; rfl)

theorem for_exec_continue_succ (fuel : Nat) (st st' : State) (env : Nat) (its : List ForIt) (e : Expr)
    (n : Nat) (acc : ForAcc)
    (h : evalFor fuel st env its (.exec e) default = (.cont (n + 1), st', acc)) :
    eval (fuel + 1) st env (.for_ its (.exec e)) = (.cont n, st') :=
  (Arms.eval_for_exec ..).trans (by rw [h]; rfl)

theorem for_exec_normal (fuel : Nat) (st st' : State) (env : Nat) (its : List ForIt) (e : Expr)
    (v : Val) (acc : ForAcc)
    (h : evalFor fuel st env its (.exec e) default = (.val v, st', acc)) :
    eval (fuel + 1) st env (.for_ its (.exec e)) = (.val .null, st') :=
  (Arms.eval_for_exec ..).trans (by rw [h]; rfl)

/-- the body of a `for` absorbs a level-0 `continue` of the innermost clause -/
theorem for_body_absorbs_continue0 (fuel : Nat) (st st' : State) (env : Nat) (body : ForBody)
    (acc acc' : ForAcc) (h : forBody fuel st env body acc = (.cont 0, st', acc')) :
    evalFor (fuel + 1) st env [] body acc = (.val .null, st', acc') := by
  simp [evalFor, h]

/-- a guard that fails skips the rest of the clauses and the body -/
theorem for_guard_false (fuel : Nat) (st st' : State) (env : Nat) (g : Expr) (rest : List ForIt)
    (body : ForBody) (acc : ForAcc) (v : Val)
    (hg : eval fuel st env g = (.val v, st')) (hf : v.truthy = false) :
    evalFor (fuel + 1) st env (.guard g :: rest) body acc = (.val .null, st', acc) := by
  simp [evalFor, hg, hf]

/-! ## calls: parameters are bound in a fresh scope; a call absorbs `return` (and only `return`)

Type-annotated parameters (`\x: T -> …`): the annotation expressions are evaluated at call time, first of all and
left to right, in the new scope; then the defaults in play; then the parameters are bound one by one, an annotated
one only if its annotation is a type and its argument has that type; the declared type stays attached to the
variable. -/

theorem checkBinds_head_fails (t : Val) (slots : List (Option Val)) (x : String) (v : Val)
    (rest vars tys : List (String × Val)) (h : isTypeVal t = false ∨ hasType t v = false) :
    checkBinds (some t :: slots) ((x, v) :: rest) vars tys = (false, vars, tys) := by
  rcases h with h | h <;> simp [checkBinds, h]

theorem checkBinds_head_ok (t : Val) (slots : List (Option Val)) (x : String) (v : Val)
    (rest vars tys : List (String × Val)) (h1 : isTypeVal t = true) (h2 : hasType t v = true) :
    checkBinds (some t :: slots) ((x, v) :: rest) vars tys =
      checkBinds slots rest (vars ++ [(x, v)]) (tys ++ [(x, t)]) := by
  simp [checkBinds, h1, h2]

theorem forall_slots_cons {P : Val → Val → Prop} (s : Option Val) (slots : List (Option Val)) (x : String) (v : Val)
    (rest : List (String × Val)) :
    (∀ (i : Nat) (t : Val) (y : String) (w : Val),
        (s :: slots)[i]? = some (some t) → ((x, v) :: rest)[i]? = some (y, w) → P t w) ↔
      (∀ t, s = some t → P t v) ∧
        ∀ (i : Nat) (t : Val) (y : String) (w : Val), slots[i]? = some (some t) → rest[i]? = some (y, w) → P t w := by
  constructor
  · intro h
    exact ⟨fun t hs => h 0 t x v (congrArg some hs) rfl, fun i => h (i + 1)⟩
  · rintro ⟨h0, hs⟩ (_ | i) t y w ht hb
    · cases hb
      exact h0 t (Option.some.inj ht)
    · exact hs i t y w ht hb

/-- exactly when does the binding of a parameter list go through?  When every annotated position holds a
type that its argument has. -/
theorem checkBinds_ok_iff (binds : List (String × Val)) :
    ∀ (slots : List (Option Val)) (vars tys : List (String × Val)),
      (checkBinds slots binds vars tys).1 = true ↔
        ∀ (i : Nat) (t : Val) (x : String) (v : Val), slots[i]? = some (some t) → binds[i]? = some (x, v) → isTypeVal t = true ∧ hasType t v = true := by
  induction binds with
  | nil => exact fun slots vars tys => ⟨fun _ _ _ _ _ _ hb => (nomatch hb), fun _ => rfl⟩
  | cons b rest ih =>
    intro slots vars tys
    obtain ⟨x, v⟩ := b
    cases slots with
    | nil =>
      rw [checkBinds, ih]
      exact ⟨fun _ _ _ _ _ hs => (nomatch hs), fun _ _ _ _ _ hs => (nomatch hs)⟩
    | cons s slots =>
      rw [forall_slots_cons]
      cases s with
      | none =>
        rw [checkBinds, ih]
        · exact ⟨fun h => ⟨nofun, h⟩, And.right⟩
        · exact nofun
      | some t =>
        by_cases hok : isTypeVal t = true ∧ hasType t v = true
        · rw [checkBinds_head_ok _ _ _ _ _ _ _ hok.1 hok.2, ih]
          exact ⟨fun h => ⟨fun _ e => Option.some.inj e ▸ hok, h⟩, And.right⟩
        · have hf : isTypeVal t = false ∨ hasType t v = false := by
            cases h1 : isTypeVal t
            · exact Or.inl rfl
            · exact Or.inr (Bool.eq_false_iff.mpr fun h2 => hok ⟨h1, h2⟩)
          rw [checkBinds_head_fails _ _ _ _ _ _ _ hf]
          exact ⟨nofun, fun h => absurd (h.1 t rfl) hok⟩

/-- the state in which a function body starts (or in which a failed binding leaves the call): the new
scope `ee` holds exactly `vars`, with declared types `tys` -/
def withParams (st : State) (ee : Nat) (fr : Frame) (vars tys : List (String × Val)) : State :=
  { st with frames := st.frames.setIfInBounds ee { fr with vars := vars, tys := tys } }

/-- The laws of this section about a call that gets as far as binding its parameters are this equation at some
parameter list. -/
theorem callVal_closure_bound {fuel : Nat} {st st1 st2 : State} {env cenv : Nat} {ps : List Param}
    {body : Expr} {args tvs dvs : List Val} {inPlay : List Expr} {binds : List (String × Val)} {fr : Frame}
    (hA : evalList fuel (newFrame st cenv).1 (newFrame st cenv).2 (ps.filterMap Param.ann) = (.ok tvs, st1))
    (hD : defaultsInPlay args.length ps 0 false [] = some inPlay)
    (hN : (!ps.any Param.isSplat && ps.length != args.length + inPlay.length) = false)
    (hE : evalList fuel st1 (newFrame st cenv).2 inPlay = (.ok dvs, st2))
    (hB : bindArgs ps args dvs = some binds)
    (hF : st2.frames[(newFrame st cenv).2]? = some fr) :
    callVal (fuel + 1) st env (.closure ps body cenv) args =
      match checkBinds (annSlots ps tvs) binds [] [] with
      | (false, vars, tys) => (.thrown .err, withParams st2 (newFrame st cenv).2 fr vars tys)
      | (true, vars, tys) =>
        match eval fuel (withParams st2 (newFrame st cenv).2 fr vars tys) (newFrame st cenv).2 body with
        | (.ret v, st') => (.val v, st')
        | r => r := by
  simp only [callVal, hA, hD, hN, hE, hB, hF, withParams]
  rfl

theorem push_setIfInBounds_last (a : Array Frame) (x : Frame) :
    (a.push x).setIfInBounds a.size x = a.push x := by
  apply Array.ext_getElem?
  intro i
  simp only [Array.getElem?_setIfInBounds, Array.getElem?_push]
  by_cases h : a.size = i <;> simp [h]

theorem callVal_no_params (m : Nat) (st : State) (env cenv : Nat) (body : Expr) :
    callVal (m + 2) st env (.closure [] body cenv) [] =
      match eval (m + 1) (newFrame st cenv).1 (newFrame st cenv).2 body with
      | (.ret v, st') => (.val v, st')
      | r => r := by
  rw [callVal_closure_bound (st1 := (newFrame st cenv).1) (st2 := (newFrame st cenv).1) (tvs := []) (dvs := [])
    (inPlay := []) (binds := []) (by simp only [List.filterMap_nil, evalList]) rfl rfl (by simp only [evalList]) rfl
    (newFrame_empty st cenv)]
  simp only [checkBinds, withParams, newFrame, push_setIfInBounds_last]

/-- the body's `return v` becomes the value of the call -/
theorem call_absorbs_return (fuel : Nat) (st : State) (env cenv : Nat) (body : Expr) (v : Val) (st' : State)
    (hb : eval fuel ((newFrame st cenv).1) (newFrame st cenv).2 body = (.ret v, st'))
    (hfr : (newFrame st cenv).1.frames[(newFrame st cenv).2]? = some { vars := [], parent := some cenv } := newFrame_empty st cenv) :
    callVal (fuel + 1) st env (.closure [] body cenv) [] =
      (match evalList fuel (newFrame st cenv).1 (newFrame st cenv).2 [] with
       | (.stop r, st1) => (r, st1)
       | (.ok _, _) => (.val v, st')) := by
  -- `hfr` holds of every state (its default value proves it) and is not needed
  cases fuel with
  | zero => simp only [eval] at hb; cases hb
  | succ n => simp only [callVal_no_params, hb, evalList]

/-- `break` / `continue` raised inside a function body are NOT absorbed by the call: they reach the
caller's loops (non-local exits through call levels, as the real interpreter does) -/
theorem call_passes_break (fuel : Nat) (st : State) (env cenv : Nat) (body : Expr) (n : Nat) (v : Option Val)
    (st' : State)
    (hb : eval (fuel + 1) ((newFrame st cenv).1) (newFrame st cenv).2 body = (.brk n v, st')) :
    callVal (fuel + 2) st env (.closure [] body cenv) [] = (.brk n v, st') := by
  rw [callVal_no_params, hb]

/-- **an annotated parameter that does not accept its argument makes the call raise, and the body does not run**:
the outcome — the new scope holding the parameters bound before the failing one — is the same for every body -/
theorem call_annotation_failure_ignores_body (fuel : Nat) (st st1 st2 : State) (env cenv : Nat) (ps : List Param)
    (body body' : Expr) (args tvs dvs : List Val) (inPlay : List Expr) (binds : List (String × Val)) (fr : Frame)
    (hA : evalList fuel (newFrame st cenv).1 (newFrame st cenv).2 (ps.filterMap Param.ann) = (.ok tvs, st1))
    (hD : defaultsInPlay args.length ps 0 false [] = some inPlay)
    (hN : (!ps.any Param.isSplat && ps.length != args.length + inPlay.length) = false)
    (hE : evalList fuel st1 (newFrame st cenv).2 inPlay = (.ok dvs, st2))
    (hB : bindArgs ps args dvs = some binds)
    (hF : st2.frames[(newFrame st cenv).2]? = some fr)
    (hC : (checkBinds (annSlots ps tvs) binds [] []).1 = false) :
    callVal (fuel + 1) st env (.closure ps body cenv) args = callVal (fuel + 1) st env (.closure ps body' cenv) args := by
  rw [callVal_closure_bound hA hD hN hE hB hF, callVal_closure_bound hA hD hN hE hB hF]
  rcases hcb : checkBinds (annSlots ps tvs) binds [] [] with ⟨okb, vars, tys⟩
  rw [hcb] at hC
  cases hC
  rfl

/-- an exit of an annotation expression (a raised error — e.g. an unknown name —, also `return`) leaves the
call at once: no default is evaluated, nothing is bound, the body does not run -/
theorem call_annotation_exit (fuel : Nat) (st st1 : State) (env cenv : Nat) (ps : List Param) (body : Expr)
    (args : List Val) (r : Res)
    (hA : evalList fuel (newFrame st cenv).1 (newFrame st cenv).2 (ps.filterMap Param.ann) = (.stop r, st1)) :
    callVal (fuel + 1) st env (.closure ps body cenv) args = (r, st1) := by
  simp only [callVal_closure, Arms.onOk, hA]

/-- the one-parameter case `(\x: a -> body)(v)`: the annotation `a` evaluates to `t` in the new scope … -/
theorem single_param_call (fuel : Nat) (st st1 : State) (env cenv : Nat) (x : String) (a body : Expr)
    (t v : Val) (fr : Frame)
    (ha : eval (fuel + 1) (newFrame st cenv).1 (newFrame st cenv).2 a = (.val t, st1))
    (hfr : st1.frames[(newFrame st cenv).2]? = some fr) :
    callVal (fuel + 3) st env (.closure [.mk x none false (some a)] body cenv) [v] =
      match checkBinds [some t] [(x, v)] [] [] with
      | (false, vars, tys) => (.thrown .err, withParams st1 (newFrame st cenv).2 fr vars tys)
      | (true, vars, tys) =>
        match eval (fuel + 2) (withParams st1 (newFrame st cenv).2 fr vars tys) (newFrame st cenv).2 body with
        | (.ret w, st') => (.val w, st')
        | r => r :=
  callVal_closure_bound (st1 := st1) (st2 := st1) (tvs := [t]) (dvs := []) (inPlay := []) (binds := [(x, v)])
    (by simp only [List.filterMap_cons, Param.ann, List.filterMap_nil, evalList, ha]) rfl rfl
    (by simp only [evalList]) rfl hfr

/-- … if `t` is a type the argument does not have, the call raises and the body does not run -/
theorem call_annotation_mismatch_raises (fuel : Nat) (st st1 : State) (env cenv : Nat) (x : String)
    (a body : Expr) (t v : Val) (fr : Frame)
    (ha : eval (fuel + 1) (newFrame st cenv).1 (newFrame st cenv).2 a = (.val t, st1))
    (hfr : st1.frames[(newFrame st cenv).2]? = some fr)
    (hm : hasType t v = false) :
    callVal (fuel + 3) st env (.closure [.mk x none false (some a)] body cenv) [v] =
      (.thrown .err, withParams st1 (newFrame st cenv).2 fr [] []) := by
  rw [single_param_call fuel st st1 env cenv x a body t v fr ha hfr,
    checkBinds_head_fails t [] x v [] [] [] (Or.inr hm)]

/-- … if `t` is not a type at all (`to_type` fails), the call raises, whatever the argument is -/
theorem call_annotation_not_a_type_raises (fuel : Nat) (st st1 : State) (env cenv : Nat) (x : String)
    (a body : Expr) (t v : Val) (fr : Frame)
    (ha : eval (fuel + 1) (newFrame st cenv).1 (newFrame st cenv).2 a = (.val t, st1))
    (hfr : st1.frames[(newFrame st cenv).2]? = some fr)
    (hm : isTypeVal t = false) :
    callVal (fuel + 3) st env (.closure [.mk x none false (some a)] body cenv) [v] =
      (.thrown .err, withParams st1 (newFrame st cenv).2 fr [] []) := by
  rw [single_param_call fuel st st1 env cenv x a body t v fr ha hfr,
    checkBinds_head_fails t [] x v [] [] [] (Or.inl hm)]

/-- … and if `t` is a type the argument has, the body runs with `x` bound to the argument and `t`
recorded as the declared type of `x` -/
theorem call_annotation_ok_runs_body (fuel : Nat) (st st1 : State) (env cenv : Nat) (x : String)
    (a body : Expr) (t v : Val) (fr : Frame)
    (ha : eval (fuel + 1) (newFrame st cenv).1 (newFrame st cenv).2 a = (.val t, st1))
    (hfr : st1.frames[(newFrame st cenv).2]? = some fr)
    (h1 : isTypeVal t = true) (h2 : hasType t v = true) :
    callVal (fuel + 3) st env (.closure [.mk x none false (some a)] body cenv) [v] =
      (match eval (fuel + 2) (withParams st1 (newFrame st cenv).2 fr [(x, v)] [(x, t)]) (newFrame st cenv).2 body with
       | (.ret w, st') => (.val w, st')
       | r => r) := by
  rw [single_param_call fuel st st1 env cenv x a body t v fr ha hfr,
    checkBinds_head_ok t [] x v [] [] [] h1 h2]
  rfl

/-- the declared type stays with the variable: assigning a value of another kind to a typed parameter
raises and changes nothing -/
theorem typed_variable_assign_mismatch_raises (fuel : Nat) (st st' : State) (env : Nat) (x : String) (e : Expr)
    (v w t : Val) (fr : Frame)
    (he : eval fuel st env e = (.val v, st'))
    (hfr : st'.frames[env]? = some fr) (hx : lookupIn fr.vars x = some w) (ht : lookupIn fr.tys x = some t)
    (hm : hasType t v = false) :
    eval (fuel + 1) st env (.assign x e) = (.thrown .err, st') := by
  have : assignVar st'.frames (st'.frames.size + 1) env x v = none := by
    simp [assignVar, hfr, hx, typeOk, ht, hm]
  simp [eval, he, this]

/-- the builtin type names denote types; other values do not, except `null` (the null type) -/
theorem isTypeVal_cases : isTypeVal (.builtin "int") = true ∧ isTypeVal (.builtin "str") = true ∧
    isTypeVal (.builtin "list") = true ∧ isTypeVal (.builtin "anything") = true ∧ isTypeVal .null = true ∧
    isTypeVal (.int 5) = false ∧ isTypeVal (.str "int") = false ∧ isTypeVal (.builtin "len") = false := by
  decide

/-- `anything` accepts every value; `int` exactly the integers -/
theorem hasType_anything (v : Val) : hasType (.builtin "anything") v = true := by
  rw [hasType]
theorem hasType_int (v : Val) : hasType (.builtin "int") v = true ↔ ∃ n, v = .int n := by
  constructor
  · intro h
    cases v with
    | int n => exact ⟨n, rfl⟩
    | _ => cases h
  · rintro ⟨n, rfl⟩
    rfl

/-! ## sequencing, conditionals and the four exits -/

theorem seq_stops_at_exit (fuel : Nat) (st st' : State) (env : Nat) (x y : Expr) (rest : List Expr) (r : Res)
    (hx : eval fuel st env x = (r, st')) (hr : ∀ v, r ≠ .val v) :
    evalSeq (fuel + 1) st env (x :: y :: rest) = (r, st') := by
  simp only [evalSeq, hx]
  cases r with
  | val v => exact absurd rfl (hr v)
  | _ => rfl

theorem seq_continues (fuel : Nat) (st st' : State) (env : Nat) (x y : Expr) (rest : List Expr) (v : Val)
    (hx : eval fuel st env x = (.val v, st')) :
    evalSeq (fuel + 1) st env (x :: y :: rest) = evalSeq fuel st' env (y :: rest) := by
  simp [evalSeq, hx]

/-- `if` does not open a scope: both branches run in the scope of the `if` itself -/
theorem if_true (fuel : Nat) (st st' : State) (env : Nat) (c t : Expr) (e : Option Expr) (vc : Val)
    (hc : eval fuel st env c = (.val vc, st')) (ht : vc.truthy = true) :
    eval (fuel + 1) st env (.ite c t e) = eval fuel st' env t := by
  simp [eval, hc, ht]

theorem if_false_no_else (fuel : Nat) (st st' : State) (env : Nat) (c t : Expr) (vc : Val)
    (hc : eval fuel st env c = (.val vc, st')) (ht : vc.truthy = false) :
    eval (fuel + 1) st env (.ite c t none) = (.val .null, st') := by
  simp [eval, hc, ht]

theorem break_evaluates_value (fuel : Nat) (st st' : State) (env : Nat) (n : Nat) (e : Expr) (v : Val)
    (he : eval fuel st env e = (.val v, st')) :
    eval (fuel + 1) st env (.brk n (some e)) = (.brk n (some v), st') := by
  simp [eval, he]

theorem throw_raises_value (fuel : Nat) (st st' : State) (env : Nat) (e : Expr) (v : Val)
    (he : eval fuel st env e = (.val v, st')) :
    eval (fuel + 1) st env (.throw_ e) = (.thrown v, st') := by
  simp [eval, he]

theorem eval_runs_in_calling_scope (fuel : Nat) (st : State) (env : Nat) (e : Expr) :
    eval (fuel + 1) st env (.evalSrc e) = eval fuel st env e := by
  simp [eval]

/-! ## switch: the first arm whose pattern binds the scrutinee runs, in a fresh scope per arm -/

theorem switch_evaluates_scrutinee_first (fuel : Nat) (st st' : State) (env : Nat) (sc : Expr)
    (arms : List SwitchArm) (v : Val) (hs : eval fuel st env sc = (.val v, st')) :
    eval (fuel + 1) st env (.switch_ sc arms) = evalSwitch fuel st' env v arms := by
  simp [eval, hs]

/-- no arm matches: a catchable error, state untouched by the (empty) arm list -/
theorem switch_no_arm_raises (fuel : Nat) (st : State) (env : Nat) (v : Val) :
    evalSwitch (fuel + 1) st env v [] = (.thrown .err, st) := by
  simp [evalSwitch]

/-- an arm whose pattern binds the scrutinee runs its body in a fresh scope holding the bindings -/
theorem switch_arm_matches (fuel : Nat) (st st2 : State) (env : Nat) (v : Val) (p : Pat) (body : Expr)
    (rest : List SwitchArm)
    (hm : declarePat (patDepth p + 1) (newFrame st env).1 (newFrame st env).2 p v = (true, st2)) :
    evalSwitch (fuel + 1) st env v (.mk p body :: rest) = eval fuel st2 (newFrame st env).2 body := by
  simp [evalSwitch, hm]

/-- an arm whose pattern does not bind is skipped; the next arm starts again from the enclosing scope
(whatever the failed arm bound lives in its own, now unreachable, frame) -/
theorem switch_arm_skipped (fuel : Nat) (st st2 : State) (env : Nat) (v : Val) (p : Pat) (body : Expr)
    (rest : List SwitchArm)
    (hm : declarePat (patDepth p + 1) (newFrame st env).1 (newFrame st env).2 p v = (false, st2)) :
    evalSwitch (fuel + 1) st env v (.mk p body :: rest) = evalSwitch fuel st2 env v rest := by
  simp [evalSwitch, hm]

/-- a literal arm is taken exactly for the equal integer -/
theorem switch_literal_arm (fuel : Nat) (st : State) (env : Nat) (n m : Int) (body : Expr) (rest : List SwitchArm) :
    evalSwitch (fuel + 1) st env (.int m) (.mk (.lit n) body :: rest) =
      if m = n then eval fuel (newFrame st env).1 (newFrame st env).2 body
      else evalSwitch fuel (newFrame st env).1 env (.int m) rest := by
  by_cases h : m = n <;> simp [evalSwitch, declarePat, h]

/-! ## non-vacuity: concrete programs exercising the laws (kernel-evaluated) -/

/-- closures capture variables, not values: the counter closure sees its own updates -/
example :
    (runProgram 50 (.seq [
        .declare (.ident "mk") (.lambda [] (.seq [.declare (.ident "c") (.int 0),
            .lambda [] (.seq [.assign "c" (.op "+" (.ident "c") (.int 1)), .ident "c"] false)] false)),
        .declare (.ident "g") (.call (.ident "mk") []),
        .list [.call (.ident "g") [], .call (.ident "g") []]] false)).1
      matches .val (.list [.int 1, .int 2]) := by decide +kernel

/-- type-annotated parameters: `f := \x: int -> x + 1; [f(3), try f("s") catch _ -> "E"]` -/
example :
    (runProgram 50 (.seq [
        .declare (.ident "f") (.lambda [.mk "x" none false (some (.ident "int"))] (.op "+" (.ident "x") (.int 1))),
        .list [.call (.ident "f") [.int 3], .try_ (.call (.ident "f") [.str "s"]) .underscore (.str "E")]] false)).1
      matches .val (.list [.int 4, .str "E"]) := by decide +kernel

/-- order at a call: all annotations (left to right), then the defaults in play, then the checks — here the
first parameter's check fails after everything was evaluated:
`f := \a: (print("A1"); str), b: (print("A2"); int) = (print("D"); 5) -> a; try f(1) catch _ -> "E"` prints A1 A2 D -/
example :
    (runProgram 50 (.seq [
        .declare (.ident "f") (.lambda [
            .mk "a" none false (some (.seq [.call (.ident "print") [.str "A1"], .ident "str"] false)),
            .mk "b" (some (.seq [.call (.ident "print") [.str "D"], .int 5] false)) false
              (some (.seq [.call (.ident "print") [.str "A2"], .ident "int"] false))] (.ident "a")),
        .try_ (.call (.ident "f") [.int 1]) .underscore (.str "E")] false)).2.out = ["D", "A2", "A1"] := by
  decide +kernel

/-- the declared type persists: `(\x: int -> ((try (x = "s") catch _ -> print("tc")); (try (x $= "s") catch _ ->
print("tc2")); x))(1)`: the plain assignment is refused (x stays 1), the op-assignment first drops x (no type
check: "overriding type") and then fails to store the string, leaving null -/
example :
    (runProgram 50 (.call (.lambda [.mk "x" none false (some (.ident "int"))] (.seq [
        .try_ (.assign "x" (.str "s")) .underscore (.call (.ident "print") [.str "tc"]),
        .declare (.ident "y") (.ident "x"),
        .try_ (.opassign "x" "$" (.str "s")) .underscore (.call (.ident "print") [.str "tc2"]),
        .list [.ident "y", .ident "x"]] false)) [.int 1])).1
      matches .val (.list [.int 1, .null]) := by decide +kernel

end Noulith.C05
