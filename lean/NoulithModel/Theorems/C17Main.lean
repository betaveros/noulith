/-
C17 — the property in its own words, for first-order lambda bodies: `freeze_first_order_main`.
-/
import NoulithModel.Theorems.C17Bridge
import NoulithModel.Theorems.C17Insensitive
import NoulithModel.Theorems.C17FirstOrder
import NoulithModel.Theorems.C17Call
import NoulithModel.Theorems.C17

namespace Noulith.C17Main
open Noulith Noulith.Core Noulith.C17Closed Noulith.C17Frames Noulith.C17Preserve Noulith.C17Insensitive
open Noulith.C17Cut Noulith.C17Bridge

theorem callState_cut_eq {stA stB : State} (cenv : Nat) (names : List String) (args : List Val)
    (hsz : stA.frames.size = stB.frames.size)
    (hpar : ∀ (i : Nat) (frA frB : Frame), stA.frames[i]? = some frA → stB.frames[i]? = some frB →
      frA.parent = frB.parent)
    (hout : stA.out = stB.out) (htab : stA.frozenTab = stB.frozenTab) :
    cut stA.frames.size (callState stA cenv names args) = cut stA.frames.size (callState stB cenv names args) := by
  refine cut_eq_of_agree _ _ _ (by rw [callState_size, callState_size, hsz]) ?_ ?_ hout htab
  · intro i hi
    rw [callState_frames, callState_frames, Array.getElem?_push, Array.getElem?_push, ← hsz,
      Array.getElem?_eq_none hi, Array.getElem?_eq_none (hsz ▸ hi)]
  · intro i fr₁ fr₂ hi h1 h2
    rw [callState_old _ _ _ hi] at h1
    rw [callState_old _ _ _ (hsz ▸ hi)] at h2
    exact hpar i fr₁ fr₂ h1 h2

theorem eval_freeze_lambda (k : Nat) (st : State) (env : Nat) (names : List String) (body body' : Expr)
    (s3 : FState Val)
    (hfb : freezeExpr (lookOf st env) { bound := names, tab := st.frozenTab } body = .ok (body', s3)) :
    eval (k + 2) st env (.freeze (.lambda (plainParams names) body)) =
      (.val (.closure (plainParams names) body' env), { st with frozenTab := s3.tab }) := by
  rw [eval_freeze_unfold]
  have hp := Noulith.C17.freezeParams_no_defaults (lookOf st env)
    { bound := ([] : List String) ++ (plainParams names).map Param.name, tab := st.frozenTab }
    (plainParams names) (plain_no_dflt names) (plain_no_ann names)
  have hb : ([] : List String) ++ (plainParams names).map Param.name = names := by
    rw [List.nil_append, plain_names]
  rw [hb] at hp
  simp only [freezeExpr, hb, hp, hfb]
  simp only [eval]

/-- **Main theorem (first-order lambda bodies).**  Let `h` be the closure that
`freeze \x1, …, xn -> body` evaluates to in a scope that shadows no builtin, `body` satisfying the strict
side condition.  At ANY later time (state `stU`, and `stA` / `stB` below), with arguments of the right
number:

1. *freeze preserves meaning*: if the free names of the lambda still resolve to what they resolved to
   when it was frozen, `h(args)` is exactly `(\x1, …, xn -> body)(args)` — same result, same state;
2. *free variables are bound eagerly*: in two stores of the same shape (same frames, same parent links,
   same output and table) that differ ARBITRARILY in the values of all their variables — so whatever was
   assigned to the outer variables since the freeze — `h(args)` has the same result. -/
theorem freeze_first_order_main (st : State) (env : Nat) (names : List String) (body body' : Expr)
    (s3 : FState Val) (args : List Val)
    (hfb : freezeExpr (lookOf st env) { bound := names, tab := st.frozenTab } body = .ok (body', s3))
    (hst : ScopeStrict names body)
    (hb : ∀ f, f ∈ builtinNames → (st.lookup env f).isNone = true)
    (hlen : args.length = names.length) :
    -- the closure `freeze` produces
    (∀ k, eval (k + 2) st env (.freeze (.lambda (plainParams names) body)) =
      (.val (.closure (plainParams names) body' env), { st with frozenTab := s3.tab })) ∧
    -- 1. preservation
    (∀ (stU : State) (env0 fuel : Nat), WF stU → env < stU.frames.size → s3.tab <+: stU.frozenTab →
      (∀ x, x ∉ names → lookOf stU env x = lookOf st env x) →
      callVal (fuel + 2) stU env0 (.closure (plainParams names) body' env) args =
        callVal (fuel + 2) stU env0 (.closure (plainParams names) body env) args) ∧
    -- 2. insensitivity
    (∀ (stA stB : State) (env0 fuel : Nat), WF stA → WF stB → env < stA.frames.size →
      stA.frames.size = stB.frames.size →
      (∀ (i : Nat) (frA frB : Frame), stA.frames[i]? = some frA → stB.frames[i]? = some frB →
        frA.parent = frB.parent) →
      stA.out = stB.out → stA.frozenTab = stB.frozenTab → s3.tab <+: stA.frozenTab →
      (callVal (fuel + 2) stA env0 (.closure (plainParams names) body' env) args).1 =
        (callVal (fuel + 2) stB env0 (.closure (plainParams names) body' env) args).1) := by
  have hB : HBuiltins (lookOf st env) := hbuiltins_lookOf st env hb
  refine ⟨fun k => eval_freeze_lambda k st env names body body' s3 hfb, ?_, ?_⟩
  · intro stU env0 fuel hwf hlt htab hun
    rw [callVal_plain fuel stU env0 env names body' args hlen, callVal_plain fuel stU env0 env names body args hlen]
    have hpU : Pre (lookOf st env) names stU env := ⟨hwf, hlt, fun x hx => hun x hx⟩
    have hpC := pre_clone (bI := names) hpU (callState_step stU env names args) (fun _ h => h) (fun _ h => h)
    rw [freeze_preserves_first_order (lookOf st env) hB { bound := names, tab := st.frozenTab } s3 body body'
      (callState stU env names args) stU.frames.size (fuel + 1) hfb (scopeStrict_scopeOK hst) hpC.wf hpC.lt
      hpC.agree htab]
  · intro stA stB env0 fuel hwfA hwfB hltA hsz hpar hout htabEq htab
    have hltB : env < stB.frames.size := hsz ▸ hltA
    rw [callVal_plain fuel stA env0 env names body' args hlen, callVal_plain fuel stB env0 env names body' args hlen]
    apply absorb_fst
    obtain ⟨S', hS'⟩ := Option.isSome_iff_exists.mp
      (freeze_output_local hB { bound := names, tab := st.frozenTab } s3 body body' s3.tab hfb hst
        (List.prefix_refl _))
    have hsure : ∀ (stX : State), Sure names (callState stX env names args) stX.frames.size stX.frames.size :=
      fun stX x hx => ⟨stX.frames.size, callFrame env names args, .here _, Nat.le_refl _,
        callState_frame stX env names args, lookupIn_zip_isSome names args x hx hlen⟩
    have h := frozen_code_insensitive s3.tab stA.frames.size names S' body' (callState stA env names args)
      (callState stB env names args) stA.frames.size (fuel + 1) hS' (callState_wf names args hwfA hltA)
      (callState_wf names args hwfB hltB) (Nat.le_refl _) (callState_size stA .. ▸ Nat.lt_succ_self _)
      (callState_size stB .. ▸ hsz ▸ Nat.lt_succ_self _) (hsure stA) (hsz ▸ hsure stB) htab (htabEq ▸ htab)
      (callState_cut_eq env names args hsz hpar hout htabEq)
    rw [← hsz]
    exact h.1

/-! ## non-vacuity -/

section Examples

/-- `t := a * o; (for (i <- [1, 2]) (t = t + i * o)); [t, len([o])]` -/
def lamBody : Expr :=
  .seq [
    .declare (.ident "t") (.op "*" (.ident "a") (.ident "o")),
    .for_ [.iter .normal (.ident "i") (.list [.int 1, .int 2])]
      (.exec (.assign "t" (.op "+" (.ident "t") (.op "*" (.ident "i") (.ident "o"))))),
    .list [.ident "t", .call (.ident "len") [.list [.ident "o"]]]] false

example : ScopeStrict ["a"] lamBody := by decide

/-- the hypotheses of `freeze_first_order_main` are satisfiable: in the scope `o = 5`, for the argument `2` -/
example : ∃ body' s3, freezeExpr (lookOf C17Preserve.stO 0) { bound := ["a"], tab := [] } lamBody = .ok (body', s3) ∧
    ∀ k, eval (k + 2) C17Preserve.stO 0 (.freeze (.lambda (plainParams ["a"]) lamBody)) =
      (.val (.closure (plainParams ["a"]) body' 0), { C17Preserve.stO with frozenTab := s3.tab }) := by
  obtain ⟨body', s3, h⟩ := (freeze_succeeds_iff (lookOf C17Preserve.stO 0) { bound := ["a"], tab := [] } lamBody).mpr
    (by decide +kernel)
  exact ⟨body', s3, h, (freeze_first_order_main C17Preserve.stO 0 ["a"] lamBody body' s3 [.int 2] h (by decide) (by decide) rfl).1⟩

/-- the whole story as one program:
`o := 5; h := freeze \a -> body; g := \a -> body; r1 := h(2); u1 := g(2); o = 99; [r1, u1, h(2), g(2)]`
— frozen = unfrozen while `o` is unchanged, the frozen function does not notice the reassignment, the
unfrozen one does -/
example :
    (runProgram 80 (.seq [
        .declare (.ident "o") (.int 5),
        .declare (.ident "h") (.freeze (.lambda (plainParams ["a"]) lamBody)),
        .declare (.ident "g") (.lambda (plainParams ["a"]) lamBody),
        .declare (.ident "r1") (.call (.ident "h") [.int 2]),
        .declare (.ident "u1") (.call (.ident "g") [.int 2]),
        .assign "o" (.int 99),
        .list [.ident "r1", .ident "u1", .call (.ident "h") [.int 2], .call (.ident "g") [.int 2]]] false)).1
      matches .val (.list [.list [.int 25, .int 1], .list [.int 25, .int 1], .list [.int 25, .int 1],
        .list [.int 495, .int 1]]) := by decide +kernel

end Examples

end Noulith.C17Main
