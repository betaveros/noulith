/-
C12 — infix operator patterns mixing precedence levels.

`resolveChain_eq_spec`: the pattern `LvalueChainEvaluator` builds from an operator chain is the tree
the expression grammar builds for the same text — C03's simulation lemmas instantiated at patterns.
`mixed_times_plus_sound`: the constructor inverse across two levels.  The examples at the end
replay the seeded class (`n * 2 + 1 := 7`, `1 + n * 2 := 8`, `0 < n + 1`, `n + 1 < 10`) in the kernel.
-/
import NoulithModel.Theorems.C12Inverse
import NoulithModel.Impl.PatternChain
import NoulithModel.Lemmas.C03Climb
import NoulithModel.Lemmas.C03Sim

namespace Noulith.C12
open Noulith.Chain

/-- **operator patterns are grouped as the expression of the same text**: for every operator
chain `p0 f1 p1 f2 p2 …` (any number of operators, any mix of precedence levels and
associativities, comparison operators merging) the pattern that `LvalueChainEvaluator` builds is the
tree precedence climbing builds for the expression grammar — C03's `evalChain_eq_sem` and
`climbTree_eq_shunt` at patterns. -/
theorem resolveChain_eq_spec (first : Pat) (ops : List (Bi × Pat)) :
    resolveChain first ops = specResolveChain first ops := by
  unfold resolveChain specResolveChain
  rw [climbTree_eq_shunt, ← evalChain_eq_sem chainRun biTryChain id (chainOf first ops)]
  simp [chainOf, givenOps, List.map_map, Function.comp_def]

/-- **`constructor_inverse` across two precedence levels** (`x * a + b`, `b + x * a`, `a * x + b`, …
once grouped): if the outer `+` pattern hands `d` to the inner `*` pattern and that binds `k`, then
the expression `b + a * k` evaluates to (a value `==`) the matched value. -/
theorem mixed_times_plus_sound (v a b d k : Val)
    (h1 : destructure .plus v [none, some b] = .ok [d, b] ∨ destructure .plus v [some b, none] = .ok [b, d])
    (h2 : destructure .times d [none, some a] = .ok [k, a] ∨ destructure .times d [some a, none] = .ok [a, k]) :
    ∃ y x, construct .times [a, k] = .ok y ∧ construct .plus [b, y] = .ok x ∧ veq x v = true := by
  have hd : PlusOperand v b d := by
    rcases h1 with h | h
    · obtain ⟨_, hd, hp⟩ := (plus_char v b _ _).mp h
      cases hp; exact hd
    · obtain ⟨_, hd, hp⟩ := (plus_char v b _ _).mp h
      cases hp; exact hd
  have hk : TimesOperand d a k := by
    rcases h2 with h | h
    · obtain ⟨_, hk, hp⟩ := (times_char d a _ _).mp h
      cases hp; exact hk
    · obtain ⟨_, hk, hp⟩ := (times_char d a _ _).mp h
      cases hp; exact hk
  obtain ⟨x1, hc1, hv1, _, _, xv, hxv⟩ := (plusOperand_iff v b d).mp hd
  obtain ⟨y, hc2, hv2, _⟩ := (timesOperand_iff d a k).mp hk
  obtain ⟨xb, xd, hxb, hxd⟩ := construct_ok_exact .plus (Or.inl rfl) b d x1 hc1
  obtain ⟨xa, xk, hxa, hxk⟩ := construct_ok_exact .times (Or.inr rfl) a k y hc2
  have hy := construct_times_exact a k y xa xk hxa hxk hc2
  have hx1 := construct_plus_exact b d x1 xb xd hxb hxd hc1
  have hyd : xa * xk = xd := (veq_exact_iff y d _ _ hy hxd).mp hv2
  have hxv1 : xb + xd = xv := (veq_exact_iff x1 v _ _ hx1 hxv).mp hv1
  have hx : construct .plus [b, y] = _ := arith_eq (· + ·) b y xb (xa * xk) hxb hy
  have hxe := construct_plus_exact b y _ xb (xa * xk) hxb hy hx
  refine ⟨y, _, hc2, hx, (veq_exact_iff _ v _ _ hxe hxv).mpr ?_⟩
  rw [hyd, hxv1]

/-! ### the seeded class, kernel-checked: mixed-precedence patterns end to end -/

/-- `n * 2 + 1` is the pattern `(n * 2) + 1`, and `1 + n * 2` is `1 + (n * 2)` -/
example : resolveChain (.ident 0 []) [(.times, .lit (.int 2)), (.plus, .lit (.int 1))] =
    .ok (.destr .plus [.destr .times [.ident 0 [], .lit (.int 2)], .lit (.int 1)]) := by rfl
example : resolveChain (.lit (.int 1)) [(.plus, .ident 0 []), (.times, .lit (.int 2))] =
    .ok (.destr .plus [.lit (.int 1), .destr .times [.ident 0 [], .lit (.int 2)]]) := by rfl
/-- `0 < n + 1` is `0 < (n + 1)`; `n + 1 < 10` is `(n + 1) < 10`; `1 < x <= 5` stays one chained comparison -/
example : resolveChain (.lit (.int 0)) [(.cmp [.lt], .ident 0 []), (.plus, .lit (.int 1))] =
    .ok (.destr (.cmp [.lt]) [.lit (.int 0), .destr .plus [.ident 0 [], .lit (.int 1)]]) := by rfl
example : resolveChain (.ident 0 []) [(.plus, .lit (.int 1)), (.cmp [.lt], .lit (.int 10))] =
    .ok (.destr (.cmp [.lt]) [.destr .plus [.ident 0 [], .lit (.int 1)], .lit (.int 10)]) := by rfl
example : resolveChain (.lit (.int 1)) [(.cmp [.lt], .ident 0 []), (.cmp [.le], .lit (.int 5))] =
    .ok (.destr (.cmp [.lt, .le]) [.lit (.int 1), .ident 0 [], .lit (.int 5)]) := by rfl

def chainPat (first : Pat) (ops : List (Bi × Pat)) : Pat :=
  match resolveChain first ops with
  | .ok p => p
  | _ => .splat .underscore

/-- `n * 2 + 1 := 7` binds `n = 3`; `1 + n * 2 := 8` raises; `0 < n + 1 := 1` binds `n = 0` -/
example : (assign [[]] (chainPat (.ident 0 []) [(.times, .lit (.int 2)), (.plus, .lit (.int 1))]) (some .any) (.int 7)).2 = .ok () := by decide +kernel
example : ((assign [[]] (chainPat (.ident 0 []) [(.times, .lit (.int 2)), (.plus, .lit (.int 1))]) (some .any) (.int 7)).1.get? 0).map (fun c => c.val matches .int 3) = some true := by decide +kernel
example : (assign [[]] (chainPat (.lit (.int 1)) [(.plus, .ident 0 []), (.times, .lit (.int 2))]) (some .any) (.int 8)).2 = .throw := by decide +kernel
example : (assign [[]] (chainPat (.lit (.int 0)) [(.cmp [.lt], .ident 0 []), (.plus, .lit (.int 1))]) (some .any) (.int 1)).2 = .ok () := by decide +kernel

end Noulith.C12
