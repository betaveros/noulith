/-
C16, JSON at value level — the converters `json_encode` / `json_decode` between `Val` and `serde_json::Value` (`JV`):
`encodeV_shaped` (a JSON-shaped value encodes to numbers the crate can hold, at the same depth, and decodes back), hence
`json_value_roundtrip` with the text layer as parameters (Theorems/C16Json.lean models it), and `encodeV_no_panic`.
Impl/Codec.lean §10.
-/
import NoulithModel.Spec.CodecSpec
import NoulithModel.Lemmas.Out

namespace Noulith.C16
open Noulith Noulith.Codec Noulith.CodecSpec

mutual
/-- nesting of arrays / objects -/
def jdepth : JV → Nat
  | .arr xs => 1 + jdepths xs
  | .obj kvs => 1 + jdepthKVs kvs
  | _ => 0
def jdepths : List JV → Nat
  | [] => 0
  | x :: xs => max (jdepth x) (jdepths xs)
def jdepthKVs : List (Str × JV) → Nat
  | [] => 0
  | (_, x) :: xs => max (jdepth x) (jdepthKVs xs)
end

theorem jdepths_cons_lt {x xs d} (h : jdepths (x :: xs) < d) : jdepth x < d ∧ jdepths xs < d := by
  rw [jdepths] at h; exact Nat.max_lt.mp h
theorem jdepthKVs_cons_lt {k x xs d} (h : jdepthKVs ((k, x) :: xs) < d) : jdepth x < d ∧ jdepthKVs xs < d := by
  rw [jdepthKVs] at h; exact Nat.max_lt.mp h

theorem jdepthKVs_le_iff (l : List (Str × JV)) (d : Nat) : jdepthKVs l ≤ d ↔ ∀ p ∈ l, jdepth p.2 ≤ d := by
  induction l with
  | nil => simp [jdepthKVs]
  | cons q t ih =>
    obtain ⟨k, x⟩ := q
    simp only [jdepthKVs, List.mem_cons, forall_eq_or_imp, ← ih]
    omega

mutual
def vdepth : Val → Nat
  | .list xs => 1 + vdepths xs
  | .dict kvs => 1 + vdepthKVs kvs
  | _ => 0
def vdepths : List Val → Nat
  | [] => 0
  | x :: xs => max (vdepth x) (vdepths xs)
def vdepthKVs : List (Str × Val) → Nat
  | [] => 0
  | (_, x) :: xs => max (vdepth x) (vdepthKVs xs)
end

/-- a `serde_json::Number` as the crate can hold it: `PosInt` is a u64, `NegInt` a negative i64,
`Float` is finite -/
def JNumOK : JNum → Prop
  | .posInt n => n ≤ 18446744073709551615
  | .negInt v => v < 0 ∧ -9223372036854775808 ≤ v
  | .float f => f.finite = true

mutual
/-- the numbers of a value are ones the crate can hold (no condition on member order) -/
def JNums : JV → Prop
  | .num n => JNumOK n
  | .arr xs => JNumsL xs
  | .obj kvs => JNumsKVs kvs
  | _ => True
def JNumsL : List JV → Prop
  | [] => True
  | x :: xs => JNums x ∧ JNumsL xs
def JNumsKVs : List (Str × JV) → Prop
  | [] => True
  | (_, x) :: xs => JNums x ∧ JNumsKVs xs
end

mutual
theorem encodeV_shaped : ∀ v : Val, JsonShaped v →
    ∃ j, encodeV v = .ok j ∧ JNums j ∧ jdepth j = vdepth v ∧ decodeV j = v
  | .null, _ => ⟨.null, rfl, trivial, rfl, rfl⟩
  | .int v, h => by
    have h' : inI64 v := h
    by_cases hv : 0 ≤ v
    · refine ⟨.num (.posInt v.toNat), by simp only [encodeV, h', if_true, hv], ?_, rfl, ?_⟩
      · simp only [JNums, JNumOK]; unfold inI64 at h'; omega
      · rw [decodeV]
        have : ((v.toNat : Nat) : Int) ≤ I64_MAX := by unfold inI64 at h'; unfold I64_MAX; omega
        simp only [this, if_true]
        congr 1; omega
    · refine ⟨.num (.negInt v), by simp only [encodeV, h', if_true, hv, if_false], ?_, rfl, by rw [decodeV]⟩
      simp only [JNums, JNumOK]; unfold inI64 at h'; omega
  | .float f, h => by
    have h' : f.finite = true := h
    exact ⟨.num (.float f), by simp only [encodeV, jvOfF64, h', if_true], h', rfl, by rw [decodeV]⟩
  | .str s, _ => ⟨.str s, rfl, trivial, rfl, rfl⟩
  | .bytes _, h => absurd h (by simp [JsonShaped])
  | .func, h => absurd h (by simp [JsonShaped])
  | .list xs, h => by
    obtain ⟨js, e, hn, hd, hdec⟩ := encodeVs_shaped xs h
    exact ⟨.arr js, by simp only [encodeV, e, Out.map], hn, by simp only [jdepth, vdepth, hd],
      by simp only [decodeV, hdec]⟩
  | .dict kvs, h => by
    obtain ⟨js, e, hn, hd, hdec⟩ := encodeKVs_shaped kvs h
    exact ⟨.obj js, by simp only [encodeV, e, Out.map], hn, by simp only [jdepth, vdepth, hd],
      by simp only [decodeV, hdec]⟩
theorem encodeVs_shaped : ∀ xs : List Val, JsonShapedList xs →
    ∃ js, encodeVs xs = .ok js ∧ JNumsL js ∧ jdepths js = vdepths xs ∧ decodeVs js = xs
  | [], _ => ⟨[], rfl, trivial, rfl, rfl⟩
  | x :: xs, h => by
    obtain ⟨j, e1, n1, d1, c1⟩ := encodeV_shaped x h.1
    obtain ⟨js, e2, n2, d2, c2⟩ := encodeVs_shaped xs h.2
    exact ⟨j :: js, by simp only [encodeVs, e1, e2, Out.map], ⟨n1, n2⟩, by simp only [jdepths, vdepths, d1, d2],
      by simp only [decodeVs, c1, c2]⟩
theorem encodeKVs_shaped : ∀ kvs : List (Str × Val), JsonShapedKVs kvs →
    ∃ js, encodeKVs kvs = .ok js ∧ JNumsKVs js ∧ jdepthKVs js = vdepthKVs kvs ∧ decodeKVs js = kvs
  | [], _ => ⟨[], rfl, trivial, rfl, rfl⟩
  | (k, x) :: xs, h => by
    obtain ⟨j, e1, n1, d1, c1⟩ := encodeV_shaped x h.1
    obtain ⟨js, e2, n2, d2, c2⟩ := encodeKVs_shaped xs h.2
    exact ⟨(k, j) :: js, by simp only [encodeKVs, e1, e2, Out.map], ⟨n1, n2⟩,
      by simp only [jdepthKVs, vdepthKVs, d1, d2], by simp only [decodeKVs, c1, c2]⟩
end

theorem json_rt_list : ∀ (xs : List Val), JsonShapedList xs → (encodeVs xs).map decodeVs = .ok xs := by
  intro xs h
  obtain ⟨js, e, _, _, d⟩ := encodeVs_shaped xs h
  rw [e, Out.map, d]

theorem json_rt_kvs : ∀ (kvs : List (Str × Val)), JsonShapedKVs kvs → (encodeKVs kvs).map decodeKVs = .ok kvs := by
  intro kvs h
  obtain ⟨js, e, _, _, d⟩ := encodeKVs_shaped kvs h
  rw [e, Out.map, d]

/-- the two builtins with serde_json's text layer as parameters -/
def jsonEncode (print : JV → Str) (v : Val) : Out Str := (encodeV v).map print
def jsonDecode (parse : Str → Option JV) (s : Str) : Out Val :=
  match parse s with
  | some j => .ok (decodeV j)
  | none => .throw

/-- **json_value_roundtrip**: `json_decode(json_encode(v)) == v` for every JSON-shaped value (null,
64-bit integers, finite floats, strings, lists, string-keyed dicts, nested to any depth), GIVEN the
named hypothesis `h_text` that serde_json's parser reads back what its printer writes.  The text
layer is a parameter here; Theorems/C16Json.lean models it and proves the round trip through the
modelled text (`json_value_roundtrip_text`).  With serde_json's default float parser `h_text` is
false for some floats (finding F26). -/
theorem json_value_roundtrip (print : JV → Str) (parse : Str → Option JV)
    (h_text : ∀ j, parse (print j) = some j) (v : Val) (hv : JsonShaped v) :
    (jsonEncode print v).bind (jsonDecode parse) = .ok v := by
  obtain ⟨j, e, _, _, d⟩ := encodeV_shaped v hv
  simp only [jsonEncode, jsonDecode, e, Out.map, Out.bind, h_text, d]

/-- non-vacuity: a nested JSON-shaped value -/
example : JsonShaped (.dict [([97], .list [.int (-5), .null, .str [104, 105], .float (.bits 4609434218613702656)])]) := by
  simp [JsonShaped, JsonShapedList, JsonShapedKVs, inI64, F64.finite]

mutual
theorem encodeV_no_panic : ∀ v, encodeV v ≠ .panic
  | .null => nofun
  | .int v => by simp only [encodeV]; split <;> nofun
  | .float _ => nofun
  | .str _ => nofun
  | .bytes _ => nofun
  | .func => nofun
  | .list xs => by simp only [encodeV]; exact Out.map_ne_panic (encodeVs_no_panic xs)
  | .dict kvs => by simp only [encodeV]; exact Out.map_ne_panic (encodeKVs_no_panic kvs)
theorem encodeVs_no_panic : ∀ xs, encodeVs xs ≠ .panic
  | [] => nofun
  | x :: xs => by
    simp only [encodeVs]
    cases hx : encodeV x with
    | ok j => exact Out.map_ne_panic (encodeVs_no_panic xs)
    | throw => nofun
    | panic => exact absurd hx (encodeV_no_panic x)
theorem encodeKVs_no_panic : ∀ kvs, encodeKVs kvs ≠ .panic
  | [] => nofun
  | (k, x) :: xs => by
    simp only [encodeKVs]
    cases hx : encodeV x with
    | ok j => exact Out.map_ne_panic (encodeKVs_no_panic xs)
    | throw => nofun
    | panic => exact absurd hx (encodeV_no_panic x)
end

end Noulith.C16
