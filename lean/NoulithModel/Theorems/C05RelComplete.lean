/-
C05 (refinement) — completeness of the fuel-indexed evaluator (Impl/CoreEval.lean) for the relational
big-step semantics (Spec/CoreSem.lean): the result of every derivation is FOUND by the evaluator — it is not
`fuelOut`, and there is a fuel from which on the evaluator returns exactly the result and the state of the
derivation (`BigStep.found`, … one theorem per judgment; `X.complete` and, in C05Rel.lean, `X.ne_fuelOut` are its two
halves).  `Evt P` is "`P` holds from some fuel on", so that the fuels of the premises need not be compared.
-/
import NoulithModel.Theorems.C05Arms

set_option autoImplicit true
set_option relaxedAutoImplicit true

namespace Noulith.Core

/-- "from some fuel on" -/
def Evt (P : Nat → Prop) : Prop := ∃ f, ∀ m, f ≤ m → P m

theorem Evt.and {P Q : Nat → Prop} (h1 : Evt P) (h2 : Evt Q) : Evt (fun m => P m ∧ Q m) := by
  obtain ⟨f1, h1⟩ := h1; obtain ⟨f2, h2⟩ := h2
  exact ⟨f1 + f2, fun m hm => ⟨h1 m (by omega), h2 m (by omega)⟩⟩

theorem Evt.imp {P Q : Nat → Prop} (h1 : Evt P) (h : ∀ m, P m → Q m) : Evt Q :=
  h1.elim fun f hf => ⟨f, fun m hm => h m (hf m hm)⟩

theorem Evt.unique {α : Type} {f : Nat → α} {x y : α} (h₁ : Evt fun m => f m = x) (h₂ : Evt fun m => f m = y) :
    x = y := by
  obtain ⟨k, hk⟩ := h₁.and h₂
  exact (hk k (Nat.le_refl k)).1.symm.trans (hk k (Nat.le_refl k)).2

/-- the step of every rule: if the premises hold at fuel `m`, the conclusion holds at fuel `m + 1`, one layer of the
evaluator further (`succ2`, `succ3`: two and three premises; `now`: none) -/
theorem Evt.succ {P Q : Nat → Prop} (h1 : Evt P) (h : ∀ m, P m → Q (m + 1)) : Evt Q := by
  obtain ⟨f1, h1⟩ := h1
  refine ⟨f1 + 1, fun m hm => ?_⟩
  obtain ⟨m', rfl⟩ : ∃ m', m = m' + 1 := ⟨m - 1, by omega⟩
  exact h m' (h1 m' (by omega))

theorem Evt.succ2 {P₁ P₂ Q : Nat → Prop} (h1 : Evt P₁) (h2 : Evt P₂) (h : ∀ m, P₁ m → P₂ m → Q (m + 1)) : Evt Q :=
  (h1.and h2).succ fun m ⟨a, b⟩ => h m a b

theorem Evt.succ3 {P₁ P₂ P₃ Q : Nat → Prop} (h1 : Evt P₁) (h2 : Evt P₂) (h3 : Evt P₃)
    (h : ∀ m, P₁ m → P₂ m → P₃ m → Q (m + 1)) : Evt Q :=
  ((h1.and h2).and h3).succ fun m ⟨⟨a, b⟩, c⟩ => h m a b c

theorem Evt.now {Q : Nat → Prop} (h : ∀ m, Q (m + 1)) : Evt Q :=
  Evt.succ (P := fun _ => True) ⟨0, fun _ _ => trivial⟩ fun m _ => h m

/-- an exit of a sub-call is not a value: it takes the last branch of the `match` on the sub-call's result.  The
evaluator writes that branch `| r => r` where it passes the pair on and `| (r, s) => …` where it rebuilds it; the two
are different matchers, hence two statements. -/
theorem exit_passes {β : Type} {x : Res × State} {K : Val → State → β} {stop : Res × State → β} {r : Res} {s : State}
    (h : x = (r, s)) (hr : r.isExit = true) :
    (match (generalizing := false) x with
      | (.val v, s) => K v s
      | r => stop r) = stop (r, s) := by
  subst h
  cases r <;> first | rfl | cases hr

theorem exit_passes_pair {β : Type} {x : Res × State} {K : Val → State → β} {stop : Res → State → β} {r : Res}
    {s : State} (h : x = (r, s)) (hr : r.isExit = true) :
    (match (generalizing := false) x with
      | (.val v, s) => K v s
      | (r, s) => stop r s) = stop r s := by
  subst h
  cases r <;> first | rfl | cases hr

/-- `X.Found`, one per judgment: the motives of the rule induction -/
abbrev BigStep.Found := fun st env e r st' (_ : BigStep st env e r st') =>
  r ≠ .fuelOut ∧ Evt fun m => eval m st env e = (r, st')
abbrev SwitchStep.Found := fun st env v arms r st' (_ : SwitchStep st env v arms r st') =>
  r ≠ .fuelOut ∧ Evt fun m => evalSwitch m st env v arms = (r, st')
abbrev SeqStep.Found := fun st env es r st' (_ : SeqStep st env es r st') =>
  r ≠ .fuelOut ∧ Evt fun m => evalSeq m st env es = (r, st')
abbrev ListStep.Found := fun st env es r st' (_ : ListStep st env es r st') =>
  r ≠ .stop .fuelOut ∧ Evt fun m => evalList m st env es = (r, st')
abbrev IntoStep.Found := fun st env o r st' (_ : IntoStep st env o r st') =>
  r ≠ .inr .fuelOut ∧ Evt fun m => evalInto m st env o = (r, st')
abbrev WhileStep.Found := fun st env c b r st' (_ : WhileStep st env c b r st') =>
  r ≠ .fuelOut ∧ Evt fun m => evalWhile m st env c b = (r, st')
abbrev ForStep.Found := fun st env its body acc r st' acc' (_ : ForStep st env its body acc r st' acc') =>
  r ≠ .fuelOut ∧ Evt fun m => evalFor m st env its body acc = (r, st', acc')
abbrev ItemsStep.Found := fun st env p items its body acc r st' acc' (_ : ItemsStep st env p items its body acc r st' acc') =>
  r ≠ .fuelOut ∧ Evt fun m => forItems m st env p items its body acc = (r, st', acc')
abbrev BodyStep.Found := fun st env body acc r st' acc' (_ : BodyStep st env body acc r st' acc') =>
  r ≠ .fuelOut ∧ Evt fun m => forBody m st env body acc = (r, st', acc')
abbrev FinishStep.Found := fun st env post d done r st' (_ : FinishStep st env post d done r st') =>
  r ≠ .fuelOut ∧ Evt fun m => finishDict m st env post d done = (r, st')
abbrev CallStep.Found := fun st env f args r st' (_ : CallStep st env f args r st') =>
  r ≠ .fuelOut ∧ Evt fun m => callVal m st env f args = (r, st')

/-! The rules never produce `fuelOut`: by these facts the result of a rule is not `fuelOut` when those of its premises are
not (the first half of `X.Found`). -/

theorem ne_of_isExit {r : Res} (h : r.isExit = true) : r ≠ .fuelOut := by
  intro hh; subst hh; cases h

theorem loopEnd_exit_ne {r r' : Res} (h : loopEnd r = .exit r') (hne : r ≠ .fuelOut) : r' ≠ .fuelOut := by
  rcases r with _ | ⟨_ | _, _ | _⟩ | ⟨_ | _⟩ | _ | _ | _ <;> cases h
  case fuelOut => exact hne
  all_goals nofun

theorem stop_ne {r : Res} (h : r ≠ .fuelOut) : ResL.stop r ≠ .stop .fuelOut :=
  fun hh => h (ResL.stop.inj hh)

theorem inr_ne {α : Type} {r : Res} (h : r ≠ .fuelOut) : (Sum.inr r : α ⊕ Res) ≠ .inr .fuelOut :=
  fun hh => h (Sum.inr.inj hh)

/- The induction over derivations, all eleven judgments simultaneously, goes through `X.brecOn`, the course-of-values
form of rule induction that comes with the inductive predicates: it asks for ONE step per judgment
(`X.found_step : t.below → …`, where `t.below` holds the premises of the last rule of `t` together with their
induction hypotheses) instead of one per rule, so the eleven steps are stated once and all eleven theorems apply
them.  (Stating the theorems as mutually recursive functions on derivations compiles to the same `brecOn`, but
with a copy of all eleven steps inside each theorem.)

In the steps a rule `ρ p₁ … pₙ` appears as `ρ p₁ … pₙ _ a _ b …`: after the premises of the rule come, for each
premise that is itself a derivation, its own `below` (not needed) and its induction hypothesis (`a`, `b`, `c` in order;
`a.1` says its result is not `fuelOut`, `a.2` that the evaluator finds it). -/
theorem BigStep.found_step (st env e r st') (t : BigStep st env e r st')
    (ih : @BigStep.below BigStep.Found SwitchStep.Found SeqStep.Found ListStep.Found IntoStep.Found WhileStep.Found
      ForStep.Found ItemsStep.Found BodyStep.Found FinishStep.Found CallStep.Found _ _ _ _ _ t) :
    BigStep.Found st env e r st' t := by
  cases ih with
  | null | int | str | lambda | brk | cont | ret =>
    exact ⟨nofun, .now fun m => by simp only [eval]⟩
  | frozen h | frozen_missing h | ident h | opassign_undeclared h =>
    exact ⟨nofun, .now fun m => by simp only [eval, h]⟩
  | ident_builtin h hb | ident_undefined h hb =>
    exact ⟨nofun, .now fun m => by simp only [eval, h, hb, Bool.false_eq_true, ↓reduceIte]⟩
  | list _ _ a | seq _ _ a | brk_value _ _ a | ret_value _ _ a | throw_ _ _ a =>
    exact ⟨nofun, a.2.succ fun m h1 => by simp only [eval, h1]⟩
  | list_exit _ _ a | yield_into_exit _ _ a | item_into_exit _ _ a =>
    exact ⟨(a.1 <| · ▸ rfl), a.2.succ fun m h1 => by simp only [eval, h1]⟩
  | op _ _ ho _ a _ b | op_raise _ _ ho _ a _ b | index _ _ ho _ a _ b | index_raise _ _ ho _ a _ b =>
    exact ⟨nofun, a.2.succ2 b.2 fun m h1 h2 => by simp only [eval, h1, h2, ho]⟩
  | op_exit_left _ hr _ a | index_exit_left _ hr _ a | and_exit _ hr _ a | or_exit _ hr _ a
  | call_exit_fn _ hr _ a | seq_exit _ hr _ a | declare_exit _ hr _ a | brk_exit _ hr _ a
  | ret_exit _ hr _ a | throw_exit _ hr _ a | switch_exit _ hr _ a | ite_exit _ hr _ a =>
    exact ⟨ne_of_isExit hr, a.2.succ fun m h1 => by rw [eval]; exact exit_passes h1 hr⟩
  | coalesce_exit _ hr _ a =>
    exact ⟨ne_of_isExit hr, a.2.succ fun m h1 => by cases r <;> cases hr <;> simp only [eval, h1]⟩
  | op_exit_right _ _ hr _ a _ b | index_exit_right _ _ hr _ a _ b =>
    exact ⟨ne_of_isExit hr, a.2.succ2 b.2 fun m h1 h2 => by simp only [eval, h1]; exact exit_passes h2 hr⟩
  | call _ _ _ _ a _ b _ c => exact ⟨c.1, a.2.succ3 b.2 c.2 fun m h1 h2 h3 => by simp only [eval, h1, h2, h3]⟩
  | call_exit_args _ _ _ a _ b => exact ⟨(b.1 <| · ▸ rfl), a.2.succ2 b.2 fun m h1 h2 => by simp only [eval, h1, h2]⟩
  | and_short _ ht _ a | or_short _ ht _ a | ite_false_no_else _ ht _ a =>
    exact ⟨nofun, a.2.succ fun m h1 => by simp only [eval, h1, ht, Bool.false_eq_true, ↓reduceIte]⟩
  | and_right _ ht _ _ a _ b | or_right _ ht _ _ a _ b | ite_true _ ht _ _ a _ b | ite_false _ ht _ _ a _ b =>
    exact ⟨b.1, a.2.succ2 b.2 fun m h1 h2 => by simp only [eval, h1, ht, h2, Bool.false_eq_true, ↓reduceIte]⟩
  | @coalesce_short _ _ _ va _ _ _ hn _ ha =>
    exact ⟨nofun, ha.2.succ fun m h1 => by
      cases va with
      | null => exact absurd rfl hn
      | _ => simp only [eval, h1]⟩
  | coalesce_right _ _ _ a _ b | switch_ _ _ _ a _ b =>
    exact ⟨b.1, a.2.succ2 b.2 fun m h1 h2 => by simp only [eval, h1, h2]⟩
  | while_ _ _ a | evalSrc _ _ a =>
    exact ⟨a.1, a.2.succ fun m h1 => by simp only [eval, h1]⟩
  | for_completed _ hl _ a | for_broke _ hl _ a =>
    exact ⟨nofun, a.2.succ fun m h1 => by simp only [Arms.eval_for_exec, h1, Arms.forEnd, hl]⟩
  | for_exit _ hl _ a =>
    exact ⟨loopEnd_exit_ne hl a.1, a.2.succ fun m h1 => by simp only [Arms.eval_for_exec, h1, Arms.forEnd, hl]⟩
  | yield_exit _ _ hl _ a _ b =>
    exact ⟨loopEnd_exit_ne hl b.1, a.2.succ2 b.2 fun m h1 h2 => by
      simp only [Arms.eval_for_yield, h1, h2, Arms.forEnd, hl, Arms.applyPost_of_exit hl]⟩
  | yield_finish_raise _ _ hl hfin _ a _ b | yield_completed _ _ hl hfin _ a _ b =>
    exact ⟨nofun, a.2.succ2 b.2 fun m h1 h2 => by
      simp only [Arms.eval_for_yield, h1, h2, Arms.forEnd, hl, Arms.yieldDone, hfin, Arms.applyPost]⟩
  | yield_completed_post _ _ hl hfin _ _ a _ b _ c =>
    exact ⟨c.1, a.2.succ3 b.2 c.2 fun m h1 h2 h3 => by
      simp only [Arms.eval_for_yield, h1, h2, Arms.forEnd, hl, Arms.yieldDone, hfin, Arms.applyPost, h3]⟩
  | yield_broke _ _ hl _ a _ b =>
    exact ⟨nofun, a.2.succ2 b.2 fun m h1 h2 => by simp only [Arms.eval_for_yield, h1, h2, Arms.forEnd, hl, Arms.applyPost]⟩
  | yield_broke_post _ _ hl _ _ a _ b _ c =>
    exact ⟨c.1, a.2.succ3 b.2 c.2 fun m h1 h2 h3 => by
      simp only [Arms.eval_for_yield, h1, h2, Arms.forEnd, hl, Arms.applyPost, h3]⟩
  | item_completed _ _ hl _ _ a _ b _ c =>
    exact ⟨c.1, a.2.succ3 b.2 c.2 fun m h1 h2 h3 => by simp only [Arms.eval_for_item, h1, h2, Arms.forEnd, hl, h3]⟩
  | item_broke _ _ hl _ a _ b =>
    exact ⟨nofun, a.2.succ2 b.2 fun m h1 h2 => by simp only [Arms.eval_for_item, h1, h2, Arms.forEnd, hl]⟩
  | item_exit _ _ hl _ a _ b =>
    exact ⟨loopEnd_exit_ne hl b.1, a.2.succ2 b.2 fun m h1 h2 => by simp only [Arms.eval_for_item, h1, h2, Arms.forEnd, hl]⟩
  | declare _ hb _ a | declare_refused _ hb _ a =>
    exact ⟨nofun, a.2.succ fun m h1 => by simp only [eval, declarePat_eq_bindPat, h1, hb]⟩
  | assign _ ha _ a | assign_refused _ ha _ a =>
    exact ⟨nofun, a.2.succ fun m h1 => by simp only [eval_assign, h1, Arms.onVal, ha]⟩
  | assign_exit _ hr _ a =>
    exact ⟨ne_of_isExit hr, a.2.succ fun m h1 => by rw [eval_assign]; exact exit_passes_pair h1 hr⟩
  | opassign hl _ hd ho ha _ a | opassign_assign_refused hl _ hd ho ha _ a =>
    exact ⟨nofun, a.2.succ fun m h1 => by simp only [eval_opassign hl, h1, Arms.onVal, hd, ho, ha]⟩
  | opassign_exit hl _ hr _ a =>
    exact ⟨ne_of_isExit hr, a.2.succ fun m h1 => by rw [eval_opassign hl]; exact exit_passes_pair h1 hr⟩
  | opassign_drop_refused hl _ hd _ a => exact ⟨nofun, a.2.succ fun m h1 => by simp only [eval_opassign hl, h1, Arms.onVal, hd]⟩
  | opassign_op_raise hl _ hd ho _ a => exact ⟨nofun, a.2.succ fun m h1 => by simp only [eval_opassign hl, h1, Arms.onVal, hd, ho]⟩
  | try_pass _ hr _ a => exact ⟨a.1, a.2.succ fun m h1 => by cases r <;> cases hr <;> simp only [eval, h1]⟩
  | try_catch _ hs hb _ _ a _ b => exact ⟨b.1, a.2.succ2 b.2 fun m h1 h2 => by simp only [eval, declarePat_eq_bindPat, h1, hs, hb, h2]⟩
  | try_rethrow _ hs hb _ a => exact ⟨nofun, a.2.succ fun m h1 => by simp only [eval, declarePat_eq_bindPat, h1, hs, hb]⟩
  | freeze hf _ _ a => exact ⟨a.1, a.2.succ fun m h1 => by simp only [eval_freeze, hf, h1]⟩
  | freeze_refused hf => exact ⟨nofun, .now fun m => by simp only [eval_freeze, hf]⟩

theorem SwitchStep.found_step (st env v arms r st') (t : SwitchStep st env v arms r st')
    (ih : @SwitchStep.below BigStep.Found SwitchStep.Found SeqStep.Found ListStep.Found IntoStep.Found WhileStep.Found
      ForStep.Found ItemsStep.Found BodyStep.Found FinishStep.Found CallStep.Found _ _ _ _ _ _ t) :
    SwitchStep.Found st env v arms r st' t := by
  cases ih with
  | no_arm => exact ⟨nofun, .now fun m => by simp only [evalSwitch]⟩
  | arm hs hb _ _ a | next hs hb _ _ a =>
    exact ⟨a.1, a.2.succ fun m h1 => by simp only [evalSwitch, declarePat_eq_bindPat, hs, hb, h1]⟩

theorem SeqStep.found_step (st env es r st') (t : SeqStep st env es r st')
    (ih : @SeqStep.below BigStep.Found SwitchStep.Found SeqStep.Found ListStep.Found IntoStep.Found WhileStep.Found
      ForStep.Found ItemsStep.Found BodyStep.Found FinishStep.Found CallStep.Found _ _ _ _ _ t) :
    SeqStep.Found st env es r st' t := by
  cases ih with
  | nil => exact ⟨nofun, .now fun m => by simp only [evalSeq]⟩
  | last _ _ a => exact ⟨a.1, a.2.succ fun m h1 => by simp only [evalSeq, h1]⟩
  | cons _ _ _ a _ b => exact ⟨b.1, a.2.succ2 b.2 fun m h1 h2 => by simp only [evalSeq, h1, h2]⟩
  | exit _ hr _ a => exact ⟨ne_of_isExit hr, a.2.succ fun m h1 => by simp only [evalSeq]; exact exit_passes h1 hr⟩

theorem ListStep.found_step (st env es r st') (t : ListStep st env es r st')
    (ih : @ListStep.below BigStep.Found SwitchStep.Found SeqStep.Found ListStep.Found IntoStep.Found WhileStep.Found
      ForStep.Found ItemsStep.Found BodyStep.Found FinishStep.Found CallStep.Found _ _ _ _ _ t) :
    ListStep.Found st env es r st' t := by
  cases ih with
  | nil => exact ⟨nofun, .now fun m => by simp only [evalList]⟩
  | cons _ _ _ a _ b => exact ⟨nofun, a.2.succ2 b.2 fun m h1 h2 => by simp only [evalList, h1, h2]⟩
  | exit_tail _ _ _ a _ b => exact ⟨b.1, a.2.succ2 b.2 fun m h1 h2 => by simp only [evalList, h1, h2]⟩
  | @exit_head _ _ _ r _ _ _ hr _ h =>
    exact ⟨stop_ne (ne_of_isExit hr), h.2.succ fun m h1 => by rw [evalList]; exact exit_passes_pair h1 hr⟩

theorem IntoStep.found_step (st env o r st') (t : IntoStep st env o r st')
    (ih : @IntoStep.below BigStep.Found SwitchStep.Found SeqStep.Found ListStep.Found IntoStep.Found WhileStep.Found
      ForStep.Found ItemsStep.Found BodyStep.Found FinishStep.Found CallStep.Found _ _ _ _ _ t) :
    IntoStep.Found st env o r st' t := by
  cases ih with
  | none => exact ⟨nofun, .now fun m => by simp only [evalInto]⟩
  | cata _ hc _ a | func _ hc _ a =>
    exact ⟨nofun, a.2.succ fun m h1 => by simp only [evalInto_some, h1, Arms.onVal, hc]⟩
  | @exit _ _ _ r _ _ hr _ h =>
    exact ⟨inr_ne (ne_of_isExit hr), h.2.succ fun m h1 => by rw [evalInto_some]; exact exit_passes_pair h1 hr⟩

theorem WhileStep.found_step (st env c b r st') (t : WhileStep st env c b r st')
    (ih : @WhileStep.below BigStep.Found SwitchStep.Found SeqStep.Found ListStep.Found IntoStep.Found WhileStep.Found
      ForStep.Found ItemsStep.Found BodyStep.Found FinishStep.Found CallStep.Found _ _ _ _ _ _ t) :
    WhileStep.Found st env c b r st' t := by
  cases ih with
  | done hs _ ht _ a => exact ⟨nofun, a.2.succ fun m h1 => by simp only [evalWhile, hs, h1, ht, Bool.not_false, ↓reduceIte]⟩
  | cond_exit hs _ hr _ a => exact ⟨ne_of_isExit hr, a.2.succ fun m h1 => by simp only [evalWhile, hs]; exact exit_passes h1 hr⟩
  | @next _ _ _ _ _ _ _ _ rb _ _ _ hs _ ht _ hn _ _ hc _ hb _ hw =>
    exact ⟨hw.1, hc.2.succ3 hb.2 hw.2 fun m h1 h2 h3 => by
      rcases rb with _ | _ | ⟨_ | _⟩ | _ | _ | _ <;> cases hn <;> simp only [evalWhile, hs, h1, ht, h2, h3, Bool.not_true, Bool.false_eq_true, ↓reduceIte]⟩
  | break_ hs _ ht _ _ a _ b | break_outer hs _ ht _ _ a _ b | continue_outer hs _ ht _ _ a _ b =>
    exact ⟨nofun, a.2.succ2 b.2 fun m h1 h2 => by simp only [evalWhile, hs, h1, ht, h2, Bool.not_true, Bool.false_eq_true, ↓reduceIte]⟩
  | pass hs _ ht _ hr _ a _ b =>
    exact ⟨b.1, a.2.succ2 b.2 fun m h1 h2 => by cases r <;> cases hr <;> simp only [evalWhile, hs, h1, ht, h2, Bool.not_true, Bool.false_eq_true, ↓reduceIte]⟩

theorem ForStep.found_step (st env its body acc r st' acc') (t : ForStep st env its body acc r st' acc')
    (ih : @ForStep.below BigStep.Found SwitchStep.Found SeqStep.Found ListStep.Found IntoStep.Found WhileStep.Found
      ForStep.Found ItemsStep.Found BodyStep.Found FinishStep.Found CallStep.Found _ _ _ _ _ _ _ _ t) :
    ForStep.Found st env its body acc r st' acc' t := by
  cases ih with
  | body _ hr _ a =>
    exact ⟨a.1, a.2.succ fun m h1 => by
      rcases r with _ | _ | ⟨_ | _⟩ | _ | _ | _
      case cont.zero => exact absurd rfl hr
      all_goals simp only [evalFor, h1]⟩
  | body_continue _ _ a => exact ⟨nofun, a.2.succ fun m h1 => by simp only [evalFor, h1]⟩
  | guard_true _ ht _ _ a _ b => exact ⟨b.1, a.2.succ2 b.2 fun m h1 h2 => by simp only [evalFor, h1, ht, h2, ↓reduceIte]⟩
  | guard_false _ ht _ a => exact ⟨nofun, a.2.succ fun m h1 => by simp only [evalFor, h1, ht, Bool.false_eq_true, ↓reduceIte]⟩
  | guard_exit _ hr _ a | iter_exit _ hr _ a =>
    exact ⟨ne_of_isExit hr, a.2.succ fun m h1 => by rw [evalFor]; exact exit_passes_pair h1 hr⟩
  | declare _ hs hb _ _ a _ b => exact ⟨b.1, a.2.succ2 b.2 fun m h1 h2 => by simp only [evalFor, declarePat_eq_bindPat, h1, hs, hb, h2]⟩
  | declare_refused _ hs hb _ a => exact ⟨nofun, a.2.succ fun m h1 => by simp only [evalFor, declarePat_eq_bindPat, h1, hs, hb]⟩
  | each _ hi _ _ a _ b | each_pair _ hi _ _ a _ b =>
    exact ⟨b.1, a.2.succ2 b.2 fun m h1 h2 => by simp only [evalFor, h1, hi, h2]⟩
  | each_not_iterable _ hi _ a | each_pair_not_iterable _ hi _ a =>
    exact ⟨nofun, a.2.succ fun m h1 => by simp only [evalFor, h1, hi]⟩

theorem ItemsStep.found_step (st env p items its body acc r st' acc') (t : ItemsStep st env p items its body acc r st' acc')
    (ih : @ItemsStep.below BigStep.Found SwitchStep.Found SeqStep.Found ListStep.Found IntoStep.Found WhileStep.Found
      ForStep.Found ItemsStep.Found BodyStep.Found FinishStep.Found CallStep.Found _ _ _ _ _ _ _ _ _ _ t) :
    ItemsStep.Found st env p items its body acc r st' acc' t := by
  cases ih with
  | done => exact ⟨nofun, .now fun m => by simp only [forItems]⟩
  | bind_refused hs hb => exact ⟨nofun, .now fun m => by simp only [forItems, declarePat_eq_bindPat, hs, hb]⟩
  | next hs hb _ _ _ a _ b => exact ⟨b.1, a.2.succ2 b.2 fun m h1 h2 => by simp only [forItems, declarePat_eq_bindPat, hs, hb, h1, h2]⟩
  | exit hs hb _ hr _ a =>
    exact ⟨ne_of_isExit hr, a.2.succ fun m h1 => by cases r <;> cases hr <;> simp only [forItems, declarePat_eq_bindPat, hs, hb, h1]⟩

theorem BodyStep.found_step (st env body acc r st' acc') (t : BodyStep st env body acc r st' acc')
    (ih : @BodyStep.below BigStep.Found SwitchStep.Found SeqStep.Found ListStep.Found IntoStep.Found WhileStep.Found
      ForStep.Found ItemsStep.Found BodyStep.Found FinishStep.Found CallStep.Found _ _ _ _ _ _ _ t) :
    BodyStep.Found st env body acc r st' acc' t := by
  cases ih with
  | exec _ _ a => exact ⟨nofun, a.2.succ fun m h1 => by simp only [forBody, h1]⟩
  | exec_exit _ hr _ a | yield_exit _ hr _ a | key_exit _ hr _ a =>
    exact ⟨ne_of_isExit hr, a.2.succ fun m h1 => by rw [forBody]; exact exit_passes_pair h1 hr⟩
  | yield _ hg _ a | yield_stop _ hg _ a | yield_raise _ hg _ a =>
    exact ⟨nofun, a.2.succ fun m h1 => by simp only [forBody, h1, hg]⟩
  | key_is_function _ hk _ a =>
    exact ⟨nofun, a.2.succ fun m h1 => by simp only [Arms.forBody_yieldItem, h1, Arms.onVal, Arms.itemStep, hk, ↓reduceIte]⟩
  | key_closed _ hk hd _ a =>
    exact ⟨nofun, a.2.succ fun m h1 => by
      simp only [Arms.forBody_yieldItem, h1, Arms.onVal, Arms.itemStep, hk, hd, Bool.false_eq_true, ↓reduceIte]⟩
  | key_open _ hk hd _ hg _ a _ b | key_open_stop _ hk hd _ hg _ a _ b | key_open_raise _ hk hd _ hg _ a _ b
  | key_new _ hk hd _ hg _ a _ b | key_new_stop _ hk hd _ hg _ a _ b | key_new_raise _ hk hd _ hg _ a _ b =>
    exact ⟨nofun, a.2.succ2 b.2 fun m h1 h2 => by
      simp only [Arms.forBody_yieldItem, h1, Arms.onVal, Arms.itemStep, hk, hd, h2, hg, Bool.false_eq_true, ↓reduceIte]⟩
  | key_open_exit _ hk hd _ hr _ a _ b | key_new_exit _ hk hd _ hr _ a _ b =>
    exact ⟨ne_of_isExit hr, a.2.succ2 b.2 fun m h1 h2 => by
      simp only [Arms.forBody_yieldItem, h1, Arms.onVal, Arms.itemStep, hk, hd, Bool.false_eq_true, ↓reduceIte]
      exact exit_passes_pair h2 hr⟩

theorem FinishStep.found_step (st env post d done r st') (t : FinishStep st env post d done r st')
    (ih : @FinishStep.below BigStep.Found SwitchStep.Found SeqStep.Found ListStep.Found IntoStep.Found WhileStep.Found
      ForStep.Found ItemsStep.Found BodyStep.Found FinishStep.Found CallStep.Found _ _ _ _ _ _ _ t) :
    FinishStep.Found st env post d done r st' t := by
  cases ih with
  | done => exact ⟨nofun, .now fun m => by simp only [finishDict]⟩
  | closed _ _ a => exact ⟨a.1, a.2.succ fun m h1 => by simp only [finishDict, h1]⟩
  | raise hf => exact ⟨nofun, .now fun m => by simp only [finishDict, hf]⟩
  | open_ hf _ _ a => exact ⟨a.1, a.2.succ fun m h1 => by simp only [finishDict, hf, h1]⟩
  | post hf _ _ _ a _ b => exact ⟨b.1, a.2.succ2 b.2 fun m h1 h2 => by simp only [finishDict, hf, h1, h2]⟩
  | post_exit hf _ hr _ a =>
    exact ⟨ne_of_isExit hr, a.2.succ fun m h1 => by simp only [finishDict, hf]; exact exit_passes h1 hr⟩

theorem CallStep.found_step (st env f args r st') (t : CallStep st env f args r st')
    (ih : @CallStep.below BigStep.Found SwitchStep.Found SeqStep.Found ListStep.Found IntoStep.Found WhileStep.Found
      ForStep.Found ItemsStep.Found BodyStep.Found FinishStep.Found CallStep.Found _ _ _ _ _ _ t) :
    CallStep.Found st env f args r st' t := by
  cases ih with
  | annotation_exit hs _ _ a =>
    exact ⟨(a.1 <| · ▸ rfl), a.2.succ fun m h1 => by simp only [callVal_closure, Arms.onOk, hs, h1]⟩
  | defaults_refused hs _ hd _ a => exact ⟨nofun, a.2.succ fun m h1 => by simp only [callVal_closure, Arms.onOk, hs, h1, hd]⟩
  | arity_refused hs _ hd har _ a =>
    exact ⟨nofun, a.2.succ fun m h1 => by simp only [callVal_closure, Arms.onOk, hs, h1, hd, har, ↓reduceIte]⟩
  | default_exit hs _ hd har _ _ a _ b =>
    exact ⟨(b.1 <| · ▸ rfl), a.2.succ2 b.2 fun m h1 h2 => by
      simp only [callVal_closure, Arms.onOk, hs, h1, hd, har, Bool.false_eq_true, ↓reduceIte, h2]⟩
  | bind_refused hs _ hd har _ hb _ a _ b | type_refused hs _ hd har _ hb _ a _ b =>
    exact ⟨nofun, a.2.succ2 b.2 fun m h1 h2 => by
      simp only [callVal_closure, Arms.onOk, hs, h1, hd, har, Bool.false_eq_true, ↓reduceIte, h2, hb]⟩
  | returned hs _ hd har _ hb _ _ a _ b _ c =>
    exact ⟨nofun, a.2.succ3 b.2 c.2 fun m h1 h2 h3 => by
      simp only [callVal_closure, Arms.onOk, hs, h1, hd, har, Bool.false_eq_true, ↓reduceIte, h2, hb, h3]⟩
  | body hs _ hd har _ hb _ hr _ a _ b _ c =>
    exact ⟨c.1, a.2.succ3 b.2 c.2 fun m h1 h2 h3 => by
      cases r <;> cases hr <;>
        simp only [callVal_closure, Arms.onOk, hs, h1, hd, har, Bool.false_eq_true, ↓reduceIte, h2, hb, h3]⟩
  | print => exact ⟨nofun, .now fun m => callVal_print m _ _ _⟩
  | builtin hn hc | builtin_raise hn hc =>
    exact ⟨nofun, .now fun m => by simp only [callVal_builtin m _ _ _ _ hn, hc]⟩
  | not_callable hf => exact ⟨nofun, .now fun m => callVal_not_callable m _ _ _ _ hf ⟩

theorem BigStep.found {st env e r st'} (t : BigStep st env e r st') :
    BigStep.Found st env e r st' t :=
  t.brecOn BigStep.found_step SwitchStep.found_step SeqStep.found_step ListStep.found_step IntoStep.found_step
    WhileStep.found_step ForStep.found_step ItemsStep.found_step BodyStep.found_step FinishStep.found_step
    CallStep.found_step

theorem SwitchStep.found {st env v arms r st'} (t : SwitchStep st env v arms r st') :
    SwitchStep.Found st env v arms r st' t :=
  t.brecOn BigStep.found_step SwitchStep.found_step SeqStep.found_step ListStep.found_step IntoStep.found_step
    WhileStep.found_step ForStep.found_step ItemsStep.found_step BodyStep.found_step FinishStep.found_step
    CallStep.found_step

theorem SeqStep.found {st env es r st'} (t : SeqStep st env es r st') :
    SeqStep.Found st env es r st' t :=
  t.brecOn BigStep.found_step SwitchStep.found_step SeqStep.found_step ListStep.found_step IntoStep.found_step
    WhileStep.found_step ForStep.found_step ItemsStep.found_step BodyStep.found_step FinishStep.found_step
    CallStep.found_step

theorem ListStep.found {st env es r st'} (t : ListStep st env es r st') :
    ListStep.Found st env es r st' t :=
  t.brecOn BigStep.found_step SwitchStep.found_step SeqStep.found_step ListStep.found_step IntoStep.found_step
    WhileStep.found_step ForStep.found_step ItemsStep.found_step BodyStep.found_step FinishStep.found_step
    CallStep.found_step

theorem IntoStep.found {st env o r st'} (t : IntoStep st env o r st') :
    IntoStep.Found st env o r st' t :=
  t.brecOn BigStep.found_step SwitchStep.found_step SeqStep.found_step ListStep.found_step IntoStep.found_step
    WhileStep.found_step ForStep.found_step ItemsStep.found_step BodyStep.found_step FinishStep.found_step
    CallStep.found_step

theorem WhileStep.found {st env c b r st'} (t : WhileStep st env c b r st') :
    WhileStep.Found st env c b r st' t :=
  t.brecOn BigStep.found_step SwitchStep.found_step SeqStep.found_step ListStep.found_step IntoStep.found_step
    WhileStep.found_step ForStep.found_step ItemsStep.found_step BodyStep.found_step FinishStep.found_step
    CallStep.found_step

theorem ForStep.found {st env its body acc r st' acc'} (t : ForStep st env its body acc r st' acc') :
    ForStep.Found st env its body acc r st' acc' t :=
  t.brecOn BigStep.found_step SwitchStep.found_step SeqStep.found_step ListStep.found_step IntoStep.found_step
    WhileStep.found_step ForStep.found_step ItemsStep.found_step BodyStep.found_step FinishStep.found_step
    CallStep.found_step

theorem ItemsStep.found {st env p items its body acc r st' acc'} (t : ItemsStep st env p items its body acc r st' acc') :
    ItemsStep.Found st env p items its body acc r st' acc' t :=
  t.brecOn BigStep.found_step SwitchStep.found_step SeqStep.found_step ListStep.found_step IntoStep.found_step
    WhileStep.found_step ForStep.found_step ItemsStep.found_step BodyStep.found_step FinishStep.found_step
    CallStep.found_step

theorem BodyStep.found {st env body acc r st' acc'} (t : BodyStep st env body acc r st' acc') :
    BodyStep.Found st env body acc r st' acc' t :=
  t.brecOn BigStep.found_step SwitchStep.found_step SeqStep.found_step ListStep.found_step IntoStep.found_step
    WhileStep.found_step ForStep.found_step ItemsStep.found_step BodyStep.found_step FinishStep.found_step
    CallStep.found_step

theorem FinishStep.found {st env post d done r st'} (t : FinishStep st env post d done r st') :
    FinishStep.Found st env post d done r st' t :=
  t.brecOn BigStep.found_step SwitchStep.found_step SeqStep.found_step ListStep.found_step IntoStep.found_step
    WhileStep.found_step ForStep.found_step ItemsStep.found_step BodyStep.found_step FinishStep.found_step
    CallStep.found_step

theorem CallStep.found {st env f args r st'} (t : CallStep st env f args r st') :
    CallStep.Found st env f args r st' t :=
  t.brecOn BigStep.found_step SwitchStep.found_step SeqStep.found_step ListStep.found_step IntoStep.found_step
    WhileStep.found_step ForStep.found_step ItemsStep.found_step BodyStep.found_step FinishStep.found_step
    CallStep.found_step

theorem BigStep.complete : ∀ {st env e r st'}, BigStep st env e r st' → Evt fun m => eval m st env e = (r, st') :=
  fun h => h.found.2

theorem SwitchStep.complete : ∀ {st env v arms r st'}, SwitchStep st env v arms r st' →
      Evt fun m => evalSwitch m st env v arms = (r, st') :=
  fun h => h.found.2

theorem SeqStep.complete : ∀ {st env es r st'}, SeqStep st env es r st' →
      Evt fun m => evalSeq m st env es = (r, st') :=
  fun h => h.found.2

theorem ListStep.complete : ∀ {st env es r st'}, ListStep st env es r st' →
      Evt fun m => evalList m st env es = (r, st') :=
  fun h => h.found.2

theorem IntoStep.complete : ∀ {st env o r st'}, IntoStep st env o r st' →
      Evt fun m => evalInto m st env o = (r, st') :=
  fun h => h.found.2

theorem WhileStep.complete : ∀ {st env c b r st'}, WhileStep st env c b r st' →
      Evt fun m => evalWhile m st env c b = (r, st') :=
  fun h => h.found.2

theorem ForStep.complete : ∀ {st env its body acc r st' acc'}, ForStep st env its body acc r st' acc' →
      Evt fun m => evalFor m st env its body acc = (r, st', acc') :=
  fun h => h.found.2

theorem ItemsStep.complete : ∀ {st env p items its body acc r st' acc'},
      ItemsStep st env p items its body acc r st' acc' →
      Evt fun m => forItems m st env p items its body acc = (r, st', acc') :=
  fun h => h.found.2

theorem BodyStep.complete : ∀ {st env body acc r st' acc'}, BodyStep st env body acc r st' acc' →
      Evt fun m => forBody m st env body acc = (r, st', acc') :=
  fun h => h.found.2

theorem FinishStep.complete : ∀ {st env post d done r st'}, FinishStep st env post d done r st' →
      Evt fun m => finishDict m st env post d done = (r, st') :=
  fun h => h.found.2

theorem CallStep.complete : ∀ {st env f args r st'}, CallStep st env f args r st' →
      Evt fun m => callVal m st env f args = (r, st') :=
  fun h => h.found.2

end Noulith.Core
