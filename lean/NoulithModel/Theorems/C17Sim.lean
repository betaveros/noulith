/-
C17 — two runs of the evaluator whose stores are related by a map `φ`: forgetting the old frames (`cut n`,
Theorems/C17Insensitive.lean), un-freezing the local functions (`US`, Theorems/C17ClosuresEval.lean), or the same
store and frozen against original code (`id`, Theorems/C17PreserveEval.lean).

`Sim φ I x' x`: the outcome `x'` of the run in the mapped store is the outcome `x` of the reference run with
`φ` applied to its store, and `I` holds of `x`.  The arms of the evaluator are chains of `onVal` / `onOk`
("go on with the value of a normal outcome, anything else is final"; Theorems/C05Arms.lean): `Sim.bind`, `Sim.bindOk`,
`Sim.whileNext`, `itemStep_sim`, `Sim3.finish` carry a simulation from the sub-evaluations of an arm to
the arm, for any invariant; Theorems/C17Logic.lean does this once per construct.

In namespace `C17Preserve`, first: the outcomes `IsVal` / `IsOk` and what a call of a builtin does to the store.
-/
import NoulithModel.Theorems.C05Arms

namespace Noulith.C17Preserve
open Noulith Noulith.Core

/-! ## outcomes, and calls of builtins -/

def IsVal (r : Res) : Prop := ∃ v, r = .val v
def IsOk (r : ResL) : Prop := ∃ vs, r = .ok vs

theorem not_isVal_of_ne {r : Res} (h : ∀ v, r ≠ .val v) : ¬ IsVal r := fun ⟨v, hv⟩ => h v hv

theorem isVal_val (v : Val) : IsVal (.val v) := ⟨v, rfl⟩
theorem not_isVal_brk (k : Nat) (v : Option Val) : ¬ IsVal (.brk k v) := not_isVal_of_ne nofun
theorem not_isVal_ret (v : Val) : ¬ IsVal (.ret v) := not_isVal_of_ne nofun
theorem not_isVal_thrown (v : Val) : ¬ IsVal (.thrown v) := not_isVal_of_ne nofun
theorem not_isVal_fuelOut : ¬ IsVal .fuelOut := not_isVal_of_ne nofun
theorem isOk_ok (vs : List Val) : IsOk (.ok vs) := ⟨vs, rfl⟩
theorem not_isOk_stop (r : Res) : ¬ IsOk (.stop r) := fun ⟨_, h⟩ => by cases h

theorem evalList_stop_not_val : ∀ (n : Nat) (st : State) (env : Nat) (es : List Expr) (r : Res) (st' : State),
    evalList n st env es = (.stop r, st') → ¬ IsVal r := by
  intro n
  induction n with
  | zero => intro st env es r st' h; simp only [evalList, Prod.mk.injEq, ResL.stop.injEq] at h; rw [← h.1]; exact not_isVal_fuelOut
  | succ k ih =>
    intro st env es r st' h
    cases es with
    | nil => simp [evalList] at h
    | cons x xs =>
      simp only [evalList] at h
      rcases hrx : eval k st env x with ⟨rx, st1⟩
      rw [hrx] at h
      cases rx with
      | val v =>
        dsimp only at h
        rcases hrl : evalList k st1 env xs with ⟨rl, st2⟩
        rw [hrl] at h
        cases rl with
        | ok vs => simp at h
        | stop r' =>
          simp only [Prod.mk.injEq, ResL.stop.injEq] at h
          rw [← h.1]; exact ih st1 env xs r' st2 hrl
      | _ => simp only [Prod.mk.injEq, ResL.stop.injEq] at h; rw [← h.1]; exact not_isVal_of_ne nofun

/-- a builtin of the vocabulary sees of the state only the printed lines, and changes only those (`print`):
its call gives what it gives on an empty store with the same output -/
theorem callVal_builtin_out (fuel : Nat) (st : State) (env : Nat) (nm : String) (args : List Val) :
    callVal fuel st env (.builtin nm) args =
      ((callVal fuel ⟨#[], st.out, []⟩ env (.builtin nm) args).1,
        { st with out := (callVal fuel ⟨#[], st.out, []⟩ env (.builtin nm) args).2.out }) := by
  cases fuel with
  | zero => simp only [callVal]
  | succ k =>
    by_cases hp : nm = "print"
    · subst hp
      rw [callVal_print, callVal_print]
    · rw [callVal_builtin _ _ _ _ _ hp, callVal_builtin _ _ _ _ _ hp]
      cases callBuiltin nm args <;> rfl

theorem callVal_builtin_frames (fuel : Nat) (st : State) (env : Nat) (nm : String) (args : List Val) :
    (callVal fuel st env (.builtin nm) args).2.frames = st.frames ∧
    (callVal fuel st env (.builtin nm) args).2.frozenTab = st.frozenTab := by
  rw [callVal_builtin_out]
  exact ⟨rfl, rfl⟩

/-- `into`: nothing or a builtin -/
def PostFn (post : Option Val) : Prop := post = none ∨ ∃ f, post = some (.builtin f)

theorem finishDict_builtin : ∀ (n : Nat) (st : State) (env : Nat) (post : Option Val)
    (d : List (Val × (Cata ⊕ Val))) (done : List (Val × Val)), PostFn post →
    finishDict n st env post d done =
      ((finishDict n ⟨#[], st.out, []⟩ env post d done).1,
        { st with out := (finishDict n ⟨#[], st.out, []⟩ env post d done).2.out }) := by
  intro n
  induction n with
  | zero => intros; simp only [finishDict]
  | succ k ih =>
    intro st env post d done hpf
    cases d with
    | nil => simp only [finishDict]
    | cons kv rest =>
      obtain ⟨key, c⟩ := kv
      cases c with
      | inr v => simp only [finishDict]; exact ih st env post rest _ hpf
      | inl c0 =>
        simp only [finishDict]
        cases c0.finish with
        | raise => rfl
        | ok v =>
          dsimp only
          rcases hpf with rfl | ⟨f, rfl⟩
          · exact ih st env none rest _ (Or.inl rfl)
          · dsimp only
            rw [callVal_builtin_out k st]
            -- the call on the empty store leaves it empty
            obtain ⟨hfr, htb⟩ := callVal_builtin_frames k ⟨#[], st.out, []⟩ env f [v]
            rcases hc : callVal k ⟨#[], st.out, []⟩ env (.builtin f) [v] with ⟨rc, ⟨fs1, out1, T1⟩⟩
            rw [hc] at hfr htb
            cases hfr; cases htb
            cases rc with
            | val v' => exact ih { st with out := out1 } env _ rest _ (Or.inr ⟨f, rfl⟩)
            | _ => rfl

theorem finishDict_frames (n : Nat) (st : State) (env : Nat) (post : Option Val)
    (d : List (Val × (Cata ⊕ Val))) (done : List (Val × Val)) (hpf : PostFn post) :
    (finishDict n st env post d done).2.frames = st.frames ∧
    (finishDict n st env post d done).2.frozenTab = st.frozenTab := by
  rw [finishDict_builtin n st env post d done hpf]
  exact ⟨rfl, rfl⟩

end Noulith.C17Preserve

namespace Noulith.C17Sim
open Noulith Noulith.Core

-- `Noulith.Core` (Theorems/C05Eval.lean) has lemmas of its own called `eval_assign`, `eval_opassign`: who opens it
-- and this namespace writes `C17Sim.eval_assign`, ….
export Noulith.Core.Arms (onVal andThen onVal_mk onOk eval_list evalTwo eval_op eval_index eval_call eval_and eval_or
  eval_coalesce eval_ite eval_seq eval_declare eval_assign eval_opassign eval_brk eval_ret eval_throw eval_switch
  evalSeq_cons evalList_cons whileNext evalWhile_succ forBody_exec forBody_yield itemStep forBody_yieldItem evalFor_nil
  evalFor_guard inFresh eval_try evalSwitch_cons forItems_cons evalFor_iter forEnd yieldDone applyPost
  itemCata_congr eval_for_exec eval_for_yield eval_for_item)
open Noulith.C17Preserve (IsVal IsOk PostFn not_isVal_of_ne callVal_builtin_out callVal_builtin_frames finishDict_builtin
  finishDict_frames)

structure Sim {α : Type} (φ : State → State) (I : α → State → Prop) (x' x : α × State) : Prop where
  eq : x' = (x.1, φ x.2)
  inv : I x.1 x.2

/-- the same for the outcomes of the `for` functions, which carry the accumulator along -/
structure Sim3 (φ : State → State) (I : Res → State → Prop) (x' x : Res × State × ForAcc) : Prop where
  eq : x' = (x.1, φ x.2.1, x.2.2)
  inv : I x.1 x.2.1

variable {φ : State → State}

theorem Sim.mono {α : Type} {I J : α → State → Prop} {x' x : α × State} (h : Sim φ I x' x)
    (hJ : ∀ a s, I a s → J a s) : Sim φ J x' x := ⟨h.eq, hJ _ _ h.inv⟩

theorem Sim3.mono {I J : Res → State → Prop} {x' x : Res × State × ForAcc} (h : Sim3 φ I x' x)
    (hJ : ∀ r s, I r s → J r s) : Sim3 φ J x' x := ⟨h.eq, hJ _ _ h.inv⟩

theorem Sim.elim {α : Type} {I : α → State → Prop} {x' x : α × State} (h : Sim φ I x' x) :
    ∃ a s, x = (a, s) ∧ x' = (a, φ s) ∧ I a s := ⟨x.1, x.2, rfl, h.eq, h.inv⟩

theorem Sim3.elim {I : Res → State → Prop} {x' x : Res × State × ForAcc} (h : Sim3 φ I x' x) :
    ∃ r s acc, x = (r, s, acc) ∧ x' = (r, φ s, acc) ∧ I r s := ⟨x.1, x.2.1, x.2.2, rfl, h.eq, h.inv⟩

/-- `R`: the relation wanted between what the two runs do next (`Sim φ J`, `Sim3 φ J`) -/
theorem Sim.bind {I : Res → State → Prop} {x' x : Res × State} (h : Sim φ I x' x) {β' β : Type}
    {R : β' → β → Prop} {K' : Val → State → β'} {K : Val → State → β} {stop' : Res → State → β'}
    {stop : Res → State → β} (hK : ∀ v s, I (.val v) s → R (K' v (φ s)) (K v s))
    (hstop : ∀ r s, ¬ IsVal r → I r s → R (stop' r (φ s)) (stop r s)) :
    R (onVal x' K' stop') (onVal x K stop) := by
  obtain ⟨r, s, rfl, rfl, hi⟩ := h.elim
  cases r with
  | val v => exact hK v s hi
  | _ => exact hstop _ s (not_isVal_of_ne nofun) hi

theorem Sim.bindOk {I : ResL → State → Prop} {x' x : ResL × State} (h : Sim φ I x' x) {β' β : Type}
    {R : β' → β → Prop} {K' : List Val → State → β'} {K : List Val → State → β} {stop' : Res → State → β'}
    {stop : Res → State → β} (hK : ∀ vs s, I (.ok vs) s → R (K' vs (φ s)) (K vs s))
    (hstop : ∀ r s, x = (.stop r, s) → I (.stop r) s → R (stop' r (φ s)) (stop r s)) :
    R (onOk x' K' stop') (onOk x K stop) := by
  obtain ⟨r, s, rfl, rfl, hi⟩ := h.elim
  cases r with
  | ok vs => exact hK vs s hi
  | stop r => exact hstop r s rfl hi

/-! ### what `while` and `yield k: v` do with an outcome -/

theorem Sim.whileNext {I J : Res → State → Prop} {x' x : Res × State} (h : Sim φ I x' x)
    {again' again : State → Res × State} (hagain : ∀ r s, I r s → Sim φ J (again' (φ s)) (again s))
    (hleave : ∀ r s r', I r s → J r' s) : Sim φ J (whileNext again' x') (whileNext again x) := by
  obtain ⟨r, s, rfl, rfl, hi⟩ := h.elim
  cases r with
  | val v => exact hagain _ s hi
  | brk j v => cases j <;> exact ⟨rfl, hleave _ s _ hi⟩
  | cont j =>
    cases j with
    | zero => exact hagain _ s hi
    | succ j => exact ⟨rfl, hleave _ s _ hi⟩
  | _ => exact ⟨rfl, hleave _ s _ hi⟩

/-- the outcome carries the store of the key or that of the value -/
theorem itemStep_cases (vk : Val) (acc : ForAcc) (st1 : State) (r : Res) (s2 : State) :
    ∃ ρ a, (∀ φ : State → State, itemStep vk acc (φ st1) (r, φ s2) = (ρ, φ st1, a)) ∨
      (∀ φ : State → State, itemStep vk acc (φ st1) (r, φ s2) = (ρ, φ s2, a)) := by
  unfold itemStep
  split
  · exact ⟨_, _, .inl fun _ => rfl⟩
  · cases dictFind acc.dict vk with
    | none =>
      cases r with
      | val vv => dsimp only; cases acc.cata.give vv <;> exact ⟨_, _, .inr fun _ => rfl⟩
      | _ => exact ⟨_, _, .inr fun _ => rfl⟩
    | some cc =>
      cases cc with
      | inr _ => exact ⟨_, _, .inl fun _ => rfl⟩
      | inl c =>
        cases r with
        | val vv => dsimp only; cases c.give vv <;> exact ⟨_, _, .inr fun _ => rfl⟩
        | _ => exact ⟨_, _, .inr fun _ => rfl⟩

theorem itemStep_sim {I J : Res → State → Prop} (vk : Val) (acc : ForAcc) {s : State} {y' y : Res × State}
    (hy : Sim φ I y' y) (hkey : ∀ r, J r s) (hval : ∀ r s2 r', I r s2 → J r' s2) :
    Sim3 φ J (itemStep vk acc (φ s) y') (itemStep vk acc s y) := by
  obtain ⟨rv, s2, rfl, rfl, hi⟩ := hy.elim
  obtain ⟨ρ, a, h | h⟩ := itemStep_cases vk acc s rv s2
  · rw [h φ, show itemStep vk acc s (rv, s2) = _ from h id]
    exact ⟨rfl, hkey ρ⟩
  · rw [h φ, show itemStep vk acc s (rv, s2) = _ from h id]
    exact ⟨rfl, hval rv s2 ρ hi⟩

/-! ### the end of a `for` (`forEnd`, `applyPost`)

With an `into` function that is a builtin (`PostFn`), the store is looked at only by calls of builtins. -/

variable (φ) in
/-- `φ` changes the frames only, as a function of the frames: builtins, which neither read nor write frames
(`callVal_builtin_out`), do not see the difference -/
def FramesOnly : Prop := ∃ f : Array Frame → Array Frame, ∀ st : State, φ st = { st with frames := f st.frames }

theorem FramesOnly.callVal (hφ : FramesOnly φ) (k : Nat) (st : State) (env : Nat) (f : String) (args : List Val) :
    callVal k (φ st) env (.builtin f) args =
      ((callVal k st env (.builtin f) args).1, φ (callVal k st env (.builtin f) args).2) := by
  obtain ⟨f', hf⟩ := hφ
  rw [callVal_builtin_out k (φ st), callVal_builtin_out k st, hf, hf]

theorem FramesOnly.finishDict (hφ : FramesOnly φ) (k : Nat) (st : State) (env : Nat) {post : Option Val}
    (d : List (Val × (Cata ⊕ Val))) (done : List (Val × Val)) (hpf : PostFn post) :
    finishDict k (φ st) env post d done =
      ((finishDict k st env post d done).1, φ (finishDict k st env post d done).2) := by
  obtain ⟨f', hf⟩ := hφ
  rw [finishDict_builtin k (φ st) env post d done hpf, finishDict_builtin k st env post d done hpf, hf, hf]

variable (φ) in
/-- `fin` commutes with `φ` and leaves frames and table as they are -/
def Finishes (fin : Res × State × ForAcc → Res × State) : Prop :=
  ∀ (r : Res) (s : State) (acc : ForAcc),
    fin (r, φ s, acc) = ((fin (r, s, acc)).1, φ (fin (r, s, acc)).2) ∧
      (fin (r, s, acc)).2.frames = s.frames ∧ (fin (r, s, acc)).2.frozenTab = s.frozenTab

theorem Sim3.finish {I : Res → State → Prop} {J : Res → State → Prop} {x' x : Res × State × ForAcc}
    {fin : Res × State × ForAcc → Res × State} (h : Sim3 φ I x' x) (hf : Finishes φ fin)
    (hJ : ∀ r s, I r s → ∀ r' s', s'.frames = s.frames → s'.frozenTab = s.frozenTab → J r' s') :
    Sim φ J (fin x') (fin x) := by
  obtain ⟨r, s, acc, rfl, rfl, hi⟩ := h.elim
  obtain ⟨e, hfr, htb⟩ := hf r s acc
  exact ⟨e, hJ r s hi _ _ hfr htb⟩

theorem forEnd_finishes {c : State → ForAcc → Res × State}
    (hc : ∀ s acc, c (φ s) acc = ((c s acc).1, φ (c s acc).2) ∧ (c s acc).2.frames = s.frames ∧
      (c s acc).2.frozenTab = s.frozenTab) : Finishes φ (forEnd c) := by
  intro r s acc
  simp only [forEnd]
  cases loopEnd r with
  | completed => exact hc s acc
  | _ => exact ⟨rfl, rfl, rfl⟩

theorem execFinish_finishes : Finishes φ (forEnd fun s _ => (.val .null, s)) :=
  forEnd_finishes fun _ _ => ⟨rfl, rfl, rfl⟩

theorem yieldOut_finishes (hφ : FramesOnly φ) (k env : Nat) {post : Option Val} (hpf : PostFn post) :
    Finishes φ (fun x => applyPost k env post (forEnd yieldDone x)) := by
  intro r s acc
  -- `forEnd yieldDone` gives an outcome with the store it was given
  obtain ⟨r', h⟩ : ∃ r', ∀ s, forEnd yieldDone (r, s, acc) = (r', s) := by
    simp only [forEnd]
    cases loopEnd r <;> exact ⟨_, fun _ => rfl⟩
  simp only [h]
  rcases hpf with rfl | ⟨f, rfl⟩
  · exact ⟨rfl, rfl, rfl⟩
  · cases r' with
    | val w => exact ⟨hφ.callVal k s env f [w], callVal_builtin_frames k s env f [w]⟩
    | _ => exact ⟨rfl, rfl, rfl⟩

theorem itemFinish_finishes (hφ : FramesOnly φ) (k env : Nat) {post : Option Val} (hpf : PostFn post) :
    Finishes φ (forEnd fun s acc => finishDict k s env post acc.dict []) :=
  forEnd_finishes fun s acc =>
    ⟨hφ.finishDict k s env acc.dict [] hpf, finishDict_frames k s env post acc.dict [] hpf⟩

end Noulith.C17Sim
