/-
C10 — Indexing and slicing follow Python semantics on every sequence kind.

Property theorems about the Impl model `Noulith.Index` (NoulithModel/Impl/Index.lean, a transcription
of core.rs / eval.rs / lib.rs / streams.rs) against the Spec `Noulith.PyIndex` (Python's rule on
mathematical integers).  Every statement is for ALL lengths `0 ≤ len ≤ isize::MAX` (the bound Rust
guarantees for any `Vec`/slice), ALL integers as indices / bounds, all element lists.

This file: the reads `s[i]`, `s[a:b]` on numbers, on lists (`Access`) and on values
(`index_refines_all`, `slice_refines_all`); accessors, writes and the state after a failed write are
in C10Access, C10Write, C10State.
-/
import NoulithModel.Spec.PyIndex

namespace Noulith.C10
open Noulith Noulith.Index Noulith.PyIndex

/-! ## `Out` plumbing -/

@[simp] theorem bind_ok {α β} (a : α) (f : α → Out β) : (Out.ok a).bind f = f a := rfl
@[simp] theorem bind_throw {α β} (f : α → Out β) : (Out.throw : Out α).bind f = .throw := rfl
@[simp] theorem bind_panic {α β} (f : α → Out β) : (Out.panic : Out α).bind f = .panic := rfl
@[simp] theorem map_ok {α β} (a : α) (f : α → β) : (Out.ok a).map f = .ok (f a) := rfl
@[simp] theorem map_throw {α β} (f : α → β) : (Out.throw : Out α).map f = .throw := rfl
@[simp] theorem map_panic {α β} (f : α → β) : (Out.panic : Out α).map f = .panic := rfl

theorem bind_ne_panic {α β} {x : Out α} {f : α → Out β} (hx : x ≠ .panic) (hf : ∀ a, f a ≠ .panic) :
    x.bind f ≠ .panic := by
  cases x with
  | ok a => exact hf a
  | throw => nofun
  | panic => exact absurd rfl hx

theorem ofOpt_ne_panic {α} (o : Option α) : ofOpt o ≠ .panic := by cases o <;> nofun

theorem ofOpt_map {α β} (o : Option α) (f : α → β) : ofOpt (o.map f) = (ofOpt o).map f := by
  cases o <;> rfl

theorem ofOpt_getElem_map {α β} (xs : List α) (f : α → β) (k : Nat) :
    ofOpt (xs.map f)[k]? = (ofOpt xs[k]?).map f := by
  rw [List.getElem?_map, ofOpt_map]

/-! ## the Spec: Python's rule (facts used to read the Spec, independent of the code) -/

theorem pyIndex_eq_some_iff (len i k : Int) :
    pyIndex len i = some k ↔ (0 ≤ i ∧ i < len ∧ k = i) ∨ (-len ≤ i ∧ i < 0 ∧ k = len + i) := by
  unfold pyIndex
  split
  · rename_i h
    exact ⟨fun e => .inl ⟨h.1, h.2, (Option.some.inj e).symm⟩,
      fun c => c.elim (fun c => congrArg some c.2.2.symm) fun c => absurd h.1 (Int.not_le.2 c.2.1)⟩
  · rename_i h1
    split
    · rename_i h
      exact ⟨fun e => .inr ⟨h.1, h.2, (Option.some.inj e).symm⟩,
        fun c => c.elim (fun c => absurd ⟨c.1, c.2.1⟩ h1) fun c => congrArg some c.2.2.symm⟩
    · rename_i h
      exact ⟨nofun, fun c => c.elim (fun c => absurd ⟨c.1, c.2.1⟩ h1) fun c => absurd ⟨c.1, c.2.1⟩ h⟩

theorem pyIndex_range {len i k : Int} (h : pyIndex len i = some k) : 0 ≤ k ∧ k < len := by
  rcases (pyIndex_eq_some_iff len i k).1 h with ⟨h0, h1, rfl⟩ | ⟨h0, h1, rfl⟩
  · exact ⟨h0, h1⟩
  · omega

theorem pyIndex_eq_none_iff (len i : Int) (hl : 0 ≤ len) :
    pyIndex len i = none ↔ i < -len ∨ len ≤ i := by
  unfold pyIndex
  split
  · simp only [reduceCtorEq, false_iff]; omega
  · split
    · simp only [reduceCtorEq, false_iff]; omega
    · simp only [true_iff]; omega

theorem pyIndex_neg (len i : Int) (h1 : -len ≤ i) (h2 : i < 0) :
    pyIndex len i = pyIndex len (i + len) := by
  unfold pyIndex
  rw [if_neg (by omega), if_pos ⟨h1, h2⟩, if_pos (by omega), Int.add_comm]

example : pyIndex 3 (-1) = some 2 ∧ pyIndex 3 2 = some 2 ∧ pyIndex 3 3 = none ∧ pyIndex 3 (-4) = none
    ∧ pyIndex 0 0 = none ∧ pyIndex 3 9223372036854775807 = none := by decide

theorem pos_range {len : Int} {i : Val} {k : Int} (h : (asInt i).bind (pyIndex len) = some k) :
    0 ≤ k ∧ k < len := by
  cases hi : asInt i with
  | none => rw [hi] at h; cases h
  | some n => rw [hi] at h; exact pyIndex_range h

theorem pyClamp_range (len i : Int) (hl : 0 ≤ len) : 0 ≤ pyClamp len i ∧ pyClamp len i ≤ len := by
  unfold pyClamp
  split
  · exact ⟨Int.le_max_left _ _, Int.max_le.2 ⟨hl, by omega⟩⟩
  · exact ⟨Int.le_min.2 ⟨by omega, hl⟩, Int.min_le_right _ _⟩

theorem pySlice_absent (len : Int) (hl : 0 ≤ len) (lo hi : Option Int) :
    pySlice len lo hi = pySlice len (some (lo.getD 0)) (some (hi.getD len)) := by
  have h0 : pyClamp len 0 = 0 := (if_neg (Int.lt_irrefl 0)).trans (Int.min_eq_left hl)
  have h1 : pyClamp len len = len := (if_neg (Int.not_lt.2 hl)).trans (Int.min_self len)
  cases lo <;> cases hi <;> simp only [pySlice, Option.getD, h0, h1]

theorem pySlice_bounds (len : Int) (lo hi : Option Int) (hl : 0 ≤ len) :
    0 ≤ (pySlice len lo hi).1 ∧ (pySlice len lo hi).1 ≤ (pySlice len lo hi).2
      ∧ (pySlice len lo hi).2 ≤ len := by
  rw [pySlice_absent len hl]
  exact ⟨(pyClamp_range len _ hl).1, Int.le_max_right _ _,
    Int.max_le.2 ⟨(pyClamp_range len _ hl).2, (pyClamp_range len _ hl).2⟩⟩

/-- where a bound points before clamping: negative bounds count from the end -/
def normLo (len : Int) : Option Int → Int
  | none => 0
  | some a => if a < 0 then a + len else a
def normHi (len : Int) : Option Int → Int
  | none => len
  | some a => if a < 0 then a + len else a

/-- among the positions of the sequence a clamped bound separates like the unclamped one -/
theorem pyClamp_le_iff (len a k : Int) (hk : 0 ≤ k ∧ k < len) :
    (pyClamp len a ≤ k ↔ normLo len (some a) ≤ k) ∧ (k < pyClamp len a ↔ k < normHi len (some a)) := by
  have h : pyClamp len a ≤ k ↔ normLo len (some a) ≤ k := by
    simp only [pyClamp, normLo]
    split
    · rw [Int.add_comm]; exact Int.max_le.trans (and_iff_right hk.1)
    · exact ⟨fun h => by omega, fun h => Int.le_trans (Int.min_le_left _ _) h⟩
  -- the second is the first, negated
  exact ⟨h, by rw [← Int.not_le, ← Int.not_le]; exact not_congr h⟩

/-- clamp-free characterisation of Python slicing: position `k` of the sequence is selected by
`[lo:hi]` exactly when it lies between the two (end-relative when negative) bounds -/
theorem pySlice_selects_iff (len : Int) (lo hi : Option Int) (k : Int) (hk : 0 ≤ k ∧ k < len) :
    ((pySlice len lo hi).1 ≤ k ∧ k < (pySlice len lo hi).2) ↔ (normLo len lo ≤ k ∧ k < normHi len hi) := by
  have hl : 0 ≤ len := Int.le_of_lt (Int.lt_of_le_of_lt hk.1 hk.2)
  have nl : normLo len lo = normLo len (some (lo.getD 0)) := by cases lo <;> rfl
  have nh : normHi len hi = normHi len (some (hi.getD len)) := by
    cases hi with
    | none => exact (if_neg (Int.not_lt.2 hl)).symm
    | some b => rfl
  rw [pySlice_absent len hl, nl, nh, ← (pyClamp_le_iff len _ k hk).1, ← (pyClamp_le_iff len _ k hk).2]
  -- the upper end is `max h l`, and `l ≤ k`
  exact and_congr_right fun h =>
    ⟨fun h2 => Int.not_le.1 fun hb => Int.not_le.2 h2 (Int.max_le.2 ⟨hb, h⟩),
      fun h2 => Int.lt_of_lt_of_le h2 (Int.le_max_left _ _)⟩

example : pySlice 5 (some (-2)) none = (3, 5) ∧ pySlice 5 (some 1) (some (-1)) = (1, 4)
    ∧ pySlice 5 (some 4) (some 2) = (4, 4) ∧ pySlice 5 (some (-100)) (some 100) = (0, 5) := by decide

/-! ## `index_is_python`: the index normalisation of core.rs is Python's rule, for every length
and every integer, and never panics -/

theorem asUsize_eq {v : Int} (h0 : 0 ≤ v) (h1 : v ≤ 9223372036854775807) : asUsize v = v := by
  unfold asUsize; omega

theorem addIsize_ok {a b : Int} (h : inI64 (a + b)) : addIsize a b = .ok (a + b) := if_pos h

/-- the `n < 0` branch that `pythonic_index_isize` and the `Stream` default share: `n + len` cannot
overflow, and read as a `usize` it is below `len` exactly when `-len ≤ n` -/
theorem neg_index {β} (len n : Int) (hl : lenOk len) (hn : inI64 n) (h : n < 0) (F : Int → Out β) :
    ((addIsize n len).bind fun s => if asUsize s < len then F (asUsize s) else .throw)
      = if -len ≤ n then F (len + n) else .throw := by
  unfold lenOk at hl; unfold inI64 at hn
  rw [addIsize_ok (by unfold inI64; omega), bind_ok]
  by_cases h3 : -len ≤ n
  · rw [asUsize_eq (by omega) (by omega), if_pos (by omega), if_pos h3, Int.add_comm]
  · rw [if_neg (by unfold asUsize; omega), if_neg h3]

theorem pythonicIndexIsize_eq (len n : Int) (hl : lenOk len) (hn : inI64 n) :
    pythonicIndexIsize len n = ofOpt (pyIndex len n) := by
  unfold pythonicIndexIsize pyIndex
  by_cases h1 : 0 ≤ n ∧ n < len
  · rw [if_pos h1, if_pos h1]; rfl
  · rw [if_neg h1, if_neg h1]
    by_cases h2 : n < 0
    · rw [if_pos h2, neg_index len n hl hn h2]
      simp only [h2, and_true]
      split <;> rfl
    · rw [if_neg h2, if_neg (by omega)]; rfl

/-- core.rs `pythonic_index_isize` (post-F11) = `pyIndex`, for every `isize` -/
theorem index_is_python (len n : Int) (hl : lenOk len) (hn : inI64 n) :
    pythonicIndexIsize len n = (match pyIndex len n with
      | some k => .ok k
      | none => .throw) := by
  rw [pythonicIndexIsize_eq len n hl hn]; cases pyIndex len n <;> rfl

/-- the argument check in front of every `isize` index: numeric, then `to_isize` -/
theorem isize_arg {β} (i : Val) (F : Int → Out β) :
    (if isNum i then (match toIsize i with
      | some n => F n
      | none => .throw) else .throw)
    = (match asInt i with
      | some n => if inI64 n then F n else .throw
      | none => .throw) := by
  cases i with
  | int n => by_cases h : inI64 n <;> simp only [isNum, toIsize, asInt, h, if_true, if_false]
  | _ => rfl

theorem pythonicIndex_isize (len : Int) (i : Val) :
    pythonicIndex len i = (match asInt i with
      | some n => if inI64 n then pythonicIndexIsize len n else .throw
      | none => .throw) := isize_arg i _

/-- core.rs `pythonic_index` on an arbitrary index object: an integer addresses `pyIndex len i`
— for EVERY integer, also beyond the machine word —, everything else raises -/
theorem pythonicIndex_eq (len : Int) (i : Val) (hl : lenOk len) :
    pythonicIndex len i = ofOpt ((asInt i).bind (pyIndex len)) := by
  rw [pythonicIndex_isize]
  cases asInt i with
  | none => rfl
  | some n =>
    show (if inI64 n then _ else _) = ofOpt (pyIndex len n)
    split
    · exact pythonicIndexIsize_eq len n hl ‹_›
    · rw [(pyIndex_eq_none_iff len n hl.1).2 (by unfold inI64 at *; unfold lenOk at hl; omega)]; rfl

theorem index_obj_is_python (len : Int) (i : Val) (hl : lenOk len) :
    pythonicIndex len i = (match i with
      | .int n => (match pyIndex len n with
        | some k => .ok k
        | none => .throw)
      | _ => .throw) := by
  rw [pythonicIndex_eq len i hl]
  cases i with
  | int n =>
    show ofOpt (pyIndex len n) = (match pyIndex len n with
      | some k => .ok k
      | none => .throw)
    cases pyIndex len n <;> rfl
  | _ => rfl

theorem index_never_panics (len : Int) (i : Val) (hl : lenOk len) : pythonicIndex len i ≠ .panic := by
  rw [pythonicIndex_eq len i hl]; exact ofOpt_ne_panic _

/-- what follows the normalisation only ever sees a valid position: the one Python's rule gives -/
theorem bind_pythonicIndex {β} (len : Int) (i : Val) (hl : lenOk len) (F G : Int → Out β)
    (h : ∀ k, 0 ≤ k → k < len → F k = G k) :
    (pythonicIndex len i).bind F = (match (asInt i).bind (pyIndex len) with
      | some k => G k
      | none => .throw) := by
  rw [pythonicIndex_eq len i hl]
  cases hk : (asInt i).bind (pyIndex len) with
  | none => rfl
  | some k => exact h k (pos_range hk).1 (pos_range hk).2

/-- F11: the code at the pinned commit computes `n + len` for every out-of-range `n` and
overflows: `[1,2,3][2^63-1]` panics instead of raising an index error. -/
theorem f11_old_code_panics : pythonicIndexIsizeOld 3 9223372036854775807 = .panic := by decide

/-- the pinned code was right whenever the sum does not overflow -/
theorem index_is_python_old_partial (len n : Int) (hl : lenOk len) (hn : inI64 n)
    (hsum : n + len ≤ 9223372036854775807) :
    pythonicIndexIsizeOld len n = pythonicIndexIsize len n := by
  unfold lenOk at hl; unfold inI64 at hn
  unfold pythonicIndexIsizeOld pythonicIndexIsize
  split
  · rfl
  · split
    · rfl
    · -- `n ≥ len`: the sum is at least `len` as a `usize` too
      rw [addIsize_ok (by unfold inI64; omega), bind_ok, if_neg (by unfold asUsize; omega)]

example : lenOk 3 ∧ inI64 (-1) ∧ pythonicIndexIsize 3 (-1) = .ok 2 := by decide

/-! ## `slice_is_python`: clamping is Python's, for every combination of present/absent bounds -/

theorem clamped_is_python (len i : Int) (hl : lenOk len) (hi : inI64 i) :
    clampedPythonicIndex len i = .ok (pyClamp len i) := by
  unfold lenOk at hl; unfold inI64 at hi
  unfold clampedPythonicIndex pyClamp
  by_cases h : i ≥ 0
  · rw [if_pos h, if_neg (by omega), asUsize_eq h hi.2]
  · rw [if_neg h, if_pos (by omega), addIsize_ok (by unfold inI64; omega), bind_ok]
    by_cases h2 : i + len < 0
    · rw [if_pos h2]; congr 1; omega
    · rw [if_neg h2, asUsize_eq (by omega) (by omega)]; congr 1; omega

/-- a slice bound that is present fits a machine word -/
def boundOk : Option Int → Prop
  | none => True
  | some a => inI64 a

/-- core.rs `pythonic_slice` = Python's `slice.indices`, never fails -/
theorem slice_is_python (len : Int) (lo hi : Option Int) (hl : lenOk len)
    (hlo : boundOk lo) (hhi : boundOk hi) :
    pythonicSlice len lo hi = .ok (pySlice len lo hi) := by
  cases lo <;> cases hi <;> simp only [boundOk] at hlo hhi <;>
    simp only [pythonicSlice, pySlice, clamped_is_python, hl, hlo, hhi, bind_ok]

theorem bound_conv (b : Option Val) : objToIsizeSliceIndex b = bound b := by
  cases b with
  | none => rfl
  | some x => refine (isize_arg x _).trans ?_; cases x <;> rfl

theorem bound_int {v : Int} (h : inI64 v) : bound (some (.int v)) = .ok (some v) := if_pos h

theorem bound_ok {b : Option Val} {r : Option Int} (h : bound b = .ok r) : boundOk r := by
  cases b with
  | none => cases h; trivial
  | some x =>
    cases x <;> first | cases h | skip
    rename_i v
    by_cases hv : inI64 v
    · rw [bound_int hv] at h; cases h; exact hv
    · rw [show bound (some (.int v)) = .throw from if_neg hv] at h; cases h

theorem bound_ne_panic (b : Option Val) : bound b ≠ .panic := by
  cases b with
  | none => intro h; cases h
  | some x =>
    cases x <;> first | (intro h; cases h) | skip
    show (if _ then _ else _) ≠ _
    split <;> nofun

theorem bounds_bind {β} (lo hi : Option Val) (F G : Option Int → Option Int → Out β)
    (h : ∀ l h, boundOk l → boundOk h → F l h = G l h) :
    ((bound lo).bind fun l => (bound hi).bind fun h => F l h)
      = (bound lo).bind fun l => (bound hi).bind fun h => G l h := by
  cases h1 : bound lo <;> try rfl
  cases h2 : bound hi <;> try rfl
  exact h _ _ (bound_ok h1) (bound_ok h2)

/-- the stream kinds convert the two bounds themselves: what follows only sees machine-word bounds -/
theorem bounds_congr {β} (lo hi : Option Val) (F G : Option Int → Option Int → Out β)
    (h : ∀ l h, boundOk l → boundOk h → F l h = G l h) :
    ((objToIsizeSliceIndex lo).bind fun l => (objToIsizeSliceIndex hi).bind fun h => F l h)
      = (bound lo).bind fun l => (bound hi).bind fun h => G l h := by
  rw [bound_conv, bound_conv]; exact bounds_bind lo hi F G h

/-- core.rs `pythonic_slice_obj`: raises exactly when a bound is not a machine-word integer,
otherwise Python's range -/
theorem slice_obj_is_python (len : Int) (lo hi : Option Val) (hl : lenOk len) :
    pythonicSliceObj len lo hi =
      (bound lo).bind fun l => (bound hi).bind fun h => .ok (pySlice len l h) :=
  bounds_congr lo hi _ _ fun l h => slice_is_python len l h hl

theorem sliceObj_bind {β} (len : Int) (lo hi : Option Val) (hl : lenOk len) (K : Int × Int → Out β) :
    (pythonicSliceObj len lo hi).bind K
      = (bound lo).bind fun l => (bound hi).bind fun h => K (pySlice len l h) := by
  rw [slice_obj_is_python len lo hi hl]
  cases bound lo <;> try rfl
  cases bound hi <;> rfl

theorem slice_never_panics (len : Int) (lo hi : Option Val) (hl : lenOk len) :
    pythonicSliceObj len lo hi ≠ .panic := by
  rw [slice_obj_is_python len lo hi hl]
  exact bind_ne_panic (bound_ne_panic lo) fun _ => bind_ne_panic (bound_ne_panic hi) fun _ => nofun

/-! ## list level: the element returned is `xs[pyIndex]`, the slice returned is
`(xs.drop l).take (h - l)`; Rust's slice accesses never go out of bounds -/

theorem pos_toNat {n : Nat} {k : Int} (h0 : 0 ≤ k) (h1 : k < n) : k.toNat < n := (Int.toNat_lt h0).2 h1

theorem elemAt_eq {α} (xs : List α) (k : Int) (h0 : 0 ≤ k) (h1 : k < xs.length) :
    elemAt xs k = ofOpt xs[k.toNat]? := by
  rw [elemAt, if_neg (Int.not_lt.2 h0), List.getElem?_eq_getElem (pos_toNat h0 h1)]; rfl

theorem elemAt_map {α β} (xs : List α) (f : α → β) (k : Int) (h0 : 0 ≤ k) (h1 : k < xs.length) :
    (elemAt xs k).map f = ofOpt (xs.map f)[k.toNat]? := by
  rw [elemAt_eq xs k h0 h1, ofOpt_getElem_map]

theorem subRange_eq {α} (xs : List α) (l h : Int) (h0 : 0 ≤ l) (h1 : l ≤ h) (h2 : h ≤ xs.length) :
    subRange xs l h = .ok ((xs.drop l.toNat).take (h - l).toNat) := if_pos ⟨h0, h1, h2⟩

theorem subRange_single {α} (xs : List α) (k : Int) (h0 : 0 ≤ k) (h1 : k < xs.length) :
    subRange xs k (k + 1) = (ofOpt xs[k.toNat]?).map fun x => [x] := by
  have hk := pos_toNat h0 h1
  rw [subRange_eq xs k (k + 1) h0 (by omega) (by omega), show (k + 1 - k).toNat = 1 by omega,
    List.getElem?_eq_getElem hk, List.take_one, List.head?_drop, List.getElem?_eq_getElem hk]
  rfl

theorem specIndex_finite {s : Val} {ys : List Val} (h : items s = some ys) (i : Val) :
    PyIndex.index s i = (match asInt i with
      | some n => ofOpt (elemOf ys n)
      | none => .throw) := by
  unfold PyIndex.index
  generalize asInt i = o
  cases s <;> cases h <;> cases o <;> rfl

theorem weird_eq (bs : List Nat) (k : Int) (h0 : 0 ≤ k) (h1 : k < bs.length) :
    weirdStringAsBytesIndex bs k = ofOpt (bs.map byteItem)[k.toNat]? := by
  unfold weirdStringAsBytesIndex
  rw [subRange_single bs k h0 h1, ofOpt_getElem_map]
  cases bs[k.toNat]? <;> rfl

/-- how the code reads a strict kind: a container of Rust length `len` whose access `F k` reaches
element `k` of the elements `ys` the Spec's `items` exposes, at every position -/
structure Access (ys : List Val) (len : Int) (F : Int → Out Val) : Prop where
  len_eq : (ys.length : Int) = len
  ok : lenOk len
  get : ∀ k, 0 ≤ k → k < len → F k = ofOpt ys[k.toNat]?

theorem Access.vals {xs : List Val} (hl : lenOk xs.length) : Access xs xs.length (elemAt xs) :=
  ⟨rfl, hl, elemAt_eq xs⟩

theorem Access.bytes {bs : List Nat} (hl : lenOk bs.length) :
    Access (bs.map fun (b : Nat) => Val.int (b : Int)) bs.length
      fun k => (elemAt bs k).map fun (b : Nat) => Val.int (b : Int) :=
  ⟨by rw [List.length_map], hl, elemAt_map bs _⟩

theorem Access.str {bs : List Nat} (hl : lenOk bs.length) :
    Access (bs.map byteItem) bs.length (weirdStringAsBytesIndex bs) :=
  ⟨by rw [List.length_map], hl, weird_eq bs⟩

/-- the generic read: normalise the index object, then reach the element by the kind's access;
it is the Spec's `s[i]` where `items` gives `ys` -/
theorem pick {s : Val} {ys : List Val} {len : Int} {F : Int → Out Val} (A : Access ys len F)
    (h : items s = some ys) (i : Val) : (pythonicIndex len i).bind F = PyIndex.index s i := by
  obtain ⟨rfl, hl, hF⟩ := A
  rw [bind_pythonicIndex _ i hl F _ hF, specIndex_finite h]
  cases asInt i with
  | none => rfl
  | some n =>
    show (match pyIndex (ys.length : Int) n with
      | some k => ofOpt ys[k.toNat]?
      | none => .throw) = ofOpt (elemOf ys n)
    unfold elemOf
    cases pyIndex (ys.length : Int) n <;> rfl

/-- Rust's `xs[l..h]` on the clamped range never goes out of bounds: it is Python's slice -/
theorem subRange_pySlice {α} (xs : List α) (l h : Option Int) :
    subRange xs (pySlice xs.length l h).1 (pySlice xs.length l h).2 = .ok (sliceOf xs l h) :=
  have hb := pySlice_bounds xs.length l h (Int.natCast_nonneg _)
  subRange_eq xs _ _ hb.1 hb.2.1 hb.2.2

/-- the generic slice: convert the bounds, clamp, cut (`f` re-wraps the elements in the sequence's
kind) -/
theorem cut_eq {α β} (xs : List α) (lo hi : Option Val) (f : List α → β) (hl : lenOk xs.length) :
    ((pythonicSliceObj xs.length lo hi).bind fun p => (subRange xs p.1 p.2).map f) =
      (bound lo).bind fun l => (bound hi).bind fun h => .ok (f (sliceOf xs l h)) := by
  rw [sliceObj_bind _ lo hi hl]
  simp only [subRange_pySlice]; rfl

theorem length_sliceOf {α} (xs : List α) (lo hi : Option Int) :
    ((sliceOf xs lo hi).length : Int) = (pySlice xs.length lo hi).2 - (pySlice xs.length lo hi).1 := by
  have hb := pySlice_bounds xs.length lo hi (Int.natCast_nonneg _)
  rw [sliceOf, List.length_take, List.length_drop, Nat.min_eq_left (by omega),
    Int.toNat_of_nonneg (Int.sub_nonneg.2 hb.2.1)]

theorem sliceOf_getElem {α} (xs : List α) (lo hi : Option Int) (j : Nat)
    (hj : (j : Int) < (pySlice xs.length lo hi).2 - (pySlice xs.length lo hi).1) :
    (sliceOf xs lo hi)[j]? = xs[(pySlice xs.length lo hi).1.toNat + j]? := by
  simp only [sliceOf, List.getElem?_take, List.getElem?_drop]
  rw [if_pos (by omega)]

theorem sliceOf_lo_none {α} (xs : List α) (hi : Option Int) :
    sliceOf xs none hi = sliceOf xs (some 0) hi := by
  simp only [sliceOf, pySlice, pyClamp, Int.lt_irrefl, if_false, Int.min_eq_left (Int.natCast_nonneg _)]

theorem sliceOf_hi_none {α} (xs : List α) (lo : Option Int) :
    sliceOf xs lo none = sliceOf xs lo (some xs.length) := by
  simp only [sliceOf, pySlice, pyClamp, if_neg (Int.not_lt.2 (Int.natCast_nonneg _)), Int.min_self]

theorem take_drop_clamp {α} (xs : List α) (A B : Nat) :
    (xs.drop (min A xs.length)).take (max (min B xs.length) (min A xs.length) - min A xs.length)
      = (xs.drop A).take (B - A) := by
  by_cases h : A ≤ xs.length
  · -- the count `min B len - A`, cut at the `len - A` elements there are, is `B - A` cut there
    rw [Nat.min_eq_left h, List.take_eq_take_iff, List.length_drop, ← Nat.sub_max_sub_right,
      Nat.sub_self, Nat.max_zero, ← Nat.sub_min_sub_right, Nat.min_assoc, Nat.min_self]
  · have h' : xs.length ≤ A := Nat.le_of_not_le h
    rw [Nat.min_eq_right h', List.drop_eq_nil_of_le h', List.drop_eq_nil_of_le (Nat.le_refl _),
      List.take_nil, List.take_nil]

theorem sliceOf_nonneg {α} (xs : List α) (a b : Int) (ha : 0 ≤ a) (hb : 0 ≤ b) :
    sliceOf xs (some a) (some b) = (xs.drop a.toNat).take (b - a).toNat := by
  rw [← Int.toNat_of_nonneg ha, ← Int.toNat_of_nonneg hb]
  simp only [sliceOf, pySlice, pyClamp, if_neg (Int.not_lt.2 (Int.natCast_nonneg _)),
    ← Lean.Omega.Int.ofNat_min, ← Lean.Omega.Int.ofNat_max, Int.toNat_sub, Int.toNat_natCast]
  exact take_drop_clamp xs _ _

theorem sliceOf_suffix {α} (xs : List α) (a : Int) (ha : 0 ≤ a) :
    sliceOf xs (some a) none = xs.drop a.toNat := by
  rw [sliceOf_hi_none, sliceOf_nonneg xs a _ ha (Int.natCast_nonneg _), List.take_of_length_le]
  rw [List.length_drop]; omega

theorem sliceOf_all {α} (xs : List α) : sliceOf xs none none = xs := by
  rw [sliceOf_lo_none, sliceOf_suffix xs 0 (Int.le_refl 0)]; rfl

theorem sliceOf_butlast {α} (xs : List α) : sliceOf xs none (some (-1)) = xs.dropLast := by
  -- the clamp of `-1` is `len - 1`
  have c : pyClamp xs.length (-1) = (xs.length - 1 : Nat) := by
    unfold pyClamp; rw [if_pos (by decide)]; omega
  simp only [sliceOf, pySlice, c, List.dropLast_eq_take]
  rw [Int.max_eq_left (Int.natCast_nonneg _), Int.sub_zero, Int.toNat_natCast]; rfl

theorem elemOf_last {α} (xs : List α) : elemOf xs (-1) = xs.getLast? := by
  unfold elemOf pyIndex
  rw [List.getLast?_eq_getElem?]
  by_cases h : xs.length = 0
  · have := List.eq_nil_of_length_eq_zero h; subst this; simp
  · have h1 : ¬ (0 ≤ (-1 : Int) ∧ (-1 : Int) < (xs.length : Int)) := by omega
    have h2 : -(xs.length : Int) ≤ -1 ∧ (-1 : Int) < 0 := by omega
    simp only [h1, h2, if_false, if_true, and_self]
    congr 1
    omega

theorem elemOf_zero {α} (xs : List α) : elemOf xs 0 = xs.head? := by
  unfold elemOf pyIndex
  cases xs with
  | nil => simp
  | cons a t =>
    simp

/-! ## every sequence kind: `Impl.index = Spec.index`, `Impl.slice = Spec.slice` -/

/-- the length invariant Rust guarantees for the top-level sequence (`Vec::len() ≤ isize::MAX`);
for a `Cycle` also its own invariants (non-empty, position inside) -/
def seqOk : Val → Prop
  | .str bs => lenOk bs.length
  | .bytes bs => lenOk bs.length
  | .list xs => lenOk xs.length
  | .vec xs => lenOk xs.length
  | .stream xs => lenOk xs.length
  | .cyc xs pos => lenOk xs.length ∧ xs.length ≠ 0 ∧ pos < xs.length
  | _ => True

theorem streamWalk_eq (xs : List Val) (n : Int) (hn : 0 ≤ n) :
    streamWalk xs n = ofOpt xs[n.toNat]? := by
  induction xs generalizing n with
  | nil => rfl
  | cons e rest ih =>
    unfold streamWalk
    by_cases h0 : n = 0
    · subst h0; rfl
    · rw [if_neg h0, ih (n - 1) (by omega), show n.toNat = (n - 1).toNat + 1 by omega,
        List.getElem?_cons_succ]

/-- the default `Stream::pythonic_index_isize` is the slice code on the forced elements -/
theorem streamIndex_eq (xs : List Val) (n : Int) (hl : lenOk xs.length) (hn : inI64 n) :
    streamIndexIsize xs n = (pythonicIndexIsize xs.length n).bind fun k => elemAt xs k := by
  unfold streamIndexIsize pythonicIndexIsize
  by_cases h : n ≥ 0
  · rw [if_pos h, streamWalk_eq xs n h]
    by_cases h2 : n < xs.length
    · rw [if_pos ⟨h, h2⟩, bind_ok, elemAt_eq xs n h h2]
    · rw [if_neg (fun c => h2 c.2), if_neg (by omega), List.getElem?_eq_none (by omega)]; rfl
  · rw [if_neg h, if_neg (fun c => h c.1), if_pos (by omega), neg_index _ n hl hn (by omega),
      neg_index _ n hl hn (by omega)]
    split <;> rfl

theorem stream_index_is_list_index (xs : List Val) (i : Val) (hl : lenOk xs.length) :
    Index.index (.stream xs) i = Index.index (.list xs) i := by
  refine (isize_arg i _).trans ?_
  show _ = (pythonicIndex xs.length i).bind fun k => elemAt xs k
  rw [pythonicIndex_isize]
  cases asInt i with
  | none => rfl
  | some n =>
    show (if inI64 n then _ else _) = Out.bind (if inI64 n then _ else _) _
    split
    · exact streamIndex_eq xs n hl ‹_›
    · rfl

theorem cycleIndexIsize_eq (xs : List Val) (pos : Nat) (n : Int) (hs : seqOk (.cyc xs pos)) :
    cycleIndexIsize xs pos n = ofOpt xs[((pos + n) % xs.length).toNat]? := by
  obtain ⟨hl, h0, hp⟩ := hs
  unfold lenOk at hl
  have hpos : (0 : Int) < xs.length := by omega
  have h1 := Int.emod_nonneg n (Int.ne_of_gt hpos)
  have h2 := Int.emod_lt_of_pos n hpos
  unfold cycleIndexIsize addUsize
  rw [if_neg h0, asUsize_eq h1 (by omega), if_pos (by unfold inUsize; omega), bind_ok,
    elemAt_eq xs _ (Int.emod_nonneg _ (Int.ne_of_gt hpos)) (Int.emod_lt_of_pos _ hpos),
    Int.add_emod_emod]

/-- `s[i]` of the code is `s[i]` of the Spec on every value: the five finite kinds through their
`Access`, the two infinite streams by their overrides, an error for everything else -/
theorem index_refines_all (s i : Val) (hs : seqOk s) : Index.index s i = PyIndex.index s i := by
  cases s with
  | list xs | vec xs => exact pick (.vals hs) rfl i
  | stream xs => exact (stream_index_is_list_index xs i hs).trans (pick (.vals hs) rfl i)
  | bytes bs => exact pick (.bytes hs) rfl i
  | str bs => exact pick (.str hs) rfl i
  | rep x =>
    refine (isize_arg i _).trans ?_
    unfold PyIndex.index
    generalize asInt i = o
    cases o <;> rfl
  | cyc xs pos =>
    refine (isize_arg i _).trans ?_
    unfold PyIndex.index
    generalize asInt i = o
    cases o with
    | none => rfl
    | some n =>
      dsimp only
      split
      · exact cycleIndexIsize_eq xs pos n hs
      · rfl
  | _ => unfold PyIndex.index; cases asInt i <;> rfl

/-- **index_refines** — on every finite sequence kind, for every index object, `s[i]` of the code
is `s[i]` of the Spec: element `pyIndex len i`, an index error for every other integer however
large, an error for every non-integer; never a panic. -/
theorem index_refines (s i : Val) (hs : seqOk s) (hfin : isFinite s = true) :
    Index.index s i = PyIndex.index s i := index_refines_all s i hs

/-- `repeat(x)[i]` is `x` for every machine-word integer -/
theorem repeat_index_refines (x i : Val) : Index.index (.rep x) i = PyIndex.index (.rep x) i :=
  index_refines_all _ i trivial

/-- `cycle(xs)[i]` (start position `pos`) is `xs[(pos + i) mod len]`, for every machine-word
integer, without overflow -/
theorem cycle_index_refines (xs : List Val) (pos : Nat) (i : Val) (hs : seqOk (.cyc xs pos)) :
    Index.index (.cyc xs pos) i = PyIndex.index (.cyc xs pos) i := index_refines_all _ i hs

/-- the default `Stream::pythonic_slice` selects the elements Python selects; the result is a
stream exactly for a suffix from a non-negative position -/
theorem streamSlice_eq (xs : List Val) (lo hi : Option Int) (hl : lenOk xs.length)
    (hlo : boundOk lo) (hhi : boundOk hi) :
    streamSlice xs lo hi =
      (if hi.isNone ∧ 0 ≤ lo.getD 0 then .ok (.stream (sliceOf xs lo hi))
       else .ok (.list (sliceOf xs lo hi))) := by
  -- an absent lower bound is the bound `0`
  obtain ⟨a, ha, hs, ha64⟩ :
      ∃ a, lo.getD 0 = a ∧ sliceOf xs lo hi = sliceOf xs (some a) hi ∧ inI64 a := by
    cases lo with
    | none => exact ⟨0, rfl, sliceOf_lo_none xs hi, by decide⟩
    | some a => exact ⟨a, rfl, rfl, hlo⟩
  have forced : ((pythonicSlice xs.length (some a) hi).bind fun p => (subRange xs p.1 p.2).map Val.list)
      = .ok (.list (sliceOf xs (some a) hi)) := by
    rw [slice_is_python _ (some a) hi hl ha64 hhi, bind_ok, subRange_pySlice]; rfl
  unfold streamSlice
  simp only [ha, hs]
  cases hi with
  | none =>
    dsimp only
    by_cases h : 0 ≤ a
    · rw [if_pos h, if_pos ⟨rfl, h⟩, sliceOf_suffix xs a h]
    · rw [if_neg h, if_neg fun c => h c.2, forced]
  | some b =>
    dsimp only
    refine Eq.trans ?_ (if_neg fun c => Bool.noConfusion c.1).symm
    by_cases h : 0 ≤ a ∧ 0 ≤ b
    · rw [if_pos h, sliceOf_nonneg xs a b h.1 h.2]
    · rw [if_neg h, forced]

/-- a difference of two machine words, when positive, is its own `as usize` -/
theorem span_count (d : Int) (h : d < 18446744073709551616) :
    (asUsize (max d 0)).toNat = d.toNat := by
  by_cases h0 : 0 ≤ d
  · rw [Int.max_eq_left h0, asUsize, Int.emod_eq_of_lt h0 h]
  · have hd := Int.le_of_lt (Int.not_le.1 h0)
    rw [Int.max_eq_right hd, Int.toNat_eq_zero.2 hd]; rfl

/-- the shift of a bound "`k` before infinity" keeps its sign … -/
theorem shift_neg (a : Int) : ((if a < 0 then a - 1 else a) < 0) = (a < 0) := by
  split <;> apply propext <;> omega

/-- … and the distance between two bounds of the same sign -/
theorem shift_sub {a b : Int} (h : (a < 0) = (b < 0)) :
    (if b < 0 then b - 1 else b) - (if a < 0 then a - 1 else a) = b - a := by
  by_cases ha : a < 0
  · rw [if_pos ha, if_pos (h ▸ ha)]; omega
  · rw [if_neg ha, if_neg (h ▸ ha)]

theorem slice_refines_all (s : Val) (lo hi : Option Val) (hs : seqOk s) :
    Index.slice s lo hi = PyIndex.slice s lo hi := by
  cases s with
  | list xs | vec xs => exact cut_eq xs lo hi _ hs
  | bytes bs | str bs => exact cut_eq bs lo hi _ hs
  | stream xs => exact bounds_congr lo hi _ _ fun l h => streamSlice_eq xs l h hs
  | rep x =>
    refine bounds_congr lo hi _ _ fun l h hl hh => ?_
    -- an absent lower bound is the bound `0`, which the shift leaves alone
    obtain ⟨a, ha, e1, e2⟩ :
        ∃ a, inI64 a ∧ repeatSlice x l h = repeatSlice x (some a) h ∧ l.getD 0 = a := by
      cases l with
      | none => exact ⟨0, by decide, rfl, rfl⟩
      | some a => exact ⟨a, hl, rfl, rfl⟩
    simp only [e1, e2]
    unfold inI64 at ha
    unfold repeatSlice
    cases h with
    | none =>
      by_cases hn : a < 0
      · simp only [hn, if_true, show a - 1 < 0 from by omega, show (-1 : Int) < 0 from by decide,
          show -1 - (a - 1) = -a from by omega, span_count (-a) (by omega)]
      · simp only [hn, if_false, show (-1 : Int) < 0 from by decide, eq_iff_iff, false_iff,
          not_true_eq_false]
    | some b =>
      have hb : inI64 b := hh
      unfold inI64 at hb
      simp only [shift_neg]
      by_cases hs : (a < 0) = (b < 0)
      · rw [if_pos hs, if_pos hs, shift_sub hs, span_count (b - a) (by omega)]
      · rw [if_neg hs, if_neg hs]
  | cyc xs pos =>
    refine bounds_congr lo hi _ _ fun l h _ _ => ?_
    unfold cycleSlice
    simp only [if_neg hs.2.1]
    cases h with
    | none =>
      dsimp only
      by_cases hl : l.getD 0 < 0
      · rw [if_pos hl, if_neg (Int.not_le.2 hl)]
      · rw [if_neg hl, if_pos (Int.not_lt.1 hl)]
    | some b =>
      dsimp only
      by_cases hc : l.getD 0 < 0 ∨ b < 0
      · rw [if_pos hc, if_neg fun c => hc.elim (Int.not_lt.2 c.1) (Int.not_lt.2 c.2)]
      · rw [if_neg hc, if_pos ⟨Int.not_lt.1 fun h => hc (.inl h), Int.not_lt.1 fun h => hc (.inr h)⟩]
  | _ =>
    -- not a sequence: the Spec raises after converting the bounds, which cannot panic
    show Out.throw = (bound lo).bind fun _ => (bound hi).bind fun _ => Out.throw
    cases h1 : bound lo with
    | ok l =>
      cases h2 : bound hi with
      | panic => exact absurd h2 (bound_ne_panic hi)
      | _ => rfl
    | throw => rfl
    | panic => exact absurd h1 (bound_ne_panic lo)

/-- **slice_refines** — on every finite sequence kind and for every combination of present / absent
bounds, `s[a:b]` of the code is Python's slice re-wrapped in the sequence's kind; it raises only for
a bound that is not a machine-word integer and never panics. -/
theorem slice_refines (s : Val) (lo hi : Option Val) (hs : seqOk s) (hfin : isFinite s = true) :
    Index.slice s lo hi = PyIndex.slice s lo hi := slice_refines_all s lo hi hs

/-- slices of `repeat(x)`: `k` elements between two positions of the same kind (both from the
start, or both "before infinity"), nothing from a before-infinity position to a finite one, the
stream itself from a finite position to infinity; no overflow for any machine-word bounds -/
theorem repeat_slice_refines (x : Val) (lo hi : Option Val) :
    Index.slice (.rep x) lo hi = PyIndex.slice (.rep x) lo hi := slice_refines_all _ lo hi trivial

/-- slices of `cycle(xs)` with non-negative bounds walk the cycle from `pos + lo`; a negative bound
would need the end of an infinite stream and raises -/
theorem cycle_slice_refines (xs : List Val) (pos : Nat) (lo hi : Option Val)
    (hs : seqOk (.cyc xs pos)) :
    Index.slice (.cyc xs pos) lo hi = PyIndex.slice (.cyc xs pos) lo hi :=
  slice_refines_all _ lo hi hs

/-- the overflow of the pinned code: `cycle([1,2])[1:][2^63-1]` panicked -/
theorem cycle_old_code_panics :
    (cycleIndexIsizeOld [.int 1, .int 2] 1 9223372036854775807).isPanic = true := by decide

/-- the overflow of the pinned code: `repeat(7)[-2^63:0]` panicked -/
theorem repeat_old_code_panics :
    (repeatSliceOld (.int 7) (some (-9223372036854775808)) (some 0)).isPanic = true := by decide

/-- the elements of a sequence value (what a `for` loop would see) -/
def elems : Val → List Val
  | .list xs => xs
  | .stream xs => xs
  | _ => []

/-- a finite stream slices to the same elements as the list of its elements (as a stream or as a
list) -/
theorem stream_slice_is_list_slice (xs : List Val) (lo hi : Option Val) (hl : lenOk xs.length) :
    (Index.slice (.stream xs) lo hi).map elems = (Index.slice (.list xs) lo hi).map elems := by
  rw [slice_refines_all (.stream xs) lo hi hl, slice_refines_all (.list xs) lo hi hl]
  show ((bound lo).bind fun lo => (bound hi).bind fun hi => _).map elems
    = ((bound lo).bind fun lo => (bound hi).bind fun hi => _).map elems
  cases bound lo <;> try rfl
  cases bound hi <;> try rfl
  simp only [bind_ok]
  split <;> rfl

theorem specIndex_ne_panic (s i : Val) (hfin : isFinite s = true) : PyIndex.index s i ≠ .panic := by
  obtain ⟨ys, h⟩ := Option.isSome_iff_exists.1 hfin
  rw [specIndex_finite h i]
  cases asInt i with
  | none => nofun
  | some n => exact ofOpt_ne_panic _

/-- no indexing or slicing operation on a finite sequence panics -/
theorem index_no_panic (s i : Val) (hs : seqOk s) (hfin : isFinite s = true) :
    Index.index s i ≠ .panic := by
  rw [index_refines s i hs hfin]; exact specIndex_ne_panic s i hfin

theorem slice_no_panic (s : Val) (lo hi : Option Val) (hs : seqOk s) (hfin : isFinite s = true) :
    Index.slice s lo hi ≠ .panic := by
  rw [slice_refines s lo hi hs hfin]
  refine bind_ne_panic (bound_ne_panic lo) fun l => bind_ne_panic (bound_ne_panic hi) fun h => ?_
  cases s with
  | list _ | vec _ | bytes _ | str _ => intro h; cases h
  | stream xs =>
    show (if _ then _ else _) ≠ _
    split <;> nofun
  | _ => cases hfin

end Noulith.C10
