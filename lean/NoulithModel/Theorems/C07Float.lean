/-
C07, float level — IEEE-754 binary64 as exact mathematics.

1. `F64.ofRatRNE q` (Impl/F64Ieee.lean) is a NEAREST binary64 value to `q` among all finite bit
   patterns (`ofRatRNE_nearest`, discharging `C07.ofRatRNE_nearest_statement`), with ties to the even
   significand, overflow to ±∞ exactly from 2^1024 − 2^970 on, gradual underflow, the sign of `q`.
2. The tower's float level with `F64.ieeeOps` (IEEE `+ - * /` = exact rational result rounded once;
   `%` = the exact truncated remainder; `div_euclid` / `rem_euclid` = the standard library's
   compositions) refines "compute in ℚ, then round": the abstract `FloatOps` theorems of
   Theorems/C07.lean are instantiated, and the float arm of `+ - * / % // %%` is characterised on all
   operands (`tower_float_arm`, `tower_float_rounds`, `tower_float_arm_mod`).
Core Lean only.
-/
import NoulithModel.Theorems.C07

namespace Noulith.C07F
open Noulith F64 NNum TowerSpec

/-! ## 1. powers of two in ℚ -/

theorem natCast_two_pow (n : Nat) : ((2 ^ n : Nat) : Rat) = (2 : Rat) ^ n := by
  rw [Rat.natCast_pow]; rfl

theorem pow2_eq_zpow (k : Int) : pow2 k = (2 : Rat) ^ k := by
  unfold pow2
  by_cases h : 0 ≤ k
  · rw [if_pos h, natCast_two_pow]
    have : k = (k.toNat : Int) := by omega
    conv => rhs; rw [this]
    rfl
  · rw [if_neg h]
    have : k = -((-k).toNat : Int) := by omega
    conv => rhs; rw [this]
    rw [Rat.zpow_neg, Rat.zpow_natCast, Rat.mkRat_eq_div, natCast_two_pow, Rat.div_def]
    simp [Rat.one_mul]

theorem pow2_pos (k : Int) : 0 < pow2 k := by
  rw [pow2_eq_zpow]; exact Rat.zpow_pos (by decide)

theorem pow2_add (a b : Int) : pow2 (a + b) = pow2 a * pow2 b := by
  simp only [pow2_eq_zpow]; exact Rat.zpow_add (by decide) a b

theorem pow2_zero : pow2 0 = 1 := by rw [pow2_eq_zpow]; exact Rat.zpow_zero 2

theorem pow2_one : pow2 1 = 2 := by rw [pow2_eq_zpow]; exact Rat.zpow_one 2

theorem pow2_succ (a : Int) : pow2 (a + 1) = 2 * pow2 a := by
  rw [pow2_add, pow2_one, Rat.mul_comm]

theorem pow2_natCast (n : Nat) : pow2 (n : Int) = ((2 ^ n : Nat) : Rat) := by
  rw [pow2_eq_zpow, natCast_two_pow]; rfl

theorem pow2_mul_neg (a : Int) : pow2 a * pow2 (-a) = 1 := by
  rw [← pow2_add, Int.add_right_neg, pow2_zero]

theorem pow2_neg_eq_inv (a : Int) : pow2 (-a) = (pow2 a)⁻¹ :=
  (Rat.inv_eq_of_mul_eq_one (pow2_mul_neg a)).symm

theorem pow2_le_of_le {a b : Int} (h : a ≤ b) : pow2 a ≤ pow2 b := by
  have hb : b = a + ((b - a).toNat : Int) := by omega
  rw [hb, pow2_add, pow2_natCast]
  have h1 : (1 : Rat) ≤ ((2 ^ (b - a).toNat : Nat) : Rat) := by
    have : 1 ≤ 2 ^ (b - a).toNat := Nat.one_le_two_pow
    exact_mod_cast this
  have hp := pow2_pos a
  have := Rat.mul_le_mul_of_nonneg_left h1 (Rat.le_of_lt hp)
  rw [Rat.mul_one] at this
  exact this

theorem pow2_lt_of_lt {a b : Int} (h : a < b) : pow2 a < pow2 b := by
  have h1 : pow2 (a + 1) ≤ pow2 b := pow2_le_of_le (by omega)
  rw [pow2_succ] at h1
  have hp := pow2_pos a
  grind


/-! ## 2. the binary exponent of a positive rational -/

theorem rat_mul_den (a : Rat) : a * ((a.den : Nat) : Rat) = (a.num : Rat) := by
  have h := C07.rat_eq_num_div_den a
  have hd := C07.den_cast_ne_zero a
  have e : ((a.den : Int) : Rat) = ((a.den : Nat) : Rat) := rfl
  rw [e] at h hd
  have h2 : a * ((a.den : Nat) : Rat) = (a.num : Rat) / ((a.den : Nat) : Rat) * ((a.den : Nat) : Rat) := by
    rw [← h]
  exact h2.trans (Rat.div_mul_cancel hd)

theorem expOf_bracket (a : Rat) (ha : 0 < a) :
    pow2 (expOf a) ≤ a ∧ a < pow2 (expOf a + 1) := by
  have hnum : 0 < a.num := by
    have := Rat.num_nonneg.mpr (Rat.le_of_lt ha)
    have h0 : a.num ≠ 0 := fun h => Rat.ne_of_gt ha (Rat.num_eq_zero.mp h)
    omega
  have hmul := rat_mul_den a
  rw [← Int.toNat_of_nonneg (Int.le_of_lt hnum),
    show ∀ n : Nat, ((n : Int) : Rat) = (n : Rat) from fun _ => rfl] at hmul
  have n1 := Rat.natCast_le_natCast.mpr (Nat.log2_self_le (show a.num.toNat ≠ 0 by omega))
  have n2 := Rat.natCast_lt_natCast.mpr (@Nat.lt_log2_self a.num.toNat)
  have d1 := Rat.natCast_le_natCast.mpr (Nat.log2_self_le a.den_nz)
  have d2 := Rat.natCast_lt_natCast.mpr (@Nat.lt_log2_self a.den)
  rw [← pow2_natCast] at n1 n2 d1 d2
  unfold expOf
  generalize a.num.toNat.log2 = ln at *
  generalize a.den.log2 = ld at *
  -- `a · 2^ld ≤ a · den = num < 2^(ln+1)` and `2^ln ≤ num = a · den < a · 2^(ld+1)`
  have up : a < pow2 ((ln : Int) - ld + 1) := by
    have h := Rat.mul_le_mul_of_nonneg_left d1 (Rat.le_of_lt ha)
    rw [hmul] at h
    rw [← Rat.mul_lt_mul_right (pow2_pos ld), ← pow2_add,
      show (ln : Int) - ld + 1 + ld = (ln + 1 : Nat) by omega]
    exact Std.lt_of_le_of_lt h n2
  have lo : pow2 ((ln : Int) - ld - 1) < a := by
    have h := Rat.mul_lt_mul_of_pos_left d2 ha
    rw [hmul] at h
    rw [← Rat.mul_lt_mul_right (pow2_pos ((ld + 1 : Nat) : Int)), ← pow2_add,
      show (ln : Int) - ld - 1 + (ld + 1 : Nat) = ln by omega]
    exact Std.lt_of_le_of_lt n1 h
  simp only
  split
  · rename_i h; exact ⟨h, up⟩
  · rename_i h
    rw [Int.sub_add_cancel]
    exact ⟨Rat.le_of_lt lo, Rat.not_le.mp h⟩

/-! ## 3. absolute values and signs; rounding to the nearest integer, ties to even -/

theorem abs_def (x : Rat) : x.abs = if 0 ≤ x then x else -x := rfl

theorem le_abs_self (x : Rat) : x ≤ x.abs := by
  rw [abs_def]; split
  · exact Rat.le_refl
  · grind

theorem neg_le_abs (x : Rat) : -x ≤ x.abs := by
  rw [abs_def]; split
  · grind
  · exact Rat.le_refl

theorem abs_mul_pos (c u : Rat) (hu : 0 < u) : (c * u).abs = c.abs * u := by
  by_cases hc : 0 ≤ c
  · rw [Rat.abs_of_nonneg hc, Rat.abs_of_nonneg (Rat.mul_nonneg hc (Rat.le_of_lt hu))]
  · have hc' : c ≤ 0 := Rat.le_of_lt (Rat.not_le.mp hc)
    have := Rat.mul_le_mul_of_nonneg_right hc' (Rat.le_of_lt hu)
    rw [Rat.zero_mul] at this
    rw [Rat.abs_of_nonpos hc', Rat.abs_of_nonpos this, Rat.neg_mul]

theorem abs_sign_mul (σ y : Rat) (hσ : σ = 1 ∨ σ = -1) : (σ * y).abs = y.abs := by
  rcases hσ with rfl | rfl
  · rw [Rat.one_mul]
  · rw [Rat.neg_mul, Rat.one_mul, Rat.abs_neg]

theorem sign_mul_self {σ : Rat} (hσ : σ = 1 ∨ σ = -1) : σ * σ = 1 := by
  rcases hσ with rfl | rfl
  · exact Rat.one_mul 1
  · rw [Rat.neg_mul, Rat.one_mul, Rat.neg_neg]

theorem sign_mul_sign {σ s : Rat} (hσ : σ = 1 ∨ σ = -1) (hs : s = 1 ∨ s = -1) :
    σ * s = 1 ∨ σ * s = -1 := by
  rcases hσ with rfl | rfl
  · rw [Rat.one_mul]; exact hs
  · rw [Rat.neg_mul, Rat.one_mul]
    rcases hs with rfl | rfl
    · exact .inr rfl
    · exact .inl (Rat.neg_neg 1)

theorem sign_ite (c : Prop) [Decidable c] :
    (if c then (-1 : Rat) else 1) = 1 ∨ (if c then (-1 : Rat) else 1) = -1 := by
  split
  · exact .inr rfl
  · exact .inl rfl

theorem ite_neg (c : Prop) [Decidable c] (v : Rat) :
    (if c then -v else v) = (if c then -1 else 1) * v := by
  split
  · rw [Rat.neg_mul, Rat.one_mul]
  · rw [Rat.one_mul]

theorem rhe_cases (x : Rat) :
    (roundHalfEven x = x.floor ∧ x - (x.floor : Rat) ≤ 1 / 2) ∨
    (roundHalfEven x = x.floor + 1 ∧ 1 / 2 ≤ x - (x.floor : Rat)) := by
  unfold roundHalfEven
  simp only
  split
  · rename_i h; exact .inr ⟨rfl, Rat.le_of_lt h⟩
  · rename_i h1
    split
    · exact .inl ⟨rfl, Rat.not_lt.mp h1⟩
    · rename_i h2
      split
      · exact .inl ⟨rfl, Rat.not_lt.mp h1⟩
      · exact .inr ⟨rfl, Rat.not_lt.mp h2⟩

theorem rhe_tie_even (x : Rat) (h : x - (x.floor : Rat) = 1 / 2) : roundHalfEven x % 2 = 0 := by
  unfold roundHalfEven
  simp only
  rw [h]
  simp only [Rat.lt_irrefl, if_false]
  split <;> omega

theorem intCast_add_one_le {a b : Int} (h : a < b) : (a : Rat) + 1 ≤ (b : Rat) := by
  have := Rat.intCast_le_intCast.mpr (Int.add_one_le_of_lt h)
  rwa [Rat.intCast_add] at this

theorem int_le_or_succ_le (k f : Int) : (k : Rat) ≤ (f : Rat) ∨ (f : Rat) + 1 ≤ (k : Rat) := by
  by_cases h : k ≤ f
  · exact .inl (Rat.intCast_le_intCast.mpr h)
  · exact .inr (intCast_add_one_le (Int.not_le.mp h))

theorem rhe_le_neighbours (x : Rat) :
    (x - (roundHalfEven x : Rat)).abs ≤ x - (x.floor : Rat) ∧
    (x - (roundHalfEven x : Rat)).abs ≤ (x.floor : Rat) + 1 - x := by
  have ⟨h1, h2⟩ := C07.floor_bounds x
  rcases rhe_cases x with ⟨hm, hr⟩ | ⟨hm, hr⟩ <;> rw [hm]
  · rw [Rat.abs_of_nonneg ((Rat.le_iff_sub_nonneg _ _).mp h1)]
    exact ⟨Rat.le_refl, by grind⟩
  · rw [Rat.intCast_add, Rat.abs_of_nonpos (by grind), Rat.neg_sub]
    exact ⟨by grind, Rat.le_refl⟩

/-- the rounded value is a nearest integer: any other lies beyond one of the neighbours -/
theorem rhe_nearest (x : Rat) (k : Int) :
    (x - (roundHalfEven x : Rat)).abs ≤ (x - (k : Rat)).abs := by
  have ⟨n1, n2⟩ := rhe_le_neighbours x
  rcases int_le_or_succ_le k x.floor with hk | hk
  · have := le_abs_self (x - (k : Rat)); grind
  · have := neg_le_abs (x - (k : Rat)); grind

theorem rhe_half (x : Rat) : (x - (roundHalfEven x : Rat)).abs ≤ 1 / 2 := by
  have ⟨n1, n2⟩ := rhe_le_neighbours x
  grind

theorem rhe_half_even (x : Rat) (h : (x - (roundHalfEven x : Rat)).abs = 1 / 2) :
    roundHalfEven x % 2 = 0 := by
  have ⟨n1, n2⟩ := rhe_le_neighbours x
  rw [h] at n1 n2
  exact rhe_tie_even x (by grind)

/-- another integer at the same distance: two integers are at least 1 apart, so that distance is
`1/2` -/
theorem rhe_tie (x : Rat) (K : Int) (hne : K ≠ roundHalfEven x)
    (heq : (x - (K : Rat)).abs = (x - (roundHalfEven x : Rat)).abs) : roundHalfEven x % 2 = 0 := by
  apply rhe_half_even
  have hh := rhe_half x
  have a1 := le_abs_self (x - (K : Rat))
  have a2 := neg_le_abs (x - (K : Rat))
  have b1 := le_abs_self (x - (roundHalfEven x : Rat))
  have b2 := neg_le_abs (x - (roundHalfEven x : Rat))
  generalize roundHalfEven x = M at *
  rcases Int.lt_or_gt_of_ne hne with h | h
  · have := intCast_add_one_le h
    grind
  · have := intCast_add_one_le h
    grind

/-- **the rounding lemma**: `roundHalfEven x` is at least as close to `x` as any `t` that is an
integer, or that has an integer `N` between its magnitude and `x` (`|t| < N ≤ x`); if `t` is another
such number at the same distance, the rounded value is even.  These are the rivals a rounded
significand has: the other floats, counted in units of its last place (`N = 2^52`). -/
theorem rhe_beats (x t : Rat)
    (ht : (∃ K : Int, (K : Rat) = t) ∨ (∃ N : Int, t.abs < (N : Rat) ∧ (N : Rat) ≤ x)) :
    (x - (roundHalfEven x : Rat)).abs ≤ (x - t).abs ∧
    ((x - t).abs = (x - (roundHalfEven x : Rat)).abs → t ≠ (roundHalfEven x : Rat) →
      roundHalfEven x % 2 = 0) := by
  rcases ht with ⟨K, rfl⟩ | ⟨N, ht, hx⟩
  · exact ⟨rhe_nearest x K, fun heq hne => rhe_tie x K (fun h => hne (by rw [h])) heq⟩
  · -- the integer `N` lies strictly between `t` and `x`
    have n := rhe_nearest x N
    rw [Rat.abs_of_nonneg ((Rat.le_iff_sub_nonneg _ _).mp hx)] at n
    have h1 := le_abs_self t
    have h2 := le_abs_self (x - t)
    exact ⟨by grind, fun heq _ => by grind⟩

theorem rhe_bounds (x : Rat) (lo hi : Int) (h1 : (lo : Rat) ≤ x) (h2 : x ≤ (hi : Rat)) :
    lo ≤ roundHalfEven x ∧ roundHalfEven x ≤ hi := by
  have ⟨f1, f2⟩ := C07.floor_bounds x
  have hlo : lo ≤ x.floor := Rat.le_floor_iff.mpr h1
  rcases rhe_cases x with ⟨hm, hr⟩ | ⟨hm, hr⟩ <;> rw [hm]
  · refine ⟨hlo, ?_⟩
    exact Rat.intCast_le_intCast.mp (Rat.le_trans f1 h2)
  · refine ⟨by omega, ?_⟩
    have : (x.floor : Rat) < (hi : Rat) := by grind
    have := Rat.intCast_lt_intCast.mp this
    omega

theorem rhe_intCast (k : Int) : roundHalfEven (k : Rat) = k := by
  have := rhe_bounds (k : Rat) k k Rat.le_refl Rat.le_refl
  omega


/-! ## 4. decoding bit patterns -/

theorem magValue_eq (sig ex : Nat) : magValue sig ex = (sig : Rat) * pow2 ((ex : Int) - 1075) := by
  unfold magValue
  split
  · rename_i h
    rw [Rat.natCast_mul, ← pow2_natCast]
    congr 2; omega
  · rename_i h
    have e : (ex : Int) - 1075 = -((1075 - ex : Nat) : Int) := by omega
    rw [Rat.mkRat_eq_div, e, pow2_neg_eq_inv, pow2_natCast, Rat.div_def]
    rfl

/-- every finite bit pattern denotes `± sig · 2^(ex − 1075)` with a 53-bit `sig` (said in ℚ, where
the bound is used) and `1 ≤ ex ≤ 2046` -/
theorem viewBits_fin (b : Nat) (q : Rat) (h : viewBits b = .fin q) :
    ∃ (sig ex : Nat) (s : Rat), (s = 1 ∨ s = -1) ∧ (sig : Rat) + 1 ≤ pow2 53 ∧ 1 ≤ ex ∧
      ex ≤ 2046 ∧
      q = s * ((sig : Rat) * pow2 ((ex : Int) - 1075)) := by
  have cast (n : Nat) (h : n < 2 ^ 53) : (n : Rat) + 1 ≤ pow2 53 :=
    pow2_natCast 53 ▸ (by exact_mod_cast h)
  unfold viewBits at h
  simp only at h
  have he := Nat.mod_lt (b / 2 ^ 52) (show 0 < 2048 by decide)
  have hm := Nat.mod_lt b (show 0 < 2 ^ 52 by decide)
  generalize b / 2 ^ 52 % 2048 = e at h he
  generalize b % 2 ^ 52 = m at h hm
  by_cases h47 : e = 2047
  · rw [if_pos h47] at h
    split at h <;> cases h
  · rw [if_neg h47, ite_neg, magValue_eq] at h
    injection h with h
    by_cases h0 : e = 0
    · rw [if_pos h0, if_pos h0] at h
      exact ⟨m, 1, _, sign_ite _, cast m (Nat.lt_trans hm (by decide)), Nat.le_refl 1, by decide,
        h.symm⟩
    · rw [if_neg h0, if_neg h0] at h
      exact ⟨2 ^ 52 + m, e, _, sign_ite _, cast _ (by omega), by omega, by omega, h.symm⟩

/-- a bit set above a field of width `q` at position `p`: the field and what lies below it are
unchanged -/
theorem fields_add (p q B : Nat) (hp : 0 < p) (hB : B < p * q) :
    (p * q + B) / (p * q) % 2 = 1 ∧ (p * q + B) / p % q = B / p % q ∧
    (p * q + B) % p = B % p ∧ B / (p * q) % 2 = 0 := by
  refine ⟨?_, ?_, Nat.mul_add_mod .., ?_⟩
  · rw [Nat.add_div_left _ (Nat.lt_of_le_of_lt (Nat.zero_le B) hB), Nat.div_eq_of_lt hB]
  · rw [Nat.mul_add_div hp, Nat.add_mod_left]
  · rw [Nat.div_eq_of_lt hB]

/-- a sign bit in front of 63 magnitude bits: the decoding of the magnitude, with the sign -/
theorem viewBits_sign (c : Prop) [Decidable c] (B : Nat) (hB : B < 2 ^ 63) :
    viewBits ((if c then 2 ^ 63 else 0) + B) = match viewBits B with
      | .nan => .nan
      | .inf _ => .inf (decide c)
      | .fin y => .fin ((if c then -1 else 1) * y) := by
  have e63 : (2 : Nat) ^ 63 = 2 ^ 52 * 2048 := rfl
  obtain ⟨e1, e2, e3, h0⟩ := fields_add (2 ^ 52) 2048 B (by decide) (e63 ▸ hB)
  rw [← e63] at e1 e2 e3 h0
  unfold viewBits
  by_cases hc : c
  · simp only [if_pos hc, e1, e2, e3, h0, if_true, Nat.zero_ne_one, if_false]
    generalize magValue _ _ = v
    by_cases he : B / 2 ^ 52 % 2048 = 2047
    · by_cases hm : B % 2 ^ 52 = 0 <;> simp [he, hm, hc]
    · simp [he, Rat.neg_mul]
  · simp only [if_neg hc, Nat.zero_add, h0, Nat.zero_ne_one, if_false]
    generalize magValue _ _ = v
    by_cases he : B / 2 ^ 52 % 2048 = 2047
    · by_cases hm : B % 2 ^ 52 = 0 <;> simp [he, hm, hc]
    · simp [he]

/-- an exponent field `E` that is not all ones over a fraction field `M`, no sign bit -/
theorem viewBits_fields (E M : Nat) (hE : E < 2047) (hM : M < 2 ^ 52) :
    viewBits (2 ^ 52 * E + M) = .fin (((if E = 0 then M else 2 ^ 52 + M : Nat) : Rat) *
      pow2 (((if E = 0 then 1 else E : Nat) : Int) - 1075)) := by
  have hs : (2 ^ 52 * E + M) / 2 ^ 63 % 2 = 0 := by rw [Nat.div_eq_of_lt (by omega)]
  have he : (2 ^ 52 * E + M) / 2 ^ 52 % 2048 = E := by
    rw [Nat.mul_add_div (by decide), Nat.div_eq_of_lt hM, Nat.add_zero, Nat.mod_eq_of_lt (by omega)]
  have hm : (2 ^ 52 * E + M) % 2 ^ 52 = M := by rw [Nat.mul_add_mod, Nat.mod_eq_of_lt hM]
  unfold viewBits
  simp only [hs, he, hm, if_neg (Nat.ne_of_lt hE), Nat.zero_ne_one, if_false, magValue_eq]

/-- decoding the magnitude bits `2^52·E + M` of a significand `M < 2^53`: subnormal (`M < 2^52`,
`E = 0`: exponent field 0) or normal (the leading bit of `M` carries into the exponent field,
which is `E + 1`) -/
theorem viewBits_mag (E M : Nat) (hM : M < 2 ^ 53) (hnorm : 2 ^ 52 ≤ M ∨ E = 0)
    (hlt : 2 ^ 52 * E + M < 0x7FF0000000000000) :
    viewBits (2 ^ 52 * E + M) = .fin ((M : Rat) * pow2 ((E : Int) - 1074)) := by
  by_cases hsub : M < 2 ^ 52
  · rw [hnorm.resolve_left (Nat.not_le.mpr hsub)]
    exact viewBits_fields 0 M (by decide) hsub
  · obtain ⟨M', rfl⟩ := Nat.exists_eq_add_of_le (Nat.le_of_not_lt hsub)
    rw [← Nat.add_assoc, ← Nat.mul_succ, viewBits_fields _ M' (by omega) (by omega),
      if_neg (Nat.succ_ne_zero E), if_neg (Nat.succ_ne_zero E)]
    congr 3; omega

/-- decoding what the encoder produces (with or without the sign bit): the value is
`± m · 2^(ex − 52)`, also for the carry `m = 2^53` into the next binade -/
theorem viewBits_encode (c : Prop) [Decidable c] (ex m : Int) (hex : -1022 ≤ ex) (hm0 : 0 ≤ m)
    (hm1 : m ≤ 2 ^ 53) (hnorm : 2 ^ 52 ≤ m ∨ ex = -1022)
    (hlt : (ex + 1022) * 2 ^ 52 + m < 0x7FF0000000000000) :
    viewBits ((if c then 2 ^ 63 else 0) + ((ex + 1022) * 2 ^ 52 + m).toNat) =
      .fin ((if c then -1 else 1) * ((m : Rat) * pow2 (ex - 52))) := by
  -- in natural numbers: `m = M`, `ex + 1022 = E`
  obtain ⟨M, rfl⟩ := Int.eq_ofNat_of_zero_le hm0
  obtain ⟨E, hE⟩ := Int.eq_ofNat_of_zero_le (show 0 ≤ ex + 1022 by omega)
  obtain ⟨hb, he, h1, h2, h3⟩ : (ex + 1022) * 2 ^ 52 + (M : Int) = ((2 ^ 52 * E + M : Nat) : Int) ∧
      ex - 52 = (E : Int) - 1074 ∧ M ≤ 2 ^ 53 ∧ (2 ^ 52 ≤ M ∨ E = 0) ∧
      2 ^ 52 * E + M < 0x7FF0000000000000 := by omega
  have key : viewBits (2 ^ 52 * E + M) = .fin ((M : Rat) * pow2 ((E : Int) - 1074)) := by
    by_cases h : M < 2 ^ 53
    · exact viewBits_mag E M h h2 h3
    · -- the significand `2^53` at `E` is the significand `2^52` at `E + 1`
      have hM : M = 2 ^ 53 := Nat.le_antisymm h1 (Nat.le_of_not_lt h)
      subst hM
      have e : 2 ^ 52 * E + 2 ^ 53 = 2 ^ 52 * (E + 1) + 2 ^ 52 := (Nat.add_assoc ..).symm
      have := viewBits_mag (E + 1) (2 ^ 52) (by decide) (.inl (Nat.le_refl _)) (e ▸ h3)
      rw [show ((E + 1 : Nat) : Int) - 1074 = (E : Int) - 1074 + 1 by omega, pow2_succ,
        ← Rat.mul_assoc] at this
      rw [e, this]
      congr 2; decide +kernel
  rw [hb, Int.toNat_natCast, viewBits_sign c _ (Nat.lt_trans h3 (by decide)), key, he]
  rfl


/-! ## 5. the encoder: exponent, significand, magnitude bits -/

theorem div_pow2 (a : Rat) (k : Int) : a / pow2 k = a * pow2 (-k) := by
  rw [Rat.div_def, pow2_neg_eq_inv]

theorem pow2_52_53 :
    pow2 52 = (((2 : Int) ^ 52 : Int) : Rat) ∧ pow2 53 = (((2 : Int) ^ 53 : Int) : Rat) := by
  decide +kernel

theorem magRNE_eq (a : Rat) :
    magRNE a =
      (let ex := clampExp (expOf a)
       let m := roundHalfEven (a * pow2 (52 - ex))
       if 0x7FF0000000000000 ≤ (ex + 1022) * 2 ^ 52 + m then 0x7FF0000000000000
       else ((ex + 1022) * 2 ^ 52 + m).toNat) := by
  unfold magRNE
  simp only [div_pow2]
  have : ∀ ex : Int, -(ex - 52) = 52 - ex := by intro ex; omega
  simp only [this]

theorem magRNE_le (a : Rat) : magRNE a ≤ 0x7FF0000000000000 := by
  rw [magRNE_eq]; simp only; split <;> omega

/-- **what the encoder does** with `a > 0`: an exponent `ex ≥ −1022`; the argument in units of the
last place of that binade, `x = a · 2^(52 − ex)`, which lies in `[2^52, 2^53)` unless `ex` is the least
exponent (then below `2^53` still); its rounding `m`, so `m ≤ 2^53`, and `m ≥ 2^52` unless the result is
subnormal; and the bits `(ex + 1022) · 2^52 + m`, saturated at the ∞ pattern -/
theorem magRNE_spec (a : Rat) (ha : 0 < a) :
    ∃ (ex m : Int) (x : Rat), a = x * pow2 (ex - 52) ∧ m = roundHalfEven x ∧ -1022 ≤ ex ∧
      x < pow2 53 ∧ (pow2 52 ≤ x ∨ ex = -1022) ∧
      0 ≤ m ∧ m ≤ 2 ^ 53 ∧ (2 ^ 52 ≤ m ∨ ex = -1022) ∧
      magRNE a = if 0x7FF0000000000000 ≤ (ex + 1022) * 2 ^ 52 + m then 0x7FF0000000000000
        else ((ex + 1022) * 2 ^ 52 + m).toNat := by
  have ⟨b1, b2⟩ := expOf_bracket a ha
  have hmag := magRNE_eq a
  simp only at hmag
  have hex : clampExp (expOf a) = if expOf a < -1022 then -1022 else expOf a := rfl
  generalize clampExp (expOf a) = ex at hex hmag
  -- `2^(expOf a) ≤ a < 2^(expOf a + 1)`, scaled by `2^(52 − ex)`
  have hw := pow2_pos (52 - ex)
  have h3 := Rat.mul_le_mul_of_nonneg_right b1 (Rat.le_of_lt hw)
  have h4 := Rat.mul_lt_mul_of_pos_right b2 hw
  rw [← pow2_add] at h3 h4
  have hx1 : a * pow2 (52 - ex) < pow2 53 :=
    Std.lt_of_lt_of_le h4 (pow2_le_of_le (by split at hex <;> omega))
  have hxn : pow2 52 ≤ a * pow2 (52 - ex) ∨ ex = -1022 := by
    split at hex
    · exact .inr hex
    · exact .inl (Rat.le_trans (pow2_le_of_le (by omega)) h3)
  have hhi := Rat.le_of_lt hx1
  rw [pow2_52_53.2] at hhi
  have hb := rhe_bounds _ 0 (2 ^ 53) (Rat.le_of_lt (Rat.mul_pos ha hw)) hhi
  refine ⟨ex, _, _, ?_, rfl, by split at hex <;> omega, hx1, hxn, hb.1, hb.2,
    hxn.imp (fun h => ?_) id, hmag⟩
  · rw [Rat.mul_assoc, ← pow2_add, show 52 - ex + (ex - 52) = 0 by omega, pow2_zero, Rat.mul_one]
  · exact (rhe_bounds _ (2 ^ 52) (2 ^ 53) (pow2_52_53.1 ▸ h) hhi).1

/-- unless the magnitude bits are the overflow pattern they decode to `m · 2^(ex−52)`, with `ex`, `x`,
`m` as in `magRNE_spec` -/
theorem magRNE_decode (c : Prop) [Decidable c] (a : Rat) (ha : 0 < a)
    (hfin : magRNE a ≠ 0x7FF0000000000000) :
    ∃ (ex m : Int) (x : Rat), a = x * pow2 (ex - 52) ∧ m = roundHalfEven x ∧
      (pow2 52 ≤ x ∨ ex = -1022) ∧ magRNE a = ((ex + 1022) * 2 ^ 52 + m).toNat ∧
      viewBits ((if c then 2 ^ 63 else 0) + magRNE a) =
        .fin ((if c then -1 else 1) * ((m : Rat) * pow2 (ex - 52))) := by
  obtain ⟨ex, m, x, hax, hm, hex, -, xn, m0, m1, mn, h⟩ := magRNE_spec a ha
  refine ⟨ex, m, x, hax, hm, xn, ?_⟩
  rw [h] at hfin ⊢
  split at hfin
  · exact absurd rfl hfin
  · rename_i hlt
    rw [if_neg hlt]
    exact ⟨rfl, viewBits_encode c _ _ hex m0 m1 mn (by omega)⟩


/-! ## 6. `ofRatRNE` is a nearest binary64, ties to even -/

theorem dist_scaled (σ x c u : Rat) (hσ : σ = 1 ∨ σ = -1) (hu : 0 < u) :
    (σ * x * u - σ * c * u).abs = (x - c).abs * u := by
  have : σ * x * u - σ * c * u = σ * ((x - c) * u) := by grind
  rw [this, abs_sign_mul _ _ hσ, abs_mul_pos _ _ hu]

/-- Every finite float, a sign `σ` taken out, in units `u = 2^(ex − 52)` of the last place of a
binade `ex`: a whole number of units if its own exponent is at least `ex`, fewer than `2^52` units
otherwise (and then `ex` is not the lowest exponent) -/
theorem float_in_units (ex : Int) (σ : Rat) (hσ : σ = 1 ∨ σ = -1) (b : Nat)
    (qb : Rat) (hb : viewBits b = .fin qb) :
    ∃ t : Rat, qb = σ * t * pow2 (ex - 52) ∧
      ((∃ K : Int, (K : Rat) = t) ∨ (t.abs < pow2 52 ∧ ex ≠ -1022)) := by
  obtain ⟨sig, exb, s, hs, hsig, hexb1, hexb2, hqb⟩ := viewBits_fin b qb hb
  have hsplit : pow2 ((exb : Int) - 1075) = pow2 ((exb : Int) - 1023 - ex) * pow2 (ex - 52) := by
    rw [← pow2_add]; congr 1; omega
  have hσσ := sign_mul_self hσ
  refine ⟨σ * s * ((sig : Rat) * pow2 ((exb : Int) - 1023 - ex)), by rw [hqb, hsplit]; grind, ?_⟩
  by_cases hcase : 0 ≤ (exb : Int) - 1023 - ex
  · left
    have : (exb : Int) - 1023 - ex = (((exb : Int) - 1023 - ex).toNat : Int) := by omega
    rw [this, pow2_natCast, ← Rat.natCast_mul]
    generalize sig * 2 ^ ((exb : Int) - 1023 - ex).toNat = n
    rcases sign_mul_sign hσ hs with h | h <;> rw [h]
    · exact ⟨(n : Int), by rw [Rat.one_mul]; rfl⟩
    · exact ⟨-(n : Int), by rw [Rat.intCast_neg, Rat.neg_mul, Rat.one_mul]; rfl⟩
  · right
    refine ⟨?_, by omega⟩
    have hs0 : (0 : Rat) ≤ (sig : Rat) := Rat.natCast_nonneg
    rw [abs_sign_mul _ _ (sign_mul_sign hσ hs),
      Rat.abs_of_nonneg (Rat.mul_nonneg hs0 (Rat.le_of_lt (pow2_pos _)))]
    have h53 : pow2 53 = 2 * pow2 52 := pow2_succ 52
    have hp : pow2 ((exb : Int) - 1023 - ex) ≤ pow2 (-1) := pow2_le_of_le (by omega)
    have hhalf : pow2 (-1) = 1 / 2 := by decide +kernel
    have h1 := Rat.mul_le_mul_of_nonneg_left hp hs0
    rw [hhalf] at h1
    grind

theorem overflow_not_fin (c : Prop) [Decidable c] (q' : Rat) :
    viewBits ((if c then 2 ^ 63 else 0) + 0x7FF0000000000000) ≠ .fin q' := by
  rw [viewBits_sign c _ (by decide), C07.viewBits_inf.1]
  exact fun h => nomatch h

theorem eq_of_mul_eq_mul_right {a b u : Rat} (hu : 0 < u) (h : a * u = b * u) : a = b := by
  rw [← Rat.mul_div_cancel (a := a) (Rat.ne_of_gt hu), h, Rat.mul_div_cancel (Rat.ne_of_gt hu)]

/-- **One rounding against any other float.**  With `u = 2^(ex−52)` the unit in the last place of the
result's binade, the argument is `σ·x·u`, the result `σ·m·u` with `m = roundHalfEven x`, and the
other float `σ·t·u` with `t` a rival in the sense of `rhe_beats`: so the result is at least as close,
and its bit pattern is even if the other float is a different one at the same distance -/
theorem magRNE_beats (c : Prop) [Decidable c] (a : Rat) (ha : 0 < a) (q' : Rat)
    (h : viewBits ((if c then 2 ^ 63 else 0) + magRNE a) = .fin q') (b : Nat) (qb : Rat)
    (hb : viewBits b = .fin qb) :
    ((if c then -1 else 1) * a - q').abs ≤ ((if c then -1 else 1) * a - qb).abs ∧
    (((if c then -1 else 1) * a - qb).abs = ((if c then -1 else 1) * a - q').abs → qb ≠ q' →
      magRNE a % 2 = 0) := by
  have hfin : magRNE a ≠ 0x7FF0000000000000 := fun hov => overflow_not_fin c q' (hov ▸ h)
  obtain ⟨ex, m, x, rfl, rfl, xn, hmag, hdec⟩ := magRNE_decode c _ ha hfin
  rw [hdec] at h
  injection h with h
  have hσ := sign_ite c
  generalize (if c then (-1 : Rat) else 1) = σ at *
  have hu := pow2_pos (ex - 52)
  obtain ⟨t, hqb, ht⟩ := float_in_units ex σ hσ b qb hb
  obtain ⟨r1, r2⟩ := rhe_beats x t (ht.imp id fun ⟨h1, h2⟩ =>
    ⟨2 ^ 52, pow2_52_53.1 ▸ h1, pow2_52_53.1 ▸ xn.resolve_right h2⟩)
  rw [← h, hqb, ← Rat.mul_assoc, ← Rat.mul_assoc, dist_scaled _ _ _ _ hσ hu, dist_scaled _ _ _ _ hσ hu]
  refine ⟨Rat.mul_le_mul_of_nonneg_right r1 (Rat.le_of_lt hu), fun htie hne => ?_⟩
  have hev := r2 (eq_of_mul_eq_mul_right hu htie) (fun e => hne (by rw [e]))
  rw [hmag]; omega

theorem ofRatRNE_of_ne_zero (q : Rat) (h0 : q ≠ 0) :
    ofRatRNE q = (if q < 0 then 2 ^ 63 else 0) + magRNE q.abs ∧ 0 < q.abs ∧
      q = (if q < 0 then -1 else 1) * q.abs := by
  unfold ofRatRNE
  rw [if_neg h0]
  by_cases hn : q < 0
  · rw [if_pos hn, if_pos hn, if_pos hn, Rat.abs_of_nonpos (Rat.le_of_lt hn)]
    exact ⟨rfl, by grind, by grind⟩
  · rw [if_neg hn, if_neg hn, if_neg hn, Rat.abs_of_nonneg (Rat.not_lt.mp hn)]
    exact ⟨(Nat.zero_add _).symm, by grind, (Rat.one_mul q).symm⟩

theorem ofRatRNE_beats (q q' : Rat) (h : viewBits (ofRatRNE q) = .fin q') (b : Nat) (qb : Rat)
    (hb : viewBits b = .fin qb) :
    (q - q').abs ≤ (q - qb).abs ∧ ((q - qb).abs = (q - q').abs → qb ≠ q' → ofRatRNE q % 2 = 0) := by
  by_cases h0 : q = 0
  · subst h0
    have : ofRatRNE 0 = 0 := rfl
    rw [this, C07.viewBits_zeros.1] at h
    injection h with h
    subst h
    rw [this, Rat.sub_self, Rat.abs_zero]
    exact ⟨Rat.abs_nonneg, fun _ _ => rfl⟩
  · obtain ⟨e, ha, hq⟩ := ofRatRNE_of_ne_zero q h0
    rw [e] at h ⊢
    have := magRNE_beats (q < 0) q.abs ha q' h b qb hb
    rw [← hq] at this
    exact ⟨this.1, fun htie hne => by have := this.2 htie hne; split <;> omega⟩

/-- **nearest**: whenever `ofRatRNE q` is finite, no finite binary64 value (no bit pattern at all,
of any width) is closer to `q` than it is -/
theorem ofRatRNE_nearest_any (q q' : Rat) (h : viewBits (ofRatRNE q) = .fin q') (b : Nat) (qb : Rat)
    (hb : viewBits b = .fin qb) : (q - q').abs ≤ (q - qb).abs :=
  (ofRatRNE_beats q q' h b qb hb).1

/-- the optimality statement set down in Theorems/C07.lean -/
theorem ofRatRNE_nearest : C07.ofRatRNE_nearest_statement :=
  fun q q' h b qb _ hb => ofRatRNE_nearest_any q q' h b qb hb

/-- **ties to even**: if another finite float is exactly as close to `q` as the result, the result
is the one with the even bit pattern (even significand) -/
theorem ofRatRNE_ties_even (q q' : Rat) (h : viewBits (ofRatRNE q) = .fin q') (b : Nat) (qb : Rat)
    (hb : viewBits b = .fin qb) (hne : qb ≠ q') (htie : (q - qb).abs = (q - q').abs) :
    ofRatRNE q % 2 = 0 :=
  (ofRatRNE_beats q q' h b qb hb).2 htie hne

/-! ## 7. sign, overflow threshold, exactness on representable values -/

/-- the sign bit of the result is the sign of the argument (`-0` is never produced from a rational) -/
theorem ofRatRNE_sign (q : Rat) : signBit (ofRatRNE q) = decide (q < 0) := by
  by_cases h0 : q = 0
  · subst h0; rfl
  · rw [(ofRatRNE_of_ne_zero q h0).1]
    have := magRNE_le q.abs
    unfold signBit
    split <;> simp [*] <;> omega

/-- rounding reaches an even integer `N` exactly from `N − 1/2` on (the tie goes up to the even `N`) -/
theorem rhe_ge_even (x : Rat) (N : Int) (hN : N % 2 = 0) :
    N ≤ roundHalfEven x ↔ (N : Rat) - 1 / 2 ≤ x := by
  have hh := rhe_half x
  have h1 := le_abs_self (x - (roundHalfEven x : Rat))
  have h2 := neg_le_abs (x - (roundHalfEven x : Rat))
  have hev := rhe_half_even x
  generalize roundHalfEven x = M at *
  constructor
  · intro h
    have := Rat.intCast_le_intCast.mpr h
    grind
  · intro h
    -- a smaller `M` is at least `1/2` below `x`, hence even and at most `N − 2`: too far from `x`
    apply Int.not_lt.mp
    intro hlt
    have hm := intCast_add_one_le hlt
    have hM := hev (Rat.le_antisymm hh (Rat.le_trans (by grind) h1))
    have hm2 := Rat.intCast_le_intCast.mpr (show M + 2 ≤ N by omega)
    rw [Rat.intCast_add] at hm2
    have : ((2 : Int) : Rat) = 2 := rfl
    grind

/-- the overflow threshold: the largest finite value plus half an ulp -/
def overflowThreshold : Rat := pow2 1024 - pow2 970

theorem threshold_eq : overflowThreshold = (pow2 53 - 1 / 2) * pow2 971 := by
  unfold overflowThreshold
  have h1 : pow2 1024 = pow2 53 * pow2 971 := by rw [← pow2_add]; rfl
  have h2 : pow2 971 = 2 * pow2 970 := pow2_succ 970
  rw [h1]; grind

theorem threshold_bracket : pow2 1023 < overflowThreshold ∧ overflowThreshold ≤ pow2 1024 := by
  unfold overflowThreshold
  have h0 := pow2_pos 970
  have h1 : pow2 970 < pow2 1023 := pow2_lt_of_lt (by decide)
  have h2 : pow2 1024 = 2 * pow2 1023 := pow2_succ 1023
  constructor <;> grind

theorem threshold_pos : 0 < overflowThreshold :=
  Std.lt_trans (pow2_pos 1023) threshold_bracket.1

/-- **overflow**: the magnitude bits are the ∞ pattern exactly from `2^1024 − 2^970` on -/
theorem magRNE_overflow_iff (a : Rat) (ha : 0 < a) :
    magRNE a = 0x7FF0000000000000 ↔ overflowThreshold ≤ a := by
  obtain ⟨ex, m, x, rfl, rfl, hex, x1, xn, m0, m1, mn, h⟩ := magRNE_spec a ha
  have hN := rhe_ge_even x (2 ^ 53) (by decide)
  rw [h, ← pow2_52_53.2] at *
  generalize roundHalfEven x = m at *
  -- the bits overflow iff the exponent is above 1023, or it is 1023 and the significand carries
  refine Iff.trans (b := 1024 ≤ ex ∨ ex = 1023 ∧ 2 ^ 53 ≤ m) (by split <;> omega) ?_
  rw [hN]
  have hP := pow2_pos (ex - 52)
  by_cases hbig : 1024 ≤ ex
  · -- `a ≥ 2^52 · 2^(ex − 52) ≥ 2^1024`
    have hx := xn.resolve_right fun h => absurd (h ▸ hbig) (by decide)
    have h1 := Rat.mul_le_mul_of_nonneg_right hx (Rat.le_of_lt hP)
    rw [← pow2_add] at h1
    exact iff_of_true (.inl hbig)
      (Rat.le_trans threshold_bracket.2 (Rat.le_trans (pow2_le_of_le (by omega)) h1))
  · by_cases h1023 : ex = 1023
    · -- `a = x · 2^971`, and the significand carries from `x = 2^53 − 1/2` on
      subst h1023
      have hp := pow2_pos 971
      rw [threshold_eq]
      exact ⟨fun h => Rat.mul_le_mul_of_nonneg_right ((h.resolve_left hbig).2) (Rat.le_of_lt hp),
        fun h => .inr ⟨rfl, Rat.le_of_mul_le_mul_right h hp⟩⟩
    · -- `a < 2^53 · 2^(ex − 52) ≤ 2^1023`
      have h1 := Rat.mul_lt_mul_of_pos_right x1 hP
      rw [← pow2_add] at h1
      exact iff_of_false (fun h => h.elim hbig fun h => h1023 h.1) (Rat.not_le.mpr
        (Std.lt_trans (Std.lt_of_lt_of_le h1 (pow2_le_of_le (by omega))) threshold_bracket.1))

/-- **overflow to ±∞**: from `2^1024 − 2^970` (the largest finite float plus half an ulp) on, the
result is the infinity of the argument's sign -/
theorem ofRatRNE_overflow (q : Rat) (h : overflowThreshold ≤ q.abs) :
    ofRatRNE q = INF (decide (q < 0)) := by
  have h0 : q ≠ 0 := fun h0 => by
    rw [h0, Rat.abs_zero] at h; exact Rat.not_le.mpr threshold_pos h
  obtain ⟨e, ha, _⟩ := ofRatRNE_of_ne_zero q h0
  rw [e, (magRNE_overflow_iff q.abs ha).mpr h]
  unfold INF
  by_cases hn : q < 0 <;> simp [hn]

theorem ofRatRNE_finite (q : Rat) (h : q.abs < overflowThreshold) :
    ∃ q', viewBits (ofRatRNE q) = .fin q' := by
  by_cases h0 : q = 0
  · subst h0; exact ⟨0, C07.viewBits_zeros.1⟩
  · obtain ⟨e, ha, _⟩ := ofRatRNE_of_ne_zero q h0
    have hfin : magRNE q.abs ≠ 0x7FF0000000000000 :=
      fun e => Rat.not_le.mpr h ((magRNE_overflow_iff q.abs ha).mp e)
    obtain ⟨_, _, _, -, -, -, -, hd⟩ := magRNE_decode (q < 0) q.abs ha hfin
    exact ⟨_, e ▸ hd⟩

theorem finite_below_threshold (b : Nat) (q : Rat) (hb : viewBits b = .fin q) :
    q.abs < overflowThreshold := by
  obtain ⟨sig, ex, s, hs, hsig, hex1, hex2, hq⟩ := viewBits_fin b q hb
  have hs0 : (0 : Rat) ≤ (sig : Rat) := Rat.natCast_nonneg
  have hp : pow2 ((ex : Int) - 1075) ≤ pow2 971 := pow2_le_of_le (by omega)
  have hp0 := pow2_pos ((ex : Int) - 1075)
  have h971 := pow2_pos 971
  have a1 := Rat.mul_le_mul_of_nonneg_left hp hs0
  have a2 := Rat.mul_le_mul_of_nonneg_right hsig (Rat.le_of_lt h971)
  rw [threshold_eq, hq, abs_sign_mul _ _ hs, Rat.abs_of_nonneg (Rat.mul_nonneg hs0 (Rat.le_of_lt hp0))]
  grind

/-- **exactness**: a rational that is the value of a finite float is converted without error (so
in particular subnormals and the largest finite float are reached) -/
theorem ofRatRNE_exact (b : Nat) (q : Rat) (hb : viewBits b = .fin q) :
    viewBits (ofRatRNE q) = .fin q := by
  obtain ⟨q', hq'⟩ := ofRatRNE_finite q (finite_below_threshold b q hb)
  have h := ofRatRNE_nearest_any q q' hq' b q hb
  rw [Rat.sub_self, Rat.abs_zero] at h
  have := Rat.abs_eq_zero_iff.mp (Rat.le_antisymm h Rat.abs_nonneg)
  rw [hq']; congr 1; grind


/-! ## 8. IEEE-754 `+ - * / %` = the exact rational result, rounded once -/

theorem viewBits_ZERO (s : Bool) : viewBits (ZERO s) = .fin 0 := by
  cases s
  · exact C07.viewBits_zeros.1
  · exact C07.viewBits_zeros.2

/-- a correctly rounded result: `r` is the float (bit pattern) IEEE-754 prescribes for the exact
value `v`: the infinity of `v`'s sign from the overflow threshold on, otherwise a finite float that
no other finite float is closer to `v` than -/
def CorrectlyRounded (v : Rat) (r : Nat) : Prop :=
  (overflowThreshold ≤ v.abs → r = INF (decide (v < 0))) ∧
  (v.abs < overflowThreshold → ∃ q', viewBits r = .fin q' ∧
    ∀ (b : Nat) (qb : Rat), viewBits b = .fin qb → (v - q').abs ≤ (v - qb).abs)

theorem ofRatRNE_correctlyRounded (v : Rat) : CorrectlyRounded v (ofRatRNE v) := by
  refine ⟨ofRatRNE_overflow v, fun h => ?_⟩
  obtain ⟨q', hq'⟩ := ofRatRNE_finite v h
  exact ⟨q', hq', ofRatRNE_nearest_any v q' hq'⟩

theorem roundSigned_correctlyRounded (v : Rat) (s : Bool) : CorrectlyRounded v (roundSigned v s) := by
  unfold roundSigned
  split
  · rename_i h0; subst h0
    refine ⟨fun h => ?_, fun _ => ⟨0, viewBits_ZERO s, fun b qb _ => ?_⟩⟩
    · rw [Rat.abs_zero] at h; exact absurd h (Rat.not_le.mpr threshold_pos)
    · rw [Rat.sub_self, Rat.abs_zero]; exact Rat.abs_nonneg
  · exact ofRatRNE_correctlyRounded v

/-- every IEEE operation on finite operands is `roundSigned` of its exact value `v` (with the sign
`s` an exact zero gets): so it returns `v` correctly rounded -/
theorem rounds_of_eq {r : Nat} {v : Rat} {s : Bool} (h : r = roundSigned v s) :
    r = roundSigned v s ∧ CorrectlyRounded v r :=
  ⟨h, h ▸ roundSigned_correctlyRounded v s⟩

/-- **IEEE addition of finite floats** is the exact sum, correctly rounded -/
theorem add_finite (a b : Nat) (x y : Rat) (ha : viewBits a = .fin x) (hb : viewBits b = .fin y) :
    F64.add a b = roundSigned (x + y) (signBit a && signBit b) ∧
    CorrectlyRounded (x + y) (F64.add a b) :=
  rounds_of_eq (by simp [F64.add, ha, hb])

theorem mul_finite (a b : Nat) (x y : Rat) (ha : viewBits a = .fin x) (hb : viewBits b = .fin y) :
    F64.mul a b = roundSigned (x * y) (signBit a != signBit b) ∧
    CorrectlyRounded (x * y) (F64.mul a b) :=
  rounds_of_eq (by simp [F64.mul, ha, hb])

theorem div_finite (a b : Nat) (x y : Rat) (ha : viewBits a = .fin x) (hb : viewBits b = .fin y)
    (hy : y ≠ 0) :
    F64.div a b = roundSigned (x / y) (signBit a != signBit b) ∧
    CorrectlyRounded (x / y) (F64.div a b) :=
  rounds_of_eq (by simp [F64.div, ha, hb, hy])

theorem viewBits_neg (b : Nat) (hb : b < 2 ^ 64) :
    viewBits (F64.neg b) = match viewBits b with
      | .nan => .nan
      | .inf s => .inf (!s)
      | .fin y => .fin (-y) := by
  -- `b` and `-b` are the same 63 magnitude bits `B` under opposite signs
  have key (B : Nat) (hB : B < 2 ^ 63) : viewBits B = _ ∧ viewBits (2 ^ 63 + B) = _ :=
    ⟨Nat.zero_add B ▸ viewBits_sign False B hB, viewBits_sign True B hB⟩
  unfold F64.neg signBit
  by_cases h : b < 2 ^ 63
  · rw [Nat.div_eq_of_lt h, if_neg (by decide), Nat.add_comm, (key b h).2, (key b h).1]
    cases viewBits b <;> simp [Rat.neg_mul]
  · obtain ⟨B, rfl⟩ := Nat.exists_eq_add_of_le (Nat.le_of_not_lt h)
    have hB : B < 2 ^ 63 := by omega
    rw [Nat.add_div_left _ (by decide), Nat.div_eq_of_lt hB, if_pos (by decide),
      Nat.add_sub_cancel_left, (key B hB).2, (key B hB).1]
    cases viewBits B <;> simp [Rat.neg_mul]

theorem sub_finite (a b : Nat) (x y : Rat) (hb64 : b < 2 ^ 64) (ha : viewBits a = .fin x)
    (hb : viewBits b = .fin y) :
    CorrectlyRounded (x - y) (F64.sub a b) := by
  have hn := viewBits_neg b hb64
  rw [hb] at hn
  have := (add_finite a (F64.neg b) x (-y) ha hn).2
  rw [← Rat.sub_eq_add_neg] at this
  exact this

/-- `x % y` on finite floats (`y ≠ 0`) is the truncated remainder `x − y·trunc(x/y)` of the exact
values, correctly rounded (it is in fact exactly representable, so nothing is lost: not proved
here, see `F64.rem`) -/
theorem rem_finite (a b : Nat) (x y : Rat) (ha : viewBits a = .fin x) (hb : viewBits b = .fin y)
    (hy : y ≠ 0) :
    CorrectlyRounded (x - y * ((truncQ (x / y) : Int) : Rat)) (F64.rem a b) :=
  (rounds_of_eq (s := signBit a) (by simp [F64.rem, ha, hb, hy])).2

/-- the float-level `%` computes the same mathematical function as the exact levels' `%` -/
theorem truncQ_eq_trunc (q : Rat) : truncQ q = TowerSpec.trunc q := rfl

/-! ### special values -/

theorem add_nan (a b : Nat) (h : viewBits a = .nan ∨ viewBits b = .nan) : F64.add a b = NAN := by
  unfold F64.add; rcases h with h | h <;> rw [h] <;> cases viewBits _ <;> rfl
theorem mul_nan (a b : Nat) (h : viewBits a = .nan ∨ viewBits b = .nan) : F64.mul a b = NAN := by
  unfold F64.mul; rcases h with h | h <;> rw [h] <;> cases viewBits _ <;> rfl
theorem div_nan (a b : Nat) (h : viewBits a = .nan ∨ viewBits b = .nan) : F64.div a b = NAN := by
  unfold F64.div; rcases h with h | h <;> rw [h] <;> cases viewBits _ <;> rfl

/-- `∞ − ∞`, `0 · ∞`, `0 / 0`, `∞ / ∞` are NaN; `x / 0` is ±∞ -/
theorem invalid_operations (a b : Nat) (s t : Bool) (x : Rat) :
    (viewBits a = .inf s → viewBits b = .inf (!s) → F64.add a b = NAN) ∧
    (viewBits a = .fin 0 → viewBits b = .inf t → F64.mul a b = NAN) ∧
    (viewBits a = .fin 0 → viewBits b = .fin 0 → F64.div a b = NAN) ∧
    (viewBits a = .inf s → viewBits b = .inf t → F64.div a b = NAN) ∧
    (viewBits a = .fin x → x ≠ 0 → viewBits b = .fin 0 →
      F64.div a b = INF (signBit a != signBit b)) := by
  refine ⟨?_, ?_, ?_, ?_, ?_⟩
  · intro h1 h2; simp [F64.add, h1, h2]
  · intro h1 h2; simp [F64.mul, h1, h2]
  · intro h1 h2; simp [F64.div, h1, h2]
  · intro h1 h2; simp [F64.div, h1, h2]
  · intro h1 hx h2; simp [F64.div, h1, h2, hx]

/-! ### non-vacuity (kernel evaluation) -/

example : F64.add 0x3FF0000000000000 0x3CA0000000000000 = 0x3FF0000000000000 := by decide +kernel  -- 1 + 2^-53: tie, to even
example : F64.add 0x3FF0000000000001 0x3CA0000000000000 = 0x3FF0000000000002 := by decide +kernel  -- odd + half ulp: up
example : F64.add 0x7FEFFFFFFFFFFFFF 0x7C90000000000000 = 0x7FF0000000000000 := by decide +kernel  -- MAX + 2^970 = +inf
example : F64.add 0x7FEFFFFFFFFFFFFF 0x7C80000000000000 = 0x7FEFFFFFFFFFFFFF := by decide +kernel  -- MAX + 2^969 = MAX
example : F64.mul 0x0000000000000001 0x3FE0000000000000 = 0 := by decide +kernel                   -- min subnormal / 2: tie, to 0
example : F64.mul 0x0000000000000003 0x3FE0000000000000 = 2 := by decide +kernel                   -- 1.5 min: tie, to even
example : F64.mul 0x8000000000000001 0x3FE0000000000000 = 0x8000000000000000 := by decide +kernel  -- underflow keeps the sign
example : F64.add 0x8000000000000000 0x8000000000000000 = 0x8000000000000000 ∧
    F64.add 0 0x8000000000000000 = 0 ∧ F64.sub 0x3FF0000000000000 0x3FF0000000000000 = 0 := by decide +kernel
example : F64.div 0x3FF0000000000000 0x4008000000000000 = 0x3FD5555555555555 := by decide +kernel  -- 1/3
example : F64.div 0x3FF0000000000000 0x8000000000000000 = 0xFFF0000000000000 ∧
    F64.div 0 0 = NAN ∧ F64.sub 0x7FF0000000000000 0x7FF0000000000000 = NAN := by decide +kernel
example : F64.rem 0x401C000000000000 0xC000000000000000 = 0x3FF0000000000000 ∧       -- 7 % -2 = 1
    F64.divEuclid 0x401C000000000000 0xC000000000000000 = 0xC008000000000000 ∧      -- 7 // -2 = -3 (euclid)
    F64.remEuclid 0xC01C000000000000 0x4000000000000000 = 0x3FF0000000000000 ∧      -- -7 %% 2 = 1
    F64.rem 0xC010000000000000 0x4000000000000000 = 0x8000000000000000 := by        -- -4 % 2 = -0
  decide +kernel


/-! ## 9. the tower with IEEE-754 floats: compute in ℚ, then round

`ieeeOps R` is the float structure whose `+ - * / %`, `div_euclid`, `rem_euclid`, unary minus,
conversions and decoding are those of Impl/F64Ieee.lean (everything else comes from an arbitrary
`R`).  Every theorem of Theorems/C07.lean holds for it by instantiation; the float arm becomes
concrete. -/

variable {C : Type}

/-- all of C07 for the IEEE structure -/
theorem C07_holds_ieee (R : FloatOps Nat C) :
    (∀ op A B, Vectorize.binop (ieeeOps R) op A B = TowerSpec.vbinop (ieeeOps R) op A B) ∧
    (∀ op A, Vectorize.unop (ieeeOps R) op A = TowerSpec.vunop (ieeeOps R) op A) :=
  ⟨(C07.C07_holds Nat C (ieeeOps R)).1, (C07.C07_holds Nat C (ieeeOps R)).2.1⟩

/-- the float an operand is converted to at the float level: the correctly rounded value of an
int / rational, the float itself -/
theorem toF_ieee (R : FloatOps Nat C) (a : NNum Nat C) :
    toF (ieeeOps R) a = match a with
      | .int i => some (ofRatRNE (i : Rat))
      | .rat r => some (ofRatRNE r)
      | .float f => some f
      | .complex _ => none := by
  cases a <;> rfl

/-- the IEEE operation behind an operator name -/
def ieeeOp : String → Option (Nat → Nat → Nat)
  | "+" => some F64.add
  | "-" => some F64.sub
  | "*" => some F64.mul
  | "/" => some F64.div
  | _ => none

/-- **float arm of the tower**: when both operands are real and at least one is a float, `+ - * /`
apply the IEEE operation to the operands converted to float (ints and rationals are rounded
first — two roundings in all, as the level rule says) -/
theorem tower_float_arm (R : FloatOps Nat C) (name : String) (f : Nat → Nat → Nat)
    (hop : ieeeOp name = some f) (a b : NNum Nat C) (fa fb : Nat)
    (ha : toF (ieeeOps R) a = some fa) (hb : toF (ieeeOps R) b = some fb)
    (hfl : exact a = none ∨ exact b = none) :
    NNum.binop (ieeeOps R) name a b = .ok (.float (f fa fb)) := by
  rw [C07.binop_refines]
  unfold ieeeOp at hop
  split at hop <;> cases hop <;>
    simp only [TowerSpec.binop, C07.arith_float _ _ _ _ _ _ ha hb hfl, C07.divide_float _ _ _ _ _ ha hb hfl] <;>
    rfl

/-- **the float arm refines "exact result in ℚ, rounded once"**: with finite converted operands
`x`, `y` the result of `+ - *` (and `/` for `y ≠ 0`) is the correctly rounded value of
`x + y`, `x − y`, `x · y`, `x / y` -/
theorem tower_float_rounds (R : FloatOps Nat C) (a b : NNum Nat C) (fa fb : Nat) (x y : Rat)
    (ha : toF (ieeeOps R) a = some fa) (hb : toF (ieeeOps R) b = some fb)
    (hfl : exact a = none ∨ exact b = none) (hfb : fb < 2 ^ 64)
    (hx : viewBits fa = .fin x) (hy : viewBits fb = .fin y) :
    (∃ r, NNum.binop (ieeeOps R) "+" a b = .ok (.float r) ∧ CorrectlyRounded (x + y) r) ∧
    (∃ r, NNum.binop (ieeeOps R) "-" a b = .ok (.float r) ∧ CorrectlyRounded (x - y) r) ∧
    (∃ r, NNum.binop (ieeeOps R) "*" a b = .ok (.float r) ∧ CorrectlyRounded (x * y) r) ∧
    (y ≠ 0 → ∃ r, NNum.binop (ieeeOps R) "/" a b = .ok (.float r) ∧ CorrectlyRounded (x / y) r) := by
  refine ⟨⟨_, tower_float_arm R "+" _ rfl a b fa fb ha hb hfl, (add_finite fa fb x y hx hy).2⟩,
    ⟨_, tower_float_arm R "-" _ rfl a b fa fb ha hb hfl, sub_finite fa fb x y hfb hx hy⟩,
    ⟨_, tower_float_arm R "*" _ rfl a b fa fb ha hb hfl, (mul_finite fa fb x y hx hy).2⟩,
    fun hy0 => ⟨_, tower_float_arm R "/" _ rfl a b fa fb ha hb hfl, (div_finite fa fb x y hx hy hy0).2⟩⟩

/-- the conversion of an exact operand is itself correctly rounded -/
theorem tower_conversion_rounds (R : FloatOps Nat C) (a : NNum Nat C) (p : Rat)
    (ha : exact a = some p) :
    ∃ fa, toF (ieeeOps R) a = some fa ∧ CorrectlyRounded p fa := by
  cases a <;> simp [exact] at ha <;> subst ha
  · exact ⟨_, rfl, ofRatRNE_correctlyRounded _⟩
  · exact ⟨_, rfl, ofRatRNE_correctlyRounded _⟩

/-- `float(x)` of the tower is the correctly rounded value of an int / rational -/
theorem float_builtin_rounds (R : FloatOps Nat C) (a : NNum Nat C) (p : Rat) (ha : exact a = some p) :
    ∃ r, NNum.unop (ieeeOps R) "float" a = .ok (.float r) ∧ CorrectlyRounded p r := by
  obtain ⟨fa, hfa, hr⟩ := tower_conversion_rounds R a p ha
  exact ⟨fa, by rw [C07.unop_refines]; simp [TowerSpec.unop, hfa], hr⟩

theorem tower_nan_propagates (R : FloatOps Nat C) (a b : NNum Nat C) (fa fb : Nat)
    (ha : toF (ieeeOps R) a = some fa) (hb : toF (ieeeOps R) b = some fb)
    (hfl : exact a = none ∨ exact b = none)
    (hnan : viewBits fa = .nan ∨ viewBits fb = .nan) :
    NNum.binop (ieeeOps R) "+" a b = .ok (.float NAN) ∧
    NNum.binop (ieeeOps R) "*" a b = .ok (.float NAN) ∧
    NNum.binop (ieeeOps R) "/" a b = .ok (.float NAN) := by
  rw [tower_float_arm R "+" _ rfl a b fa fb ha hb hfl, tower_float_arm R "*" _ rfl a b fa fb ha hb hfl,
    tower_float_arm R "/" _ rfl a b fa fb ha hb hfl, add_nan _ _ hnan, mul_nan _ _ hnan, div_nan _ _ hnan]
  exact ⟨rfl, rfl, rfl⟩

/-- **float arm of `% // %%`**: the IEEE remainder, and the standard library's `div_euclid` /
`rem_euclid` compositions, applied to the converted operands; a zero divisor is an error for `//`
and `%%` (and gives NaN for `%`) -/
theorem tower_float_arm_mod (R : FloatOps Nat C) (a b : NNum Nat C) (fa fb : Nat)
    (ha : toF (ieeeOps R) a = some fa) (hb : toF (ieeeOps R) b = some fb)
    (hfl : exact a = none ∨ exact b = none) :
    NNum.binop (ieeeOps R) "%" a b = .ok (.float (F64.rem fa fb)) ∧
    (isZero (ieeeOps R) b = false →
      NNum.binop (ieeeOps R) "//" a b = .ok (.float (F64.divEuclid fa fb)) ∧
      NNum.binop (ieeeOps R) "%%" a b = .ok (.float (F64.remEuclid fa fb))) ∧
    (isZero (ieeeOps R) b = true →
      NNum.binop (ieeeOps R) "//" a b = .throw ∧ NNum.binop (ieeeOps R) "%%" a b = .throw) := by
  simp only [C07.binop_refines, TowerSpec.binop, C07.arith_float _ _ _ _ _ _ ha hb hfl]
  refine ⟨?_, fun hz => ?_, fun hz => ?_⟩
  · rcases hfl with h | h <;> simp [h] <;> rfl
  · simp [hz]; exact ⟨rfl, rfl⟩
  · simp [hz]

end Noulith.C07F
