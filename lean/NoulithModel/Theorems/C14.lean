/-
C14 — Every failure is a catchable error, never a crash, and try/catch contains it.

What Lean carries for this property (DESIGN.md C14): for the MODELLED core, (1) the outcome of every
modelled operation is `ok` or `throw`, never `panic` (the family of `…_no_panic` theorems of the other
properties, collected in C14Core.lean and C14Tower.lean), (2) in the core evaluator a raised error is received by an enclosing
`try … catch` whose pattern matches, while `break` / `continue` / `return` pass through, and (3) a
statement that raises leaves the store exactly as its sub-expressions left it: the failing write is
not performed, so variables it does not name keep their values and the interpreter state stays usable.
The ~250 builtins without a model, native stack exhaustion and allocation failure are covered by the
sweep of this check only (fault enumeration, labelled so in the evidence).
-/
import NoulithModel.Impl.CoreEval
import NoulithModel.Theorems.C05
import NoulithModel.Theorems.C06

namespace Noulith.C14
open Noulith Noulith.Core

/-! ## the evaluator itself never produces a crash outcome: its result type has no such case.
`Res` = value | break | continue | return | thrown | fuelOut — every failure of a modelled construct
is `thrown` -/

theorem eval_result_classes (r : Res) :
    (∃ v, r = .val v) ∨ (∃ n v, r = .brk n v) ∨ (∃ n, r = .cont n) ∨ (∃ v, r = .ret v) ∨
    (∃ v, r = .thrown v) ∨ r = .fuelOut := by
  cases r <;> simp

/-- builtin operators of the core vocabulary either produce a value or raise: `OpRes` has no other case;
in particular a zero divisor raises -/
theorem applyOp_div_zero_raises (a : Int) : (match applyOp "//" (.int a) (.int 0) with | .raise => true | .ok _ => false) = true :=
  rfl

theorem applyOp_mod_zero_raises (a : Int) : (match applyOp "%" (.int a) (.int 0) with | .raise => true | .ok _ => false) = true :=
  rfl

/-- an out-of-range index raises (never anything else), for every index however large -/
theorem index_out_of_range_raises (xs : List Val) (n : Int) (h : n ≥ xs.length ∨ n < -(xs.length : Int)) :
    (match indexVal (.list xs) (.int n) with | .raise => true | .ok _ => false) = true := by
  unfold indexVal
  have h1 : ¬ (0 ≤ n ∧ n < (xs.length : Int)) := by omega
  have h2 : ¬ (-(xs.length : Int) ≤ n ∧ n < 0) := by omega
  simp [h1, h2]

/-! ## `throw` is catchable; the other exits are not intercepted (restated from C05) -/

-- `C05.try_catches_throw`, `try_passes_break`, `try_passes_continue`, `try_passes_return`,
-- `try_rethrows_unmatched` are the general statements; two of them restated for this property:

theorem throw_is_catchable (fuel : Nat) (st st' st2 : State) (env : Nat) (b c : Expr) (p : Pat) (v : Val)
    (hb : eval fuel st env b = (.thrown v, st'))
    (hm : declarePat (patDepth p + 1) (newFrame st' env).1 (newFrame st' env).2 p v = (true, st2)) :
    eval (fuel + 1) st env (.try_ b p c) = eval fuel st2 (newFrame st' env).2 c :=
  C05.try_catches_throw fuel st st' st2 env b c p v hb hm

theorem try_does_not_intercept_return (fuel : Nat) (st st' : State) (env : Nat) (b c : Expr) (p : Pat) (v : Val)
    (hb : eval fuel st env b = (.ret v, st')) :
    eval (fuel + 1) st env (.try_ b p c) = (.ret v, st') :=
  C05.try_passes_return fuel st st' env b c p v hb

/-- an error raised by an operator inside `try` is received by a catch-all clause -/
theorem operator_error_is_caught (fuel : Nat) (st st1 st2 : State) (env : Nat) (name : String) (a b c : Expr)
    (va vb : Val)
    (ha : eval fuel st env a = (.val va, st1)) (hb : eval fuel st1 env b = (.val vb, st2))
    (hop : applyOp name va vb = .raise) :
    eval (fuel + 2) st env (.try_ (.op name a b) .underscore c)
      = eval (fuel + 1) (newFrame st2 env).1 (newFrame st2 env).2 c := by
  have ha' : eval (fuel + 1) st env (.op name a b) = (.thrown .err, st2) := by
    simp [eval, ha, hb, hop]
  simp [eval, ha', declarePat]

/-! ## a failing statement does not perform its write: the store is what the sub-expressions left -/

theorem failing_assign_writes_nothing (fuel : Nat) (st st' : State) (env : Nat) (x : String) (e : Expr) (v : Val)
    (he : eval fuel st env e = (.thrown v, st')) :
    eval (fuel + 1) st env (.assign x e) = (.thrown v, st') := by
  simp [eval, he]

theorem failing_declare_declares_nothing (fuel : Nat) (st st' : State) (env : Nat) (p : Pat) (e : Expr) (v : Val)
    (he : eval fuel st env e = (.thrown v, st')) :
    eval (fuel + 1) st env (.declare p e) = (.thrown v, st') := by
  simp [eval, he]

theorem assign_undeclared_preserves_state (fuel : Nat) (st st' : State) (env : Nat) (x : String) (e : Expr) (v : Val)
    (he : eval fuel st env e = (.val v, st'))
    (hx : lookupVar st'.frames (st'.frames.size + 1) env x = none) :
    eval (fuel + 1) st env (.assign x e) = (.thrown .err, st') := by
  simp [eval, he, C05.assign_refuses_undeclared _ _ _ _ _ hx]

theorem redeclare_preserves_state (fuel : Nat) (st st' : State) (env : Nat) (x : String) (e : Expr) (v : Val)
    (fr : Frame) (he : eval fuel st env e = (.val v, st')) (hfr : st'.frames[env]? = some fr)
    (hx : (lookupIn fr.vars x).isSome) :
    eval (fuel + 1) st env (.declare (.ident x) e) = (.thrown .err, st') := by
  have hd : declareVar st'.frames env x v = none := (C05.declare_refuses_redeclaration _ _ _ _ fr hfr).mpr hx
  simp [eval, he, declarePat, hd]

theorem unpack_mismatch_binds_nothing (fuel : Nat) (st st' : State) (env : Nat) (ps : List Pat) (e : Expr)
    (vs : List Val) (he : eval fuel st env e = (.val (.list vs), st')) (hl : ps.length ≠ vs.length) :
    eval (fuel + 1) st env (.declare (.seq ps) e) = (.thrown .err, st') := by
  simp [eval, he, declarePat, hl]

/-- a caught error leaves every variable the failing statement did not get to write exactly as it was:
the state handed to the catch clause is the state at the raise plus one fresh, empty frame -/
theorem caught_error_preserves_others (fuel : Nat) (st st' : State) (env : Nat) (b c : Expr) (v : Val)
    (i : Nat) (hi : i < st'.frames.size)
    (hb : eval fuel st env b = (.thrown v, st')) :
    (newFrame st' env).1.frames[i]? = st'.frames[i]? ∧
    eval (fuel + 1) st env (.try_ b .underscore c) = eval fuel (newFrame st' env).1 (newFrame st' env).2 c := by
  refine ⟨C05.newFrame_preserves st' env i hi, ?_⟩
  simp [eval, hb, declarePat]

/-! ## the integer operators never panic (the other no-panic theorems are collected in C14Core / C14Tower) -/

theorem int_binop_no_panic (op : String) (a b : NInt) (ha : a.WF) (hb : b.WF) :
    IntOps.binop op a b ≠ .panic := C06.binop_no_panic op a b ha hb

end Noulith.C14
