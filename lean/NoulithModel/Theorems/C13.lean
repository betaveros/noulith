/-
C13 — The sequence library matches its executable specification: the equations `Impl.f = Spec.f`
(Impl/SeqLib.lean: the Rust loops of lib.rs / streams.rs; Spec/SeqLibSpec.lean: the one-liners) for ALL
finite inputs — every length, every element value, arbitrary callbacks `α → Out β`, raising / panicking
ones included.  Of the combinatorial streams only what their right-to-left loops do at the far end, and the
statement for `permutations` (`permutations_statement`); their equations are in Theorems/C13Perm.lean, on
top of the C11 slice.
-/
import NoulithModel.Spec.SeqLibCall
import NoulithModel.Lemmas.Out

namespace Noulith.C13
open Noulith Noulith.SeqLib
variable {α β γ κ : Type}

/-! ## the outcome monad -/
@[simp] theorem out_map_map (x : Out α) (f : α → β) (g : β → γ) : (x.map f).map g = x.map (g ∘ f) := by
  cases x <;> rfl
@[simp] theorem out_map_id (x : Out α) : x.map (fun a => a) = x := by cases x <;> rfl

theorem andThen_eq_bind (x : Out α) (k : α → Out β) : andThen x k = SeqSpec.bind x k := by cases x <;> rfl

theorem map_congr_ok {x : Out α} {f g : α → β} (h : ∀ a, x = .ok a → f a = g a) : x.map f = x.map g := by
  cases x with
  | ok a => exact congrArg Out.ok (h a rfl)
  | _ => rfl

/-! ## traversals with a callback: the Rust accumulator loops equal the textbook recursions

Every loop lemma has the shape `go acc xs = (spec xs).map (acc ++ ·)` (or the analogue for a counter). -/

theorem filteredGo_eq (p : α → Out Bool) (neg : Bool) (acc xs : List α) :
    filteredGo p neg acc xs = (SeqSpec.filterE p neg xs).map (acc ++ ·) := by
  induction xs generalizing acc with
  | nil => simp [filteredGo, SeqSpec.filterE]
  | cons x xs ih =>
    cases h : p x <;> simp [filteredGo, SeqSpec.filterE, h, ih, Function.comp_def]
    split <;> rfl

theorem filtered_eq (p : α → Out Bool) (xs : List α) (neg : Bool) :
    filtered p xs neg = SeqSpec.filterE p neg xs := by
  simp [filtered, filteredGo_eq]

theorem mapGo_eq (f : α → Out β) (acc : List β) (xs : List α) :
    mapGo f acc xs = (SeqSpec.mapE f xs).map (acc ++ ·) := by
  induction xs generalizing acc with
  | nil => simp [mapGo, SeqSpec.mapE]
  | cons x xs ih => cases h : f x <;> simp [mapGo, SeqSpec.mapE, h, ih, Function.comp_def]

theorem map_eq (f : α → Out β) (xs : List α) : map f xs = SeqSpec.mapE f xs := by
  simp [map, mapGo_eq]

theorem each_eq (f : α → Out β) (xs : List α) : each f xs = SeqSpec.eachE f xs := by
  induction xs with
  | nil => rfl
  | cons x xs ih =>
    cases h : f x <;> simp [each, SeqSpec.eachE, SeqSpec.mapE, h, ih, Function.comp_def]

theorem flatMapGo_eq (f : α → Out (List β)) (acc : List β) (xs : List α) :
    flatMapGo f acc xs = (SeqSpec.flatMapE f xs).map (acc ++ ·) := by
  induction xs generalizing acc with
  | nil => simp [flatMapGo, SeqSpec.flatMapE, SeqSpec.mapE]
  | cons x xs ih =>
    cases h : f x <;> simp [flatMapGo, SeqSpec.flatMapE, SeqSpec.mapE, h, ih, Function.comp_def]

theorem flatMap_eq (f : α → Out (List β)) (xs : List α) : flatMap f xs = SeqSpec.flatMapE f xs := by
  simp [flatMap, flatMapGo_eq]

theorem takeWhileGo_eq (p : α → Out Bool) (acc xs : List α) :
    takeWhileGo p acc xs = (SeqSpec.takeWhileE p xs).map (acc ++ ·) := by
  induction xs generalizing acc with
  | nil => simp [takeWhileGo, SeqSpec.takeWhileE]
  | cons x xs ih =>
    simp only [takeWhileGo, SeqSpec.takeWhileE]
    cases p x with
    | ok b => cases b <;> simp [ih, Function.comp_def]
    | _ => rfl

theorem takeWhile_eq (p : α → Out Bool) (xs : List α) : takeWhile p xs = SeqSpec.takeWhileE p xs := by
  simp [takeWhile, takeWhileGo_eq]

theorem dropWhile_eq (p : α → Out Bool) (xs : List α) : dropWhile p xs = SeqSpec.dropWhileE p xs := by
  induction xs with
  | nil => rfl
  | cons x xs ih =>
    simp only [dropWhile, SeqSpec.dropWhileE]
    cases p x with
    | ok b => cases b <;> simp [ih]
    | _ => rfl

theorem find_eq (p : α → Out Bool) (xs : List α) : find p xs = SeqSpec.findE p xs := by
  induction xs with
  | nil => rfl
  | cons x xs ih =>
    simp only [find, SeqSpec.findE]
    cases p x with
    | ok b => cases b <;> simp [ih]
    | _ => rfl

theorem locateGo_eq (p : α → Out Bool) (i : Nat) (xs : List α) :
    locateGo p i xs = (SeqSpec.locateE p xs).map (fun r => r.map (· + i)) := by
  induction xs generalizing i with
  | nil => rfl
  | cons x xs ih =>
    simp only [locateGo, SeqSpec.locateE]
    cases p x with
    | ok b => cases b <;> simp [ih, Function.comp_def, Nat.add_assoc, Nat.add_comm 1]
    | _ => rfl

theorem locate_eq (p : α → Out Bool) (xs : List α) : locate p xs = SeqSpec.locateE p xs := by
  simp [locate, locateGo_eq]

theorem countGo_eq (p : α → Out Bool) (c : Nat) (xs : List α) :
    countGo p c xs = (SeqSpec.countE p xs).map (c + ·) := by
  induction xs generalizing c with
  | nil => rfl
  | cons x xs ih =>
    simp only [SeqSpec.countE] at ih
    simp only [countGo, SeqSpec.countE, SeqSpec.mapE]
    cases p x with
    | ok b => cases b <;> simp [ih, Function.comp_def, Nat.add_assoc, Nat.add_comm 1]
    | _ => rfl

theorem count_eq (p : α → Out Bool) (xs : List α) : count p xs = SeqSpec.countE p xs := by
  simp [count, countGo_eq]

theorem seqFoldGoN_fst (f : α → Out β) (body : γ → β → Step γ) (s : γ) (n : Nat) (xs : List α) :
    (seqFoldGoN f body s n xs).1 = seqFoldGo f body s xs := by
  induction xs generalizing s n with
  | nil => rfl
  | cons x xs ih =>
    simp only [seqFoldGoN, seqFoldGo]
    cases f x with
    | ok y => simp only []; cases body s y <;> simp [ih]
    | _ => rfl

/-- The result (`any_eq`) and the number of calls (`any_calls`, Theorems/C13Laws.lean) are the two
components of this one equation. -/
theorem seqFoldGoN_any (p : α → Out Bool) (xs : List α) (n : Nat) :
    seqFoldGoN p anyBody false n xs = (SeqSpec.anyE p xs, n + callsUntil (fun o => !isOkFalse o) p xs) := by
  induction xs generalizing n with
  | nil => rfl
  | cons x xs ih =>
    simp only [seqFoldGoN, SeqSpec.anyE, callsUntil]
    cases p x with
    | ok b => cases b <;> simp [anyBody, isOkFalse, ih, Nat.add_assoc]
    | _ => rfl

theorem seqFoldGoN_all (p : α → Out Bool) (xs : List α) (n : Nat) :
    seqFoldGoN p allBody true n xs = (SeqSpec.allE p xs, n + callsUntil (fun o => !isOkTrue o) p xs) := by
  induction xs generalizing n with
  | nil => rfl
  | cons x xs ih =>
    simp only [seqFoldGoN, SeqSpec.allE, callsUntil]
    cases p x with
    | ok b => cases b <;> simp [allBody, isOkTrue, ih, Nat.add_assoc]
    | _ => rfl

theorem any_eq (p : α → Out Bool) (xs : List α) : any p xs = SeqSpec.anyE p xs := by
  rw [any, seqFold, ← seqFoldGoN_fst _ _ _ 0, seqFoldGoN_any]

theorem all_eq (p : α → Out Bool) (xs : List α) : all p xs = SeqSpec.allE p xs := by
  rw [all, seqFold, ← seqFoldGoN_fst _ _ _ 0, seqFoldGoN_all]

theorem sumLike_eq (zero : γ) (op : γ → γ → Out γ) (f : α → Out γ) (xs : List α) :
    sumLike zero op f xs = SeqSpec.sumE zero op f xs := by
  unfold sumLike seqFold SeqSpec.sumE
  induction xs generalizing zero with
  | nil => rfl
  | cons x xs ih =>
    simp only [seqFoldGo, SeqSpec.foldlE]
    cases f x with
    | ok y => cases h : op zero y <;> simp [arithBody, h, ih]
    | _ => rfl

theorem foldGo_eq (f : β → α → Out β) (cur : β) (xs : List α) :
    foldGo f cur xs = SeqSpec.foldlE f cur xs := by
  induction xs generalizing cur with
  | nil => rfl
  | cons x xs ih => cases h : f cur x <;> simp [foldGo, SeqSpec.foldlE, h, ih]

theorem fold1_eq (f : α → α → Out α) (xs : List α) : fold1 f xs = SeqSpec.fold1E f xs := by
  cases xs <;> simp [fold1, SeqSpec.fold1E, foldGo_eq]

theorem scanGo_eq (f : β → α → Out β) (cur : β) (acc : List β) (xs : List α) :
    scanGo f cur (acc ++ [cur]) xs = (SeqSpec.scanlE f cur xs).map (acc ++ ·) := by
  induction xs generalizing cur acc with
  | nil => rfl
  | cons x xs ih =>
    simp only [scanGo, SeqSpec.scanlE]
    cases f cur x with
    | ok r =>
      simp only [SeqSpec.bind_ok, ih r (acc ++ [cur])]
      simp [Function.comp_def]
    | _ => rfl

theorem scanFrom_eq (f : β → α → Out β) (cur : β) (xs : List α) :
    scanFrom f cur xs = SeqSpec.scanlE f cur xs := by
  simpa [scanFrom] using scanGo_eq f cur [] xs

theorem scan1_eq (f : α → α → Out α) (xs : List α) : scan1 f xs = SeqSpec.scan1E f xs := by
  cases xs with
  | nil => rfl
  | cons x xs => simpa [scan1, SeqSpec.scan1E] using scanGo_eq f x [] xs

theorem partitionGo_eq (p : α → Out Bool) (accT accF xs : List α) :
    partitionGo p accT accF xs = (SeqSpec.partitionE p xs).map (fun r => (accT ++ r.1, accF ++ r.2)) := by
  induction xs generalizing accT accF with
  | nil => simp [partitionGo, SeqSpec.partitionE, SeqSpec.mapE]
  | cons x xs ih =>
    simp only [SeqSpec.partitionE] at ih
    simp only [partitionGo, SeqSpec.partitionE, SeqSpec.mapE]
    cases p x with
    | ok b => cases b <;> simp [ih, Function.comp_def]
    | _ => rfl

theorem partition_eq (p : α → Out Bool) (xs : List α) : partition p xs = SeqSpec.partitionE p xs := by
  simp [partition, partitionGo_eq]

theorem pairwiseGo_eq (f : α → α → Out β) (a : α) (acc : List β) (xs : List α) :
    pairwiseGo f (some a) acc xs
      = (SeqSpec.mapE (fun p => f p.1 p.2) ((a :: xs).zip xs)).map (acc ++ ·) := by
  induction xs generalizing a acc with
  | nil => simp [pairwiseGo, SeqSpec.mapE]
  | cons y ys ih =>
    cases h : f a y <;> simp [pairwiseGo, SeqSpec.mapE, h, ih, Function.comp_def]

theorem pairwise_eq (f : α → α → Out β) (xs : List α) : pairwise f xs = SeqSpec.pairwiseE f xs := by
  cases xs with
  | nil => rfl
  | cons x xs => simp [pairwise, pairwiseGo, SeqSpec.pairwiseE, pairwiseGo_eq]

theorem extremumGo_eq (cmp : α → α → Out Ordering) (bias : Ordering) (r : α) (xs : List α) :
    extremumGo cmp bias (some r) xs
      = (SeqSpec.foldlE (fun r b => SeqSpec.bind (cmp b r) fun o => .ok (if o == bias then b else r)) r xs).map some := by
  induction xs generalizing r with
  | nil => rfl
  | cons b xs ih =>
    simp only [extremumGo, SeqSpec.foldlE]
    cases cmp b r with
    | ok o => by_cases h : o = bias <;> simp [h, ih]
    | _ => rfl

theorem extremum_eq (cmp : α → α → Out Ordering) (bias : Ordering) (xs : List α) :
    extremum cmp bias xs = SeqSpec.extremumE cmp bias xs := by
  cases xs with
  | nil => rfl
  | cons x xs =>
    simp only [extremum, extremumGo, SeqSpec.extremumE, SeqSpec.fold1E, extremumGo_eq]
    cases SeqSpec.foldlE _ x xs <;> rfl

/-! ## loops without a callback: the index formulas of the Spec -/

theorem enumerateGo_eq (k : Nat) (acc : List (Nat × α)) (xs : List α) :
    enumerateGo k acc xs = acc ++ (List.range' k xs.length).zip xs := by
  induction xs generalizing k acc with
  | nil => simp [enumerateGo]
  | cons x xs ih => simp [enumerateGo, ih, List.range'_succ]

theorem enumerate_eq (xs : List α) : enumerate xs = SeqSpec.enumerate xs := by
  simp [enumerate, SeqSpec.enumerate, enumerateGo_eq, List.range_eq_range']

theorem replicateGo_eq (seq : List α) (k : Nat) (acc : List α) :
    replicateGo seq k acc = acc ++ (List.replicate k seq).flatten := by
  induction k generalizing acc with
  | zero => simp [replicateGo]
  | succ k ih => simp [replicateGo, ih, List.replicate_succ]

theorem cartesianScalar_eq (seq : List α) (s : Int) : cartesianScalar seq s = SeqSpec.repeatSeq seq s := by
  simp [cartesianScalar, SeqSpec.repeatSeq, replicateGo_eq]

theorem prefixesGo_eq (pre : List α) (acc : List (List α)) (xs : List α) :
    prefixesGo pre acc xs = acc ++ (List.range xs.length).map (fun i => pre ++ xs.take (i + 1)) := by
  induction xs generalizing pre acc with
  | nil => simp [prefixesGo]
  | cons x xs ih =>
    simp [prefixesGo, ih, List.range_succ_eq_map, List.map_map, Function.comp_def]

theorem prefixes_eq (xs : List α) : prefixes xs = SeqSpec.prefixes xs := by
  simp [prefixes, SeqSpec.prefixes, prefixesGo_eq, List.range_succ_eq_map, List.map_map, Function.comp_def]

theorem reversedPrefixesGo_eq (pre : List α) (acc : List (List α)) (xs : List α) :
    reversedPrefixesGo pre acc xs
      = acc ++ (List.range xs.length).map (fun i => (pre ++ xs.take (i + 1)).reverse) := by
  induction xs generalizing pre acc with
  | nil => simp [reversedPrefixesGo]
  | cons x xs ih =>
    simp [reversedPrefixesGo, ih, List.range_succ_eq_map, List.map_map, Function.comp_def]

theorem suffixes_eq (xs : List α) : suffixes xs = SeqSpec.suffixes xs := by
  simp only [suffixes, reversedPrefixes, reversedPrefixesGo_eq, SeqSpec.suffixes, List.length_reverse,
    List.nil_append, List.range_succ_eq_map, List.map_cons, List.map_map, Function.comp_def,
    Nat.sub_zero, List.drop_length, List.singleton_append, List.cons.injEq, true_and]
  exact List.map_congr_left fun i _ => by rw [List.take_reverse, List.reverse_reverse]

/-! ### window -/
theorem window_head (ys : List α) (n : Nat) (hn : 0 < n) (h : n ≤ ys.length) :
    SeqSpec.window ys n = ys.take n :: SeqSpec.window ys.tail n := by
  cases ys with
  | nil => simp at h; omega
  | cons y ys =>
    simp only [SeqSpec.window, List.length_cons, List.tail_cons]
    have e : ys.length + 1 + 1 - n = (ys.length + 1 - n) + 1 := Nat.succ_sub h
    rw [e, List.range_succ_eq_map]
    simp [List.map_map, Function.comp_def]

theorem windowSlide_eq (w : List α) (acc : List (List α)) (rest : List α) (hw : 0 < w.length) :
    windowSlide w acc rest = acc ++ SeqSpec.window (w ++ rest).tail w.length := by
  induction rest generalizing w acc with
  | nil => simp [windowSlide, SeqSpec.window]; omega
  | cons x rest ih =>
    have hlen : (w.drop 1 ++ [x]).length = w.length := by simp; omega
    have htail : (w ++ x :: rest).tail = (w.drop 1 ++ [x]) ++ rest := by cases w <;> simp at hw ⊢
    rw [windowSlide, ih _ _ (by omega), hlen, htail,
      window_head (w.drop 1 ++ [x] ++ rest) w.length hw (by simp; omega), List.take_left' hlen]
    simp

theorem windowFill_eq (k : Nat) (w xs : List α) :
    windowFill k w xs = if k ≤ xs.length then some (w ++ xs.take k, xs.drop k) else none := by
  induction k generalizing w xs with
  | zero => simp [windowFill]
  | succ k ih =>
    cases xs with
    | nil => rfl
    | cons x xs =>
      simp only [windowFill, ih, List.length_cons, Nat.add_le_add_iff_right]
      split <;> simp

theorem windowed_eq (xs : List α) (n : Nat) (hn : 0 < n) : windowed xs n = SeqSpec.window xs n := by
  by_cases h : n ≤ xs.length
  · have hl : (xs.take n).length = n := List.length_take_of_le h
    simp only [windowed, windowFill_eq, List.nil_append, h, if_true]
    rw [windowSlide_eq _ _ _ (by omega), List.take_append_drop, hl, window_head xs n hn h]
    rfl
  · simp [windowed, windowFill_eq, h, SeqSpec.window, show xs.length + 1 - n = 0 by omega]

/-! ### join -/
theorem joinGo_started (joiner : List γ) (disp : α → List γ) (acc : List γ) (xs : List α) :
    joinGo joiner disp true acc xs = acc ++ (xs.map (fun x => joiner ++ disp x)).flatten := by
  induction xs generalizing acc with
  | nil => simp [joinGo]
  | cons x xs ih => simp [joinGo, ih]

theorem intercalate_eq_flatten (sep : List γ) (a : List γ) (rest : List (List γ)) :
    sep.intercalate (a :: rest) = a ++ (rest.map (fun x => sep ++ x)).flatten := by
  induction rest generalizing a with
  | nil => rfl
  | cons b rest ih => rw [List.intercalate_cons_cons, ih]; simp

theorem intercalate_nil (ps : List (List γ)) : ([] : List γ).intercalate ps = ps.flatten := by
  cases ps with
  | nil => rfl
  | cons a t => simp [intercalate_eq_flatten]

theorem join_eq (joiner : List γ) (disp : α → List γ) (xs : List α) :
    join joiner disp xs = SeqSpec.join joiner disp xs := by
  cases xs with
  | nil => rfl
  | cons x xs =>
    simp [join, joinGo, SeqSpec.join, joinGo_started, intercalate_eq_flatten, List.map_map, Function.comp_def]

/-! ### cartesian product -/
theorem cartesianForeach_eq (acc : List α) (seqs : List (List α)) (ret : List (List α)) :
    cartesianForeach acc seqs ret = ret ++ (SeqSpec.product seqs).map (acc ++ ·) := by
  induction seqs generalizing acc ret with
  | nil => simp [cartesianForeach, SeqSpec.product]
  | cons a rest ih =>
    simp only [cartesianForeach, SeqSpec.product]
    have key : ∀ (a : List α) (ret : List (List α)),
        a.foldl (fun ret e => cartesianForeach (acc ++ [e]) rest ret) ret
          = ret ++ a.flatMap fun x => (SeqSpec.product rest).map (fun t => acc ++ x :: t) := by
      intro a
      induction a with
      | nil => simp
      | cons e a iha =>
        intro ret
        simp only [List.foldl_cons, ih]
        simp [List.flatMap_def]
    rw [key a ret, List.map_flatMap]
    simp [List.map_map, Function.comp_def]

theorem cartesianProduct_eq (seqs : List (List α)) : cartesianProduct seqs = SeqSpec.product seqs := by
  simp [cartesianProduct, cartesianForeach_eq]

/-! ### chunks (`group` with a number) -/
theorem chunks_nil (n : Nat) (hn : 0 < n) : SeqSpec.chunks ([] : List α) n = [] := by
  simp only [SeqSpec.chunks, List.length_nil, Nat.zero_add]
  have : (n - 1) / n = 0 := Nat.div_eq_of_lt (by omega)
  simp [this]

/-- the number of chunks of a non-empty list is one more than that of the rest -/
theorem chunkCount_step (l n : Nat) (hn : 0 < n) (hl : 0 < l) :
    (l + n - 1) / n = (l - n + n - 1) / n + 1 := by
  rw [show l + n - 1 = (l - 1) + n by omega, Nat.add_div_right _ hn]
  congr 1
  by_cases h : n ≤ l
  · rw [Nat.sub_add_cancel h]
  · rw [Nat.sub_eq_zero_of_le (Nat.le_of_not_le h), Nat.zero_add, Nat.div_eq_of_lt (Nat.sub_lt hn Nat.one_pos),
      Nat.div_eq_of_lt (by omega)]

theorem chunks_step (ys : List α) (n : Nat) (hn : 0 < n) (hy : ys ≠ []) :
    SeqSpec.chunks ys n = ys.take n :: SeqSpec.chunks (ys.drop n) n := by
  simp only [SeqSpec.chunks, List.length_drop, chunkCount_step _ n hn (List.length_pos_iff.mpr hy),
    List.range_succ_eq_map, List.map_cons, Nat.zero_mul, List.drop_zero, List.map_map, Function.comp_def,
    List.drop_drop, Nat.succ_mul, Nat.add_comm n]

theorem chunksE_short (g : List α) (n : Nat) (strict : Bool) (hn : 0 < n) (h : g.length < n) :
    SeqSpec.chunksE g n strict = if g.isEmpty then .ok [] else if strict then .throw else .ok [g] := by
  cases g with
  | nil => simp [SeqSpec.chunksE, chunks_nil n hn]
  | cons a g =>
    have hmod : (g.length + 1) % n ≠ 0 := by rw [Nat.mod_eq_of_lt (by simpa using h)]; simp
    simp [SeqSpec.chunksE, hmod, chunks_step _ n hn, chunks_nil n hn, List.take_of_length_le (Nat.le_of_lt h),
      List.drop_eq_nil_of_le (Nat.le_of_lt h)]

theorem chunksE_full (g xs : List α) (n : Nat) (strict : Bool) (hn : 0 < n) (h : g.length = n) :
    SeqSpec.chunksE (g ++ xs) n strict = (SeqSpec.chunksE xs n strict).map (g :: ·) := by
  have hg : g ++ xs ≠ [] := List.ne_nil_of_length_pos (by rw [List.length_append, h]; omega)
  simp only [SeqSpec.chunksE, chunks_step _ n hn hg, List.take_left' h, List.drop_left' h, List.length_append,
    h, Nat.add_mod_left]
  split <;> rfl

theorem groupedGo_eq (n : Nat) (strict : Bool) (hn : 0 < n) (acc : List (List α)) (group : List α) (i : Nat)
    (xs : List α) (hi : 0 < i) (hg : group.length + i = n) :
    groupedGo n strict acc group i xs = (SeqSpec.chunksE (group ++ xs) n strict).map (acc ++ ·) := by
  induction xs generalizing acc group i with
  | nil =>
    have hlt : group.length < n := hg ▸ Nat.lt_add_of_pos_right hi
    have hne := bne_iff_ne.mpr (Nat.ne_of_lt hlt)
    rw [List.append_nil, chunksE_short group n strict hn hlt]
    simp only [groupedGo, hne, Bool.and_true]
    cases group.isEmpty <;> cases strict <;> simp
  | cons x xs ih =>
    obtain ⟨i, rfl⟩ := Nat.exists_eq_succ_of_ne_zero (Nat.ne_of_gt hi)
    simp only [groupedGo]
    split
    · next h0 =>
      rw [ih _ [] n hn (by simp), List.nil_append, List.append_cons group x xs,
        chunksE_full _ xs n strict hn (by simp; omega)]
      simp [Function.comp_def]
    · rw [ih acc (group ++ [x]) i (Nat.pos_of_ne_zero ‹_›) (by simp; omega), List.append_assoc, List.singleton_append]

theorem grouped_eq (xs : List α) (n : Nat) (strict : Bool) (hn : 0 < n) :
    grouped xs n strict = SeqSpec.chunksE xs n strict := by
  simp [grouped, groupedGo_eq n strict hn [] [] n xs hn]

/-! ## grouping, `unique`, sorting and zipping with callbacks

### group by adjacent relation -/

def consHead (cur : List γ) : List (List γ) → List (List γ)
  | h :: t => (cur ++ h) :: t
  | [] => [cur]

theorem consHead_cons (cur h : List γ) (t : List (List γ)) : consHead cur (h :: t) = (cur ++ h) :: t := rfl

theorem consHead_nil (ps : List (List γ)) (h : ps ≠ []) : consHead [] ps = ps := by
  cases ps with
  | nil => exact absurd rfl h
  | cons a b => rfl

theorem consHead_append (a b : List γ) (ps : List (List γ)) :
    consHead a (consHead b ps) = consHead (a ++ b) ps := by
  cases ps <;> simp [consHead]

set_option linter.unusedVariables false in
theorem consHead_consHead (a b : List γ) (ps : List (List γ)) (h : ps ≠ []) :
    consHead a (consHead b ps) = consHead (a ++ b) ps := consHead_append a b ps

theorem consHead_ne_nil (cur : List γ) (ps : List (List γ)) : consHead cur ps ≠ [] := by
  cases ps <;> simp [consHead]

theorem flatten_consHead (cur : List γ) (ps : List (List γ)) : (consHead cur ps).flatten = cur ++ ps.flatten := by
  cases ps <;> simp [consHead]

theorem intercalate_consHead (sep cur : List γ) (ps : List (List γ)) :
    sep.intercalate (consHead cur ps) = cur ++ sep.intercalate ps := by
  cases ps with
  | nil => simp [consHead]
  | cons a t => cases t <;> simp [consHead]

theorem groupByE_cons_cons (f : α → α → Out Bool) (x y : α) (xs : List α) :
    SeqSpec.groupByE f (x :: y :: xs)
      = SeqSpec.bind (f x y) fun b =>
          (SeqSpec.groupByE f (y :: xs)).map fun r => if b then consHead [x] r else [x] :: r := by
  simp only [SeqSpec.groupByE, ← SeqSpec.bind_ok_eq_map]
  congr 1; funext b; congr 1; funext r
  cases b <;> cases r <;> rfl

theorem groupByE_ne_nil (f : α → α → Out Bool) (x : α) (xs : List α) (r : List (List α))
    (h : SeqSpec.groupByE f (x :: xs) = .ok r) : r ≠ [] := by
  cases xs with
  | nil => cases h; simp
  | cons y ys =>
    rw [groupByE_cons_cons] at h
    obtain ⟨b, -, h⟩ := Out.bind_eq_ok.mp h
    obtain ⟨r', -, rfl⟩ := Out.map_eq_ok h
    split <;> simp [consHead_ne_nil]

theorem groupedByGo_eq (f : α → α → Out Bool) (acc : List (List α)) (g : List α) (prev : α) (xs : List α) :
    groupedByGo f acc (g ++ [prev]) xs
      = (SeqSpec.groupByE f (prev :: xs)).map (fun r => acc ++ consHead g r) := by
  induction xs generalizing acc g prev with
  | nil => simp [groupedByGo, SeqSpec.groupByE, consHead]
  | cons y ys ih =>
    simp only [groupedByGo, List.getLast?_append, List.getLast?_singleton, Option.some_or, groupByE_cons_cons]
    cases f prev y with
    | ok b =>
      cases b with
      | true => simp [- List.append_assoc, ih, Function.comp_def, consHead_append]
      | false =>
        -- the groups of the rest are not empty, so a new first group `[]` merges into them
        have := ih (acc ++ [g ++ [prev]]) [] y
        simp only [List.nil_append] at this
        simp only [this, SeqSpec.bind_ok, out_map_map]
        exact map_congr_ok fun r hr => by
          simp [consHead_nil r (groupByE_ne_nil f y ys r hr), consHead_cons]
    | _ => rfl

theorem groupedBy_eq (f : α → α → Out Bool) (xs : List α) : groupedBy f xs = SeqSpec.groupByE f xs := by
  cases xs with
  | nil => rfl
  | cons x xs =>
    have := groupedByGo_eq f [] [] x xs
    simp only [List.nil_append] at this
    simp only [groupedBy, groupedByGo, List.getLast?_nil, List.nil_append, this]
    exact (map_congr_ok fun r hr => consHead_nil r (groupByE_ne_nil f x xs r hr)).trans (out_map_id _)

/-! ### unique -/
theorem uniqueBy_filter [BEq κ] (key : α → κ) (q : α → Bool)
    (hq : ∀ a b, (key a == key b) = true → q a = q b) (xs : List α) :
    (SeqSpec.uniqueBy key xs).filter q = SeqSpec.uniqueBy key (xs.filter q) := by
  induction xs with
  | nil => rfl
  | cons x xs ih =>
    simp only [SeqSpec.uniqueBy, List.filter_cons]
    cases hx : q x with
    | true => simp only [if_true, SeqSpec.uniqueBy, ← ih, List.filter_filter, Bool.and_comm]
    | false =>
      simp only [Bool.false_eq_true, if_false, ← ih, List.filter_filter]
      refine List.filter_congr fun y _ => ?_
      cases hy : key y == key x with
      | false => simp
      | true => simp [hq y x hy, hx]

theorem uniquedGo_eq [BEq κ] [PartialEquivBEq κ] (key : α → κ) (seen : List κ) (ret xs : List α) :
    uniquedGo (fun x => .ok (key x)) seen ret xs
      = .ok (ret ++ SeqSpec.uniqueBy key (xs.filter fun y => !seen.elem (key y))) := by
  induction xs generalizing seen ret with
  | nil => simp [uniquedGo, SeqSpec.uniqueBy]
  | cons x xs ih =>
    simp only [uniquedGo, List.filter_cons]
    cases hk : seen.elem (key x) with
    | true => simp only [if_true, ih, Bool.not_true, Bool.false_eq_true, if_false]
    | false =>
      simp only [Bool.false_eq_true, if_false, ih, Bool.not_false, if_true, SeqSpec.uniqueBy, List.append_assoc,
        List.singleton_append]
      rw [uniqueBy_filter key _ fun a b h => by
        cases hb : key b == key x with
        | true => rw [PartialEquivBEq.trans h hb]
        | false =>
          cases ha : key a == key x with
          | false => rfl
          | true => rw [PartialEquivBEq.trans (PartialEquivBEq.symm h) ha] at hb; cases hb]
      simp [List.filter_filter, List.elem_eq_contains, List.contains_append, Bool.and_comm]

theorem uniqued_eq [BEq κ] [PartialEquivBEq κ] (key : α → κ) (xs : List α) :
    uniqued (fun x => .ok (key x)) xs = .ok (SeqSpec.uniqueBy key xs) := by
  simp [uniqued, uniquedGo_eq, List.elem, List.filter_eq_self.mpr]

/-! ### sort -/
theorem pairFailure_eq (cmp : α → α → Out Ordering) (x : α) :
    pairFailure cmp x = fun y => (SeqSpec.failureOf (cmp x y)).or (SeqSpec.failureOf (cmp y x)) := by
  funext y
  simp only [pairFailure]
  cases cmp x y <;> cases cmp y x <;> rfl

theorem cmpFailure_eq (cmp : α → α → Out Ordering) (xs : List α) :
    cmpFailure cmp xs
      = (SeqSpec.pairs xs).findSome? fun p =>
          (SeqSpec.failureOf (cmp p.1 p.2)).or (SeqSpec.failureOf (cmp p.2 p.1)) := by
  induction xs with
  | nil => rfl
  | cons x r ih =>
    simp only [cmpFailure, SeqSpec.pairs, List.findSome?_append, List.findSome?_map, ih, pairFailure_eq,
      Function.comp_def]
    cases List.findSome? _ r <;> rfl

def SwapConsistent (cmp : α → α → Out Ordering) (xs : List α) : Prop :=
  ∀ a ∈ xs, ∀ b ∈ xs, ∀ o, cmp a b = .ok o → cmp b a = .ok o.swap

theorem leOf_eq_specLe (cmp : α → α → Out Ordering) (xs : List α) (h : SwapConsistent cmp xs)
    (a : α) (ha : a ∈ xs) (b : α) (hb : b ∈ xs) :
    leOf cmp a b = SeqSpec.leOfCmp cmp a b := by
  unfold leOf SeqSpec.leOfCmp
  cases hab : cmp a b with
  | ok o => rw [h a ha b hb o hab]; cases o <;> rfl
  | _ =>
    cases hba : cmp b a with
    | ok o => exact absurd (h b hb a ha o hba) (by simp [hab])
    | _ => rfl

theorem sortWith_eq (cmp : α → α → Out Ordering) (xs : List α) (h : SwapConsistent cmp xs) :
    sortWith cmp xs = SeqSpec.sortE cmp xs := by
  simp only [sortWith, SeqSpec.sortE, cmpFailure_eq, SeqSpec.sort]
  have := List.map_mergeSort (f := id) (l := xs) (r := leOf cmp)
    (s := SeqSpec.leOfCmp cmp)
    (by intro a ha b hb; exact leOf_eq_specLe cmp xs h a ha b hb)
  simp only [List.map_id] at this
  rw [this]
  generalize List.findSome? _ (SeqSpec.pairs xs) = o
  cases o with
  | none => rfl
  | some e => cases e <;> rfl

theorem keyedGo_eq (key : α → Out κ) (w : List (κ × α)) (xs : List α) :
    keyedGo key w xs = (SeqSpec.mapE key xs).map (fun ks => w ++ ks.zip xs) := by
  induction xs generalizing w with
  | nil => simp [keyedGo, SeqSpec.mapE]
  | cons x xs ih => cases h : key x <;> simp [keyedGo, SeqSpec.mapE, h, ih, Function.comp_def]

theorem sortedOn_eq (key : α → Out κ) (kcmp : κ → κ → Out Ordering) (xs : List α)
    (h : ∀ a b o, kcmp a b = .ok o → kcmp b a = .ok o.swap) :
    sortedOn key kcmp xs = SeqSpec.sortOnE key kcmp xs := by
  simp only [sortedOn, SeqSpec.sortOnE, andThen_eq_bind, keyedGo_eq, List.nil_append, SeqSpec.bind_map]
  congr 1; funext ks
  rw [sortWith_eq _ _ fun a _ b _ o => h a.1 b.1 o]

/-! ### zip / ziplongest / transpose -/
theorem column_cons (l : List α) (rest : List (List α)) (i : Nat) :
    SeqSpec.column (l :: rest) i = (match l[i]? with | some x => [x] | none => []) ++ SeqSpec.column rest i := by
  simp only [SeqSpec.column, List.filterMap_cons]
  cases l[i]? <;> rfl

theorem column_tail (its : List (List α)) (i : Nat) :
    SeqSpec.column (its.map List.tail) i = SeqSpec.column its (i + 1) := by
  induction its with
  | nil => rfl
  | cons l rest ih =>
    simp only [List.map_cons, column_cons, ih]
    cases l <;> rfl

theorem longestBatch_eq (its : List (List α)) :
    longestBatch its = (SeqSpec.column its 0, its.map List.tail) := by
  induction its with
  | nil => rfl
  | cons l rest ih =>
    cases l <;> simp [longestBatch, ih, column_cons]

theorem maxLen_tail (its : List (List α)) :
    SeqSpec.maxLen (its.map List.tail) = SeqSpec.maxLen its - 1 := by
  induction its with
  | nil => rfl
  | cons l rest ih =>
    simp only [List.map_cons, SeqSpec.maxLen, ih, List.length_tail, Nat.sub_max_sub_right]

theorem column_zero_nil (its : List (List α)) : SeqSpec.column its 0 = [] ↔ SeqSpec.maxLen its = 0 := by
  induction its with
  | nil => simp [SeqSpec.column, SeqSpec.maxLen]
  | cons l rest ih =>
    rw [column_cons]
    cases l with
    | nil => simp [SeqSpec.maxLen, ih]
    | cons x xs => simp [SeqSpec.maxLen] <;> omega

theorem columns_succ (its : List (List α)) (m : Nat) :
    (List.range (m + 1)).map (SeqSpec.column its)
      = SeqSpec.column its 0 :: (List.range m).map (SeqSpec.column (its.map List.tail)) := by
  rw [List.range_succ_eq_map, List.map_cons, List.map_map]
  exact congrArg _ (List.map_congr_left fun i _ => (column_tail its i).symm)

theorem zipLongestGo_eq (f : List α → Out β) (fuel : Nat) (ret : List β) (its : List (List α))
    (h : SeqSpec.maxLen its < fuel) :
    zipLongestGo f fuel ret its
      = (SeqSpec.mapE f ((List.range (SeqSpec.maxLen its)).map (SeqSpec.column its))).map (ret ++ ·) := by
  induction fuel generalizing ret its with
  | zero => omega
  | succ fuel ih =>
    simp only [zipLongestGo, longestBatch_eq]
    cases hc : SeqSpec.column its 0 with
    | nil => simp [(column_zero_nil its).mp hc, SeqSpec.mapE]
    | cons b bs =>
      obtain ⟨m, hm⟩ : ∃ m, SeqSpec.maxLen its = m + 1 :=
        Nat.exists_eq_succ_of_ne_zero fun h0 => by simp [(column_zero_nil its).mpr h0] at hc
      have hm' : SeqSpec.maxLen (its.map List.tail) = m := by rw [maxLen_tail, hm]; rfl
      simp only [hm, columns_succ, SeqSpec.mapE, hc]
      cases f (b :: bs) with
      | ok r => simp [ih (ret ++ [r]) (its.map List.tail) (by omega), hm', Function.comp_def]
      | _ => rfl

theorem implMaxLen_foldl (m : Nat) (its : List (List α)) :
    its.foldl (fun m l => max m l.length) m = max m (SeqSpec.maxLen its) := by
  induction its generalizing m with
  | nil => simp [SeqSpec.maxLen]
  | cons l rest ih => simp only [List.foldl_cons, ih, SeqSpec.maxLen, Nat.max_assoc]

theorem implMaxLen_eq (its : List (List α)) : maxLen its = SeqSpec.maxLen its := by
  simp [maxLen, implMaxLen_foldl]

theorem zipLongest_eq (f : List α → Out β) (its : List (List α)) :
    zipLongest f its = SeqSpec.mapE f (SeqSpec.zipLongest its) := by
  simp only [zipLongest, SeqSpec.zipLongest]
  rw [zipLongestGo_eq f _ [] its (by rw [implMaxLen_eq]; omega)]
  simp

theorem minLen_cons_cons (r r' : List α) (rs : List (List α)) :
    SeqSpec.minLen (r :: r' :: rs) = min r.length (SeqSpec.minLen (r' :: rs)) := rfl

theorem zipBatch_eq (its : List (List α)) :
    zipBatch its = if its.any List.isEmpty then none else some (SeqSpec.column its 0, its.map List.tail) := by
  induction its with
  | nil => rfl
  | cons l rest ih =>
    cases l with
    | nil => rfl
    | cons x xs =>
      simp only [zipBatch, ih, List.any_cons, List.isEmpty_cons, Bool.false_or]
      cases rest.any List.isEmpty <;> rfl

theorem minLen_zero_iff (its : List (List α)) (hne : its ≠ []) :
    SeqSpec.minLen its = 0 ↔ its.any List.isEmpty = true := by
  induction its with
  | nil => exact absurd rfl hne
  | cons l rest ih =>
    cases rest with
    | nil => cases l <;> simp [SeqSpec.minLen]
    | cons r' rs =>
      rw [minLen_cons_cons, List.any_cons]
      have := ih (by simp)
      cases l with
      | nil => simp
      | cons x xs => simp only [List.length_cons, List.isEmpty_cons, Bool.false_or, ← this]; omega

theorem minLen_tail (its : List (List α)) (hne : its ≠ []) :
    SeqSpec.minLen (its.map List.tail) = SeqSpec.minLen its - 1 := by
  induction its with
  | nil => exact absurd rfl hne
  | cons l rest ih =>
    cases rest with
    | nil => simp [SeqSpec.minLen]
    | cons r' rs =>
      have := ih (by simp)
      simp only [List.map_cons] at this ⊢
      rw [minLen_cons_cons, minLen_cons_cons, this, List.length_tail, Nat.sub_min_sub_right]

theorem zipGo_eq (f : List α → Out β) (fuel : Nat) (ret : List β) (its : List (List α)) (hne : its ≠ [])
    (h : SeqSpec.minLen its < fuel) :
    zipGo f fuel ret its
      = (SeqSpec.mapE f ((List.range (SeqSpec.minLen its)).map (SeqSpec.column its))).map (ret ++ ·) := by
  induction fuel generalizing ret its with
  | zero => omega
  | succ fuel ih =>
    simp only [zipGo, zipBatch_eq]
    cases hany : its.any List.isEmpty with
    | true => simp [(minLen_zero_iff its hne).mpr hany, SeqSpec.mapE]
    | false =>
      obtain ⟨m, hm⟩ : ∃ m, SeqSpec.minLen its = m + 1 :=
        Nat.exists_eq_succ_of_ne_zero fun h0 => by simp [(minLen_zero_iff its hne).mp h0] at hany
      have hm' : SeqSpec.minLen (its.map List.tail) = m := by rw [minLen_tail its hne, hm]; rfl
      simp only [Bool.false_eq_true, if_false, hm, columns_succ, SeqSpec.mapE]
      cases f (SeqSpec.column its 0) with
      | ok r =>
        simp [ih (ret ++ [r]) (its.map List.tail) (by simpa using hne) (by omega), hm', Function.comp_def]
      | _ => rfl

theorem minLen_le_head (l : List α) (rest : List (List α)) : SeqSpec.minLen (l :: rest) ≤ l.length := by
  cases rest with
  | nil => simp [SeqSpec.minLen]
  | cons r rs => rw [minLen_cons_cons]; omega

theorem zip_eq (f : List α → Out β) (its : List (List α)) :
    zip f its = if its.isEmpty then .throw else SeqSpec.mapE f (SeqSpec.zip its) := by
  cases its with
  | nil => rfl
  | cons l rest =>
    simp only [zip, SeqSpec.zip, List.isEmpty_cons, Bool.false_eq_true, if_false]
    rw [zipGo_eq f _ [] (l :: rest) (by simp) (by have := minLen_le_head l rest; omega)]
    simp


/-! ## strings: split / words / lines -/

theorem stripPrefix_eq [BEq γ] (pat s : List γ) :
    stripPrefix? pat s = if pat.isPrefixOf s then some (s.drop pat.length) else none := by
  induction pat generalizing s with
  | nil => rfl
  | cons p ps ih =>
    cases s with
    | nil => rfl
    | cons c cs =>
      simp only [stripPrefix?, List.isPrefixOf, ih, List.length_cons, List.drop_succ_cons]
      cases p == c <;> rfl

theorem splitPat_cons [BEq γ] (pat : List γ) (fuel : Nat) (c : γ) (cs : List γ) :
    SeqSpec.splitPat pat (fuel + 1) (c :: cs)
      = if pat.isPrefixOf (c :: cs) then [] :: SeqSpec.splitPat pat fuel ((c :: cs).drop pat.length)
        else consHead [c] (SeqSpec.splitPat pat fuel cs) := by
  simp only [SeqSpec.splitPat]
  cases SeqSpec.splitPat pat fuel cs <;> rfl

theorem splitOnP_cons (p : γ → Bool) (c : γ) (cs : List γ) :
    SeqSpec.splitOnP p (c :: cs) = if p c then [] :: SeqSpec.splitOnP p cs else consHead [c] (SeqSpec.splitOnP p cs) := by
  simp only [SeqSpec.splitOnP]
  cases SeqSpec.splitOnP p cs <;> rfl

theorem splitPat_ne_nil [BEq γ] (pat : List γ) (fuel : Nat) (s : List γ) : SeqSpec.splitPat pat fuel s ≠ [] := by
  cases fuel with
  | zero => simp [SeqSpec.splitPat]
  | succ fuel =>
    cases s with
    | nil => simp [SeqSpec.splitPat]
    | cons c cs => rw [splitPat_cons]; split <;> simp [consHead_ne_nil]

theorem splitGo_eq [BEq γ] (pat : List γ) (fuel : Nat) (cur s : List γ) :
    splitGo pat fuel cur s = consHead cur (SeqSpec.splitPat pat fuel s) := by
  induction fuel generalizing cur s with
  | zero => simp [splitGo, SeqSpec.splitPat, consHead]
  | succ fuel ih =>
    cases s with
    | nil => simp [splitGo, SeqSpec.splitPat, consHead]
    | cons c cs =>
      simp only [splitGo, splitPat_cons, stripPrefix_eq]
      cases pat.isPrefixOf (c :: cs) with
      | true => simp [ih, consHead_cons, consHead_nil _ (splitPat_ne_nil _ _ _)]
      | false => simp [ih, consHead_append]

theorem split_eq [BEq γ] (s pat : List γ) : split s pat = SeqSpec.split s pat := by
  simp only [split, SeqSpec.split, splitGo_eq, consHead_nil _ (splitPat_ne_nil _ _ _)]

theorem splitOnP_ne_nil (p : γ → Bool) (s : List γ) : SeqSpec.splitOnP p s ≠ [] := by
  cases s with
  | nil => simp [SeqSpec.splitOnP]
  | cons c cs => rw [splitOnP_cons]; split <;> simp [consHead_ne_nil]

theorem wordsGo_eq (isWs : γ → Bool) (cur s : List γ) :
    wordsGo isWs cur s = (consHead cur (SeqSpec.splitOnP isWs s)).filter (!·.isEmpty) := by
  induction s generalizing cur with
  | nil => cases cur <;> simp [wordsGo, SeqSpec.splitOnP, consHead]
  | cons c cs ih =>
    simp only [wordsGo, splitOnP_cons]
    cases isWs c with
    | true => cases cur <;> simp [ih, consHead_cons, consHead_nil _ (splitOnP_ne_nil _ _)]
    | false => simp [ih, consHead_append]

theorem words_eq (isWs : γ → Bool) (s : List γ) : words isWs s = SeqSpec.words isWs s := by
  simp only [words, SeqSpec.words, wordsGo_eq, consHead_nil _ (splitOnP_ne_nil _ _)]

theorem splitPat_single [BEq γ] [LawfulBEq γ] (nl : γ) (fuel : Nat) (s : List γ) (h : s.length < fuel) :
    SeqSpec.splitPat [nl] fuel s = SeqSpec.splitOnP (· == nl) s := by
  induction fuel generalizing s with
  | zero => omega
  | succ fuel ih =>
    cases s with
    | nil => rfl
    | cons c cs =>
      simp only [splitPat_cons, splitOnP_cons, List.isPrefixOf, Bool.and_true, List.length_singleton,
        List.drop_succ_cons, List.drop_zero, BEq.comm (a := nl), ih cs (Nat.lt_of_succ_lt_succ h)]

theorem lines_eq [BEq γ] [LawfulBEq γ] (nl : γ) (s : List γ) : lines nl s = SeqSpec.lines nl s := by
  simp only [lines, SeqSpec.lines, split_eq, SeqSpec.split, List.isEmpty_cons, Bool.false_eq_true, if_false]
  rw [splitPat_single nl _ s (by omega)]
  generalize SeqSpec.splitOnP (· == nl) s = parts
  cases parts.getLast? with
  | none => rfl
  | some l => cases l <;> rfl


/-! ## the combinatorial streams of streams.rs
The Rust loops run over the index vector from the right; the model writes them as recursions on the
reversed list.  Here: what such a loop does when an entry is added at the far (left) end.
Theorems/C13Perm.lean turns these into the left-to-right recursions of the C11 slice and takes the
enumeration order from there (`subsequences_eq`, `cartesianPower_eq`, `combinations_eq`,
`permutations_eq`). -/

theorem subseq_go_snoc (l : List Bool) (b : Bool) :
    subseqIncr.go (l ++ [b]) = match subseqIncr.go l with
      | some w => some (w ++ [b])
      | none => if !b then some (List.replicate l.length false ++ [true]) else none := by
  induction l with
  | nil => cases b <;> rfl
  | cons x l ih =>
    simp only [List.cons_append, subseqIncr.go, ih]
    cases x with
    | false => rfl
    | true =>
      simp only [Bool.not_true, Bool.false_eq_true, if_false]
      cases subseqIncr.go l with
      | some w => rfl
      | none => cases b <;> rfl

theorem powerGo_snoc (m : Nat) (l : List Nat) (d : Nat) :
    powerGo m (l ++ [d]) = match powerGo m l with
      | some w => some (w ++ [d])
      | none => if d + 1 == m then none else some (List.replicate l.length 0 ++ [d + 1]) := by
  induction l with
  | nil => simp only [List.nil_append, powerGo]; split <;> rfl
  | cons x l ih =>
    simp only [List.cons_append, powerGo, ih]
    cases x + 1 == m with
    | false => rfl
    | true =>
      cases powerGo m l with
      | some w => rfl
      | none => simp only [if_true, Option.map_none]; split <;> rfl

theorem combGo_snoc (last : Nat) (l : List Nat) (a : Nat) :
    combGo last (l ++ [a]) = match combGo last l with
      | some (d, ds) => some (d, ds ++ [a])
      | none => if a + 1 < last - l.length then some (a + 1, []) else none := by
  induction l generalizing last with
  | nil => rfl
  | cons x l ih =>
    simp only [List.cons_append, combGo, ih, List.length_cons]
    by_cases hx : x + 1 < last
    · simp [hx]
    · simp only [hx, if_false]
      have : last - 1 - l.length = last - (l.length + 1) := by rw [Nat.sub_sub, Nat.add_comm]
      rw [this]

def permutations_statement : Prop :=
  ∀ (α : Type) (xs : List α), permutations xs = SeqSpec.permutations xs


/-! ## substring search, bounded and right-to-left split -/

theorem findSubGo_eq [BEq γ] (pat : List γ) (i : Nat) (s : List γ) :
    findSubGo pat i s = (SeqSpec.findSub pat s).map (· + i) := by
  induction s generalizing i with
  | nil =>
    cases pat <;> simp [findSubGo, SeqSpec.findSub, List.isPrefixOf, List.range_succ_eq_map]
  | cons c cs ih =>
    simp only [findSubGo, SeqSpec.findSub, List.length_cons]
    rw [List.range_succ_eq_map, List.find?_cons]
    simp only [List.drop_zero]
    cases pat.isPrefixOf (c :: cs) with
    | true => simp
    | false =>
      simp only [Bool.false_eq_true, if_false, ih, SeqSpec.findSub, List.find?_map, Option.map_map]
      congr 1
      funext j; simp; omega

theorem findSub_eq [BEq γ] (pat s : List γ) : findSub pat s = SeqSpec.findSub pat s := by
  simp [findSub, findSubGo_eq]

theorem length_drop_pat_lt {pat cs : List γ} {c : γ} {fuel : Nat} (hp : pat ≠ [])
    (hf : (c :: cs).length < fuel + 1) : ((c :: cs).drop pat.length).length < fuel := by
  rw [List.length_drop]
  exact Nat.lt_of_lt_of_le (Nat.sub_lt (Nat.succ_pos _) (List.length_pos_iff.mpr hp)) (Nat.le_of_lt_succ hf)

/-- **join inverts split**: `join sep (split s sep) = s` -/
theorem intercalate_splitPat [BEq γ] [LawfulBEq γ] (pat : List γ) (hp : pat ≠ []) (fuel : Nat) (s : List γ)
    (hf : s.length < fuel) : pat.intercalate (SeqSpec.splitPat pat fuel s) = s := by
  induction fuel generalizing s with
  | zero => omega
  | succ fuel ih =>
    cases s with
    | nil => rfl
    | cons c cs =>
      rw [splitPat_cons]
      split
      · next hm =>
        rw [List.intercalate_cons_of_ne_nil (splitPat_ne_nil _ _ _), ih _ (length_drop_pat_lt hp hf)]
        simpa using List.prefix_iff_eq_append.mp (List.isPrefixOf_iff_prefix.mp hm)
      · rw [intercalate_consHead, ih cs (Nat.lt_of_succ_lt_succ hf)]
        rfl

/-- the bounded-split formula on a list of pieces -/
def boundPieces (pat : List γ) (ps : List (List γ)) (n : Nat) : List (List γ) :=
  if n = 0 then [] else if ps.length ≤ n then ps else ps.take (n - 1) ++ [pat.intercalate (ps.drop (n - 1))]

theorem boundPieces_cons (pat cur : List γ) (Q : List (List γ)) (n : Nat) :
    boundPieces pat (cur :: Q) (n + 2) = cur :: boundPieces pat Q (n + 1) := by
  simp only [boundPieces, List.length_cons, Nat.add_le_add_iff_right (n := 1)]
  by_cases h : Q.length ≤ n + 1 <;> simp [h]

theorem boundPieces_one (pat : List γ) (Q : List (List γ)) (h : Q ≠ []) :
    boundPieces pat Q 1 = [pat.intercalate Q] := by
  cases Q with
  | nil => exact absurd rfl h
  | cons a t => cases t <;> simp [boundPieces]

theorem splitnGo_eq [BEq γ] [LawfulBEq γ] (pat : List γ) (hp : pat ≠ []) (fuel n : Nat) (cur s : List γ)
    (hf : s.length < fuel) :
    splitnGo pat fuel n cur s = boundPieces pat (consHead cur (SeqSpec.splitPat pat fuel s)) n := by
  induction fuel generalizing n cur s with
  | zero => omega
  | succ fuel ih =>
    match n with
    | 0 => rfl
    | 1 =>
      rw [boundPieces_one _ _ (consHead_ne_nil _ _), intercalate_consHead, intercalate_splitPat pat hp _ s hf]
      rfl
    | n + 2 =>
      cases s with
      | nil => simp [splitnGo, SeqSpec.splitPat, consHead, boundPieces]
      | cons c cs =>
        simp only [splitnGo, splitPat_cons, stripPrefix_eq]
        cases pat.isPrefixOf (c :: cs) with
        | true =>
          simp [ih _ _ _ (length_drop_pat_lt hp hf), consHead_cons, consHead_nil _ (splitPat_ne_nil _ _ _),
            boundPieces_cons]
        | false => simp [ih _ _ cs (Nat.lt_of_succ_lt_succ hf), consHead_append]

/-- **split with a limit**: at most `n` pieces, the last one being the rest of the text, i.e.
the remaining pieces joined by the separator again -/
theorem splitn_eq [BEq γ] [LawfulBEq γ] (s pat : List γ) (n : Nat) : splitn s pat n = SeqSpec.splitn s pat n := by
  by_cases hp : pat = []
  · subst hp
    simp [splitn, SeqSpec.splitn, SeqSpec.split, intercalate_nil]
  · have hp' : pat.isEmpty = false := List.isEmpty_eq_false_iff.mpr hp
    simp only [splitn, SeqSpec.splitn, SeqSpec.split, hp', Bool.false_eq_true, if_false,
      splitnGo_eq pat hp _ n [] s (Nat.lt_succ_self _), consHead_nil _ (splitPat_ne_nil _ _ _)]
    rfl

theorem rsplit_eq [BEq γ] (s pat : List γ) : rsplit s pat = SeqSpec.rsplit s pat := by
  simp [rsplit, SeqSpec.rsplit, split_eq]

theorem rsplitn_eq [BEq γ] [LawfulBEq γ] (s pat : List γ) (n : Nat) : rsplitn s pat n = SeqSpec.rsplitn s pat n := by
  simp [rsplitn, SeqSpec.rsplitn, splitn_eq]


/-! ## join with pieces that are converted on the way (bytes separator) -/

theorem joinGoE_started (sep : List γ) (disp : α → Out (List γ)) (acc : List γ) (xs : List α) :
    joinGoE sep disp true acc xs
      = (SeqSpec.mapE disp xs).map fun ps => acc ++ (ps.map (fun p => sep ++ p)).flatten := by
  induction xs generalizing acc with
  | nil => simp [joinGoE, SeqSpec.mapE]
  | cons x xs ih => cases h : disp x <;> simp [joinGoE, SeqSpec.mapE, h, ih, Function.comp_def]

/-- **join = intercalate, also when the pieces are converted** (bytes separator and bytes /
list / vector pieces; empty pieces anywhere, the leading ones included, still get their
separators) -/
theorem joinE_eq (sep : List γ) (disp : α → Out (List γ)) (xs : List α) :
    joinE sep disp xs = SeqSpec.joinE sep disp xs := by
  cases xs with
  | nil => rfl
  | cons x xs =>
    cases h : disp x <;>
      simp [joinE, joinGoE, SeqSpec.joinE, SeqSpec.mapE, h, joinGoE_started, intercalate_eq_flatten,
        Function.comp_def]

/-- in particular an empty piece in front keeps its separator: `join([B[], B[1]], B[0]) = B[0, 1]` -/
example : joinE [0] (fun p : List Nat => .ok p) [[], [1]] = .ok [0, 1] := by decide

end Noulith.C13
