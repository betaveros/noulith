/-
C11 — every finite stream type in every reachable state: `Range` (any bounds, any non-zero step of
either sign, any magnitude), `WrappedVec`, `CartesianPower`, `Subsequences`, `Combinations`
(`Permutations`: C11Perm, C11PermStep).  For each type: the one-step equations of its `next`
(`next_none`, `next_some`, about the type's own `T.next`: the generic lemmas hand over `h : T.ops.next s = …`,
which is `T.next s = …` only up to unfolding `ops` — `simp [T.next] at h` and `unfold T.next at h` find
nothing to rewrite, while `next_some h` applies as it stands);
hereditary finiteness (`*_unfoldsB`, what the lazy adaptors ask of an inner stream) from a closed
form of the remaining elements (`Range`, `WrappedVec`), from a count that drops by one per step (a
`Counter`) or, for `Combinations`, from a measure that decreases; the machine-word loop of its `len`
against that count; hence `*_coherent`, `*_peekNext` and the drop positions (`wrapped_drop_len`,
`subseq_drop_len`, `comb_drop_len`).  `Subsequences` is `CartesianPower` on the two digits of a mask
(`SubseqT.bit`): its successor, closed form and `len` loop are transferred, not proved again.
-/
import NoulithModel.Theorems.C11Iter

namespace Noulith.C11
open Noulith Noulith.Stream Noulith.StreamSpec

/-! ## Range -/
namespace RangeT

/-- the element count as the code computes it, for the distance `d` to the end in the direction of
the step and the magnitude `m` of the step (with the F3 fix both arms of `Range::len` have this form) -/
def cnt (d m : Int) : Nat := (max (d + m - 1) 0 / m).toNat

theorem cnt_step {d m : Int} (hm : 0 < m) (hd : 0 < d) : cnt d m = cnt (d - m) m + 1 := by
  unfold cnt
  have hd1 : 0 ≤ d - 1 := Int.sub_nonneg_of_le hd
  rw [Int.sub_add_cancel, Int.max_eq_left hd1, show d + m - 1 = d - 1 + m by omega,
    Int.max_eq_left (Int.add_nonneg hd1 (Int.le_of_lt hm)), Int.add_ediv_of_dvd_right (Int.dvd_refl m),
    Int.ediv_self (Int.ne_of_gt hm), Int.toNat_add (Int.ediv_nonneg hd1 (Int.le_of_lt hm)) (by decide)]
  rfl

theorem cnt_end {d m : Int} (hm : 0 < m) (hd : d ≤ 0) : cnt d m = 0 := by
  unfold cnt
  rw [Int.ediv_eq_zero_of_lt (Int.le_max_right _ _) (Int.max_lt.mpr ⟨by omega, hm⟩)]
  rfl

theorem cnt_cast {d m : Int} (hm : 0 < m) : ((cnt d m : Nat) : Int) = max (d + m - 1) 0 / m :=
  Int.toNat_of_nonneg (Int.ediv_nonneg (Int.le_max_right _ _) (Int.le_of_lt hm))

theorem rangeCount_pos {start e step : Int} (hs : 0 < step) :
    rangeCount start e step = cnt (e - start) step := by
  unfold rangeCount
  rw [if_pos hs]
  split
  · rename_i h
    unfold cnt
    rw [Int.max_eq_left (Int.le_sub_one_of_lt (Int.add_pos (Int.sub_pos_of_lt h) hs))]
  · rename_i h
    rw [cnt_end hs (Int.sub_nonpos_of_le (Int.not_lt.mp h))]

theorem rangeCount_neg {start e step : Int} (hs : step < 0) :
    rangeCount start e step = cnt (start - e) (-step) := by
  have hm := Int.neg_pos_of_neg hs
  unfold rangeCount
  rw [if_neg (Int.lt_asymm hs), if_pos hs]
  split
  · rename_i h
    unfold cnt
    rw [Int.max_eq_left (Int.le_sub_one_of_lt (Int.add_pos (Int.sub_pos_of_lt h) hm))]
  · rename_i h
    rw [cnt_end hm (Int.sub_nonpos_of_le (Int.not_lt.mp h))]

theorem state_spec (r : Range) {e : Int} (he : r.stop = some e) (hstep : r.step ≠ 0) :
    r.bound = some (rangeCount r.start e r.step) ∧
    r.len = toUsize (rangeCount r.start e r.step) ∧
    (r.empty = true → rangeCount r.start e r.step = 0) ∧
    (r.empty = false →
      rangeCount r.start e r.step = rangeCount (r.start + r.step) e r.step + 1) := by
  obtain ⟨start, _, step⟩ := r
  cases he
  dsimp only at hstep ⊢
  rcases Int.lt_or_gt_of_ne hstep with hs | hs
  · have hm := Int.neg_pos_of_neg hs
    simp only [Range.bound, Range.len, Range.empty, hstep, hs, if_true, if_false, decide_eq_true_eq,
      decide_eq_false_iff_not, rangeCount_neg hs]
    refine ⟨rfl, congrArg toUsize (cnt_cast hm).symm, fun h => cnt_end hm (Int.sub_nonpos_of_le h),
      fun h => ?_⟩
    rw [cnt_step hm (Int.sub_pos_of_lt (Int.not_le.mp h))]
    congr 2
    omega
  · simp only [Range.bound, Range.len, Range.empty, hstep, Int.lt_asymm hs, if_false, decide_eq_true_eq,
      decide_eq_false_iff_not, rangeCount_pos hs]
    refine ⟨rfl, congrArg toUsize (cnt_cast hs).symm, fun h => cnt_end hs (Int.sub_nonpos_of_le h),
      fun h => ?_⟩
    rw [cnt_step hs (Int.sub_pos_of_lt (Int.not_le.mp h)), Int.sub_sub]

theorem rangeList_cons {start e step : Int}
    (h : rangeCount start e step = rangeCount (start + step) e step + 1) :
    rangeList start e step = start :: rangeList (start + step) e step := by
  unfold rangeList
  rw [h, List.range_succ_eq_map, List.map_cons, List.map_map]
  congr 1
  · simp
  · apply List.map_congr_left
    intro i _
    simp only [Function.comp]
    rw [Int.natCast_succ, Int.add_mul, Int.one_mul]
    omega

theorem rangeList_nil {start e step : Int} (h : rangeCount start e step = 0) :
    rangeList start e step = [] := by
  unfold rangeList
  rw [h]
  rfl

theorem next_none {r : Range} (h : r.next = none) : r.empty = true := by
  cases hemp : r.empty with
  | true => rfl
  | false => simp [Range.next, hemp] at h

theorem next_some {r r' : Range} {v : Int} (h : r.next = some (v, r')) :
    r.empty = false ∧ v = r.start ∧ r' = { r with start := r.start + r.step } := by
  cases hemp : r.empty with
  | true => simp [Range.next, hemp] at h
  | false =>
    simp only [Range.next, hemp, Bool.false_eq_true, if_false, Option.some.injEq, Prod.mk.injEq] at h
    exact ⟨rfl, h.1.symm, h.2.symm⟩

theorem rangeList_length (start e step : Int) : (rangeList start e step).length = rangeCount start e step := by
  simp [rangeList]

theorem unfoldsB (r : Range) {e : Int} (he : r.stop = some e) (hstep : r.step ≠ 0) :
    UnfoldsB Range.ops r (rangeList r.start e r.step) := by
  refine unfoldsB_of_equation (o := Range.ops) (fun r => rangeList r.start e r.step)
    (fun r => r.stop = some e ∧ r.step ≠ 0) ?_ ?_ ?_ r ⟨he, hstep⟩
  · intro r hr h
    exact rangeList_nil ((state_spec r hr.1 hr.2).2.2.1 (next_none h))
  · intro r v r' hr h
    obtain ⟨hemp, rfl, rfl⟩ := next_some h
    exact ⟨rangeList_cons ((state_spec r hr.1 hr.2).2.2.2 hemp), hr⟩
  · intro r hr
    exact ⟨_, (state_spec r hr.1 hr.2).1, Nat.le_of_eq (rangeList_length ..)⟩

end RangeT

theorem toUsize_natCast {n : Nat} (h : n ≤ 18446744073709551615) : toUsize (n : Int) = some n := by
  unfold toUsize
  rw [if_pos ⟨Int.natCast_nonneg n, by omega⟩]
  rfl

theorem range_peekNext : PeekNext Range.ops := by
  intro r
  show Range.peek r = (Range.next r).map Prod.fst
  unfold Range.peek Range.next
  split <;> rfl

open RangeT in
/-- **len_is_count for `Range`** and everything else the property asks, for every start and end,
every non-zero step of either sign and any magnitude, as long as the number of elements fits a
`usize`: the range in the state `⟨start, some e, step⟩` is coherent with the arithmetic progression
`start, start+step, …` before `e`.  (Every state reached by `next` has the same form, so this is
"every position reached by dropping a prefix".) -/
theorem range_coherent (start e step : Int) (hstep : step ≠ 0)
    (hfit : rangeCount start e step ≤ 18446744073709551615) :
    Coherent Range.ops ⟨start, some e, step⟩ (rangeList start e step) := by
  have hB := unfoldsB ⟨start, some e, step⟩ rfl hstep
  refine coherent_withLen hB.unfolds hB.bound ?_ ((range_peekNext _).trans (unfolds_head hB.unfolds))
  show R.ok (Range.len _) = _
  rw [(state_spec ⟨start, some e, step⟩ rfl hstep).2.1, toUsize_natCast hfit, rangeList_length]

/-- a range with an end and a non-zero step is hereditarily finite, whatever its count -/
theorem range_unfoldsB (start e step : Int) (hstep : step ≠ 0) :
    UnfoldsB Range.ops ⟨start, some e, step⟩ (rangeList start e step) :=
  RangeT.unfoldsB ⟨start, some e, step⟩ rfl hstep

/-- `len` reports "infinite" (`None`) for a range with an end and a non-zero step only when the
element count does not fit a `usize` -/
theorem range_len_none_iff (start e step : Int) (hstep : step ≠ 0) :
    Range.len ⟨start, some e, step⟩ = none ↔ rangeCount start e step > 18446744073709551615 := by
  rw [(RangeT.state_spec ⟨start, some e, step⟩ rfl hstep).2.1]
  dsimp only
  unfold toUsize
  split <;> simp <;> omega

/-- a range with step 0 whose start is not before its end is empty, and says so -/
theorem range_zero_step_empty (start e : Int) (h : e ≤ start) :
    Coherent Range.ops ⟨start, some e, 0⟩ [] := by
  unfold Range.ops
  have hn : ¬ start < e := by omega
  refine coherent_withLen (.done ?_) ⟨0, ?_, by simp⟩ ?_ ?_
  · simp [Range.next, Range.empty, h]
  · simp [Range.bound, hn]
  · simp [Range.len, hn]
  · simp [Range.peek, Range.empty, h]

/-- the constructors `til` / `to` (with the end adjusted by one in the direction of the step) -/
theorem til_coherent (a b c : Int) (hc : c ≠ 0) (hfit : rangeCount a b c ≤ 18446744073709551615) :
    Coherent Range.ops (Range.til a b c) (rangeList a b c) :=
  range_coherent a b c hc hfit

theorem to_coherent (a b c : Int) (hc : c ≠ 0)
    (hfit : rangeCount a (if c < 0 then b - 1 else b + 1) c ≤ 18446744073709551615) :
    Coherent Range.ops (Range.to a b c) (rangeList a (if c < 0 then b - 1 else b + 1) c) :=
  range_coherent a _ c hc hfit

/-- the elements of `a to b` (default step) are exactly `a, a+1, …, b` -/
example : rangeList 1 (5 + 1) 1 = [1, 2, 3, 4, 5] := by decide
example : rangeList 10 0 (-3) = [10, 7, 4, 1] := by decide

/-- F3: the formula of the `Sign::Minus` arm before the fix is refuted by `10 til 0 by (-3)`:
it says 0 while four elements are produced -/
theorem range_len_prefix_refuted :
    Range.lenPreFix (Range.til 10 0 (-3)) = some 0 ∧
      (rangeList 10 0 (-3)).length = 4 ∧ Range.len (Range.til 10 0 (-3)) = some 4 := by
  refine ⟨by decide, by decide, by decide⟩

/-! ## WrappedVec: `stream(seq)` -/

theorem wrapped_next_none {α : Type} {w : Wrapped α} (h : Wrapped.next w = none) :
    w.base.length ≤ w.pos := by
  unfold Wrapped.next at h
  split at h
  · assumption
  · rw [List.getElem?_eq_getElem (by omega)] at h
    cases h

theorem wrapped_next_some {α : Type} {w w' : Wrapped α} {x : α} (h : Wrapped.next w = some (x, w')) :
    ∃ hlt : w.pos < w.base.length, x = w.base[w.pos] ∧ w' = ⟨w.base, w.pos + 1⟩ := by
  unfold Wrapped.next at h
  split at h
  · cases h
  · have hlt : w.pos < w.base.length := by omega
    simp only [List.getElem?_eq_getElem hlt, Option.some.injEq, Prod.mk.injEq] at h
    exact ⟨hlt, h.1.symm, h.2.symm⟩

theorem wrapped_unfoldsB_at {α : Type} (w : Wrapped α) : UnfoldsB Wrapped.ops w (w.base.drop w.pos) := by
  refine unfoldsB_of_equation (o := Wrapped.ops) (fun w => w.base.drop w.pos) (fun _ => True) ?_ ?_ ?_ w trivial
  · intro w _ h
    exact List.drop_eq_nil_of_le (wrapped_next_none h)
  · intro w x w' _ h
    obtain ⟨hlt, rfl, rfl⟩ := wrapped_next_some h
    exact ⟨List.drop_eq_getElem_cons hlt, trivial⟩
  · intro w _
    exact ⟨_, rfl, by simp⟩

theorem wrapped_peekNext {α : Type} : PeekNext (Wrapped.ops (α := α)) := by
  intro w
  show Wrapped.peek w = (Wrapped.next w).map Prod.fst
  unfold Wrapped.peek Wrapped.next
  split
  · rfl
  · cases w.base[w.pos]? <;> rfl

-- (`h` is not needed: a position behind the end behaves like the end)
set_option linter.unusedVariables false in
/-- **len_is_count for `WrappedVec`** (post-fix F4): in every position, `stream(xs)` is coherent
with the remaining elements of `xs` -/
theorem wrapped_coherent {α : Type} (base : List α) (pos : Nat) (h : pos ≤ base.length) :
    Coherent Wrapped.ops (⟨base, pos⟩ : Wrapped α) (base.drop pos) := by
  have hB := wrapped_unfoldsB_at ⟨base, pos⟩
  exact coherent_build hB.unfolds hB.bound (by simp [Wrapped.len]) rfl
    ((wrapped_peekNext _).trans (unfolds_head hB.unfolds))

theorem stream_of_list_coherent {α : Type} (xs : List α) :
    Coherent Wrapped.ops (⟨xs, 0⟩ : Wrapped α) xs := by
  simpa using wrapped_coherent xs 0 (Nat.zero_le _)

set_option linter.unusedVariables false in
theorem wrapped_unfoldsB {α : Type} (base : List α) (pos : Nat) (h : pos ≤ base.length) :
    UnfoldsB Wrapped.ops (⟨base, pos⟩ : Wrapped α) (base.drop pos) :=
  wrapped_unfoldsB_at ⟨base, pos⟩

theorem wrapped_drop_len {α : Type} (base : List α) (pos k : Nat) (hp : pos ≤ base.length) :
    Wrapped.ops.len (dropN Wrapped.next k (⟨base, pos⟩ : Wrapped α)) =
      .ok (some ((base.drop pos).length - k)) :=
  (coherent_drop_of_family (o := Wrapped.ops) (fun w => w.pos ≤ w.base.length)
    (fun _ _ _ _ h => (wrapped_next_some h).2.2 ▸ (wrapped_next_some h).1)
    (fun w hw => ⟨_, wrapped_coherent w.base w.pos hw⟩) (s := ⟨base, pos⟩) hp
    (wrapped_coherent base pos hp) k).2

/-! ## CartesianPower: a base-m counter -/
namespace CPowT

theorem lenNat_zeros (m : Nat) (hm : 1 ≤ m) (rest : List Nat) :
    CPow.lenNat m (rest.map fun _ => 0) = m ^ rest.length := by
  induction rest with
  | nil => rfl
  | cons d rest ih =>
    simp only [List.map_cons, CPow.lenNat, List.length_map, List.length_cons, ih, Nat.pow_succ]
    rw [← Nat.succ_mul, Nat.mul_comm]
    congr 1
    exact Nat.sub_add_cancel hm

theorem inc_spec (m : Nat) (v : List Nat) (hwf : ∀ d ∈ v, d < m) :
    (∀ v', CPow.inc m v = some v' →
        CPow.lenNat m v = CPow.lenNat m v' + 1 ∧ v'.length = v.length ∧ ∀ d ∈ v', d < m) ∧
    (CPow.inc m v = none → CPow.lenNat m v = 1) := by
  fun_induction CPow.inc m v with
  | case1 => exact ⟨fun _ h => (nomatch h), fun _ => rfl⟩
  | case2 d rest rest' hr ih =>
    obtain ⟨e1, e2, e3⟩ := (ih (fun x hx => hwf x (List.mem_cons_of_mem _ hx))).1 rest' hr
    refine ⟨fun v' hv => ?_, fun h => nomatch h⟩
    cases hv
    refine ⟨?_, congrArg (· + 1) e2, List.forall_mem_cons.mpr ⟨hwf d List.mem_cons_self, e3⟩⟩
    simp only [CPow.lenNat, e2, e1]
    exact (Nat.add_assoc _ _ _).symm
  | case3 d rest hr hd ih =>
    have e := (ih (fun x hx => hwf x (List.mem_cons_of_mem _ hx))).2 hr
    refine ⟨fun _ h => (nomatch h), fun _ => ?_⟩
    subst hd
    rw [CPow.lenNat, Nat.add_sub_cancel, Nat.sub_self, Nat.zero_mul, Nat.zero_add, e]
  | case4 d rest hr hd ih =>
    have e := (ih (fun x hx => hwf x (List.mem_cons_of_mem _ hx))).2 hr
    have hd' : d + 1 < m := Nat.lt_of_le_of_ne (hwf d List.mem_cons_self) hd
    refine ⟨fun v' hv => ?_, fun h => nomatch h⟩
    cases hv
    refine ⟨?_, by simp, List.forall_mem_cons.mpr ⟨hd', fun x hx => ?_⟩⟩
    · have : m - 1 - d = (m - 1 - (d + 1)) + 1 :=
        (Nat.succ_pred_eq_of_pos (Nat.sub_pos_of_lt (Nat.lt_sub_of_add_lt hd'))).symm
      simp only [CPow.lenNat, lenNat_zeros m (Nat.one_le_of_lt hd'), List.length_map, e]
      rw [this, Nat.add_mul, Nat.one_mul]
    · obtain ⟨_, _, rfl⟩ := List.mem_map.mp hx
      exact Nat.zero_lt_of_lt hd'

/-- reachable states: every coordinate is a valid position of the base -/
def WF {α : Type} (c : Idx α) : Prop := ∀ v, c.idx = some v → ∀ d ∈ v, d < c.base.length

def cnt {α : Type} (c : Idx α) : Nat :=
  match c.idx with
  | none => 0
  | some v => CPow.lenNat c.base.length v

theorem bound_eq {α : Type} (c : Idx α) : CPow.bound c = some (cnt c) := by
  obtain ⟨base, idx⟩ := c
  cases idx <;> rfl

theorem next_none {α : Type} {c : Idx α} (h : CPow.next c = none) : c.idx = none := by
  obtain ⟨base, idx⟩ := c
  cases idx with
  | none => rfl
  | some w => cases h

theorem next_some {α : Type} {c c' : Idx α} {x : List α} (h : CPow.next c = some (x, c')) :
    ∃ w, c.idx = some w ∧ x = pickAll c.base w ∧ c' = ⟨c.base, CPow.inc c.base.length w⟩ := by
  obtain ⟨base, idx⟩ := c
  cases idx with
  | none => cases h
  | some w => cases h; exact ⟨w, rfl, rfl, rfl⟩

theorem counter {α : Type} : Counter (CPow.ops (α := α)) WF cnt where
  step s v s' hw h := by
    obtain ⟨w, hw', -, rfl⟩ := next_some h
    have hs := inc_spec s.base.length w (hw w hw')
    refine ⟨fun v' hv' => (hs.1 v' hv').2.2, ?_⟩
    simp only [cnt, hw']
    cases hi : CPow.inc s.base.length w with
    | none => exact hs.2 hi
    | some w' => exact (hs.1 w' hi).1
  stop s _ h := by simp only [cnt, next_none h]
  bound s _ := bound_eq s

/-- base and number of coordinates stay, so `m^k` keeps fitting -/
theorem fits_next {α : Type} (c : Idx α) (x : List α) (c' : Idx α) (hw : WF c)
    (hf : ∀ v, c.idx = some v → c.base.length ^ v.length ≤ 18446744073709551615)
    (h : CPow.next c = some (x, c')) :
    ∀ v, c'.idx = some v → c'.base.length ^ v.length ≤ 18446744073709551615 := by
  obtain ⟨w, hw', -, rfl⟩ := next_some h
  intro v' hv'
  rw [((inc_spec c.base.length w (hw w hw')).1 v' hv').2.1]
  exact hf w hw'

theorem mk_wf {α : Type} (base : List α) (k : Nat) : WF (CPow.mk base k) := by
  intro v hv d hd
  unfold CPow.mk at hv
  simp only at hv
  split at hv
  · cases hv
  · rename_i hne
    simp only [Option.some.injEq] at hv
    subst hv
    have := List.eq_of_mem_replicate hd
    subst this
    cases base with
    | nil =>
      simp at hne
      subst hne
      simp at hd
    | cons x xs => simp [CPow.mk]

/-- value of the reversed coordinate vector as the loop of `CartesianPower::len` accumulates it -/
def valR (m : Nat) : List Nat → Nat
  | [] => 0
  | d :: ds => (m - 1 - d) + m * valR m ds

theorem valR_append (m : Nat) (xs : List Nat) (d : Nat) :
    valR m (xs ++ [d]) = valR m xs + m ^ xs.length * (m - 1 - d) := by
  induction xs with
  | nil => simp [valR]
  | cons x xs ih =>
    simp only [List.cons_append, valR, ih, List.length_cons, Nat.pow_succ, Nat.mul_add]
    rw [Nat.mul_comm (m ^ xs.length) m, Nat.mul_assoc, Nat.add_assoc]

theorem valR_reverse (m : Nat) (v : List Nat) : valR m v.reverse + 1 = CPow.lenNat m v := by
  induction v with
  | nil => rfl
  | cons d rest ih =>
    simp only [List.reverse_cons, valR_append, List.length_reverse, CPow.lenNat]
    rw [Nat.mul_comm (m ^ rest.length), ← ih, Nat.add_right_comm, Nat.add_comm]

theorem lenLoop_ok (m : Nat) (hm : 1 ≤ m) (ds : List Nat) : ∀ (cur sum : Nat), sum + 1 ≤ cur →
    cur * m ^ ds.length ≤ 18446744073709551615 →
    CPow.lenLoop m ds cur sum = .ok (sum + cur * valR m ds + 1) := by
  induction ds with
  | nil =>
    intro cur sum h1 h2
    rw [List.length_nil, Nat.pow_zero, Nat.mul_one] at h2
    have := Nat.le_trans h1 h2
    simp [CPow.lenLoop, addUsize, valR, this]
  | cons d ds ih =>
    intro cur sum h1 h2
    rw [List.length_cons, Nat.pow_succ, Nat.mul_comm (m ^ ds.length) m, ← Nat.mul_assoc] at h2
    have hc := Nat.le_trans (Nat.le_mul_of_pos_right (cur * m) (Nat.pow_pos hm)) h2
    have ht : (m - 1 - d) * cur + cur ≤ cur * m := by
      rw [← Nat.succ_mul, Nat.mul_comm cur m]
      exact Nat.mul_le_mul_right _ (by omega)
    obtain ⟨hm1, hs, h1'⟩ := lenLoop_step h1 ht hc
    have hrec := ih (cur * m) (sum + (m - 1 - d) * cur) h1' h2
    simp only [CPow.lenLoop, addUsize, mulUsize, hm1, hs, hc, if_true, R.bind, hrec, valR]
    congr 1
    rw [Nat.mul_add, Nat.mul_assoc, Nat.mul_comm cur (m - 1 - d), Nat.add_assoc sum]

theorem len_ok {α : Type} (c : Idx α) (hwf : WF c)
    (hfit : ∀ v, c.idx = some v → c.base.length ^ v.length ≤ 18446744073709551615) :
    CPow.len c = .ok (some (cnt c)) := by
  obtain ⟨base, idx⟩ := c
  cases idx with
  | none => rfl
  | some v =>
    have hf := hfit v rfl
    simp only at hf
    by_cases hm : 1 ≤ base.length
    · have := lenLoop_ok base.length hm v.reverse 1 0 (Nat.le_refl _)
        (by rw [Nat.one_mul, List.length_reverse]; exact hf)
      simp only [CPow.len, this, R.map, R.bind, cnt]
      congr 2
      rw [Nat.zero_add, Nat.one_mul]
      exact valR_reverse base.length v
    · -- an empty base: the only reachable coordinate vector is the empty one
      cases v with
      | nil => rfl
      | cons d ds =>
        have := hwf (d :: ds) rfl d (by simp)
        simp only at this
        omega

end CPowT

theorem cpow_peekNext {α : Type} : PeekNext (CPow.ops (α := α)) := by
  intro c
  obtain ⟨base, idx⟩ := c
  cases idx <;> rfl

/-- **len_is_count for `CartesianPower`**, every reachable state, as long as `m^k` fits a `usize` -/
theorem cpow_coherent {α : Type} (c : Idx α) (hwf : CPowT.WF c)
    (hfit : ∀ v, c.idx = some v → c.base.length ^ v.length ≤ 18446744073709551615) :
    ∃ l, Coherent CPow.ops c l ∧ l.length = CPowT.cnt c :=
  (CPowT.counter.and CPowT.fits_next).coherent cpow_peekNext
    (fun s hs => CPowT.len_ok s hs.1 hs.2) ⟨hwf, hfit⟩

theorem cpow_unfoldsB {α : Type} (c : Idx α) (hwf : CPowT.WF c) : ∃ l, UnfoldsB CPow.ops c l :=
  (CPowT.counter.unfoldsB hwf).imp fun _ h => h.1

/-! ## Subsequences: `CartesianPower` on two digits -/
namespace SubseqT

/-- a mask read as a base-2 coordinate vector (`true` is the digit that is already counted) -/
def bit (b : Bool) : Nat := if b then 1 else 0

theorem inc_bits (v : List Bool) : (Subseq.inc v).map (List.map bit) = CPow.inc 2 (v.map bit) := by
  induction v with
  | nil => rfl
  | cons b rest ih =>
    rw [List.map_cons, CPow.inc, ← ih, Subseq.inc]
    cases Subseq.inc rest with
    | some r => rfl
    | none => cases b <;> simp [bit, Function.comp_def]

theorem lenNat_bits (v : List Bool) : Subseq.lenNat v = CPow.lenNat 2 (v.map bit) := by
  induction v with
  | nil => rfl
  | cons b rest ih =>
    rw [List.map_cons, Subseq.lenNat, CPow.lenNat, ih, List.length_map]
    cases b <;> simp [bit]

/-- the loop of `CartesianPower::len` has one more checked product, `(m - 1 - d) * cur`; for a bit it
is `0` or `cur` and passes once `cur` fits -/
theorem lenLoop_bits : ∀ (bs : List Bool) (cur sum : Nat), cur ≤ 18446744073709551615 →
    Subseq.lenLoop bs cur sum = CPow.lenLoop 2 (bs.map bit) cur sum
  | [], _, _, _ => rfl
  | b :: bs, cur, sum, h => by
    have ht : mulUsize (2 - 1 - bit b) cur = .ok (if b then 0 else cur) := by
      cases b <;> simp [bit, mulUsize, h]
    rw [List.map_cons, Subseq.lenLoop, CPow.lenLoop, ht]
    simp only [R.bind]
    cases addUsize sum (if b then 0 else cur) with
    | ok s' =>
      by_cases hc : cur * 2 ≤ 18446744073709551615
      · simp only [mulUsize, hc, if_true]
        exact lenLoop_bits bs _ _ hc
      · simp only [mulUsize, hc, if_false]
    | throw => rfl
    | panic => rfl
    | diverge => rfl

theorem inc_spec (v : List Bool) :
    (∀ v', Subseq.inc v = some v' → Subseq.lenNat v = Subseq.lenNat v' + 1 ∧ v'.length = v.length) ∧
    (Subseq.inc v = none → Subseq.lenNat v = 1) := by
  have hwf : ∀ d ∈ v.map bit, d < 2 := by
    intro d hd
    obtain ⟨b, _, rfl⟩ := List.mem_map.mp hd
    cases b <;> decide
  obtain ⟨h1, h2⟩ := CPowT.inc_spec 2 (v.map bit) hwf
  constructor
  · intro v' hv'
    obtain ⟨e1, e2, -⟩ := h1 (v'.map bit) (by rw [← inc_bits, hv']; rfl)
    rw [lenNat_bits, lenNat_bits, e1]
    exact ⟨rfl, by simpa using e2⟩
  · intro hn
    rw [lenNat_bits]
    exact h2 (by rw [← inc_bits, hn]; rfl)

/-- the element count of a state: the closed form of `Subsequences::len` without machine words -/
def cnt {α : Type} (m : Mask α) : Nat :=
  match m.mask with
  | none => 0
  | some v => Subseq.lenNat v

theorem bound_eq {α : Type} (m : Mask α) : Subseq.bound m = some (cnt m) := by
  obtain ⟨base, mask⟩ := m
  cases mask <;> rfl

theorem next_none {α : Type} {m : Mask α} (h : Subseq.next m = none) : m.mask = none := by
  obtain ⟨base, mask⟩ := m
  cases mask with
  | none => rfl
  | some w => cases h

theorem next_some {α : Type} {m m' : Mask α} {x : List α} (h : Subseq.next m = some (x, m')) :
    ∃ w, m.mask = some w ∧ x = Subseq.pick w m.base ∧ m' = ⟨m.base, Subseq.inc w⟩ := by
  obtain ⟨base, mask⟩ := m
  cases mask with
  | none => cases h
  | some w => cases h; exact ⟨w, rfl, rfl, rfl⟩

theorem counter {α : Type} : Counter (Subseq.ops (α := α)) (fun _ => True) cnt where
  step s v s' _ h := by
    obtain ⟨w, hw, -, rfl⟩ := next_some h
    refine ⟨trivial, ?_⟩
    simp only [cnt, hw]
    cases hi : Subseq.inc w with
    | none => exact (inc_spec w).2 hi
    | some w' => exact ((inc_spec w).1 w' hi).1
  stop s _ h := by simp only [cnt, next_none h]
  bound s _ := bound_eq s

theorem short_next {α : Type} {n : Nat} (s : Mask α) (x : List α) (s' : Mask α) (_ : True)
    (hs : ∀ v, s.mask = some v → v.length < n) (h : Subseq.next s = some (x, s')) :
    ∀ v, s'.mask = some v → v.length < n := by
  obtain ⟨w, hw, -, rfl⟩ := next_some h
  intro v' hv'
  rw [((inc_spec w).1 v' hv').2]
  exact hs w hw

theorem len_ok {α : Type} (m : Mask α) (hn : ∀ v, m.mask = some v → v.length < 64) :
    Subseq.len m = .ok (some (cnt m)) := by
  obtain ⟨base, mask⟩ := m
  cases mask with
  | none => rfl
  | some v =>
    have hpow : 1 * 2 ^ (v.reverse.map bit).length ≤ 2 ^ 63 := by
      rw [Nat.one_mul, List.length_map, List.length_reverse]
      exact Nat.pow_le_pow_right Nat.two_pos (Nat.le_of_lt_succ (hn v rfl))
    have := CPowT.lenLoop_ok 2 (by decide) (v.reverse.map bit) 1 0 (Nat.le_refl _)
      (Nat.le_trans hpow (by decide))
    simp only [Subseq.len, lenLoop_bits v.reverse 1 0 (by decide), this, R.map, R.bind, cnt]
    congr 2
    rw [Nat.zero_add, Nat.one_mul, List.map_reverse, CPowT.valR_reverse, lenNat_bits]

end SubseqT

theorem subseq_peekNext {α : Type} : PeekNext (Subseq.ops (α := α)) := by
  intro m
  obtain ⟨base, mask⟩ := m
  cases mask <;> rfl

/-- **len_is_count for `Subsequences`**, every state (every mask, i.e. every position reached by
dropping a prefix, and the finished state), for base lists shorter than 64 (beyond that the `usize`
arithmetic of the closed form overflows) -/
theorem subseq_coherent {α : Type} (m : Mask α) (hn : ∀ v, m.mask = some v → v.length < 64) :
    ∃ l, Coherent Subseq.ops m l ∧ l.length = SubseqT.cnt m :=
  (SubseqT.counter.and SubseqT.short_next).coherent subseq_peekNext
    (fun s hs => SubseqT.len_ok s hs.2) ⟨trivial, hn⟩

theorem subseq_unfoldsB {α : Type} (m : Mask α) : ∃ l, UnfoldsB Subseq.ops m l :=
  (SubseqT.counter.unfoldsB trivial).imp fun _ h => h.1

theorem subseq_drop_len {α : Type} (m : Mask α) (hn : ∀ v, m.mask = some v → v.length < 64)
    (l : List (List α)) (h : Coherent Subseq.ops m l) (k : Nat) :
    Subseq.ops.len (dropN Subseq.next k m) = .ok (some (l.length - k)) :=
  (coherent_drop_of_family _ (SubseqT.counter.and SubseqT.short_next).closed
    (fun s hs => (subseq_coherent s hs.2).imp fun _ h => h.1) ⟨trivial, hn⟩ h k).2

/-! ## Combinations: no closed-form `len`; the successor strictly decreases a base-(n+1) numeral -/
namespace CombT

theorem weight_bound (n : Nat) (xs : List Nat) : Comb.weight n xs + 1 ≤ (n + 1) ^ xs.length := by
  induction xs with
  | nil => simp [Comb.weight]
  | cons x xs ih =>
    simp only [Comb.weight, List.length_cons, Nat.pow_succ]
    have h1 : (n - x) * (n + 1) ^ xs.length ≤ n * (n + 1) ^ xs.length :=
      Nat.mul_le_mul_right _ (by omega)
    have h2 : (n + 1) ^ xs.length * (n + 1) = n * (n + 1) ^ xs.length + (n + 1) ^ xs.length := by
      rw [Nat.mul_add, Nat.mul_one, Nat.mul_comm]
    omega

end CombT

/-- `Combinations::next` as an odometer: the tail's successor, or a carry into the head -/
theorem CombE.scan_cons (i0 : Nat) (rest : List Nat) (j last : Nat) :
    Comb.scan (i0 :: rest) (j + 1) last =
      match Comb.scan rest j last with
      | some r' => some (i0 :: r')
      | none => if i0 + 1 < last - j then some (List.range' (i0 + 1) (rest.length + 1)) else none := by
  fun_induction Comb.scan rest j last with
  | case1 last => simp [Comb.scan]
  | case2 j last hc =>
    rw [Comb.scan, List.getD_cons_succ, if_pos hc]
    simp
  | case3 j last hc ih =>
    rw [Comb.scan, List.getD_cons_succ, if_neg hc, ih, Nat.sub_sub, Nat.add_comm 1 j]

namespace CombT

theorem scan_decreases (n : Nat) (v : List Nat) : ∀ last, last ≤ n →
    ∀ v', Comb.scan v v.length last = some v' →
      v'.length = v.length ∧ Comb.weight n v' < Comb.weight n v := by
  induction v with
  | nil => intro last _ v' h; cases h
  | cons i0 rest ih =>
    intro last hl v' h
    rw [List.length_cons, CombE.scan_cons] at h
    cases hs : Comb.scan rest rest.length last with
    | some r' =>
      simp only [hs, Option.some.injEq] at h
      subst h
      obtain ⟨e, hlt⟩ := ih last hl r' hs
      refine ⟨congrArg (· + 1) e, ?_⟩
      simp only [Comb.weight, e]
      exact Nat.add_lt_add_left hlt _
    | none =>
      simp only [hs] at h
      split at h
      · -- the head is raised: what stands behind it weighs less than one unit of the head
        rename_i hc
        cases h
        have hb := weight_bound n (List.range' (i0 + 1 + 1) rest.length)
        have hk : n - i0 = (n - (i0 + 1)) + 1 := by omega
        rw [List.length_range'] at hb
        simp only [List.range'_succ, Comb.weight, List.length_range', List.length_cons, true_and]
        rw [hk, Nat.add_mul, Nat.one_mul]
        omega
      · cases h

def meas {α : Type} (c : Idx α) : Nat :=
  match c.idx with
  | none => 0
  | some v => Comb.weight c.base.length v + 1

theorem bound_eq {α : Type} (c : Idx α) : Comb.bound c = some (meas c) := by
  obtain ⟨base, idx⟩ := c
  cases idx <;> rfl

theorem next_none {α : Type} {c : Idx α} (h : Comb.next c = none) :
    ∀ w, c.idx = some w → w.length > c.base.length := by
  obtain ⟨base, idx⟩ := c
  intro w hw
  cases hw
  simp only [Comb.next] at h
  split at h
  · assumption
  · cases h

theorem next_some {α : Type} {c c' : Idx α} {x : List α} (h : Comb.next c = some (x, c')) :
    ∃ w, c.idx = some w ∧ w.length ≤ c.base.length ∧ x = pickAll c.base w ∧
      c' = ⟨c.base, Comb.scan w w.length c.base.length⟩ := by
  obtain ⟨base, idx⟩ := c
  cases idx with
  | none => cases h
  | some w =>
    simp only [Comb.next] at h
    split at h
    · cases h
    · rename_i hle
      cases h
      exact ⟨w, rfl, Nat.le_of_not_gt hle, rfl, rfl⟩

end CombT

theorem comb_peekNext {α : Type} : PeekNext (Comb.ops (α := α)) := by
  intro c
  obtain ⟨base, idx⟩ := c
  cases idx with
  | none => rfl
  | some v =>
    show Comb.peek ⟨base, some v⟩ = (Comb.next ⟨base, some v⟩).map Prod.fst
    simp only [Comb.peek, Comb.next]
    split <;> rfl

theorem comb_unfoldsB {α : Type} (c : Idx α) : ∃ l, UnfoldsB Comb.ops c l := by
  refine unfoldsB_of_decreasing (o := Comb.ops) CombT.meas (fun _ => True) ?_ (fun s _ => CombT.bound_eq s)
    c trivial
  intro s v s' _ h
  refine ⟨trivial, ?_⟩
  obtain ⟨w, hw, -, -, rfl⟩ := CombT.next_some h
  simp only [CombT.meas, hw]
  cases hs : Comb.scan w w.length s.base.length with
  | none => exact Nat.succ_pos _
  | some w' =>
    exact Nat.succ_lt_succ (CombT.scan_decreases s.base.length w s.base.length (Nat.le_refl _) w' hs).2

/-- **`Combinations`** (default `len`): every state — any base, any index vector, also a selection
size larger than the base — is a finite stream, coherent with the list it unfolds to -/
theorem comb_coherent {α : Type} (c : Idx α) : ∃ l, Coherent Comb.ops c l :=
  (comb_unfoldsB c).imp fun _ hB => hB.coherent_plain comb_peekNext

/-- **Combinations, every derived position**: after any observation of `s`, `s drop k` has
`len = len s - k` (the model's `len` is a function of the state alone) -/
theorem comb_drop_len {α : Type} (c : Idx α) (l : List (List α)) (h : Coherent Comb.ops c l) (k : Nat) :
    Coherent Comb.ops (dropN Comb.next k c) (l.drop k) ∧
      Comb.ops.len (dropN Comb.next k c) = .ok (some (l.length - k)) :=
  coherent_drop_of_family (o := Comb.ops) (fun _ => True) (fun _ _ _ _ _ => trivial)
    (fun s _ => comb_coherent s) trivial h k

theorem comb_slice_tail_len {α : Type} (c : Idx α) (l : List (List α)) (h : Coherent Comb.ops c l) (k : Nat) :
    ∃ t, Comb.ops.slice c (some (k : Int)) none = .ok (.strm t) ∧
      Comb.ops.len t = .ok (some (l.length - k)) :=
  ⟨_, build_slice_tail _ _ _ _ _ c k, (comb_drop_len c l h k).2⟩

end Noulith.C11
