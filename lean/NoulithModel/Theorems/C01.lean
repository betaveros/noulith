/-
C01 — Collections have value semantics: mutation never leaks through an alias.

Impl: the reference-counted heap of `Impl/Heap.lean` (sharing is explicit, mutation is in place whenever
the strong count is 1).  Spec: the pure store of `Spec/Store.lean` (one tree per variable, every statement
the functional update of the addressed slot).  `step_refines` is the simulation step, for every statement
form, every alias graph the vocabulary can build and every nesting depth; `others_unchanged` and
`alias_unchanged` read it against `spec_step_writes` (the Spec writes only a statement's `targets`).
-/
import NoulithModel.Lemmas.HeapRefine

namespace Noulith.C01
open Noulith.RcHeap
open Noulith.Store (Tree Store modPath pyIdx)

/-! ### the invariant -/

/-- `WF s`: (1) for every allocation the handles held in variable cells and in payloads do not exceed
its strong count (so a count of 1 means *unshared*), in particular no handle dangles; (2) every cell
has a finite representation derivation, i.e. the heap reachable from the variables is acyclic. -/
def WF (s : State) : Prop := ∃ σ : Store, Refines s σ

theorem init_refines (n : Nat) : Refines (State.init n) (Store.Store.init n) := by
  refine ⟨?_, ?_⟩
  · intro id
    simp [State.init, Heap.empty, pocc, rcOf, occ_replicate]
  · exact All2.replicate n Rep_null

theorem heap_wf_preserved : (∀ n, WF (State.init n)) ∧ (∀ s st, WF s → WF (step s st).1) :=
  ⟨fun n => ⟨_, init_refines n⟩, fun _ st ⟨σ, R⟩ => ⟨(Store.step σ st).1, (step_ok R st).1⟩⟩

/-! ### refinement -/

theorem step_refines (s : State) (σ : Store) (st : Stmt) (R : Refines s σ) :
    Refines (step s st).1 (Store.step σ st).1 ∧ (step s st).2 = (Store.step σ st).2 :=
  step_ok R st

theorem history_refines (stmts : List Stmt) : ∀ (s : State) (σ : Store), Refines s σ →
    Refines (RcHeap.run s stmts) (Store.run σ stmts) := by
  induction stmts with
  | nil => intro s σ R; exact R
  | cons st rest ih => intro s σ R; exact ih _ _ (step_refines s σ st R).1

theorem history_refines_init (n : Nat) (stmts : List Stmt) :
    Refines (RcHeap.run (State.init n) stmts) (Store.run (Store.Store.init n) stmts) :=
  history_refines stmts _ _ (init_refines n)

theorem history_refines_prefix (n : Nat) (pre suf : List Stmt) :
    Refines (RcHeap.run (State.init n) pre) (Store.run (Store.Store.init n) pre) ∧
    Refines (RcHeap.run (State.init n) (pre ++ suf)) (Store.run (Store.Store.init n) (pre ++ suf)) :=
  ⟨history_refines_init n pre, history_refines_init n (pre ++ suf)⟩

/-! ### the abstraction is a function: a heap value represents at most one tree, and `readback`
computes it -/

theorem readback_correct {s : State} {σ : Store} (R : Refines s σ) :
    ∃ k, ∀ f, k ≤ f → s.cells.map (readback f s.h) = σ := by
  obtain ⟨k, a⟩ := All2_Rep_common R.sim
  refine ⟨k, fun f hf => ?_⟩
  exact All2.map_eq (fun v t _ r => readback_of_repN _ _ _ _ r f hf) a

theorem abs_unique {s : State} {σ σ' : Store} (R : Refines s σ) (R' : Refines s σ') : σ = σ' := by
  obtain ⟨k, e⟩ := readback_correct R
  obtain ⟨k', e'⟩ := readback_correct R'
  exact (e _ (Nat.le_max_left k k')).symm.trans (e' _ (Nat.le_max_right k k'))

/-! ### nothing else changes -/

/-- the variables a statement may write -/
def targets : Stmt → List Nat
  | .assign x _ => [x]
  | .setIdx x _ _ => [x]
  | .append x _ _ => [x]
  | .pop y x _ => [x, y]
  | .remove y x _ _ => [x, y]
  | .consume y x _ => [x, y]
  | .swap x _ y _ => [x, y]
  | .update y _ _ _ => [y]
  | .callAppend y _ _ => [y]
  | .appendPop x _ y _ => [x, y]

/-- `Writes σ xs σ'`: `σ'` is `σ` after whole-variable writes to variables among `xs` -/
inductive Writes (σ : Store) (xs : List Nat) : Store → Prop
  | same : Writes σ xs σ
  | set {σ' : Store} {x : Nat} (t : Tree) : Writes σ xs σ' → x ∈ xs → Writes σ xs (σ'.set x t)

theorem Writes.length {σ σ' : Store} {xs : List Nat} (w : Writes σ xs σ') : σ'.length = σ.length := by
  induction w with
  | same => rfl
  | set t _ _ ih => rw [List.length_set, ih]

theorem Writes.get {σ σ' : Store} {xs : List Nat} (w : Writes σ xs σ') {z : Nat} (hz : z ∉ xs) :
    Store.get σ' z = Store.get σ z := by
  induction w with
  | same => rfl
  | @set σ' x t _ hx ih =>
    have : x ≠ z := fun e => hz (e ▸ hx)
    rw [← ih]; simp [Store.get, List.getD, List.getElem?_set_ne this]

theorem Writes.optSet {σ σ' : Store} {xs : List Nat} (w : Writes σ xs σ') {x : Nat} (hx : x ∈ xs)
    (o : Option Tree) (b : Bool) :
    Writes σ xs (match o with | some t' => (σ'.set x t', b) | none => (σ', false)).1 := by
  cases o with
  | none => exact w
  | some t' => exact w.set t' hx

theorem Writes.appendFinish {σ σ' : Store} {xs : List Nat} (w : Writes σ xs σ') {x : Nat} (hx : x ∈ xs)
    (path : List Int) (tl tv : Tree) : Writes σ xs (Store.appendFinish σ' x path tl tv).1 := by
  unfold Store.appendFinish
  split
  · exact w.optSet hx _ true
  · exact w.optSet hx _ false

theorem Writes.extract (σ : Store) (φ : Store.LeafT) (y x : Nat) (path : List Int) :
    Writes σ [x, y] (Store.extract σ φ y x path).1 := by
  unfold Store.extract
  split
  · split
    · exact .same
    · exact (Writes.same.set _ (by simp)).set _ (by simp)
  · exact .same

theorem spec_step_writes (σ : Store) (st : Stmt) : Writes σ (targets st) (Store.step σ st).1 := by
  -- one case per branch of `Store.step`; the branches not named here return `σ` itself
  fun_cases Store.step σ st
  case case1 => exact .set _ .same (by simp [targets])                    -- assign
  case case3 => exact .set _ .same (by simp [targets])                    -- setIdx
  case case7 => exact Writes.same.appendFinish (by simp [targets]) _ _ _  -- append
  case case9 => exact Writes.extract σ _ _ _ _                            -- pop
  case case10 => exact Writes.extract σ _ _ _ _                           -- remove
  case case11 => exact Writes.extract σ _ _ _ _                           -- consume
  case case13 => exact .set _ .same (by simp [targets])                   -- swap, second write fails
  case case14 => exact (Writes.same.set _ (by simp [targets])).set _ (by simp [targets])
  case case17 => exact .set _ .same (by simp [targets])                   -- update
  case case20 => exact .set _ .same (by simp [targets])                   -- callAppend
  case case25 =>                                                          -- appendPop
    exact (Writes.same.set _ (by simp [targets])).appendFinish (by simp [targets]) _ _ _
  all_goals exact .same

theorem spec_others_unchanged (σ : Store) (st : Stmt) (z : Nat) (hz : z ∉ targets st) :
    Store.get (Store.step σ st).1 z = Store.get σ z :=
  (spec_step_writes σ st).get hz

theorem cell_rep {s : State} {σ : Store} (R : Refines s σ) (z : Nat) : Rep s.h (cellOf s z) (Store.get σ z) :=
  All2.getD z R.sim Rep_null

/-- A variable the statement does not address still represents the tree it represented before, whatever
it shares with the mutated variable. -/
theorem others_unchanged (s : State) (σ : Store) (st : Stmt) (R : Refines s σ) (z : Nat) (hz : z ∉ targets st) :
    Rep (step s st).1.h (cellOf (step s st).1 z) (Store.get σ z) := by
  have := cell_rep (step_refines s σ st R).1 z
  rwa [spec_others_unchanged σ st z hz] at this

/-- The README's promise ("`y` will still be `[1, 2, 3]`"): make `y` an alias of `x` (`y = x`, the two
cells now share one allocation), then mutate `x` by ANY statement that does not name `y`: `y` still holds
the old value of `x`. -/
theorem alias_unchanged (s : State) (σ : Store) (x y : Nat) (st : Stmt) (R : Refines s σ)
    (hy : y < s.cells.length) (hz : y ∉ targets st) :
    Rep (step (step s (.assign y (.atom (.var x)))).1 st).1.h
      (cellOf (step (step s (.assign y (.atom (.var x)))).1 st).1 y) (Store.get σ x) := by
  have R1 := (step_refines s σ (.assign y (.atom (.var x))) R).1
  have := others_unchanged _ _ st R1 y hz
  have hy' : y < σ.length := by rw [← R.len]; exact hy
  have e : Store.get (Store.step σ (.assign y (.atom (.var x)))).1 y = Store.get σ x := by
    simp [Store.step, Store.declared, hy', Store.evalRhs, Store.evalAtom, Store.get, List.getD]
  rwa [e] at this

theorem modPath_siblings (φ : Store.LeafT) (ts : List Tree) (i : Int) (rest : List Int)
    (t' r : Tree) (h : modPath φ (.list ts) (i :: rest) = some (t', r)) :
    ∃ j ts', pyIdx ts.length i = some j ∧ t' = .list ts' ∧ ts'.length = ts.length ∧
      ∀ k, k ≠ j → ts'.getD k .null = ts.getD k .null := by
  rw [modPath_list_cons] at h
  cases hp : pyIdx ts.length i with
  | none => rw [hp] at h; simp at h
  | some j =>
    rw [hp] at h
    dsimp only at h
    cases hm : modPath φ (ts.getD j .null) rest with
    | none => rw [hm] at h; simp at h
    | some tr =>
      obtain ⟨t2, r2⟩ := tr
      rw [hm] at h
      simp only [Option.some.injEq, Prod.mk.injEq] at h
      refine ⟨j, ts.set j t2, rfl, h.1.symm, by simp, fun k hk => ?_⟩
      exact getD_set_ne _ _ _ _ _ (Ne.symm hk)

/-! ### function calls leave the caller's variables alone -/

/-- The modelled "mutating-style" builtin: evaluating `append(x, b)` (the argument is a clone of the
variable's handle, so the variable keeps a reference while the callee runs, so the callee's `make_mut`
copies) leaves every variable — `x` included — unchanged, and returns the extended list. -/
theorem call_preserves_caller_vars (s : State) (σ : Store) (x : Nat) (b : Atom) (R : Refines s σ) :
    Refines ⟨(appendOp (evalAtom s (readVar s x).1 b).1 (readVar s x).2 (evalAtom s (readVar s x).1 b).2).1, s.cells⟩ σ ∧
    (match Store.get σ x with
     | .list ts => ∃ c, (appendOp (evalAtom s (readVar s x).1 b).1 (readVar s x).2 (evalAtom s (readVar s x).1 b).2).2 = some c ∧
         Rep (appendOp (evalAtom s (readVar s x).1 b).1 (readVar s x).2 (evalAtom s (readVar s x).1 b).2).1 c
           (.list (ts ++ [Store.evalAtom σ b]))
     | _ => (appendOp (evalAtom s (readVar s x).1 b).1 (readVar s x).2 (evalAtom s (readVar s x).1 b).2).2 = none) := by
  have c := evalArgs_spec R x b
  simp only [readVar]
  rcases Tree.list_or_not (Store.get σ x) with ⟨ts, hts⟩ | hnl
  · rw [hts] at c ⊢
    obtain ⟨v, hv, cv⟩ := appendOp_list c
    exact ⟨cv.tail.refines, v, hv, cv.tmp.1⟩
  · obtain ⟨hn, cn⟩ := appendOp_raise c hnl
    refine ⟨cn.refines, ?_⟩
    cases hg : Store.get σ x with
    | list ts => exact absurd hg (hnl ts)
    | _ => exact hn

/-! ### non-vacuity: the README's matrix

`matrix = [[0] ** 10] ** 10; matrix[1][2] = 3` — all ten rows are handles to ONE allocation (strong
count 11 here: the ten rows and the variable `row` the model builds the row in); the assignment copies
the outer list's row 1 only. -/

def readmeMatrix : List Stmt :=
  [ .assign 0 (.rep (.int 0) 10),          -- row := [0] ** 10
    .assign 1 (.rep (.var 0) 10),          -- matrix := [row] ** 10   (ten aliases of one payload)
    .setIdx 1 [1, 2] (.atom (.int 3)) ]    -- matrix[1][2] = 3

/-- the Impl really shares: after building the matrix, the row allocation has strong count 11 -/
example : rcOf (RcHeap.run (State.init 2) (readmeMatrix.take 2)).h 1 = 11 := by decide +kernel

/-- … and after the assignment only row 1 of the matrix changed (read back from the heap) -/
example : (abs (RcHeap.run (State.init 2) readmeMatrix)).map Tree.render =
    ["[0,0,0,0,0,0,0,0,0,0]",
     "[[0,0,0,0,0,0,0,0,0,0],[0,0,3,0,0,0,0,0,0,0],[0,0,0,0,0,0,0,0,0,0],[0,0,0,0,0,0,0,0,0,0],[0,0,0,0,0,0,0,0,0,0],[0,0,0,0,0,0,0,0,0,0],[0,0,0,0,0,0,0,0,0,0],[0,0,0,0,0,0,0,0,0,0],[0,0,0,0,0,0,0,0,0,0],[0,0,0,0,0,0,0,0,0,0]]"] := by
  decide +kernel

/-- the hypotheses of `step_refines` are met by that state (it is reachable), and the theorem's
conclusion is the non-trivial one: the Impl mutated a 10-fold shared payload, the Spec a plain tree -/
example : Refines (RcHeap.run (State.init 2) readmeMatrix) (Store.run (Store.Store.init 2) readmeMatrix) :=
  history_refines_init 2 readmeMatrix

/-- in-place case (count 1): no allocation is made by `x[0] = 5` on an unshared list -/
example : (RcHeap.run (State.init 1) [.assign 0 (.list [.int 1, .int 2]), .setIdx 0 [0] (.atom (.int 5))]).h.allocs.length = 1 := by
  decide +kernel

/-- order of an operator-assignment whose right-hand side mutates the same variable:
`x := [1,2,3]; x append= pop x` gives `[1,2,3,3]` — the old left-hand value is read BEFORE the pop
(reading it after the right-hand side would give `[1,2,3]`).  `step_refines` covers `.appendPop` for all
paths and alias graphs; this is the concrete instance. -/
example : (abs (RcHeap.run (State.init 1) [.assign 0 (.list [.int 1, .int 2, .int 3]), .appendPop 0 [] 0 []])).map Tree.render
    = ["[1,2,3,3]"] := by decide +kernel

/-- … and through an alias: `y = x; x append= pop y` gives x = [1,2,3,3], y = [1,2] -/
example : (abs (RcHeap.run (State.init 2)
    [.assign 0 (.list [.int 1, .int 2, .int 3]), .assign 1 (.atom (.var 0)), .appendPop 0 [] 1 []])).map Tree.render
    = ["[1,2,3,3]", "[1,2]"] := by decide +kernel

/-! ### dicts: value semantics through keys

`d = {1: 5, 2: 6}; e = d; d[3] = 7` — inserting a NEW key goes through `set_index`'s dict arm
(`make_mut` — the dict is shared with `e`, so it is copied — then `insert`); `e` keeps its two entries.
`step_refines` covers index assignment, operator-assignment, remove, consume, update through dict keys
at any depth (lists of dicts of lists …); these are concrete instances. -/

example : (abs (RcHeap.run (State.init 2)
    [.assign 0 (.dict [(1, .int 5), (2, .int 6)]), .assign 1 (.atom (.var 0)),
     .setIdx 0 [3] (.atom (.int 7)), .setIdx 0 [1] (.atom (.int 9))])).map Tree.renderRaw
    = ["{1:9,2:6,3:7}", "{1:5,2:6}"] := by decide +kernel

/-- `c = [d, e]; c[0][3] = [1]; c[0][3] append= 2; r = remove c[0][1]` with `d` still bound: only the
copy inside `c` changes -/
example : (abs (RcHeap.run (State.init 3)
    [.assign 0 (.dict [(1, .int 9), (3, .int 7)]), .assign 2 (.list [.var 0, .null]),
     .setIdx 2 [0, 3] (.list [.int 1]), .append 2 [0, 3] (.atom (.int 2)),
     .remove 1 2 [0] 1])).map Tree.renderRaw
    = ["{1:9,3:7}", "9", "[{3:[1,2]},null]"] := by decide +kernel

end Noulith.C01
