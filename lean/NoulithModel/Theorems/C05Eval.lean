/-
C05 — the evaluator (Impl/CoreEval.lean) one layer at a time, in the vocabulary of the rules (Spec/CoreSem.lean).

Where an arm of the evaluator and the rules for the same construct are organised differently — builtins; the binding of
parameters; the store operations of `=` and `op=` (`State.assign`, `State.drop`); the value kinds of an `into` function,
where the rules ask `cataOfVal` — the arm is restated here once, as a chain of `onVal` / `onOk` ("go on with the value of a
normal outcome, anything else is final"; defined first).  The other arms are in Theorems/C05Arms.lean.
-/
import NoulithModel.Spec.CoreSem

set_option autoImplicit true
set_option relaxedAutoImplicit true

namespace Noulith.Core

-- The equations of the eleven evaluator functions are derived here, once, and become simp lemmas of this file;
-- every later `simp only [eval, …]` finds them instead of deriving them again.
attribute [local simp] eval evalSwitch evalSeq evalList evalInto evalWhile evalFor forItems forBody finishDict callVal

namespace Arms

def onVal {β : Type} (x : Res × State) (K : Val → State → β) (stop : Res → State → β) : β :=
  match x with
  | (.val v, s) => K v s
  | (r, s) => stop r s

/-- the evaluator writes the pass-through case as `| r => r`; proofs about it use `onVal … Prod.mk` -/
def andThen (x : Res × State) (K : Val → State → Res × State) : Res × State :=
  match x with
  | (.val v, s) => K v s
  | r => r

theorem onVal_mk (x : Res × State) (K : Val → State → Res × State) : onVal x K Prod.mk = andThen x K := by
  obtain ⟨r, s⟩ := x
  cases r <;> rfl

def onOk {β : Type} (x : ResL × State) (K : List Val → State → β) (stop : Res → State → β) : β :=
  match x with
  | (.ok vs, s) => K vs s
  | (.stop r, s) => stop r s

end Arms

theorem callVal_print (m : Nat) (st : State) (env : Nat) (args : List Val) :
    callVal (m + 1) st env (.builtin "print") args =
      (.val .null, { st with out := joinWith " " (args.map Val.display) :: st.out }) := by
  simp only [callVal]

theorem callVal_not_callable (m : Nat) (st : State) (env : Nat) (f : Val) (args : List Val)
    (h : f.isFunc = false) : callVal (m + 1) st env f args = (.thrown .err, st) := by
  cases f with
  | closure | builtin => cases h
  | _ => simp only [callVal]

theorem callVal_builtin (m : Nat) (st : State) (env : Nat) (name : String) (args : List Val)
    (h : name ≠ "print") :
    callVal (m + 1) st env (.builtin name) args =
      match callBuiltin name args with
      | .ok v => (.val v, st)
      | .raise => (.thrown .err, st) := by
  fun_cases callBuiltin name args
  case case5 hs | case6 hs =>
    -- the evaluator folds in place what the rules call `sumVals`
    simp only [callVal]
    exact congrArg (fun o => ((match o with | some v => Res.val v | none => .thrown .err), st)) hs
  case case8 =>
    simp only [callVal, *, ↓reduceIte]
    cases applyOp name _ _ <;> rfl
  case case12 =>
    -- not an operator name: the evaluator's equations still go by the shape of `args`
    rcases args with _ | ⟨a, _ | ⟨b, _ | _⟩⟩
    case cons.nil => cases a <;> simp only [callVal, *, reduceCtorEq, ↓reduceIte]
    all_goals simp only [callVal, *, reduceCtorEq, ↓reduceIte]
  all_goals simp only [callVal, *, ↓reduceIte]

theorem callVal_closure (m : Nat) (st : State) (env : Nat) (params : List Param) (body : Expr) (cenv : Nat)
    (args : List Val) :
    callVal (m + 1) st env (.closure params body cenv) args =
      Arms.onOk (evalList m (newFrame st cenv).1 (newFrame st cenv).2 (params.filterMap Param.ann)) (fun tvs st1 =>
        match defaultsInPlay args.length params 0 false [] with
        | none => (.thrown .err, st1)
        | some inPlay =>
          if arityRefused params args.length inPlay then (.thrown .err, st1)
          else
            Arms.onOk (evalList m st1 (newFrame st cenv).2 inPlay) (fun dvs st2 =>
              match bindParams st2 (newFrame st cenv).2 params tvs args dvs with
              | none => (.thrown .err, st2)
              | some (false, st3) => (.thrown .err, st3)
              | some (true, st3) =>
                match eval m st3 (newFrame st cenv).2 body with
                | (.ret v, st4) => (.val v, st4)
                | r => r) Prod.mk) Prod.mk := by
  rw [callVal]
  dsimp only [bindParams, arityRefused]
  -- the same matches on both sides down to the binding of the parameters, which `bindParams` cuts differently
  rcases evalList m (newFrame st cenv).1 (newFrame st cenv).2 (params.filterMap Param.ann) with ⟨tvs | r, st1⟩
  rotate_left
  · rfl
  dsimp only [Arms.onOk]
  congr 1
  funext inPlay
  congr 1
  rcases evalList m st1 (newFrame st cenv).2 inPlay with ⟨dvs | r, st2⟩
  rotate_left
  · rfl
  dsimp only
  cases bindArgs params args dvs <;> try rfl
  dsimp only
  cases st2.frames[(newFrame st cenv).2]? <;> try rfl
  dsimp only
  rcases checkBinds _ _ [] [] with ⟨_ | _, vars, tys⟩ <;> rfl

theorem callVal_closure_bind (m : Nat) (st : State) (env : Nat) (params : List Param) (body : Expr) (cenv : Nat)
    (args : List Val) (st0 : State) (ee : Nat) (tvs : List Val) (st1 : State) (inPlay : List Expr)
    (dvs : List Val) (st2 : State)
    (hs : newFrame st cenv = (st0, ee))
    (h1 : evalList m st0 ee (params.filterMap Param.ann) = (.ok tvs, st1))
    (hd : defaultsInPlay args.length params 0 false [] = some inPlay)
    (ha : arityRefused params args.length inPlay = false)
    (h2 : evalList m st1 ee inPlay = (.ok dvs, st2)) :
    callVal (m + 1) st env (.closure params body cenv) args =
      match bindParams st2 ee params tvs args dvs with
      | none => (.thrown .err, st2)
      | some (false, st3) => (.thrown .err, st3)
      | some (true, st3) =>
        match eval m st3 ee body with
        | (.ret v, st4) => (.val v, st4)
        | r => r := by
  rw [callVal_closure, hs]
  simp only [Arms.onOk, h1, hd, ha, h2, Bool.false_eq_true, ↓reduceIte]

theorem declarePat_eq_bindPat (st : State) (env : Nat) (p : Pat) (v : Val) :
    declarePat (patDepth p + 1) st env p v = bindPat st env p v := rfl

theorem State.assign_some {st : State} {env : Nat} {x : String} {v : Val} {st2 : State}
    (h : st.assign env x v = some st2) :
    ∃ fs, assignVar st.frames (st.frames.size + 1) env x v = some fs ∧ st2 = { st with frames := fs } := by
  simp only [State.assign] at h
  split at h
  · cases h; exact ⟨_, ‹_›, rfl⟩
  · cases h

theorem State.assign_of_none {st : State} {env : Nat} {x : String} {v : Val}
    (h : assignVar st.frames (st.frames.size + 1) env x v = none) : st.assign env x v = none := by
  rw [State.assign, h]

theorem eval_assign (m : Nat) (st : State) (env : Nat) (x : String) (e : Expr) :
    eval (m + 1) st env (.assign x e) =
      Arms.onVal (eval m st env e) (fun v st1 =>
        match st1.assign env x v with
        | some st2 => (.val .null, st2)
        | none => (.thrown .err, st1)) Prod.mk := by
  rw [eval]
  rcases eval m st env e with ⟨r, st1⟩
  cases r <;> try rfl
  dsimp only [Arms.onVal, State.assign]
  cases assignVar _ _ _ _ _ <;> rfl

theorem eval_opassign {m : Nat} {env : Nat} {opn : String} {e : Expr} (hl : st.lookup env x = some old) :
    eval (m + 1) st env (.opassign x opn e) =
      Arms.onVal (eval m st env e) (fun v st1 =>
        match st1.drop env x with
        | none => (.thrown .err, st1)
        | some st2 =>
          match applyOp opn old v with
          | .raise => (.thrown .err, st2)
          | .ok nv =>
            match st2.assign env x nv with
            | some st3 => (.val .null, st3)
            | none => (.thrown .err, st2)) Prod.mk := by
  simp only [eval, hl]
  rcases eval m st env e with ⟨r, st1⟩
  cases r <;> try rfl
  dsimp only [Arms.onVal, State.assign, State.drop]
  cases dropVar _ _ _ _ <;> try rfl
  dsimp only
  cases applyOp _ _ _ <;> try rfl
  dsimp only
  cases assignVar _ _ _ _ _ <;> rfl

theorem eval_freeze (m : Nat) (st : State) (env : Nat) (e : Expr) :
    eval (m + 1) st env (.freeze e) =
      match freezeExpr (scopeLook st env) { bound := [], tab := st.frozenTab } e with
      | .ok (e', fs) => eval m { st with frozenTab := fs.tab } env e'
      | .error _ => (.thrown .err, st) := by
  simp only [eval]
  rfl

theorem evalInto_some (m : Nat) (st : State) (env : Nat) (e : Expr) :
    evalInto (m + 1) st env (some e) =
      Arms.onVal (eval m st env e)
        (fun f s => (match cataOfVal f with | some c => .inl (c, none) | none => .inl (.list [], some f), s))
        fun r s => (.inr r, s) := by
  rw [evalInto]
  rcases eval m st env e with ⟨r, s⟩
  cases r <;> try rfl
  rename_i f
  cases f <;> try rfl
  dsimp only [Arms.onVal, cataOfVal]
  cases cataOfBuiltin _ <;> rfl

end Noulith.Core
