/-
C12 — the precedence levels of `Impl/PatternChain.lean` are the REGISTERED ones.

`Generated/C12Tables.lean` is rewritten from /repo/src/lib.rs and core.rs by `tools/extract_c12.py` on
every `./check C12` run.  `biPrecedence_registered` decides in the kernel that, for every operator
the operator patterns of this property use, the level and associativity written by hand in
`biPrecedence` are those of the registration (explicit precedence if one is given, otherwise
`default_precedence` of the registered name through the character table) — a change of a registered
precedence or associativity in the source breaks this obligation instead of leaving the model stale.
-/
import NoulithModel.Impl.PatternChain
import NoulithModel.Generated.C12Tables

namespace Noulith.C12
open Noulith.Chain

/-- the precedence an operator name is registered with, from the generated table -/
def registeredPrecedence (name : String) : Option Precedence :=
  match Gen.registrations.find? (fun r => r.name == name) with
  | some r =>
    some ⟨.fin (match r.explicit with
                | some p => p
                | none => defaultPrecedence Gen.charTable Gen.charDefault r.name),
          if r.rassoc then .right else .left⟩
  | none => none

/-- operator spellings of the builtins an operator pattern can be headed by (the ones the
differential run writes) -/
def operatorNames : List (String × Bi) := [
  ("+", .plus), ("-", .minus), ("*", .times), ("/", .divide),
  ("+.", .append), (".+", .prepend),
  ("<", .cmp [.lt]), ("<=", .cmp [.le]), (">", .cmp [.gt]), (">=", .cmp [.ge]),
  ("==", .cmp [.eq]), ("!=", .cmp [.ne]),
  ("++", .other 4), ("//", .other 5), ("%", .other 5)]

theorem biPrecedence_registered :
    operatorNames.all (fun nb => registeredPrecedence nb.1 == some (biPrecedence nb.2)) = true := by
  decide +kernel

/-- the comparison operators are exactly the builtins that chain with each other in a pattern:
every comparison name is registered as a `ComparisonOperator` (whose `try_chain` merges), the other
operators of the model are not -/
theorem comparison_structs_registered :
    operatorNames.all (fun nb =>
      match Gen.registrations.find? (fun r => r.name == nb.1) with
      | some r => (r.struct == "ComparisonOperator") == (match nb.2 with | .cmp _ => true | _ => false)
      | none => false) = true := by
  decide +kernel

end Noulith.C12
