/-
C17 — the property for lambda bodies that declare and call local functions: `freeze_local_functions_main`
(namespace `C17Closures`).
-/
import NoulithModel.Theorems.C17ClosuresEval

namespace Noulith.C17Closures
open Noulith Noulith.Core Noulith.C17Closed Noulith.C17Frames Noulith.C17Unfreeze
open Noulith.C17Main (plainParams callState callVal_plain)

variable {Fn F : List String} {T : List Val} {look : String → Option Val} {N : Nat → Option String}

def NoFnVars (Fn : List String) (st : State) : Prop :=
  ∀ (i : Nat) (fr : Frame) (f : String), st.frames[i]? = some fr → f ∈ Fn → lookupIn fr.vars f = none

theorem UVars_id (vars : List (String × Val)) :
    (∀ f, f ∈ Fn → lookupIn vars f = none) → UVars Fn N vars = vars := by
  induction vars with
  | nil => intro _; rfl
  | cons kv rest ih =>
    intro h
    obtain ⟨y, v⟩ := kv
    have hy : y ∉ Fn := by
      intro hm
      have := h y hm
      simp [lookupIn] at this
    have hrest : ∀ f, f ∈ Fn → lookupIn rest f = none := by
      intro f hf
      have := h f hf
      have hne : ¬ y = f := fun e => hy (e ▸ hf)
      simpa only [lookupIn, hne, ↓reduceIte] using this
    simp only [UVars, List.map_cons, UVal_data hy, List.cons.injEq, true_and]
    exact ih hrest

theorem US_id {st : State} (h : NoFnVars Fn st) : US Fn N st = st := by
  obtain ⟨fs, o, t⟩ := st
  simp only [US, State.mk.injEq, and_true]
  apply Array.ext_getElem?
  intro i
  rw [USF_get]
  cases hfr : fs[i]? with
  | none => rfl
  | some fr =>
    simp only [Option.map_some, Option.some.injEq, UFrame]
    have := UVars_id (Fn := Fn) (N := N) fr.vars (fun f hf => h i fr f hfr hf)
    rw [this]

theorem noFnVars_callState {st : State} {cenv : Nat} {names : List String} (args : List Val)
    (h : NoFnVars Fn st) (hd : ∀ x, x ∈ names → x ∉ Fn) : NoFnVars Fn (callState st cenv names args) := by
  intro i fr f hfr hf
  rw [C17Main.callState_frames, Array.getElem?_push] at hfr
  split at hfr
  · cases hfr
    exact C17Main.lookupIn_zip_none names args f (fun hm => hd f hm hf)
  · exact h i fr f hfr hf

/-- **Main theorem (bodies with local functions).**  `body'`: the frozen body of a lambda with plain
parameters `names`, in the fragment `okC` (first-order forms, declarations `f := \…` of local functions with
names in `Fn`, calls of them; declared / bound / assigned names disjoint from the names `F` that freeze
resolved); `N`: which name each new table entry stands for, so that `unfz N body'` is the original body.
Take any later store `stU` that sees the freeze-time values of the names in `F` from the closure's scope
`env` and does not itself hold a variable named like one of the local functions.  Then calling the ORIGINAL
lambda gives exactly the result of calling the FROZEN one — equal result — and the final stores differ only
in the bodies of the closures held by the local-function variables (`US`). -/
theorem freeze_local_functions_main (hy : Hyp Fn F T look N) (names : List String) (body' : Expr) (env : Nat)
    (hok : okC Fn F T body' = true) (hdn : dataNames Fn F names = true)
    (stU : State) (env0 fuel : Nat) (args : List Val)
    (hwf : WF stU) (hlt : env < stU.frames.size) (htab : T <+: stU.frozenTab)
    (hag : ∀ x, x ∈ F → lookOf stU env x = look x) (hno : NoFnVars Fn stU) :
    callVal (fuel + 2) stU env0 (.closure (plainParams names) (unfz N body') env) args =
      ((callVal (fuel + 2) stU env0 (.closure (plainParams names) body' env) args).1,
        US Fn N (callVal (fuel + 2) stU env0 (.closure (plainParams names) body' env) args).2) := by
  by_cases hlen : args.length = names.length
  · rw [callVal_plain fuel stU env0 env names (unfz N body') args hlen,
      callVal_plain fuel stU env0 env names body' args hlen]
    have hdFn : ∀ x, x ∈ names → x ∉ Fn := fun x hx => (dataNames_mem hdn hx).1
    have hdF : ∀ x, x ∈ names → x ∉ F := fun x hx => (dataNames_mem hdn hx).2
    -- the invariant holds in the call state, with `n` the call frame
    have hwfC := C17Main.callState_wf names args hwf hlt
    have hszC := C17Main.callState_size stU env names args
    have hpU : C17Preserve.Pre (fun x => lookOf stU env x) [] stU env := ⟨hwf, hlt, fun _ _ => rfl⟩
    have hpC := C17Preserve.pre_clone (bI := names) hpU (C17Main.callState_step stU env names args)
      (fun x hx => absurd hx (by simp)) (fun _ h => h)
    have jC : J Fn F T look stU.frames.size (callState stU env names args) := by
      refine ⟨hwfC, fun e hge hlt' x hx => ?_, fun i fr f v hfr hf hl => ?_, htab⟩
      · have : e = stU.frames.size := Nat.le_antisymm (Nat.le_of_lt_succ (hszC ▸ hlt' :)) hge
        subst this
        rw [← hag x hx]
        exact hpC.agree x (hdF x |> fun h hm => h hm hx)
      · have := noFnVars_callState args hno hdFn i fr f hfr hf
        rw [this] at hl
        exact absurd hl (by simp)
    have hcomm := unfreeze_commutes (n := stU.frames.size) hy (fuel + 1) body' (callState stU env names args)
      stU.frames.size hok jC (Nat.le_refl _) (hszC ▸ Nat.lt_succ_self _)
    rw [US_id (noFnVars_callState args hno hdFn)] at hcomm
    rw [hcomm]
    rcases eval (fuel + 1) (callState stU env names args) stU.frames.size body' with ⟨r, s⟩
    cases r <;> rfl
  · rw [C17Closures.callVal_plain_bad fuel stU env0 env names (unfz N body') args hlen,
      C17Closures.callVal_plain_bad fuel stU env0 env names body' args hlen]
    have hN : NoFnVars Fn (newFrame stU env).1 := by
      intro i fr f hfr hf
      simp only [newFrame, Array.getElem?_push] at hfr
      split at hfr
      · simp only [Option.some.injEq] at hfr; subst hfr; rfl
      · exact hno i fr f hfr hf
    rw [US_id hN]

/-! ## non-vacuity: a recursive local function -/

section Examples

/-- `f := \m -> (if (m <= 0) 0 else m * o + f(m - 1)); [f(a), len([o])]` -/
def fnBody : Expr :=
  .seq [
    .declare (.ident "f") (.lambda [.mk "m" none false none]
      (.ite (.op "<=" (.ident "m") (.int 0)) (.int 0)
        (some (.op "+" (.op "*" (.ident "m") (.ident "o")) (.call (.ident "f") [.op "-" (.ident "m") (.int 1)]))))),
    .list [.call (.ident "f") [.ident "a"], .call (.ident "len") [.list [.ident "o"]]]] false

/-- its frozen form in the scope `o = 5`: three new table entries -/
def fnBody' : Expr :=
  .seq [
    .declare (.ident "f") (.lambda [.mk "m" none false none]
      (.ite (.op "<=" (.ident "m") (.int 0)) (.int 0)
        (some (.op "+" (.op "*" (.ident "m") (.frozen 0)) (.call (.ident "f") [.op "-" (.ident "m") (.int 1)]))))),
    .list [.call (.ident "f") [.ident "a"], .call (.frozen 1) [.list [.frozen 2]]]] false

def exT : List Val := [.int 5, .builtin "len", .int 5]
def exN : Nat → Option String
  | 0 => some "o"
  | 1 => some "len"
  | 2 => some "o"
  | _ => none

example : freezeExpr (lookOf C17Preserve.stO 0) { bound := ["a"], tab := [] } fnBody =
    .ok (fnBody', { bound := ["a", "f"], tab := exT }) := by
  simp [freezeExpr, freezeParams, freezeOpt, freezeList, fnBody, fnBody', exT, lookOf, State.lookup, lookupVar,
    lookupIn, C17Preserve.stO, Pat.idents, Param.name, builtinNames, opNames, typeNames]

example : unfz exN fnBody' = fnBody := rfl
example : okC ["f"] ["o", "len"] exT fnBody' = true := by decide
example : dataNames ["f"] ["o", "len"] ["a"] = true := by decide

theorem exHyp : Hyp ["f"] ["o", "len"] exT (lookOf C17Preserve.stO 0) exN where
  disj := by intro x hx; simp at hx; rcases hx with rfl | rfl <;> simp
  names := by
    intro i x h
    match i, h with
    | 0, h => simp only [exN, Option.some.injEq] at h; subst h; exact ⟨by simp, .int 5, rfl, rfl⟩
    | 1, h => simp only [exN, Option.some.injEq] at h; subst h; exact ⟨by simp, .builtin "len", rfl, rfl⟩
    | 2, h => simp only [exN, Option.some.injEq] at h; subst h; exact ⟨by simp, .int 5, rfl, rfl⟩
    | (k + 3), h => simp [exN] at h

/-- the whole story as one program:
`o := 5; h := freeze \a -> body; g := \a -> body; r1 := h(3); u1 := g(3); o = 99; [r1, u1, h(3), g(3)]` -/
example :
    (runProgram 120 (.seq [
        .declare (.ident "o") (.int 5),
        .declare (.ident "h") (.freeze (.lambda (plainParams ["a"]) fnBody)),
        .declare (.ident "g") (.lambda (plainParams ["a"]) fnBody),
        .declare (.ident "r1") (.call (.ident "h") [.int 3]),
        .declare (.ident "u1") (.call (.ident "g") [.int 3]),
        .assign "o" (.int 99),
        .list [.ident "r1", .ident "u1", .call (.ident "h") [.int 3], .call (.ident "g") [.int 3]]] false)).1
      matches .val (.list [.list [.int 30, .int 1], .list [.int 30, .int 1], .list [.int 30, .int 1],
        .list [.int 594, .int 1]]) := by decide +kernel

/-- the hypotheses of `freeze_local_functions_main` are satisfiable: the store right after the freeze -/
example (fuel : Nat) :
    callVal (fuel + 2) { C17Preserve.stO with frozenTab := exT } 0 (.closure (plainParams ["a"]) fnBody 0) [.int 3] =
      ((callVal (fuel + 2) { C17Preserve.stO with frozenTab := exT } 0 (.closure (plainParams ["a"]) fnBody' 0)
          [.int 3]).1,
        US ["f"] exN (callVal (fuel + 2) { C17Preserve.stO with frozenTab := exT } 0
          (.closure (plainParams ["a"]) fnBody' 0) [.int 3]).2) :=
  freeze_local_functions_main exHyp ["a"] fnBody' 0 (by decide) (by decide)
    { C17Preserve.stO with frozenTab := exT } 0 fuel [.int 3] C17Preserve.wf_stO (by decide) (List.prefix_refl _)
    (fun _ _ => rfl)
    (by
      intro i fr f hfr hf
      have hi : i = 0 := by
        have := getElem?_lt_size hfr
        simp [C17Preserve.stO] at this
        omega
      subst hi
      simp [C17Preserve.stO] at hfr
      subst hfr
      have : f = "f" := by simpa using hf
      subst this
      rfl)

end Examples

end Noulith.C17Closures
