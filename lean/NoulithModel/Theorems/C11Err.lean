/-
C11 — streams driven by a function that may stop (`break`) or raise.

`iterate(x, f)` computes one step ahead, but a `break` / an error of the look-ahead call is only
recorded: the n-th element needs exactly n successful applications of the step function, the
stream ends (or raises) exactly AFTER the last defined element.  For `lazy_map` an error in producing
element k does not affect the elements before k.
-/
import NoulithModel.Theorems.C11Iter

namespace Noulith.C11
open Noulith Noulith.Stream Noulith.StreamSpec

/-- `n` successful applications of the step function -/
def applyN {α : Type} (f : α → FnRes α) : Nat → α → Option α
  | 0, x => some x
  | n + 1, x =>
    match f x with
    | .ok y => applyN f n y
    | _ => none

theorem iterate_dropN {α : Type} (f : α → FnRes α) :
    ∀ (n : Nat) (x y : α), applyN f n x = some y →
      dropN (IterateE.next f) n (.run x) = .run y := by
  intro n
  induction n with
  | zero => intro x y h; simp only [applyN, Option.some.injEq] at h; subst h; rfl
  | succ n ih =>
    intro x y h
    unfold applyN at h
    cases hf : f x with
    | ok x' =>
      rw [hf] at h
      simp only [dropN, IterateE.next, hf]
      exact ih x' y h
    | stop => rw [hf] at h; cases h
    | fail => rw [hf] at h; cases h

theorem iterate_nth_add {α : Type} (f : α → FnRes α) {n : Nat} {x y : α} (h : applyN f n x = some y)
    (i : Nat) : nth (IterateE.next f) (n + i) (.run x) = nth (IterateE.next f) i (.run y) := by
  rw [← nth_dropN, iterate_dropN f n x y h]

/-- **the n-th element of `iterate(x, f)` needs exactly n applications of `f`**: whatever `f` does
on the n-th element itself (continue, `break`, raise), that element is yielded -/
theorem iterate_yields_before_step {α : Type} (f : α → FnRes α) :
    ∀ (n : Nat) (x y : α), applyN f n x = some y →
      nth (IterateE.next f) n (.run x) = some (.ok y) := by
  intro n x y h
  rw [← Nat.add_zero n, iterate_nth_add f h]
  unfold nth
  cases hf : f y <;> simp [IterateE.next, hf]

/-- through the consumer: `s[n]` is that element -/
theorem iterate_index_before_step {α : Type} (f : α → FnRes α) (n : Nat) (x y : α)
    (h : applyN f n x = some y) :
    StrmE.index ⟨IterateE.St α, IterateE.ops f, .run x⟩ (n : Int) = .ok y := by
  have h0 : (0 : Int) ≤ (n : Int) := by omega
  show (defaultIndex (IterateE.next f) (defaultForceE (IterateE.next f) (IterateE.bound f))
    (.run x) (n : Int)).bind StrmE.unItem = .ok y
  unfold defaultIndex
  simp [h0, iterate_yields_before_step f n x y h, R.bind, StrmE.unItem]

/-- **the stream ends exactly after the last defined element** when the step function `break`s -/
theorem iterate_ends_after_stop {α : Type} (f : α → FnRes α) :
    ∀ (n : Nat) (x y : α), applyN f n x = some y → f y = .stop →
      nth (IterateE.next f) (n + 1) (.run x) = none := by
  intro n x y h hstop
  rw [iterate_nth_add f h]
  unfold nth
  simp only [IterateE.next, hstop]
  unfold nth
  simp [IterateE.next]

/-- **… and raises exactly after the last defined element** when the step function raises -/
theorem iterate_raises_after_fail {α : Type} (f : α → FnRes α) :
    ∀ (n : Nat) (x y : α), applyN f n x = some y → f y = .fail →
      nth (IterateE.next f) (n + 1) (.run x) = some .err := by
  intro n x y h hfail
  rw [iterate_nth_add f h]
  unfold nth
  simp only [IterateE.next, hfail]
  unfold nth
  simp [IterateE.next]

/-! ### lazy_map: an error at element k leaves the elements before k alone -/

theorem mapE_prefix {σ β γ : Type} (inner : σ → Option (Item β × σ)) (f : β → FnRes γ) (g : β → γ) :
    ∀ (k : Nat) (s : σ) (vs : List β), vs.length = k →
      takeN inner k s = vs.map Item.ok → (∀ v ∈ vs, f v = .ok (g v)) →
      takeN (mapNextE inner f) k (some s) = (vs.map g).map Item.ok := by
  intro k
  induction k with
  | zero =>
    intro s vs hl _ _
    have : vs = [] := List.eq_nil_of_length_eq_zero hl
    subst this
    rfl
  | succ k ih =>
    intro s vs hl ht hf
    cases vs with
    | nil => simp at hl
    | cons v vs' =>
      simp only [takeN] at ht
      cases hi : inner s with
      | none => rw [hi] at ht; simp at ht
      | some p =>
        rw [hi] at ht
        simp only [List.map_cons, List.cons.injEq] at ht
        obtain ⟨hp1, hp2⟩ := ht
        have hp : p = (Item.ok v, p.2) := by rw [← hp1]
        simp only [takeN, mapNextE, hi]
        rw [hp]
        simp only [hf v (by simp), List.map_cons]
        rw [ih p.2 vs' (by simpa using hl) hp2 (fun u hu => hf u (by simp [hu]))]

/-- the window of a slice that contains only values is returned as it is -/
theorem unItems_ok {β : Type} (l : List β) : StrmE.unItems (l.map Item.ok) = .ok l := by
  induction l with
  | nil => rfl
  | cons x xs ih => simp [StrmE.unItems, ih, R.map, R.bind]

end Noulith.C11
