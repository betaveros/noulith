/-
C08 (continued) — `sort(xs, f)` (`sorted_by`) and `sort_on(xs, f)` (`sorted_on`), with the function
value as a parameter of the model (`f : Val → Out Val`, `f : Val → Val → Out Val`), and the sort
theorem without the reflexivity side condition (`sort_spec_strong`).
-/
import NoulithModel.Theorems.C08

namespace Noulith.C08
open Noulith OrdSpec

/-! ## the sort theorem without the reflexivity side condition -/
section Strong
variable {α : Type} {c : α → α → Option Ordering}

/-- **sort, full statement**: `sorted c l` succeeds iff the list has at most one element or its
elements are pairwise comparable; the result then is the stable sorted permutation -/
theorem sort_spec_strong (hs : SwapLaw c) (ht : TransLaw c) (l : List α) :
    (∀ r, sorted c l = .ok r →
      r.Perm l ∧ (1 < l.length → r.Pairwise (LE c)) ∧
      ∀ w, r.filter (fun y => c y w == some .eq) = l.filter (fun y => c y w == some .eq)) ∧
    (sorted c l = .throw ↔ (1 < l.length ∧ ¬ PwComparable c l)) ∧
    sorted c l ≠ .panic := by
  refine ⟨fun r h => ?_, ?_, ?_⟩
  · obtain ⟨p1, p2, p3⟩ := sorted_ok hs ht l r h
    exact ⟨p1, fun _ => p2, p3⟩
  · rw [sort_raises_iff, ← allComparable_iff]
    simp
  · unfold sorted
    split
    · simp
    · split <;> simp

end Strong

/-! ## pulling a comparison back along a key function -/
section Comap
variable {α β : Type}

def comap (c : β → β → Option Ordering) (g : α → β) (a b : α) : Option Ordering := c (g a) (g b)

theorem comap_swap {c : β → β → Option Ordering} (g : α → β) (h : SwapLaw c) : SwapLaw (comap c g) :=
  fun a b => h (g a) (g b)
theorem comap_trans {c : β → β → Option Ordering} (g : α → β) (h : TransLaw c) : TransLaw (comap c g) :=
  fun a b z o1 o2 h1 h2 hc => h (g a) (g b) (g z) o1 o2 h1 h2 hc

theorem insertFront_map (c : β → β → Option Ordering) (g : α → β) (x : α) (l : List α) :
    (sortWith.insertFront (comap c g) x l).map g = sortWith.insertFront c (g x) (l.map g) := by
  induction l with
  | nil => rfl
  | cons y ys ih =>
    simp only [sortWith.insertFront, List.map_cons]
    have : leOf (comap c g) x y = leOf c (g x) (g y) := rfl
    rw [this]
    split
    · rfl
    · simp [ih]

theorem sortWith_map (c : β → β → Option Ordering) (g : α → β) (l : List α) :
    (sortWith (comap c g) l).map g = sortWith c (l.map g) := by
  induction l with
  | nil => rfl
  | cons x xs ih => simp only [sortWith, List.map_cons, insertFront_map, ih]

theorem allComparable_map (c : β → β → Option Ordering) (g : α → β) (l : List α) :
    allComparable (comap c g) l = allComparable c (l.map g) := by
  induction l with
  | nil => rfl
  | cons x xs ih =>
    simp only [allComparable, List.map_cons, ih, List.all_map]
    rfl

theorem sorted_map (c : β → β → Option Ordering) (g : α → β) (l : List α) :
    (sorted (comap c g) l).map (List.map g) = sorted c (l.map g) := by
  unfold sorted
  simp only [List.length_map, allComparable_map]
  split
  · rfl
  · split
    · simp [Out.map, sortWith_map]
    · rfl

end Comap

/-! ## `sort_on` -/

/-- the key of an element (`null` where `f` raises — never looked at then) -/
def keyOf (f : Val → Out Val) (x : Val) : Val :=
  match f x with
  | .ok k => k
  | _ => .null

theorem mapKeys_ok (f : Val → Out Val) (xs : List Val) (h : ∀ x ∈ xs, ∃ k, f x = .ok k) :
    mapKeys f xs = .ok (xs.map fun x => (keyOf f x, x)) := by
  induction xs with
  | nil => rfl
  | cons x xs ih =>
    obtain ⟨k, hk⟩ := h x (List.mem_cons_self ..)
    simp only [mapKeys, hk, ih (forall_mem_tail h), Out.map, List.map_cons, keyOf]

theorem mapKeys_ok_inv (f : Val → Out Val) (xs : List Val) :
    ∀ w, mapKeys f xs = .ok w → ∀ x ∈ xs, ∃ k, f x = .ok k := by
  induction xs with
  | nil => intro _ _ x hx; cases hx
  | cons y ys ih =>
    intro w h x hx
    simp only [mapKeys] at h
    cases hy : f y with
    | ok k =>
      rcases List.mem_cons.mp hx with rfl | hx'
      · exact ⟨k, hy⟩
      · rw [hy] at h
        cases hm : mapKeys f ys with
        | ok w' => exact ih w' hm x hx'
        | throw => rw [hm] at h; cases h
        | panic => rw [hm] at h; cases h
    | throw => rw [hy] at h; cases h
    | panic => rw [hy] at h; cases h

theorem mapKeys_no_panic (f : Val → Out Val) (hf : ∀ x, f x ≠ .panic) (xs : List Val) :
    mapKeys f xs ≠ .panic := by
  induction xs with
  | nil => simp [mapKeys]
  | cons y ys ih =>
    simp only [mapKeys]
    cases hy : f y with
    | ok k =>
      simp only
      cases hm : mapKeys f ys with
      | ok w => simp [Out.map]
      | throw => simp [Out.map]
      | panic => exact absurd hm ih
    | throw => simp
    | panic => exact absurd hy (hf y)

/-- when `f` succeeds on every element, `sort_on(xs, f)` is the stable sort of `xs` by the
comparison of the keys -/
theorem sortedOn_eq (f : Val → Out Val) (xs : List Val) (h : ∀ x ∈ xs, ∃ k, f x = .ok k) :
    sortedOn ncmp f xs = sorted (comap pc (keyOf f)) xs := by
  unfold sortedOn
  rw [mapKeys_ok f xs h]
  simp only [Out.bind]
  have hc : (fun p q : Val × Val => optOfOut (ncmp p.1 q.1)) = comap pc (Prod.fst : Val × Val → Val) := by
    funext p q; exact (pc_def p.1 q.1).symm
  rw [hc]
  have hg : comap pc (keyOf f) = comap (comap pc (Prod.fst : Val × Val → Val)) (fun x => (keyOf f x, x)) := rfl
  rw [hg, ← sorted_map]
  cases sorted (comap (comap pc Prod.fst) fun x => (keyOf f x, x)) xs with
  | ok r => simp [Out.map, List.map_map, Function.comp_def]
  | throw => rfl
  | panic => rfl

/-- **sort_on**: whenever `sort_on(xs, f)` returns, `f` succeeded on every element and the result
is a permutation of `xs`, ascending in the keys, with equal-keyed elements in input order -/
theorem sort_on_sorted_perm_stable (f : Val → Out Val) (xs r : List Val) (h : sortedOn ncmp f xs = .ok r) :
    (∀ x ∈ xs, ∃ k, f x = .ok k) ∧ r.Perm xs ∧
    (1 < xs.length → r.Pairwise (fun a b => LE pc (keyOf f a) (keyOf f b))) ∧
    ∀ w, r.filter (fun y => pc (keyOf f y) (keyOf f w) == some .eq) =
         xs.filter (fun y => pc (keyOf f y) (keyOf f w) == some .eq) := by
  have hall : ∀ x ∈ xs, ∃ k, f x = .ok k := by
    unfold sortedOn at h
    cases hm : mapKeys f xs with
    | ok w => exact mapKeys_ok_inv f xs w hm
    | throw => rw [hm] at h; cases h
    | panic => rw [hm] at h; cases h
  rw [sortedOn_eq f xs hall] at h
  obtain ⟨p1, p2, p3⟩ := sorted_ok (comap_swap (keyOf f) pc_swap) (comap_trans (keyOf f) pc_trans) xs r h
  exact ⟨hall, p1, fun _ => p2, p3⟩

/-- **sort_on raises** exactly when `f` raises on some element or two keys do not compare -/
theorem sort_on_raises_iff (f : Val → Out Val) (hf : ∀ x, f x ≠ .panic) (xs : List Val) :
    sortedOn ncmp f xs = .throw ↔
      ((∃ x ∈ xs, f x = .throw) ∨ (1 < xs.length ∧ ¬ PwComparable (comap pc (keyOf f)) xs)) := by
  by_cases hall : ∀ x ∈ xs, ∃ k, f x = .ok k
  · rw [sortedOn_eq f xs hall]
    obtain ⟨_, h2, _⟩ := sort_spec_strong (comap_swap (keyOf f) pc_swap) (comap_trans (keyOf f) pc_trans) xs
    rw [h2]
    constructor
    · intro h; exact Or.inr h
    · rintro (⟨x, hx, hfx⟩ | h)
      · obtain ⟨k, hk⟩ := hall x hx; rw [hk] at hfx; cases hfx
      · exact h
  · -- `f` fails somewhere: the first pass raises, and as `f` never panics some element raises
    have hthrow : sortedOn ncmp f xs = .throw := by
      unfold sortedOn
      cases hm : mapKeys f xs with
      | ok w => exact absurd (mapKeys_ok_inv f xs w hm) hall
      | throw => rfl
      | panic => exact absurd hm (mapKeys_no_panic f hf xs)
    refine ⟨fun _ => Or.inl (Classical.byContradiction fun hno => hall fun x hx => ?_), fun _ => hthrow⟩
    cases hfx : f x with
    | ok k => exact ⟨k, rfl⟩
    | throw => exact absurd ⟨x, hx, hfx⟩ hno
    | panic => exact absurd hfx (hf x)

/-! ## `sort(xs, f)` (`sorted_by`) -/

/-- **sort_by**: for a comparator function `f` that is a consistent three-way comparison on the
values (`f(b,a)` is the negation of `f(a,b)`; transitive) the result is the stable sorted
permutation; `sort(xs, f)` raises exactly when (≥ 2 elements and) for some pair `f` raises or
returns something that does not compare with 0; it never panics -/
theorem sort_by_sorted_perm_stable (f : Val → Val → Out Val)
    (hs : SwapLaw (byCmp ncmp f)) (ht : TransLaw (byCmp ncmp f)) (xs : List Val) :
    (∀ r, sortedBy ncmp f xs = .ok r →
      r.Perm xs ∧ (1 < xs.length → r.Pairwise (LE (byCmp ncmp f))) ∧
      ∀ w, r.filter (fun y => byCmp ncmp f y w == some .eq) = xs.filter (fun y => byCmp ncmp f y w == some .eq)) ∧
    (sortedBy ncmp f xs = .throw ↔ (1 < xs.length ∧ ¬ PwComparable (byCmp ncmp f) xs)) ∧
    sortedBy ncmp f xs ≠ .panic :=
  sort_spec_strong hs ht xs

/-- a comparator that raises (or returns a non-number) on a pair makes that pair incomparable -/
theorem byCmp_none_of_raise (f : Val → Val → Out Val) (a b : Val) (h : ∀ k, f a b ≠ .ok k) :
    byCmp ncmp f a b = none := by
  unfold byCmp
  cases hf : f a b with
  | ok k => exact absurd hf (h k)
  | throw => rfl
  | panic => rfl

theorem ncmp_ordVal (o : Ordering) : ncmp (ordVal o) zeroVal = .ok o := by
  cases o <;> decide +kernel

/-- a comparator that answers with the sign `ordVal (g o)` of a comparison `r` compares as `g` of `r` -/
theorem byCmp_ordVal {f : Val → Val → Out Val} {a b : Val} (r : Out Ordering) (g : Ordering → Ordering)
    (h : f a b = r.map fun o => ordVal (g o)) : byCmp ncmp f a b = (optOfOut r).map g := by
  unfold byCmp
  rw [h]
  cases r with
  | ok o => simp only [Out.map, ncmp_ordVal, optOfOut, Option.map]
  | throw => rfl
  | panic => rfl

theorem byCmp_spaceship : byCmp ncmp (cmpFn ncmp "cmp") = pc := by
  funext a b
  rw [byCmp_ordVal (ncmp a b) id rfl, ← pc_def, Option.map_id, id]

theorem byCmp_rev : byCmp ncmp (cmpFn ncmp "rcmp") = fun a b => pc b a := by
  funext a b
  rw [byCmp_ordVal (ncmp b a) id rfl, ← pc_def, Option.map_id, id]

theorem byCmp_revop : byCmp ncmp (cmpFn ncmp "revop") = fun a b => pc b a := by
  funext a b
  rw [byCmp_ordVal (ncmp a b) Ordering.swap rfl, ← pc_def, pc_swap a b]

theorem flip_swap {α : Type} {c : α → α → Option Ordering} (h : SwapLaw c) : SwapLaw (fun a b => c b a) :=
  fun a b => h b a

theorem flip_trans {α : Type} {c : α → α → Option Ordering} (h : TransLaw c) : TransLaw (fun a b => c b a) := by
  intro a b z o1 o2 h1 h2 hc
  -- under the compatibility condition the two answers commute in `then`
  have comm : ∀ p q : Ordering, (p = .eq ∨ q = .eq ∨ p = q) → q.then p = p.then q := by decide
  have := h z b a o2 o1 h2 h1 (hc.elim (fun e => .inr (.inl e)) (·.elim .inl (fun e => .inr (.inr e.symm))))
  show c z a = some (o1.then o2)
  rw [this, comm o1 o2 hc]

/-- `sort(xs, <=>)` is `sort` by the ordinary comparison; with the reversed comparator
(`\\a, b -> b <=> a` or `>=<`) the result is the stable DEscending order -/
theorem sort_by_spaceship (xs : List Val) :
    sortedBy ncmp (cmpFn ncmp "cmp") xs = sorted pc xs ∧
    sortedBy ncmp (cmpFn ncmp "rcmp") xs = sorted (fun a b => pc b a) xs ∧
    sortedBy ncmp (cmpFn ncmp "revop") xs = sorted (fun a b => pc b a) xs := by
  unfold sortedBy
  rw [byCmp_spaceship, byCmp_rev, byCmp_revop]
  exact ⟨rfl, rfl, rfl⟩

theorem sort_by_desc (xs r : List Val) (h : sortedBy ncmp (cmpFn ncmp "rcmp") xs = .ok r) :
    r.Perm xs ∧ (1 < xs.length → r.Pairwise (fun a b => LE pc b a)) := by
  rw [(sort_by_spaceship xs).2.1] at h
  obtain ⟨p1, p2, _⟩ := sorted_ok (flip_swap pc_swap) (flip_trans pc_trans) xs r h
  exact ⟨p1, fun _ => p2⟩

/-! non-vacuity -/
example : (sortedOn ncmp (keyFn "abs") [.num (.int (.small 3)), .num (.int (.small (-5))), .num (.rat (1/2))]).map
    (List.map numOf) = .ok [some (.rat (1/2)), some (.int (.small 3)), some (.int (.small (-5)))] := by decide +kernel
example : (sortedBy ncmp (cmpFn ncmp "rcmp") [.num (.int (.small 1)), .num (.float (.fin 5 (-1))), .num (.int (.small 2))]).map
    (List.map numOf) = .ok [some (.float (.fin 5 (-1))), some (.int (.small 2)), some (.int (.small 1))] := by decide +kernel
example : (sortedOn ncmp (keyFn "first") [.list [.num (.int (.small 1))], .list []]).map (List.map numOf) = .throw := by
  decide +kernel
example : (sortedBy ncmp (cmpFn ncmp "str") [.null, .null]).map (List.map numOf) = .throw := by decide +kernel

end Noulith.C08
