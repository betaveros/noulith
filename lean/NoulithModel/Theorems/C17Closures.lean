/-
C17 — preservation for bodies that declare LOCAL FUNCTIONS and call them (recursion
included).  Fragment (`okC`, checked on the frozen code `e'`): the first-order forms of `localOk`, plus
`f := \x1, …, xn -> body` (plain parameters, `f` one of the function names `Fn`) and calls `f(args)`;
closures live ONLY in function-name variables: a lambda occurs only as the right-hand side of such a
declaration, a function name occurs only as a callee.  Static scope condition, uniform for the whole code:
no name that is declared, bound by a pattern or a parameter, or assigned is one of the names `F` that freeze
resolved (this single condition excludes the known findings F20, F27, F30, F32, which all need a name that
is both local somewhere and free somewhere).

`unfreeze_commutes` (Theorems/C17ClosuresEval.lean, with the induction over the fuel): evaluating the frozen code
`e'` in a store `st` and evaluating the un-frozen code `unfz N e'` in the store `US st` (the same store, the bodies
of the closures in function-name variables un-frozen) give the same result — equal values — and stores related by
`US` again.  Here: the fragment, the state invariant `J` with the store operations that keep it, `US` with `J` as an
instance `usLogic` of the rules of Theorems/C17Logic.lean, the statements (`Pres`).
-/
import NoulithModel.Theorems.C17Unfreeze
import NoulithModel.Theorems.C17Call
import NoulithModel.Theorems.C17Local
import NoulithModel.Theorems.C17Logic
import NoulithModel.Theorems.C17Preserve

namespace Noulith.C17Closures
open Noulith Noulith.Core Noulith.C17Closed Noulith.C17Frames Noulith.C17Unfreeze Noulith.C17Sim
open Noulith.C17Insensitive (builtinAt localInto)
open Noulith.C17Main (plainParams callState callFrame)

def dataName (Fn F : List String) (x : String) : Bool := !Fn.contains x && !F.contains x
def dataNames (Fn F : List String) (xs : List String) : Bool := xs.all (dataName Fn F)

def isPlain : Param → Bool
  | .mk _ none false none => true
  | _ => false

mutual
  def okC (Fn F : List String) (T : List Val) : Expr → Bool
    | .null => true
    | .int _ => true
    | .str _ => true
    | .cont _ => true
    | .frozen _ => true
    | .ident x => dataName Fn F x
    | .list xs => okCL Fn F T xs
    | .op _ a b => okC Fn F T a && okC Fn F T b
    | .index a b => okC Fn F T a && okC Fn F T b
    | .call (.frozen i) args => builtinAt T i && okCL Fn F T args
    | .call (.ident f) args => Fn.contains f && okCL Fn F T args
    | .and_ a b => okC Fn F T a && okC Fn F T b
    | .or_ a b => okC Fn F T a && okC Fn F T b
    | .coalesce a b => okC Fn F T a && okC Fn F T b
    | .seq xs _ => okCL Fn F T xs
    | .ite c t e => okC Fn F T c && okC Fn F T t && okCO Fn F T e
    | .while_ c b => okC Fn F T c && okC Fn F T b
    | .for_ its body => okCI Fn F T its && okCB Fn F T body
    | .declare (.ident f) (.lambda ps body) =>
      Fn.contains f && !F.contains f && ps.all isPlain && dataNames Fn F (ps.map Param.name) && okC Fn F T body
    | .declare p rhs => dataNames Fn F (Pat.idents p) && okC Fn F T rhs
    | .assign x rhs => dataName Fn F x && okC Fn F T rhs
    | .opassign x _ rhs => dataName Fn F x && okC Fn F T rhs
    | .brk _ e => okCO Fn F T e
    | .ret e => okCO Fn F T e
    | .throw_ e => okC Fn F T e
    | .try_ b p c => okC Fn F T b && dataNames Fn F (Pat.idents p) && okC Fn F T c
    | .switch_ sc arms => okC Fn F T sc && okCA Fn F T arms
    | _ => false
  def okCL (Fn F : List String) (T : List Val) : List Expr → Bool
    | [] => true
    | x :: xs => okC Fn F T x && okCL Fn F T xs
  def okCO (Fn F : List String) (T : List Val) : Option Expr → Bool
    | none => true
    | some x => okC Fn F T x
  def okCI (Fn F : List String) (T : List Val) : List ForIt → Bool
    | [] => true
    | .guard g :: rest => okC Fn F T g && okCI Fn F T rest
    | .iter _ p e :: rest => dataNames Fn F (Pat.idents p) && okC Fn F T e && okCI Fn F T rest
  def okCB (Fn F : List String) (T : List Val) : ForBody → Bool
    | .exec e => okC Fn F T e
    | .yield e into => okC Fn F T e && localInto T into
    | .yieldItem k v into => okC Fn F T k && okC Fn F T v && localInto T into
  def okCA (Fn F : List String) (T : List Val) : List SwitchArm → Bool
    | [] => true
    | .mk p body :: rest => dataNames Fn F (Pat.idents p) && okC Fn F T body && okCA Fn F T rest
end

/-! ## invariants -/

variable (Fn F : List String) (T : List Val) (look : String → Option Val) (n : Nat) (N : Nat → Option String)

/-- a closure made by the code under consideration: plain data parameters, a body in the fragment, and a
defining scope among the frames created since frame `n` -/
def GoodClos (sz : Nat) (v : Val) : Prop :=
  ∃ (names : List String) (b : Expr) (cenv : Nat), v = .closure (plainParams names) b cenv ∧
    okC Fn F T b = true ∧ dataNames Fn F names = true ∧ n ≤ cenv ∧ cenv < sz

/-- the state invariant of the simulation (on the frozen-code run): every scope created since frame `n`
sees the freeze-time values of the names freeze resolved, and every function-name variable holds a good
closure -/
structure J (st : State) : Prop where
  wf : WF st
  agree : ∀ e, n ≤ e → e < st.frames.size → ∀ x, x ∈ F → lookOf st e x = look x
  fnInv : ∀ (i : Nat) (fr : Frame) (f : String) (v : Val), st.frames[i]? = some fr → f ∈ Fn →
    lookupIn fr.vars f = some v → GoodClos Fn F T n st.frames.size v
  tab : T <+: st.frozenTab

/-- `env` is a scope created since frame `n` -/
structure JAt (st : State) (env : Nat) : Prop where
  inv : J Fn F T look n st
  ge : n ≤ env
  lt : env < st.frames.size

def Q (st st1 : State) : Prop := J Fn F T look n st1 ∧ st.frames.size ≤ st1.frames.size

/-- the global hypotheses: function names and resolved names are different names, and `N` names only
resolved names whose table entry holds the freeze-time value -/
structure Hyp : Prop where
  disj : ∀ x, x ∈ F → x ∉ Fn
  names : ∀ i x, N i = some x → x ∈ F ∧ ∃ v, T[i]? = some v ∧ look x = some v

variable {Fn F T look n N}

theorem GoodClos.mono {sz sz' : Nat} {v : Val} (h : GoodClos Fn F T n sz v) (hs : sz ≤ sz') :
    GoodClos Fn F T n sz' v := by
  obtain ⟨names, b, cenv, rfl, h1, h2, h3, h4⟩ := h
  exact ⟨names, b, cenv, rfl, h1, h2, h3, Nat.lt_of_lt_of_le h4 hs⟩

theorem lookOf_same {st st' : State} {e : Nat} {x : String} (hwf : WF st) (hlt : e < st.frames.size)
    (hlt' : e < st'.frames.size) (hs : SameAt x (e + 1) st.frames st'.frames) : lookOf st' e x = lookOf st e x :=
  C17Preserve.lookOf_congr (lookup_same hwf hlt hlt' hs)

theorem J.of_same {st st' : State} (h : J Fn F T look n st) (hwf' : WF st')
    (hsz : st'.frames.size = st.frames.size) (htab : st'.frozenTab = st.frozenTab)
    (hF : ∀ x, x ∈ F → ∀ k, SameAt x k st.frames st'.frames)
    (hFn : ∀ f, f ∈ Fn → ∀ k, SameAt f k st.frames st'.frames) : J Fn F T look n st' := by
  refine ⟨hwf', fun e hge hlt x hx => ?_, fun i fr f v hfr hf hl => ?_, by rw [htab]; exact h.tab⟩
  · rw [hsz] at hlt
    rw [lookOf_same h.wf hlt (by rw [hsz]; exact hlt) (hF x hx _)]
    exact h.agree e hge hlt x hx
  · have hi : i < st.frames.size := by rw [← hsz]; exact getElem?_lt_size hfr
    have hs := hFn f hf (i + 1) i (Nat.lt_succ_self _)
    rw [hfr] at hs
    cases hfr0 : st.frames[i]? with
    | none => rw [hfr0] at hs; simp [SameFrame] at hs
    | some fr0 =>
      rw [hfr0] at hs
      simp only [SameFrame] at hs
      rw [hsz]
      exact h.fnInv i fr0 f v hfr0 hf (by rw [← hs.2]; exact hl)

theorem dataNames_mem {xs : List String} (h : dataNames Fn F xs = true) {x : String} (hx : x ∈ xs) :
    x ∉ Fn ∧ x ∉ F := by
  simp only [dataNames, List.all_eq_true] at h
  have := h x hx
  simp only [dataName, Bool.and_eq_true, Bool.not_eq_true', List.contains_eq_mem, decide_eq_false_iff_not] at this
  exact this

theorem dataName_not_mem {x : String} (h : dataName Fn F x = true) : x ∉ Fn ∧ x ∉ F := by
  simpa only [dataName, Bool.and_eq_true, Bool.not_eq_true', List.contains_eq_mem, decide_eq_false_iff_not] using h

theorem J.frameStep {st st' : State} {env : Nat} {Nm : List String} (h : J Fn F T look n st)
    (hfs : FrameStep st.frames st'.frames env Nm) (htab : st'.frozenTab = st.frozenTab)
    (hd : dataNames Fn F Nm = true) : J Fn F T look n st' :=
  h.of_same (hfs.wf h.wf) hfs.size htab
    (fun x hx k => hfs.other x (fun hm => (dataNames_mem hd hm).2 hx) k)
    (fun f hf k => hfs.other f (fun hm => (dataNames_mem hd hm).1 hf) k)

theorem J.declare {st : State} {env : Nat} {p : Pat} {v : Val} {fuel : Nat} (h : J Fn F T look n st)
    (hd : dataNames Fn F (Pat.idents p) = true) : J Fn F T look n (declarePat fuel st env p v).2 := by
  obtain ⟨hfs, htab, _, _⟩ := declarePat_step fuel st env p v
  exact h.frameStep hfs htab hd

theorem J.write {st : State} {env : Nat} {x : String} {fs : Array Frame} (h : J Fn F T look n st)
    (ws : WriteStep st.frames fs env x) (hx : x ∉ Fn ∧ x ∉ F) : J Fn F T look n { st with frames := fs } :=
  h.of_same ws.wf ws.size rfl (fun y hy k => ws.other y (fun e => hx.2 (e ▸ hy)) k)
    (fun f hf k => ws.other f (fun e => hx.1 (e ▸ hf)) k)

theorem J.frames_eq {st st' : State} (h : J Fn F T look n st) (hf : st'.frames = st.frames)
    (ht : st'.frozenTab = st.frozenTab) : J Fn F T look n st' :=
  h.of_same (by unfold WF; rw [hf]; exact h.wf) (by rw [hf]) ht (fun _ _ _ => by rw [hf]; exact SameAt.refl _ _ _)
    (fun _ _ _ => by rw [hf]; exact SameAt.refl _ _ _)

theorem J.fresh {st : State} {p : Nat} (h : J Fn F T look n st) (hge : n ≤ p) (hlt : p < st.frames.size) :
    J Fn F T look n (newFrame st p).1 := by
  have hwfN : WFf (newFrame st p).1.frames := push_wf st.frames h.wf [] p hlt []
  have hsz : (newFrame st p).1.frames.size = st.frames.size + 1 := Array.size_push _
  refine ⟨hwfN, fun e hge' hlt' x hx => ?_, fun i fr f v hfr hf hl => ?_, h.tab⟩
  · rcases Nat.lt_or_ge e st.frames.size with he | he
    · rw [lookOf_same h.wf he hlt' (push_sameAt x st.frames _ _ he)]
      exact h.agree e hge' he x hx
    · have : e = st.frames.size := Nat.le_antisymm (Nat.le_of_lt_succ (hsz ▸ hlt' :)) he
      subst this
      rw [← h.agree p hge hlt x hx]
      apply C17Preserve.lookOf_congr
      unfold State.lookup
      exact lookup_new_frame x st.frames h.wf p hlt _ _ (Nat.lt_succ_of_lt hlt)
        (hsz ▸ Nat.lt_succ_of_lt (Nat.lt_succ_self _))
  · rw [hsz]
    simp only [newFrame, Array.getElem?_push] at hfr
    split at hfr
    · simp only [Option.some.injEq] at hfr; subst hfr; simp [lookupIn] at hl
    · exact (h.fnInv i fr f v hfr hf hl).mono (Nat.le_succ _)

theorem J.declareFn {st : State} {env : Nat} {f : String} {v : Val} {fs : Array Frame} (h : J Fn F T look n st)
    (hd : declareVar st.frames env f v = some fs) (hf : f ∈ Fn) (hfF : f ∉ F)
    (hv : GoodClos Fn F T n st.frames.size v) : J Fn F T look n { st with frames := fs } := by
  obtain ⟨fr, hfr, hl, hset⟩ := declareVar_spec hd
  obtain ⟨hfs, _⟩ := declareVar_step hd
  refine ⟨hfs.wf h.wf, fun e hge hlt' x hx => ?_, fun i fr' g w hfr' hg hlw => ?_, h.tab⟩
  · have hlt0 : e < st.frames.size := hfs.size ▸ hlt'
    have hne : x ∉ [f] := fun hm => hfF (List.mem_singleton.mp hm ▸ hx)
    rw [lookOf_same h.wf hlt0 hlt' (hfs.other x hne _)]
    exact h.agree e hge hlt0 x hx
  · show GoodClos Fn F T n fs.size w
    rw [hfs.size]
    change fs[i]? = some fr' at hfr'
    rw [hset, Array.getElem?_setIfInBounds] at hfr'
    by_cases hie : env = i
    · -- the frame of the declaration: `f` holds `v`, the other names what they held
      subst hie
      rw [if_pos rfl, if_pos (getElem?_lt_size hfr)] at hfr'
      cases hfr'
      by_cases hgf : g = f
      · subst hgf
        rw [C05.lookupIn_append_new _ _ _ hl] at hlw
        cases hlw
        exact hv
      · rw [C05.lookupIn_append_other _ _ _ _ hgf] at hlw
        exact h.fnInv env fr g w hfr hg hlw
    · rw [if_neg hie] at hfr'
      exact h.fnInv i fr' g w hfr' hg hlw

theorem J.call {st : State} {cenv : Nat} {names : List String} (args : List Val) (h : J Fn F T look n st)
    (hge : n ≤ cenv) (hlt : cenv < st.frames.size) (hd : dataNames Fn F names = true) :
    J Fn F T look n (callState st cenv names args) :=
  (h.fresh hge hlt).frameStep (C17Main.callState_step st cenv names args) rfl hd

theorem Q.refl {st : State} (h : J Fn F T look n st) : Q Fn F T look n st st := ⟨h, Nat.le_refl _⟩

theorem Q.trans {a b c : State} (h1 : Q Fn F T look n a b) (h2 : Q Fn F T look n b c) : Q Fn F T look n a c :=
  ⟨h2.1, Nat.le_trans h1.2 h2.2⟩

theorem Q.at {a b : State} {env : Nat} (h : Q Fn F T look n a b) (g : JAt Fn F T look n a env) :
    JAt Fn F T look n b env := ⟨h.1, g.ge, Nat.lt_of_lt_of_le g.lt h.2⟩

theorem Q.write {st : State} {env : Nat} {x : String} {fs : Array Frame} (g : JAt Fn F T look n st env)
    (hx : dataName Fn F x = true) (ws : WriteStep st.frames fs env x) : Q Fn F T look n st { st with frames := fs } :=
  ⟨g.inv.write ws (dataName_not_mem hx), Nat.le_of_eq ws.size.symm⟩

theorem JAt.fresh {st : State} {env : Nat} (g : JAt Fn F T look n st env) :
    Q Fn F T look n st (newFrame st env).1 ∧ JAt Fn F T look n (newFrame st env).1 (newFrame st env).2 := by
  have hsz : (newFrame st env).1.frames.size = st.frames.size + 1 := by simp [newFrame]
  have hee : (newFrame st env).2 = st.frames.size := rfl
  have jN := g.inv.fresh g.ge g.lt
  exact ⟨⟨jN, by rw [hsz]; exact Nat.le_succ _⟩,
    jN, by rw [hee]; exact Nat.le_trans g.ge (Nat.le_of_lt g.lt), by rw [hsz, hee]; exact Nat.lt_succ_self _⟩

theorem lookup_U_data (st : State) (env : Nat) {y : String} (hy : y ∉ Fn) :
    (US Fn N st).lookup env y = st.lookup env y := by
  rw [lookup_U]
  cases st.lookup env y with
  | none => rfl
  | some v => simp only [Option.map_some, UVal_data hy]

/-! ## calling a closure with plain parameters, all cases -/

theorem callVal_plain_one (st : State) (env cenv : Nat) (names : List String) (body : Expr) (args : List Val) :
    callVal 1 st env (.closure (plainParams names) body cenv) args = (.fuelOut, (newFrame st cenv).1) := by
  simp only [callVal, C17Main.plain_ann, evalList]

theorem callVal_plain_bad (fuel : Nat) (st : State) (env cenv : Nat) (names : List String) (body : Expr)
    (args : List Val) (hlen : args.length ≠ names.length) :
    callVal (fuel + 2) st env (.closure (plainParams names) body cenv) args = (.thrown .err, (newFrame st cenv).1) := by
  simp only [callVal, C17Main.plain_ann, evalList, C17Main.plain_defaults, C17Main.plain_any_splat,
    C17Main.plain_length, List.length_nil, Nat.add_zero, Bool.not_false, Bool.true_and]
  have : (names.length != args.length) = true := by
    simp only [bne_iff_ne, ne_eq]; exact fun h => hlen h.symm
  simp only [this, ↓reduceIte]

variable (Fn N) in
theorem callState_U (st : State) (cenv : Nat) (names : List String) (args : List Val)
    (hd : ∀ x, x ∈ names → x ∉ Fn) :
    callState (US Fn N st) cenv names args = US Fn N (callState st cenv names args) := by
  have hz : UVars Fn N (names.zip args) = names.zip args := by
    unfold UVars
    have : ∀ yv ∈ names.zip args, (yv.1, UVal Fn N yv.1 yv.2) = yv := by
      intro yv hyv
      have hm : yv.1 ∈ names := (List.of_mem_zip hyv).1
      rw [UVal_data (hd _ hm)]
    conv => rhs; rw [← List.map_id (names.zip args)]
    exact List.map_congr_left this
  simp only [callState, US, USF, Array.size_map]
  congr 1
  rw [← USF, ← USF, USF_set]
  simp only [USF, Array.map_push, UFrame, callFrame, UVars, List.map_nil]
  congr 1
  simp only [Frame.mk.injEq, and_true]
  exact hz.symm

/-! ## the statements -/

variable (Fn F T look n N)

/-- before a step `JAt`, a step is a `Q`; the checker carries nothing along (`Unit`): the patterns that may be bound
and the variables that may be read and written are those of data names -/
def usLogic : Logic (US Fn N) Unit where
  Pre _ := JAt Fn F T look n
  Step := Q Fn F T look n
  PatOk _ p _ := dataNames Fn F (Pat.idents p) = true
  Var _ x := dataName Fn F x = true
  f := USF Fn N
  frames _ := rfl
  still g hf ht := ⟨g.inv.frames_eq hf ht, by rw [hf]; exact Nat.le_refl _⟩
  trans := Q.trans
  keep g h := h.at g
  fresh g := ⟨newFrame_U _ _, g.fresh⟩
  bind := fun {_ _ st env p} d v g hp =>
    have q : Q Fn F T look n st (declarePat d st env p v).2 :=
      ⟨g.inv.declare hp, Nat.le_of_eq (declarePat_step d st env p v).1.size.symm⟩
    ⟨declarePat_U env d st p v fun x hx => (dataNames_mem hp hx).1, q, fun _ => q.at g⟩
  lookup _ hx := lookup_U_data _ _ (dataName_not_mem hx).1
  wf g := g.inv.wf
  assign := fun {_ st env x} v g hx => by
    have ha := assignVar_U (Fn := Fn) (N := N) st.frames x v (st.frames.size + 1) env
    rw [UVal_data (dataName_not_mem hx).1] at ha
    rw [USF_size]; exact ha
  drop := fun {_ st env x} _ _ => by rw [USF_size]; exact dropVar_U st.frames x _ env
  write g hx ws := Q.write g hx ws

/-! One statement per evaluator function: the un-frozen code run from `US st` gives the outcome the frozen code
gives from `st`, with `US` applied to the store; `Q` holds, and `JAt` again after a normal end. -/

/-- calling a good closure: the frozen-body closure in the store `st`, the un-frozen one in `US st` -/
def CallClos (k : Nat) : Prop :=
  ∀ {v : Val} {st : State} (args : List Val) (env0 : Nat), GoodClos Fn F T n st.frames.size v →
    J Fn F T look n st →
    Sim (US Fn N) (fun _ s => Q Fn F T look n st s) (callVal k (US Fn N st) env0 (Uclos N v) args)
      (callVal k st env0 v args)

structure Pres (k : Nat) : Prop where
  ev : ∀ {e : Expr}, okC Fn F T e = true → (usLogic Fn F T look n N).toP.Ev k () (unfz N e) e ()
  evList : ∀ {es : List Expr}, okCL Fn F T es = true →
    (usLogic Fn F T look n N).toP.EvList k () (unfzL N es) es ()
  evSeq : ∀ {es : List Expr}, okCL Fn F T es = true → (usLogic Fn F T look n N).toP.EvSeq k () (unfzL N es) es ()
  evSwitch : ∀ {arms : List SwitchArm}, okCA Fn F T arms = true →
    (usLogic Fn F T look n N).toP.EvSwitch k () (unfzA N arms) arms
  evWhile : ∀ {c b : Expr}, okC Fn F T c = true → okC Fn F T b = true →
    (usLogic Fn F T look n N).toP.EvWhile k () (unfz N c) (unfz N b) c b
  evFor : ∀ {its : List ForIt} {body : ForBody}, okCI Fn F T its = true → okCB Fn F T body = true →
    (usLogic Fn F T look n N).toP.EvFor k () (unfzI N its) (unfzB N body) its body ()
  fItems : ∀ {p : Pat} {rest : List ForIt} {body : ForBody}, dataNames Fn F (Pat.idents p) = true →
    okCI Fn F T rest = true → okCB Fn F T body = true →
    (usLogic Fn F T look n N).toP.EvItems k () p (unfzI N rest) (unfzB N body) rest body
  fBody : ∀ {body : ForBody}, okCB Fn F T body = true →
    (usLogic Fn F T look n N).toP.EvBody k () (unfzB N body) body ()
  call : CallClos Fn F T look n N k

variable {Fn F T look n N}

theorem Pres.zero : Pres Fn F T look n N 0 where
  ev _ := PLogic.Ev.zero trivial
  evList _ := PLogic.EvList.zero trivial
  evSeq _ := PLogic.EvSeq.zero trivial
  evSwitch _ := PLogic.EvSwitch.zero
  evWhile _ _ := PLogic.EvWhile.zero
  evFor _ _ := PLogic.EvFor.zero trivial
  fItems _ _ _ := PLogic.EvItems.zero
  fBody _ := PLogic.EvBody.zero trivial
  call := fun _ _ _ j => by
    simp only [callVal]
    exact ⟨rfl, Q.refl j⟩

end Noulith.C17Closures
