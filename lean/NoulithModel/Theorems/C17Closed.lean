/-
C17 — the Impl model of `freeze` (Impl/Freeze.lean) against an independently written walk of the syntax.  One induction
along that walk (`freeze_outcome_all`, one case per syntactic form, motive `Outcome`) gives: a freeze fails iff the walk
is `Stuck`; it only ever adds bound names and only ever appends to the table; frozen code is CLOSED — re-freezing it
(same bound set, ANY lookup function, any table) changes nothing and resolves nothing, so nothing is looked up later
("free variables are resolved once, at freeze time").  Then the `freeze` expression of Impl/CoreEval: its lookup
`lookOf`, its equation, a stuck freeze raises.
-/
import NoulithModel.Impl.CoreEval

namespace Noulith.C17Closed
open Noulith Noulith.Core

variable {V V' : Type}

/-! ## the syntactic walk

`afterExpr bd e` is the bound set after walking `e` (which declarations of `e` persist in the enclosing
scope); `stuckExpr look bd e` walks `e` in freeze's order and reports whether it gets stuck (`Stuck` below).  Both
are written by recursion on the syntax only — neither calls `freezeExpr`. -/
mutual
  def afterExpr : List String → Expr → List String
    | bd, .null => bd
    | bd, .int _ => bd
    | bd, .str _ => bd
    | bd, .frozen _ => bd
    | bd, .ident _ => bd
    | bd, .cont _ => bd
    | bd, .evalSrc _ => bd
    | bd, .list xs => afterList bd xs
    | bd, .op _ a b => afterExpr (afterExpr bd a) b
    | bd, .index a b => afterExpr (afterExpr bd a) b
    | bd, .and_ a b => afterExpr (afterExpr bd a) b
    | bd, .or_ a b => afterExpr (afterExpr bd a) b
    | bd, .coalesce a b => afterExpr (afterExpr bd a) b
    | bd, .call f args => afterList (afterExpr bd f) args
    | bd, .seq xs _ => afterList bd xs
    | bd, .ite c t e => afterOpt (afterExpr (afterExpr bd c) t) e
    | bd, .while_ _ _ => bd
    | bd, .for_ _ _ => bd
    | bd, .declare p rhs => afterExpr (bd ++ Pat.idents p) rhs
    | bd, .assign _ rhs => afterExpr bd rhs
    | bd, .opassign _ _ rhs => afterExpr bd rhs
    | bd, .lambda _ _ => bd
    | bd, .brk _ e => afterOpt bd e
    | bd, .ret e => afterOpt bd e
    | bd, .throw_ e => afterExpr bd e
    | bd, .try_ b _ _ => afterExpr bd b
    | bd, .switch_ sc _ => afterExpr bd sc          -- nothing an arm binds survives the `switch`
    | bd, .freeze e => afterExpr bd e
  def afterList : List String → List Expr → List String
    | bd, [] => bd
    | bd, x :: xs => afterList (afterExpr bd x) xs
  def afterOpt : List String → Option Expr → List String
    | bd, none => bd
    | bd, some x => afterExpr bd x
  def afterIts : List String → List ForIt → List String
    | bd, [] => bd
    | bd, .guard g :: rest => afterIts (afterExpr bd g) rest
    | bd, .iter _ p e :: rest => afterIts (afterExpr bd e ++ Pat.idents p) rest
  def afterParams : List String → List Param → List String
    | bd, [] => bd
    | bd, .mk _ d _ a :: rest => afterParams (afterOpt (afterOpt bd a) d) rest
  def afterBody : List String → ForBody → List String
    | bd, .exec e => afterExpr bd e
    | bd, .yield e into => afterOpt (afterExpr bd e) into
    | bd, .yieldItem k v into => afterOpt (afterExpr (afterExpr bd k) v) into
end

mutual
  def stuckExpr (look : String → Option V) : List String → Expr → Bool
    | _, .null => false
    | _, .int _ => false
    | _, .str _ => false
    | _, .frozen _ => false
    | _, .cont _ => false
    | _, .evalSrc _ => false
    | bd, .ident x => !bd.contains x && (look x).isNone
    | bd, .list xs => stuckList look bd xs
    | bd, .op _ a b => stuckExpr look bd a || stuckExpr look (afterExpr bd a) b
    | bd, .index a b => stuckExpr look bd a || stuckExpr look (afterExpr bd a) b
    | bd, .and_ a b => stuckExpr look bd a || stuckExpr look (afterExpr bd a) b
    | bd, .or_ a b => stuckExpr look bd a || stuckExpr look (afterExpr bd a) b
    | bd, .coalesce a b => stuckExpr look bd a || stuckExpr look (afterExpr bd a) b
    | bd, .call f args => stuckExpr look bd f || stuckList look (afterExpr bd f) args
    | bd, .seq xs _ => stuckList look bd xs
    | bd, .ite c t e =>
      stuckExpr look bd c || stuckExpr look (afterExpr bd c) t ||
        stuckOpt look (afterExpr (afterExpr bd c) t) e
    | bd, .while_ c b => stuckExpr look bd c || stuckExpr look (afterExpr bd c) b
    | bd, .for_ its body => stuckIts look bd its || stuckBody look (afterIts bd its) body
    | bd, .declare p rhs => stuckExpr look (bd ++ Pat.idents p) rhs
    | bd, .assign x rhs => !bd.contains x || stuckExpr look bd rhs
    | bd, .opassign x _ rhs => !bd.contains x || stuckExpr look bd rhs
    | bd, .lambda ps body =>
      stuckParams look (bd ++ ps.map Param.name) ps ||
        stuckExpr look (afterParams (bd ++ ps.map Param.name) ps) body
    | bd, .brk _ e => stuckOpt look bd e
    | bd, .ret e => stuckOpt look bd e
    | bd, .throw_ e => stuckExpr look bd e
    | bd, .try_ b p c => stuckExpr look bd b || stuckExpr look (afterExpr bd b ++ Pat.idents p) c
    | bd, .switch_ sc arms => stuckExpr look bd sc || stuckArms look (afterExpr bd sc) arms
    | bd, .freeze e => stuckExpr look bd e
  /-- every arm is walked from the SAME bound set, extended by its own pattern only -/
  def stuckArms (look : String → Option V) : List String → List SwitchArm → Bool
    | _, [] => false
    | bd, .mk p body :: rest => stuckExpr look (bd ++ Pat.idents p) body || stuckArms look bd rest
  def stuckList (look : String → Option V) : List String → List Expr → Bool
    | _, [] => false
    | bd, x :: xs => stuckExpr look bd x || stuckList look (afterExpr bd x) xs
  def stuckOpt (look : String → Option V) : List String → Option Expr → Bool
    | _, none => false
    | bd, some x => stuckExpr look bd x
  def stuckIts (look : String → Option V) : List String → List ForIt → Bool
    | _, [] => false
    | bd, .guard g :: rest => stuckExpr look bd g || stuckIts look (afterExpr bd g) rest
    | bd, .iter _ p e :: rest => stuckExpr look bd e || stuckIts look (afterExpr bd e ++ Pat.idents p) rest
  /-- per parameter: its type annotation, then its default -/
  def stuckParams (look : String → Option V) : List String → List Param → Bool
    | _, [] => false
    | bd, .mk _ d _ a :: rest =>
      stuckOpt look bd a || stuckOpt look (afterOpt bd a) d ||
        stuckParams look (afterOpt (afterOpt bd a) d) rest
  def stuckBody (look : String → Option V) : List String → ForBody → Bool
    | bd, .exec e => stuckExpr look bd e
    | bd, .yield e into => stuckExpr look bd e || stuckOpt look (afterExpr bd e) into
    | bd, .yieldItem k v into =>
      stuckExpr look bd k || stuckExpr look (afterExpr bd k) v ||
        stuckOpt look (afterExpr (afterExpr bd k) v) into
end

/-- `Stuck look bound e`: walking `e` in freeze's order, with freeze's binding discipline, meets a free
identifier unknown to `look`, or an assignment / op-assignment to a name that is not bound -/
def Stuck (look : String → Option V) (bound : List String) (e : Expr) : Prop := stuckExpr look bound e = true

instance (look : String → Option V) (bound : List String) (e : Expr) : Decidable (Stuck look bound e) :=
  inferInstanceAs (Decidable (_ = true))


/-! ## what a freeze returns -/

/-- `Outcome re keep bd0 t bd after stuck r`: the result `r` of a freeze started from the bound set `bd` agrees with
the walk.  It is an error exactly when the walk is `stuck`; otherwise the final bound set is `after`, whatever was
there at some earlier point — the names `bd0`, the table prefix `t` — is still there, and the output tree is a fixed
point of the freeze `re` started from `bd` and any table, which it leaves alone (and the tree is as `keep` says: for a
parameter list, the names are those of the original).  (Stated for arbitrary `bd0` and `t` below the start state, so
that consecutive freezes compose by feeding the conclusion of one into the premise of the next.) -/
def Outcome {α : Type} (re : FState V' → α → Except FreezeErr (α × FState V')) (keep : α → Prop)
    (bd0 : List String) (t : List V) (bd after : List String) (stuck : Bool) :
    Except FreezeErr (α × FState V) → Prop
  | .ok (a, s') => s'.bound = after ∧ bd0 ⊆ after ∧ t <+: s'.tab ∧ stuck = false ∧ keep a ∧
      ∀ T, re ⟨bd, T⟩ a = .ok (a, ⟨after, T⟩)
  | .error _ => stuck = true

theorem Outcome.pure {α : Type} {re : FState V' → α → Except FreezeErr (α × FState V')} {keep : α → Prop}
    {bd0 bd after : List String} {t tab : List V} (a : α) (hb : bd0 ⊆ after) (ht : t <+: tab) (hk : keep a)
    (hr : ∀ T, re ⟨bd, T⟩ a = .ok (a, ⟨after, T⟩)) : Outcome re keep bd0 t bd after false (.ok (a, ⟨after, tab⟩)) :=
  ⟨rfl, hb, ht, rfl, hk, hr⟩

/-- Case analysis on an `Outcome`, in the form in which a freeze that goes on after a sub-freeze `r` uses it:
what is claimed of the whole (`motive`, found by abstracting `stuck` and `r` from the goal) holds when `r`
failed and the walk was stuck, and when `r` ended in a state with bound set `mid` that still has `bd0` and
`t`, with a tree that re-freezes to itself.  In the first case the whole has failed and its walk is stuck, by
computation. -/
@[elab_as_elim]
theorem Outcome.andThen {α : Type} {re : FState V' → α → Except FreezeErr (α × FState V')} {keep : α → Prop}
    {bd0 bd mid : List String} {t : List V}
    {motive : Bool → Except FreezeErr (α × FState V) → Prop} {st : Bool} {r : Except FreezeErr (α × FState V)}
    (h : Outcome re keep bd0 t bd mid st r) (error : ∀ e, motive true (.error e))
    (ok : ∀ a tab, bd0 ⊆ mid → t <+: tab → keep a → (∀ T, re ⟨bd, T⟩ a = .ok (a, ⟨mid, T⟩)) →
      motive false (.ok (a, ⟨mid, tab⟩))) : motive st r := by
  match r, h with
  | .error e, h => exact h ▸ error e
  | .ok (a, ⟨_, tab⟩), ⟨rfl, hb, ht, hs, hk, hr⟩ => exact hs ▸ ok a tab hb ht hk hr

theorem freeze_outcome_all (look : String → Option V) (look' : String → Option V') (bd0 : List String) (t : List V) :
    (∀ bd e tab, bd0 ⊆ bd → t <+: tab → Outcome (freezeExpr look') (fun _ => True) bd0 t bd
      (afterExpr bd e) (stuckExpr look bd e) (freezeExpr look ⟨bd, tab⟩ e)) ∧
    (∀ bd arms tab, bd0 ⊆ bd → t <+: tab → Outcome (freezeArms look') (fun _ => True) bd0 t bd
      bd (stuckArms look bd arms) (freezeArms look ⟨bd, tab⟩ arms)) ∧
    (∀ bd ps tab, bd0 ⊆ bd → t <+: tab →
      Outcome (freezeParams look') (fun ps' => ps'.map Param.name = ps.map Param.name) bd0 t bd
      (afterParams bd ps) (stuckParams look bd ps) (freezeParams look ⟨bd, tab⟩ ps)) ∧
    (∀ bd o tab, bd0 ⊆ bd → t <+: tab → Outcome (freezeOpt look') (fun _ => True) bd0 t bd
      (afterOpt bd o) (stuckOpt look bd o) (freezeOpt look ⟨bd, tab⟩ o)) ∧
    (∀ bd b tab, bd0 ⊆ bd → t <+: tab → Outcome (freezeBody look') (fun _ => True) bd0 t bd
      (afterBody bd b) (stuckBody look bd b) (freezeBody look ⟨bd, tab⟩ b)) ∧
    (∀ bd its tab, bd0 ⊆ bd → t <+: tab → Outcome (freezeIts look') (fun _ => True) bd0 t bd
      (afterIts bd its) (stuckIts look bd its) (freezeIts look ⟨bd, tab⟩ its)) ∧
    (∀ bd es tab, bd0 ⊆ bd → t <+: tab → Outcome (freezeList look') (fun _ => True) bd0 t bd
      (afterList bd es) (stuckList look bd es) (freezeList look ⟨bd, tab⟩ es)) := by
  refine stuckExpr.mutual_induct _ _ _ _ _ _ _ ?null ?int ?str ?frozen ?cont ?evalSrc ?ident ?list ?op ?index ?and_
    ?or_ ?coalesce ?call ?seq ?ite ?while_ ?for_ ?declare ?assign ?opassign ?lambda ?brk ?ret ?throw_ ?try_
    ?switch_ ?freeze ?exec ?yield ?yieldItem ?nil ?cons ?none ?some ?itsNil ?guard ?iter ?paramsNil ?param
    ?armsNil ?arm
  all_goals
    intros
    dsimp only [freezeExpr, freezeArms, freezeList, freezeOpt, freezeIts, freezeParams, freezeBody,
      afterExpr, afterList, afterOpt, afterIts, afterParams, afterBody,
      stuckExpr, stuckArms, stuckList, stuckOpt, stuckIts, stuckParams, stuckBody]
  -- the cases differ in how many parts a form has, and in which bound set it starts a part from or ends with;
  -- the last step of each: the rebuilt form re-freezes to itself because its parts do
  case null | int | str | frozen | cont | evalSrc | nil | none | itsNil | armsNil =>
    exact .pure _ (by assumption) (by assumption) trivial fun _ => rfl
  case paramsNil =>
    exact .pure _ (by assumption) (by assumption) rfl fun _ => rfl
  case ident =>
    rename_i bd x tab hb ht
    cases hc : bd.contains x
    · cases look x
      · exact rfl
      · exact .pure _ hb (List.prefix_append_of_prefix ht) trivial fun _ => rfl
    · exact .pure _ hb ht trivial fun _ => by simp only [freezeExpr, hc, ↓reduceIte]
  case assign | opassign =>
    rename_i ih tab hb ht
    split
    · rename_i hx
      simp only [hx, Bool.true_or]
      exact rfl
    · rename_i hx
      simp only [hx, Bool.false_or]
      refine (ih tab hb ht).andThen (fun _ => rfl) fun _ _ hb ht _ h => .pure _ hb ht trivial fun _ => ?_
      simp only [freezeExpr, hx, Bool.false_eq_true, ↓reduceIte, h]
  case list | seq | brk | ret | throw_ | freeze | some | exec =>
    rename_i ih tab hb ht
    refine (ih tab hb ht).andThen (fun _ => rfl) fun _ _ hb ht _ h => .pure _ hb ht trivial fun _ => ?_
    simp only [freezeExpr, freezeOpt, freezeBody, h]
  case declare =>
    rename_i ih tab hb ht
    refine (ih tab (List.subset_append_of_subset_left _ hb) ht).andThen (fun _ => rfl)
      fun _ _ hb ht _ h => .pure _ hb ht trivial fun _ => ?_
    simp only [freezeExpr, h]
  case op | index | and_ | or_ | coalesce | call | cons | guard | yield =>
    rename_i iha ihb tab hb ht
    refine (iha tab hb ht).andThen (fun _ => rfl) fun _ tab hb ht _ ha => ?_
    dsimp only
    refine (ihb tab hb ht).andThen (fun _ => rfl) fun _ _ hb ht _ hb' => .pure _ hb ht trivial fun _ => ?_
    simp only [freezeExpr, freezeList, freezeIts, freezeBody, ha, hb']
  case iter =>
    rename_i ihe ihr tab hb ht
    refine (ihe tab hb ht).andThen (fun _ => rfl) fun _ tab hb ht _ ha => ?_
    dsimp only
    refine (ihr tab (List.subset_append_of_subset_left _ hb) ht).andThen (fun _ => rfl)
      fun _ _ hb ht _ hb' => .pure _ hb ht trivial fun _ => ?_
    simp only [freezeIts, ha, hb']
  case while_ | for_ | switch_ =>
    rename_i ihc ihb tab hb ht
    refine (ihc tab hb ht).andThen (fun _ => rfl) fun _ tab hb1 ht _ ha => ?_
    dsimp only
    refine (ihb tab hb1 ht).andThen (fun _ => rfl) fun _ _ _ ht _ hb' => .pure _ (by assumption) ht trivial fun _ => ?_
    simp only [freezeExpr, ha, hb']
  case try_ =>
    rename_i ihb ihc tab hb ht
    refine (ihb tab hb ht).andThen (fun _ => rfl) fun _ tab hb ht _ ha => ?_
    dsimp only
    refine (ihc tab (List.subset_append_of_subset_left _ hb) ht).andThen (fun _ => rfl)
      fun _ _ _ ht _ hb' => .pure _ hb ht trivial fun _ => ?_
    simp only [freezeExpr, ha, hb']
  case lambda =>
    rename_i ihp ihb tab hb ht
    refine (ihp tab (List.subset_append_of_subset_left _ hb) ht).andThen (fun _ => rfl) fun _ tab hb1 ht hk hp => ?_
    dsimp only
    refine (ihb tab hb1 ht).andThen (fun _ => rfl) fun _ _ _ ht _ hb' => .pure _ hb ht trivial fun _ => ?_
    simp only [freezeExpr, hk, hp, hb']
  case arm =>
    rename_i ihb ihr tab hb ht
    refine (ihb tab (List.subset_append_of_subset_left _ hb) ht).andThen (fun _ => rfl) fun _ tab _ ht _ ha => ?_
    dsimp only
    refine (ihr tab hb ht).andThen (fun _ => rfl) fun _ _ hb ht _ hb' => .pure _ hb ht trivial fun _ => ?_
    simp only [freezeArms, ha, hb']
  case ite | yieldItem =>
    rename_i iha ihb ihc tab hb ht
    refine (iha tab hb ht).andThen (fun _ => rfl) fun _ tab hb ht _ ha => ?_
    dsimp only
    refine (ihb tab hb ht).andThen (fun _ => rfl) fun _ tab hb ht _ hb' => ?_
    dsimp only
    refine (ihc tab hb ht).andThen (fun _ => rfl) fun _ _ hb ht _ hc => .pure _ hb ht trivial fun _ => ?_
    simp only [freezeExpr, freezeBody, ha, hb', hc]
  case param =>
    rename_i iha ihd ihr tab hb ht
    refine (iha tab hb ht).andThen (fun _ => rfl) fun _ tab hb ht _ ha => ?_
    dsimp only
    refine (ihd tab hb ht).andThen (fun _ => rfl) fun _ tab hb ht _ hd => ?_
    dsimp only
    refine (ihr tab hb ht).andThen (fun _ => rfl) fun _ _ hb ht hk hr => .pure _ hb ht ?_ fun _ => ?_
    · simp only [List.map_cons, Param.name, hk]
    · simp only [freezeParams, ha, hd, hr]

/-- what a successful freeze from `s` to `s'` did to the state -/
structure Froze (s s' : FState V) (after : List String) : Prop where
  bound : s'.bound = after
  mono : ∀ x, x ∈ s.bound → x ∈ s'.bound
  tab : s.tab <+: s'.tab

theorem Outcome.froze {α : Type} {re : FState V' → α → Except FreezeErr (α × FState V')} {keep : α → Prop}
    {s s' : FState V} {bd after : List String} {stuck : Bool} {a : α}
    {r : Except FreezeErr (α × FState V)} (h : Outcome re keep s.bound s.tab bd after stuck r) (hr : r = .ok (a, s')) :
    Froze s s' after := by
  subst hr
  exact ⟨h.1, fun x hx => h.1 ▸ h.2.1 hx, h.2.2.1⟩

theorem Outcome.closed {α : Type} {re : FState V' → α → Except FreezeErr (α × FState V')} {keep : α → Prop}
    {bd0 bd after : List String} {t : List V} {stuck : Bool} {a : α} {s' : FState V}
    {r : Except FreezeErr (α × FState V)} (h : Outcome re keep bd0 t bd after stuck r) (hr : r = .ok (a, s'))
    (T : List V') : re ⟨bd, T⟩ a = .ok (a, ⟨s'.bound, T⟩) := by
  subst hr
  exact h.1 ▸ h.2.2.2.2.2 T

theorem Outcome.error_iff {α : Type} {re : FState V' → α → Except FreezeErr (α × FState V')} {keep : α → Prop}
    {bd0 bd : List String} {t : List V} {after : List String} {stuck : Bool}
    {r : Except FreezeErr (α × FState V)} (h : Outcome re keep bd0 t bd after stuck r) :
    (∃ err, r = .error err) ↔ stuck = true := by
  cases r with
  | error e => exact ⟨fun _ => h, fun _ => ⟨e, rfl⟩⟩
  | ok p =>
    have hs : stuck = false := h.2.2.2.1
    simp [hs]

/-! `freeze_outcome_all` at the start state itself, one statement per freeze function: what the rest of the file reads -/

section
variable (look : String → Option V) (look' : String → Option V') (s : FState V)

theorem freezeExpr_outcome (e : Expr) :
    Outcome (freezeExpr look') (fun _ => True) s.bound s.tab s.bound (afterExpr s.bound e) (stuckExpr look s.bound e)
      (freezeExpr look s e) :=
  (freeze_outcome_all look look' s.bound s.tab).1 s.bound e s.tab (List.Subset.refl _) (List.prefix_refl _)

theorem freezeArms_outcome (a : List SwitchArm) :
    Outcome (freezeArms look') (fun _ => True) s.bound s.tab s.bound s.bound (stuckArms look s.bound a)
      (freezeArms look s a) :=
  (freeze_outcome_all look look' s.bound s.tab).2.1 s.bound a s.tab (List.Subset.refl _) (List.prefix_refl _)

theorem freezeParams_outcome (ps : List Param) :
    Outcome (freezeParams look') (fun ps' => ps'.map Param.name = ps.map Param.name) s.bound s.tab s.bound
      (afterParams s.bound ps) (stuckParams look s.bound ps) (freezeParams look s ps) :=
  (freeze_outcome_all look look' s.bound s.tab).2.2.1 s.bound ps s.tab (List.Subset.refl _) (List.prefix_refl _)

theorem freezeOpt_outcome (o : Option Expr) :
    Outcome (freezeOpt look') (fun _ => True) s.bound s.tab s.bound (afterOpt s.bound o) (stuckOpt look s.bound o)
      (freezeOpt look s o) :=
  (freeze_outcome_all look look' s.bound s.tab).2.2.2.1 s.bound o s.tab (List.Subset.refl _) (List.prefix_refl _)

theorem freezeBody_outcome (b : ForBody) :
    Outcome (freezeBody look') (fun _ => True) s.bound s.tab s.bound (afterBody s.bound b) (stuckBody look s.bound b)
      (freezeBody look s b) :=
  (freeze_outcome_all look look' s.bound s.tab).2.2.2.2.1 s.bound b s.tab (List.Subset.refl _) (List.prefix_refl _)

theorem freezeIts_outcome (its : List ForIt) :
    Outcome (freezeIts look') (fun _ => True) s.bound s.tab s.bound (afterIts s.bound its) (stuckIts look s.bound its)
      (freezeIts look s its) :=
  (freeze_outcome_all look look' s.bound s.tab).2.2.2.2.2.1 s.bound its s.tab (List.Subset.refl _) (List.prefix_refl _)

theorem freezeList_outcome (es : List Expr) :
    Outcome (freezeList look') (fun _ => True) s.bound s.tab s.bound (afterList s.bound es) (stuckList look s.bound es)
      (freezeList look s es) :=
  (freeze_outcome_all look look' s.bound s.tab).2.2.2.2.2.2 s.bound es s.tab (List.Subset.refl _) (List.prefix_refl _)

end

section
variable {look : String → Option V} {s s' : FState V}

theorem freezeExpr_froze {e e' : Expr} (h : freezeExpr look s e = .ok (e', s')) : Froze s s' (afterExpr s.bound e) :=
  (freezeExpr_outcome look look s e).froze h

theorem freezeArms_froze {a a' : List SwitchArm} (h : freezeArms look s a = .ok (a', s')) : Froze s s' s.bound :=
  (freezeArms_outcome look look s a).froze h

theorem freezeParams_froze {ps ps' : List Param} (h : freezeParams look s ps = .ok (ps', s')) :
    Froze s s' (afterParams s.bound ps) :=
  (freezeParams_outcome look look s ps).froze h

theorem freezeOpt_froze {o o' : Option Expr} (h : freezeOpt look s o = .ok (o', s')) : Froze s s' (afterOpt s.bound o) :=
  (freezeOpt_outcome look look s o).froze h

theorem freezeBody_froze {b b' : ForBody} (h : freezeBody look s b = .ok (b', s')) : Froze s s' (afterBody s.bound b) :=
  (freezeBody_outcome look look s b).froze h

theorem freezeIts_froze {its its' : List ForIt} (h : freezeIts look s its = .ok (its', s')) : Froze s s' (afterIts s.bound its) :=
  (freezeIts_outcome look look s its).froze h

theorem freezeList_froze {es es' : List Expr} (h : freezeList look s es = .ok (es', s')) : Froze s s' (afterList s.bound es) :=
  (freezeList_outcome look look s es).froze h

end

theorem bound_mono_all (look : String → Option V) :
    (∀ s e, ∀ e' s', freezeExpr look s e = .ok (e', s') → ∀ x ∈ s.bound, x ∈ s'.bound) ∧
    (∀ s arms, ∀ arms' s', freezeArms look s arms = .ok (arms', s') → ∀ x ∈ s.bound, x ∈ s'.bound) ∧
    (∀ s ps, ∀ ps' s', freezeParams look s ps = .ok (ps', s') → ∀ x ∈ s.bound, x ∈ s'.bound) ∧
    (∀ s o, ∀ o' s', freezeOpt look s o = .ok (o', s') → ∀ x ∈ s.bound, x ∈ s'.bound) ∧
    (∀ s b, ∀ b' s', freezeBody look s b = .ok (b', s') → ∀ x ∈ s.bound, x ∈ s'.bound) ∧
    (∀ s its, ∀ its' s', freezeIts look s its = .ok (its', s') → ∀ x ∈ s.bound, x ∈ s'.bound) ∧
    (∀ s es, ∀ es' s', freezeList look s es = .ok (es', s') → ∀ x ∈ s.bound, x ∈ s'.bound) :=
  ⟨fun _ _ _ _ h => (freezeExpr_froze h).mono, fun _ _ _ _ h => (freezeArms_froze h).mono,
    fun _ _ _ _ h => (freezeParams_froze h).mono, fun _ _ _ _ h => (freezeOpt_froze h).mono,
    fun _ _ _ _ h => (freezeBody_froze h).mono, fun _ _ _ _ h => (freezeIts_froze h).mono,
    fun _ _ _ _ h => (freezeList_froze h).mono⟩

theorem tab_prefix_all (look : String → Option V) :
    (∀ s e, ∀ e' s', freezeExpr look s e = .ok (e', s') → s.tab <+: s'.tab) ∧
    (∀ s arms, ∀ arms' s', freezeArms look s arms = .ok (arms', s') → s.tab <+: s'.tab) ∧
    (∀ s ps, ∀ ps' s', freezeParams look s ps = .ok (ps', s') → s.tab <+: s'.tab) ∧
    (∀ s o, ∀ o' s', freezeOpt look s o = .ok (o', s') → s.tab <+: s'.tab) ∧
    (∀ s b, ∀ b' s', freezeBody look s b = .ok (b', s') → s.tab <+: s'.tab) ∧
    (∀ s its, ∀ its' s', freezeIts look s its = .ok (its', s') → s.tab <+: s'.tab) ∧
    (∀ s es, ∀ es' s', freezeList look s es = .ok (es', s') → s.tab <+: s'.tab) :=
  ⟨fun _ _ _ _ h => (freezeExpr_froze h).tab, fun _ _ _ _ h => (freezeArms_froze h).tab,
    fun _ _ _ _ h => (freezeParams_froze h).tab, fun _ _ _ _ h => (freezeOpt_froze h).tab,
    fun _ _ _ _ h => (freezeBody_froze h).tab, fun _ _ _ _ h => (freezeIts_froze h).tab,
    fun _ _ _ _ h => (freezeList_froze h).tab⟩

theorem fails_iff_all (look : String → Option V) :
    (∀ s e, (∀ e' s', freezeExpr look s e = .ok (e', s') → s'.bound = afterExpr s.bound e) ∧
      ((∃ err, freezeExpr look s e = .error err) ↔ stuckExpr look s.bound e = true)) ∧
    (∀ s arms, (∀ e' s', freezeArms look s arms = .ok (e', s') → s'.bound = s.bound) ∧
      ((∃ err, freezeArms look s arms = .error err) ↔ stuckArms look s.bound arms = true)) ∧
    (∀ s ps, (∀ e' s', freezeParams look s ps = .ok (e', s') → s'.bound = afterParams s.bound ps) ∧
      ((∃ err, freezeParams look s ps = .error err) ↔ stuckParams look s.bound ps = true)) ∧
    (∀ s o, (∀ e' s', freezeOpt look s o = .ok (e', s') → s'.bound = afterOpt s.bound o) ∧
      ((∃ err, freezeOpt look s o = .error err) ↔ stuckOpt look s.bound o = true)) ∧
    (∀ s b, (∀ e' s', freezeBody look s b = .ok (e', s') → s'.bound = afterBody s.bound b) ∧
      ((∃ err, freezeBody look s b = .error err) ↔ stuckBody look s.bound b = true)) ∧
    (∀ s its, (∀ e' s', freezeIts look s its = .ok (e', s') → s'.bound = afterIts s.bound its) ∧
      ((∃ err, freezeIts look s its = .error err) ↔ stuckIts look s.bound its = true)) ∧
    (∀ s es, (∀ e' s', freezeList look s es = .ok (e', s') → s'.bound = afterList s.bound es) ∧
      ((∃ err, freezeList look s es = .error err) ↔ stuckList look s.bound es = true)) :=
  ⟨fun s e => ⟨fun _ _ h => (freezeExpr_froze h).bound, (freezeExpr_outcome look look s e).error_iff⟩,
    fun s a => ⟨fun _ _ h => (freezeArms_froze h).bound, (freezeArms_outcome look look s a).error_iff⟩,
    fun s ps => ⟨fun _ _ h => (freezeParams_froze h).bound, (freezeParams_outcome look look s ps).error_iff⟩,
    fun s o => ⟨fun _ _ h => (freezeOpt_froze h).bound, (freezeOpt_outcome look look s o).error_iff⟩,
    fun s b => ⟨fun _ _ h => (freezeBody_froze h).bound, (freezeBody_outcome look look s b).error_iff⟩,
    fun s its => ⟨fun _ _ h => (freezeIts_froze h).bound, (freezeIts_outcome look look s its).error_iff⟩,
    fun s es => ⟨fun _ _ h => (freezeList_froze h).bound, (freezeList_outcome look look s es).error_iff⟩⟩

/-! ## when does a freeze fail? -/

/-- **characterisation of failure** (both directions, the full language) -/
theorem freeze_fails_iff (look : String → Option V) (s : FState V) (e : Expr) :
    (∃ err, freezeExpr look s e = .error err) ↔ Stuck look s.bound e :=
  (freezeExpr_outcome look look s e).error_iff

theorem freeze_succeeds_iff (look : String → Option V) (s : FState V) (e : Expr) :
    (∃ e' s', freezeExpr look s e = .ok (e', s')) ↔ ¬ Stuck look s.bound e := by
  rw [← freeze_fails_iff]
  cases h : freezeExpr look s e with
  | error err => simp
  | ok p => obtain ⟨e', s'⟩ := p; simp

theorem stuck_congr_all (look : String → Option V) (look' : String → Option V')
    (hl : ∀ x, (look x).isNone = (look' x).isNone) :
    (∀ bd e, stuckExpr look bd e = stuckExpr look' bd e) ∧
    (∀ bd arms, stuckArms look bd arms = stuckArms look' bd arms) ∧
    (∀ bd ps, stuckParams look bd ps = stuckParams look' bd ps) ∧
    (∀ bd o, stuckOpt look bd o = stuckOpt look' bd o) ∧
    (∀ bd b, stuckBody look bd b = stuckBody look' bd b) ∧
    (∀ bd its, stuckIts look bd its = stuckIts look' bd its) ∧
    (∀ bd es, stuckList look bd es = stuckList look' bd es) := by
  apply stuckExpr.mutual_induct
    (motive_1 := fun bd e => stuckExpr look bd e = stuckExpr look' bd e)
    (motive_2 := fun bd arms => stuckArms look bd arms = stuckArms look' bd arms)
    (motive_3 := fun bd ps => stuckParams look bd ps = stuckParams look' bd ps)
    (motive_4 := fun bd o => stuckOpt look bd o = stuckOpt look' bd o)
    (motive_5 := fun bd b => stuckBody look bd b = stuckBody look' bd b)
    (motive_6 := fun bd its => stuckIts look bd its = stuckIts look' bd its)
    (motive_7 := fun bd es => stuckList look bd es = stuckList look' bd es)
  all_goals
    intros
    simp only [stuckExpr, stuckArms, stuckList, stuckOpt, stuckIts, stuckParams, stuckBody, *]

/-- whether a freeze fails does not depend on the table, and depends on `look` only through which names
it knows -/
theorem freeze_fails_indep (look : String → Option V) (look' : String → Option V')
    (hl : ∀ x, (look x).isNone = (look' x).isNone) (s : FState V) (s2 : FState V') (hb : s.bound = s2.bound)
    (e : Expr) :
    (∃ err, freezeExpr look s e = .error err) ↔ (∃ err, freezeExpr look' s2 e = .error err) := by
  rw [freeze_fails_iff, freeze_fails_iff, Stuck, Stuck, (stuck_congr_all look look' hl).1, hb]

/-! ## the bound set and the table only grow (every `Expr.frozen i` produced earlier stays valid) -/

theorem freeze_bound_monotone (look : String → Option V) (s s' : FState V) (e e' : Expr)
    (h : freezeExpr look s e = .ok (e', s')) : ∀ x, x ∈ s.bound → x ∈ s'.bound :=
  (freezeExpr_froze h).mono

theorem freezeList_bound_monotone (look : String → Option V) (s s' : FState V) (es es' : List Expr)
    (h : freezeList look s es = .ok (es', s')) : ∀ x, x ∈ s.bound → x ∈ s'.bound :=
  (freezeList_froze h).mono

theorem freezeList_tab_extends (look : String → Option V) (s s' : FState V) (es es' : List Expr)
    (h : freezeList look s es = .ok (es', s')) : ∃ extra, s'.tab = s.tab ++ extra := by
  obtain ⟨extra, hx⟩ := (freezeList_froze h).tab
  exact ⟨extra, hx.symm⟩

theorem freeze_keeps_earlier_entries (look : String → Option V) (s s' : FState V) (e e' : Expr)
    (h : freezeExpr look s e = .ok (e', s')) (i : Nat) (v : V) (hi : s.tab[i]? = some v) :
    s'.tab[i]? = some v := by
  obtain ⟨hlt, rfl⟩ := List.getElem?_eq_some_iff.mp hi
  exact List.prefix_iff_getElem?.mp (freezeExpr_froze h).tab i hlt

/-! ## frozen code is closed: re-freezing it is the identity and resolves nothing -/

/-- **frozen code is closed.**  If `freeze` succeeded, freezing its output again — with the same bound
set but ANY lookup function (even one that knows no name at all) and any table — succeeds, returns the
same tree, and does not touch the table: no free identifier is left in frozen code, so nothing can be
resolved later than freeze time. -/
theorem freeze_closed (look : String → Option V) (look' : String → Option V') (s s' : FState V)
    (e e' : Expr) (h : freezeExpr look s e = .ok (e', s')) (t : List V') :
    freezeExpr look' { bound := s.bound, tab := t } e' = .ok (e', { bound := s'.bound, tab := t }) :=
  (freezeExpr_outcome look look' s e).closed h t

/-- in particular with the lookup that knows nothing: the frozen tree has no free identifier -/
theorem freeze_leaves_no_free_identifier (look : String → Option V) (s s' : FState V) (e e' : Expr)
    (h : freezeExpr look s e = .ok (e', s')) :
    freezeExpr (fun _ => (none : Option Empty)) { bound := s.bound, tab := [] } e' =
      .ok (e', { bound := s'.bound, tab := [] }) :=
  freeze_closed look _ s s' e e' h []

theorem freeze_idempotent (look : String → Option V) (s s' : FState V) (e e' : Expr)
    (h : freezeExpr look s e = .ok (e', s')) :
    freezeExpr look { s with tab := s'.tab } e' = .ok (e', s') :=
  freeze_closed look look s s' e e' h s'.tab

theorem freezeList_closed (look : String → Option V) (look' : String → Option V') (s s' : FState V)
    (es es' : List Expr) (h : freezeList look s es = .ok (es', s')) (t : List V') :
    freezeList look' { bound := s.bound, tab := t } es' = .ok (es', { bound := s'.bound, tab := t }) :=
  (freezeList_outcome look look' s es).closed h t

theorem freezeBody_closed (look : String → Option V) (look' : String → Option V') (s s' : FState V)
    (b b' : ForBody) (h : freezeBody look s b = .ok (b', s')) (t : List V') :
    freezeBody look' { bound := s.bound, tab := t } b' = .ok (b', { bound := s'.bound, tab := t }) :=
  (freezeBody_outcome look look' s b).closed h t

theorem freezeParams_closed (look : String → Option V) (look' : String → Option V') (s s' : FState V)
    (ps ps' : List Param) (h : freezeParams look s ps = .ok (ps', s')) (t : List V') :
    freezeParams look' { bound := s.bound, tab := t } ps' = .ok (ps', { bound := s'.bound, tab := t }) :=
  (freezeParams_outcome look look' s ps).closed h t

theorem freezeOpt_closed (look : String → Option V) (look' : String → Option V') (s s' : FState V)
    (o o' : Option Expr) (h : freezeOpt look s o = .ok (o', s')) (t : List V') :
    freezeOpt look' { bound := s.bound, tab := t } o' = .ok (o', { bound := s'.bound, tab := t }) :=
  (freezeOpt_outcome look look' s o).closed h t

theorem freezeIts_closed (look : String → Option V) (look' : String → Option V') (s s' : FState V)
    (its its' : List ForIt) (h : freezeIts look s its = .ok (its', s')) (t : List V') :
    freezeIts look' { bound := s.bound, tab := t } its' = .ok (its', { bound := s'.bound, tab := t }) :=
  (freezeIts_outcome look look' s its).closed h t

/-! ## reading a successful freeze link by link

`freezeExpr` and its companions are chains of `match … with | .error e => .error e | .ok (a, s) => …`: a chain that
succeeded did so link by link.  (One lemma per type of the component: the `match` is compiled per type.) -/

theorem fz_bindE {β : Type} {x : Except FreezeErr (Expr × FState V)}
    {f : Expr → FState V → Except FreezeErr β} {r : β}
    (h : (match x with | Except.error e => Except.error e | Except.ok (a, s) => f a s) = Except.ok r) :
    ∃ a s, x = .ok (a, s) ∧ f a s = .ok r := by
  cases x with
  | error e => cases h
  | ok p => exact ⟨p.1, p.2, rfl, h⟩

theorem fz_bindL {β : Type} {x : Except FreezeErr (List Expr × FState V)}
    {f : List Expr → FState V → Except FreezeErr β} {r : β}
    (h : (match x with | Except.error e => Except.error e | Except.ok (a, s) => f a s) = Except.ok r) :
    ∃ a s, x = .ok (a, s) ∧ f a s = .ok r := by
  cases x with
  | error e => cases h
  | ok p => exact ⟨p.1, p.2, rfl, h⟩

theorem fz_bindO {β : Type} {x : Except FreezeErr (Option Expr × FState V)}
    {f : Option Expr → FState V → Except FreezeErr β} {r : β}
    (h : (match x with | Except.error e => Except.error e | Except.ok (a, s) => f a s) = Except.ok r) :
    ∃ a s, x = .ok (a, s) ∧ f a s = .ok r := by
  cases x with
  | error e => cases h
  | ok p => exact ⟨p.1, p.2, rfl, h⟩

theorem fz_bindI {β : Type} {x : Except FreezeErr (List ForIt × FState V)}
    {f : List ForIt → FState V → Except FreezeErr β} {r : β}
    (h : (match x with | Except.error e => Except.error e | Except.ok (a, s) => f a s) = Except.ok r) :
    ∃ a s, x = .ok (a, s) ∧ f a s = .ok r := by
  cases x with
  | error e => cases h
  | ok p => exact ⟨p.1, p.2, rfl, h⟩

theorem fz_bindB {β : Type} {x : Except FreezeErr (ForBody × FState V)}
    {f : ForBody → FState V → Except FreezeErr β} {r : β}
    (h : (match x with | Except.error e => Except.error e | Except.ok (a, s) => f a s) = Except.ok r) :
    ∃ a s, x = .ok (a, s) ∧ f a s = .ok r := by
  cases x with
  | error e => cases h
  | ok p => exact ⟨p.1, p.2, rfl, h⟩

theorem fz_bindA {β : Type} {x : Except FreezeErr (List SwitchArm × FState V)}
    {f : List SwitchArm → FState V → Except FreezeErr β} {r : β}
    (h : (match x with | Except.error e => Except.error e | Except.ok (a, s) => f a s) = Except.ok r) :
    ∃ a s, x = .ok (a, s) ∧ f a s = .ok r := by
  cases x with
  | error e => cases h
  | ok p => exact ⟨p.1, p.2, rfl, h⟩

theorem freeze_two_inv (look : String → Option V) (s s' : FState V) (a b : Expr) (mk : Expr → Expr → Expr)
    (e' : Expr)
    (h : (match freezeExpr look s a with
          | .error e => .error e
          | .ok (a', s) =>
            match freezeExpr look s b with
            | .error e => .error e
            | .ok (b', s) => .ok (mk a' b', s)) = Except.ok (e', s')) :
    ∃ a' s1 b', freezeExpr look s a = .ok (a', s1) ∧ freezeExpr look s1 b = .ok (b', s') ∧ e' = mk a' b' := by
  obtain ⟨a', s1, ha, h⟩ := fz_bindE h
  obtain ⟨b', s2, hb, h⟩ := fz_bindE h
  cases h
  exact ⟨a', s1, b', ha, hb, rfl⟩

/-- assignment and op-assignment freeze alike: the target must be bound, then the right-hand side -/
theorem freeze_assign_inv {look : String → Option V} {s s' : FState V} {x : String} {rhs e' : Expr}
    (mk : Expr → Expr)
    (hf : (if !s.bound.contains x then Except.error (FreezeErr.assignOuter x)
          else match freezeExpr look s rhs with
            | .error e => .error e
            | .ok (rhs', s) => .ok (mk rhs', s)) = Except.ok (e', s')) :
    ∃ rhs', freezeExpr look s rhs = .ok (rhs', s') ∧ e' = mk rhs' := by
  split at hf
  · cases hf
  · obtain ⟨rhs', s1, hr, hf⟩ := fz_bindE hf
    cases hf
    exact ⟨rhs', hr, rfl⟩

theorem freezeList_cons_inv {look : String → Option V} {s s' : FState V} {x : Expr} {xs es' : List Expr}
    (h : freezeList look s (x :: xs) = .ok (es', s')) :
    ∃ x' s1 xs', freezeExpr look s x = .ok (x', s1) ∧ freezeList look s1 xs = .ok (xs', s') ∧ es' = x' :: xs' := by
  simp only [freezeList] at h
  obtain ⟨x', s1, hx, h⟩ := fz_bindE h
  obtain ⟨xs', s2, hxs, h⟩ := fz_bindL h
  cases h
  exact ⟨x', s1, xs', hx, hxs, rfl⟩

theorem freezeOpt_some_inv {look : String → Option V} {s s' : FState V} {e : Expr} {o' : Option Expr}
    (h : freezeOpt look s (some e) = .ok (o', s')) : ∃ e', freezeExpr look s e = .ok (e', s') ∧ o' = some e' := by
  simp only [freezeOpt] at h
  obtain ⟨e', s1, he, h⟩ := fz_bindE h
  cases h
  exact ⟨e', he, rfl⟩

theorem freeze_ident_inv {look : String → Option V} {s s' : FState V} {x : String} {e' : Expr}
    (h : freezeExpr look s (.ident x) = .ok (e', s')) :
    x ∈ s.bound ∧ e' = .ident x ∧ s' = s ∨
      x ∉ s.bound ∧ ∃ v, look x = some v ∧ e' = .frozen s.tab.length ∧ s' = { s with tab := s.tab ++ [v] } := by
  unfold freezeExpr at h
  simp only [List.contains_iff_mem] at h
  split at h
  · rename_i hb
    cases h
    exact .inl ⟨hb, rfl, rfl⟩
  · rename_i hb
    split at h
    · rename_i v hv
      cases h
      exact .inr ⟨hb, v, hv, rfl, rfl⟩
    · cases h

/-! ## `switch`: arms are frozen independently of each other, and nothing leaks out -/

/-- pointwise relation of two lists (core Lean has no `List.Forall₂`) -/
inductive Forall₂ {α β : Type} (R : α → β → Prop) : List α → List β → Prop where
  | nil : Forall₂ R [] []
  | cons {a b as bs} : R a b → Forall₂ R as bs → Forall₂ R (a :: as) (b :: bs)

def armPat : SwitchArm → Pat
  | .mk p _ => p
def armBody : SwitchArm → Expr
  | .mk _ b => b

/-- **the arms of a `switch` are frozen independently.**  Freezing the arm list leaves the bound set as
it was, and arm `k` (pattern `p`) is frozen under exactly `s.bound ++ Pat.idents p` — a bound set in
which neither the patterns nor the bodies of the other arms occur (only the table is threaded from arm
to arm). -/
theorem freeze_switch_arms_independent (look : String → Option V) (arms : List SwitchArm) :
    ∀ (s : FState V) (arms' : List SwitchArm) (s' : FState V), freezeArms look s arms = .ok (arms', s') →
      s'.bound = s.bound ∧
      Forall₂ (fun a a' => armPat a' = armPat a ∧
        ∃ t s2, freezeExpr look { bound := s.bound ++ Pat.idents (armPat a), tab := t } (armBody a)
          = .ok (armBody a', s2)) arms arms' := by
  induction arms with
  | nil =>
    intro s arms' s' h
    simp only [freezeArms, Except.ok.injEq, Prod.mk.injEq] at h
    obtain ⟨rfl, rfl⟩ := h
    exact ⟨rfl, .nil⟩
  | cons a rest ih =>
    intro s arms' s' h
    obtain ⟨p, body⟩ := a
    simp only [freezeArms] at h
    obtain ⟨body', s2, hbody, h⟩ := fz_bindE h
    obtain ⟨rest', s3, hrest, h⟩ := fz_bindA h
    cases h
    obtain ⟨hb, hall⟩ := ih _ _ _ hrest
    exact ⟨hb, .cons ⟨rfl, s.tab, s2, hbody⟩ hall⟩

theorem freezeArms_bound (look : String → Option V) (s s' : FState V) (arms arms' : List SwitchArm)
    (h : freezeArms look s arms = .ok (arms', s')) : s'.bound = s.bound :=
  (freeze_switch_arms_independent look arms s arms' s' h).1

theorem freeze_switch_does_not_leak (look : String → Option V) (s s' : FState V) (sc : Expr)
    (arms : List SwitchArm) (e' : Expr) (h : freezeExpr look s (.switch_ sc arms) = .ok (e', s')) :
    ∃ sc' s1, freezeExpr look s sc = .ok (sc', s1) ∧ s'.bound = s1.bound := by
  simp only [freezeExpr] at h
  obtain ⟨sc', s1, hsc, h⟩ := fz_bindE h
  obtain ⟨arms', s2, _, h⟩ := fz_bindA h
  cases h
  exact ⟨sc', s1, hsc, rfl⟩

theorem freeze_switch_bound_eq_after_scrutinee (look : String → Option V) (s s' : FState V) (sc : Expr)
    (arms : List SwitchArm) (e' : Expr) (h : freezeExpr look s (.switch_ sc arms) = .ok (e', s')) :
    s'.bound = afterExpr s.bound sc := by
  obtain ⟨sc', s1, hsc, hb⟩ := freeze_switch_does_not_leak look s s' sc arms e' h
  rw [hb, (freezeExpr_froze hsc).bound]

/-! ## non-vacuity (the hypotheses above are satisfiable; the walk really separates the cases) -/

section Examples

def lookO : String → Option Int := fun x => if x = "o" then some 5 else none

/-- `\a -> (b := a + o; b)` -/
def lamOk : Expr :=
  .lambda [.mk "a" none false none]
    (.seq [.declare (.ident "b") (.op "+" (.ident "a") (.ident "o")), .ident "b"] false)

/-- its frozen form: `o` is replaced by table entry 0 -/
def lamOkFrozen : Expr :=
  .lambda [.mk "a" none false none]
    (.seq [.declare (.ident "b") (.op "+" (.ident "a") (.frozen 0)), .ident "b"] false)

example : freezeExpr lookO ⟨[], []⟩ lamOk = .ok (lamOkFrozen, ⟨[], [5]⟩) := rfl

/-- so `freeze_closed` applies: re-freezing with a lookup that knows nothing is the identity -/
example : freezeExpr (fun _ => (none : Option Empty)) ⟨[], []⟩ lamOkFrozen = .ok (lamOkFrozen, ⟨[], []⟩) :=
  freeze_closed lookO _ ⟨[], []⟩ ⟨[], [5]⟩ lamOk lamOkFrozen rfl []

example : ¬ Stuck lookO [] lamOk := by decide
/-- an unknown free name, even in a dead branch -/
example : Stuck lookO [] (.ite (.int 0) (.ident "zz") (some .null)) := by decide
/-- assignment to an outer variable, although `look` knows it -/
example : Stuck lookO [] (.lambda [] (.assign "o" (.int 1))) := by decide
/-- a name is bound only AFTER its declaration in walk order… -/
example : Stuck lookO [] (.seq [.ident "q", .declare (.ident "q") (.int 1)] false) := by decide
example : ¬ Stuck lookO [] (.seq [.declare (.ident "q") (.int 1), .ident "q"] false) := by decide
/-- …bindings made inside `while` / `for` / lambda / `catch` do not leak… -/
example : Stuck lookO [] (.seq [.while_ (.int 0) (.declare (.ident "q") (.int 1)), .ident "q"] false) := by
  decide
/-- …and a `for` clause resolves its iteratee before binding its own names -/
example : Stuck lookO [] (.for_ [.iter .normal (.ident "x") (.ident "x")] (.exec .null)) := by decide
example : ¬ Stuck lookO [] (.for_ [.iter .normal (.ident "x") (.ident "o")] (.exec (.ident "x"))) := by decide

/-- parameter type annotations are walked too: an unknown name in an annotation makes the freeze fail,
a known one does not; the parameters themselves count as bound there (as in the code, although the
annotation is evaluated before they are bound) -/
example : Stuck lookO [] (.lambda [.mk "x" none false (some (.ident "zz"))] (.ident "x")) := by decide
example : ¬ Stuck lookO [] (.lambda [.mk "x" none false (some (.ident "o"))] (.ident "x")) := by decide
example : ¬ Stuck lookO [] (.lambda [.mk "x" none false (some (.ident "x"))] (.ident "x")) := by decide
/-- …per parameter the annotation comes before the default, and both before the body -/
example : Stuck lookO [] (.lambda [.mk "x" (some (.ident "o")) false (some (.ident "zz"))] (.ident "x")) := by decide
example : Stuck lookO [] (.lambda [.mk "x" (some (.ident "zz")) false (some (.ident "o"))] (.ident "x")) := by decide
/-- the frozen annotation is a table reference, and the result is closed -/
example : freezeExpr lookO ⟨[], []⟩ (.lambda [.mk "x" (some (.ident "o")) false (some (.ident "o"))] (.ident "x")) =
    .ok (.lambda [.mk "x" (some (.frozen 1)) false (some (.frozen 0))] (.ident "x"), ⟨[], [5, 5]⟩) := rfl
example : freezeExpr (fun _ => (none : Option Empty)) ⟨[], []⟩
      (.lambda [.mk "x" (some (.frozen 1)) false (some (.frozen 0))] (.ident "x")) =
    .ok (.lambda [.mk "x" (some (.frozen 1)) false (some (.frozen 0))] (.ident "x"), ⟨[], []⟩) :=
  freeze_closed lookO _ ⟨[], []⟩ ⟨[], [5, 5]⟩
    (.lambda [.mk "x" (some (.ident "o")) false (some (.ident "o"))] (.ident "x")) _ rfl []

/-- `switch`: a name bound by one arm's pattern is not visible in the next arm, nor after the `switch`;
inside its own arm it is -/
example : ¬ Stuck lookO [] (.switch_ (.ident "o") [.mk (.ident "y") (.ident "y"), .mk .underscore (.int 0)]) := by
  decide
example : Stuck lookO [] (.switch_ (.ident "o") [.mk (.ident "y") (.int 0), .mk .underscore (.ident "y")]) := by
  decide
example : Stuck lookO [] (.seq [.switch_ (.ident "o") [.mk (.ident "y") (.int 0)], .ident "y"] false) := by
  decide
/-- non-vacuity of the `switch` theorems: a two-armed `switch` freezes, `o` is resolved in both places -/
example : freezeExpr lookO ⟨[], []⟩
      (.switch_ (.ident "o") [.mk (.ident "y") (.op "+" (.ident "y") (.ident "o")), .mk .underscore (.int 0)]) =
    .ok (.switch_ (.frozen 0) [.mk (.ident "y") (.op "+" (.ident "y") (.frozen 1)), .mk .underscore (.int 0)],
      ⟨[], [5, 5]⟩) := rfl

end Examples

/-! ## the `freeze` expression of the evaluator

(That it preserves meaning on the binder-free, call-free fragment is Theorems/C17Pure.lean.) -/

/-- the lookup `Expr.freeze` freezes against (as in `eval`): the scope chain, then the builtins -/
def lookOf (st : State) (env : Nat) : String → Option Val := fun x =>
  match st.lookup env x with
  | some v => some v
  | none => if builtinNames.contains x then some (.builtin x) else none

theorem lookOf_of_lookup {st : State} {env : Nat} {x : String} {v : Val} (h : st.lookup env x = some v) :
    lookOf st env x = some v := by
  simp only [lookOf, h]

theorem lookOf_eq_none {st : State} {env : Nat} {x : String} (hv : st.lookup env x = none)
    (hb : builtinNames.contains x = false) : lookOf st env x = none := by
  simp only [lookOf, hv, hb, Bool.false_eq_true, ↓reduceIte]

theorem eval_ident_lookOf (n : Nat) (st : State) (env : Nat) (x : String) :
    eval (n + 1) st env (.ident x) =
      (match lookOf st env x with | some v => Res.val v | none => Res.thrown .err, st) := by
  simp only [eval, lookOf]
  cases st.lookup env x with
  | some v => rfl
  | none =>
    dsimp only
    split <;> rfl

/-- the entry a freeze appended is there in every table that extends the result -/
theorem tab_get {t T : List Val} {v : Val} (h : t ++ [v] <+: T) : T[t.length]? = some v := by
  obtain ⟨extra, rfl⟩ := h
  simp

theorem eval_freeze_unfold (fuel : Nat) (st : State) (env : Nat) (e : Expr) :
    eval (fuel + 1) st env (.freeze e) =
      match freezeExpr (lookOf st env) { bound := [], tab := st.frozenTab } e with
      | .ok (e', fs) => eval fuel { st with frozenTab := fs.tab } env e'
      | .error _ => (.thrown .err, st) := by
  simp only [eval]
  rfl

theorem lookup_frozenTab (st : State) (T : List Val) (env : Nat) (x : String) :
    State.lookup { st with frozenTab := T } env x = st.lookup env x := rfl

theorem freeze_stuck_raises (fuel : Nat) (st : State) (env : Nat) (e : Expr)
    (hs : Stuck (lookOf st env) [] e) : eval (fuel + 1) st env (.freeze e) = (.thrown .err, st) := by
  obtain ⟨err, h⟩ := (freeze_fails_iff (lookOf st env) ⟨[], st.frozenTab⟩ e).2 hs
  rw [eval_freeze_unfold, h]

end Noulith.C17Closed
